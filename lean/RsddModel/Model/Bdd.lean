import RsddModel.Spec.Basic
/-!
# Model: BDD pointers with complement edges, standard triples (`Ite::new`)

Mirrors `src/repr/bdd.rs` (pointer shape, `neg`, `is_neg`, `is_true`, `is_false`) and
`src/builder/cache/ite.rs` (`Ite::new`, all four stages).  Pointer identity of the Rust is
structural equality here; that reading is justified by the unique-table theorems (C02).
-/
namespace Bdd
open Spec

inductive Ptr where
  | tru | fls
  | node (compl : Bool) (var : Nat) (lo hi : Ptr)
deriving DecidableEq, Repr, Inhabited


def Ptr.eval (a : Assign) : Ptr → Bool
  | .tru => true
  | .fls => false
  | .node c v lo hi => xor c (if a v then hi.eval a else lo.eval a)

def Ptr.neg : Ptr → Ptr
  | .tru => .fls
  | .fls => .tru
  | .node c v lo hi => .node (!c) v lo hi

def Ptr.isNeg : Ptr → Bool
  | .node true _ _ _ => true
  | _ => false
def Ptr.isTrue : Ptr → Bool | .tru => true | _ => false
def Ptr.isFalse : Ptr → Bool | .fls => true | _ => false

@[simp] theorem eval_neg (a : Assign) (p : Ptr) : p.neg.eval a = !(p.eval a) := by
  cases p <;> simp [Ptr.neg, Ptr.eval]

@[simp] theorem neg_neg (p : Ptr) : p.neg.neg = p := by
  cases p <;> simp [Ptr.neg]

inductive Ite where
  | choice (f g h : Ptr)
  | complChoice (f g h : Ptr)
  | const (p : Ptr)
deriving DecidableEq, Repr

/-- stage 1 of `Ite::new`: introduce constants -/
def introConst (f g h : Ptr) : Ptr × Ptr × Ptr :=
  if f = h then (f, g, Ptr.fls)
  else if f = h.neg then (f, g, Ptr.tru)
  else if f = g.neg then (f, Ptr.fls, h)
  else (f, g, h)

/-- stage 2: terminal cases -/
def terminal? (f g h : Ptr) : Option Ptr :=
  if f.isTrue then some g
  else if f.isFalse then some h
  else if g.isTrue && h.isFalse then some f
  else if g.isFalse && h.isTrue then some f.neg
  else if h = g then some g
  else none

/-- stage 3: put the top-most node first -/
def reorder (ord : Ptr → Ptr → Bool) (f g h : Ptr) : Ptr × Ptr × Ptr :=
  if g.isTrue && ord h f then (h, g, f)
  else if h.isFalse && ord g f then (g, f, h)
  else if h.isTrue && ord g f then (g.neg, f.neg, h)
  else if g.isFalse && ord h f then (h.neg, g, f.neg)
  else if g = h.neg && ord g f then (g, f, f.neg)
  else (f, g, h)

/-- stage 4: standardise negation -/
def standardise (f g h : Ptr) : Ite :=
  if f.isNeg && !h.isNeg then .choice f.neg h g
  else if !f.isNeg && g.isNeg then .complChoice f g.neg h.neg
  else if f.isNeg && h.isNeg then .complChoice f.neg h.neg g.neg
  else .choice f g h

/-- mirrors `Ite::new` of src/builder/cache/ite.rs -/
def Ite.new (ord : Ptr → Ptr → Bool) (f g h : Ptr) : Ite :=
  let (f, g, h) := introConst f g h
  match terminal? f g h with
  | some r => .const r
  | none =>
    let (f, g, h) := reorder ord f g h
    standardise f g h


/-- the function a standard triple denotes, with its complement flag applied -/
def Ite.eval (a : Assign) : Ite → Bool
  | .choice f g h => iteB (f.eval a) (g.eval a) (h.eval a)
  | .complChoice f g h => !(iteB (f.eval a) (g.eval a) (h.eval a))
  | .const p => p.eval a

theorem isTrue_eval {p : Ptr} (h : p.isTrue = true) (a) : p.eval a = true := by
  cases p <;> simp_all [Ptr.isTrue, Ptr.eval]
theorem isFalse_eval {p : Ptr} (h : p.isFalse = true) (a) : p.eval a = false := by
  cases p <;> simp_all [Ptr.isFalse, Ptr.eval]


/-- case analysis on a conditional that touches nothing else in the goal (`split` is slow on
goals that mention `Ptr` equalities) -/
theorem if_elim {α : Sort _} {c : Prop} [Decidable c] {a b : α} {M : α → Prop}
    (pos : c → M a) (neg : ¬c → M b) : M (if c then a else b) := by
  by_cases e : c
  · rw [if_pos e]; exact pos e
  · rw [if_neg e]; exact neg e

/-! Each stage of `Ite::new` as the list of results it can return.  A case is given the part of
its branch condition that determines the result (`g.isTrue`, `g = h.neg`, …); the `ord` tests of
`reorder` and the `isNeg` tests of `standardise` only choose among results that denote the same
function, so they are deliberately forgotten. -/

theorem introConst_cases (f g h : Ptr) {M : Ptr × Ptr × Ptr → Prop} (c1 : f = h → M (f, g, .fls))
    (c2 : f = h.neg → M (f, g, .tru)) (c3 : f = g.neg → M (f, .fls, h)) (c4 : M (f, g, h)) :
    M (introConst f g h) :=
  if_elim c1 fun _ => if_elim c2 fun _ => if_elim c3 fun _ => c4

theorem terminal_cases (f g h : Ptr) {M : Option Ptr → Prop} (c1 : f.isTrue → M (some g))
    (c2 : f.isFalse → M (some h)) (c3 : g.isTrue → h.isFalse → M (some f))
    (c4 : g.isFalse → h.isTrue → M (some f.neg)) (c5 : h = g → M (some g)) (c6 : M none) :
    M (terminal? f g h) := by
  unfold terminal?
  refine if_elim c1 fun _ => if_elim c2 fun _ => ?_
  refine if_elim (fun e => c3 (Bool.and_eq_true_iff.1 e).1 (Bool.and_eq_true_iff.1 e).2) fun _ => ?_
  refine if_elim (fun e => c4 (Bool.and_eq_true_iff.1 e).1 (Bool.and_eq_true_iff.1 e).2) fun _ => ?_
  exact if_elim c5 fun _ => c6

theorem reorder_cases (ord) (f g h : Ptr) {M : Ptr × Ptr × Ptr → Prop} (c1 : g.isTrue → M (h, g, f))
    (c2 : h.isFalse → M (g, f, h)) (c3 : h.isTrue → M (g.neg, f.neg, h))
    (c4 : g.isFalse → M (h.neg, g, f.neg)) (c5 : g = h.neg → M (g, f, f.neg)) (c6 : M (f, g, h)) :
    M (reorder ord f g h) := by
  unfold reorder
  refine if_elim (fun e => c1 (Bool.and_eq_true_iff.1 e).1) fun _ => ?_
  refine if_elim (fun e => c2 (Bool.and_eq_true_iff.1 e).1) fun _ => ?_
  refine if_elim (fun e => c3 (Bool.and_eq_true_iff.1 e).1) fun _ => ?_
  refine if_elim (fun e => c4 (Bool.and_eq_true_iff.1 e).1) fun _ => ?_
  exact if_elim (fun e => c5 (of_decide_eq_true (Bool.and_eq_true_iff.1 e).1)) fun _ => c6

theorem standardise_cases (f g h : Ptr) {M : Ite → Prop} (c1 : M (.choice f.neg h g))
    (c2 : M (.complChoice f g.neg h.neg)) (c3 : M (.complChoice f.neg h.neg g.neg))
    (c4 : M (.choice f g h)) : M (standardise f g h) :=
  if_elim (fun _ => c1) fun _ => if_elim (fun _ => c2) fun _ => if_elim (fun _ => c3) fun _ => c4

theorem introConst_sound (f g h : Ptr) (a : Assign) :
    let r := introConst f g h
    iteB (r.1.eval a) (r.2.1.eval a) (r.2.2.eval a) = iteB (f.eval a) (g.eval a) (h.eval a) := by
  apply introConst_cases f g h (M := fun r =>
    iteB (r.1.eval a) (r.2.1.eval a) (r.2.2.eval a) = iteB (f.eval a) (g.eval a) (h.eval a))
  · rintro rfl; cases f.eval a <;> rfl
  · intro e; rw [e, eval_neg]; cases h.eval a <;> rfl
  · intro e; rw [e, eval_neg]; cases g.eval a <;> rfl
  · rfl

theorem terminal_sound (f g h r : Ptr) (a : Assign) (hr : terminal? f g h = some r) :
    r.eval a = iteB (f.eval a) (g.eval a) (h.eval a) := by
  revert hr
  apply terminal_cases f g h (M := fun o =>
    o = some r → r.eval a = iteB (f.eval a) (g.eval a) (h.eval a))
  · rintro e ⟨⟩; rw [isTrue_eval e]; rfl
  · rintro e ⟨⟩; rw [isFalse_eval e]; rfl
  · rintro e1 e2 ⟨⟩; rw [isTrue_eval e1, isFalse_eval e2]; cases f.eval a <;> rfl
  · rintro e1 e2 ⟨⟩; rw [isFalse_eval e1, isTrue_eval e2, eval_neg]; cases f.eval a <;> rfl
  · rintro rfl ⟨⟩; cases f.eval a <;> rfl
  · exact nofun

theorem reorder_sound (ord) (f g h : Ptr) (a : Assign) :
    let r := reorder ord f g h
    iteB (r.1.eval a) (r.2.1.eval a) (r.2.2.eval a) = iteB (f.eval a) (g.eval a) (h.eval a) := by
  apply reorder_cases ord f g h (M := fun r =>
    iteB (r.1.eval a) (r.2.1.eval a) (r.2.2.eval a) = iteB (f.eval a) (g.eval a) (h.eval a))
  · intro e; rw [isTrue_eval e]; cases f.eval a <;> cases h.eval a <;> rfl
  · intro e; rw [isFalse_eval e]; cases f.eval a <;> cases g.eval a <;> rfl
  · intro e; rw [isTrue_eval e, eval_neg, eval_neg]; cases f.eval a <;> cases g.eval a <;> rfl
  · intro e; rw [isFalse_eval e, eval_neg, eval_neg]; cases f.eval a <;> cases h.eval a <;> rfl
  · intro e; rw [e, eval_neg, eval_neg]; cases f.eval a <;> cases h.eval a <;> rfl
  · rfl

theorem standardise_sound (f g h : Ptr) (a : Assign) :
    (standardise f g h).eval a = iteB (f.eval a) (g.eval a) (h.eval a) := by
  apply standardise_cases f g h (M := fun i => i.eval a = iteB (f.eval a) (g.eval a) (h.eval a)) <;>
    simp only [Ite.eval, eval_neg] <;> cases f.eval a <;> cases g.eval a <;> cases h.eval a <;> rfl

theorem iteNew_cases (ord) (f g h : Ptr) {M : Ite → Prop} :
    let t := introConst f g h
    let u := reorder ord t.1 t.2.1 t.2.2
    (∀ r, terminal? t.1 t.2.1 t.2.2 = some r → M (.const r)) →
    (terminal? t.1 t.2.1 t.2.2 = none → M (standardise u.1 u.2.1 u.2.2)) →
    M (Ite.new ord f g h) := by
  unfold Ite.new
  dsimp only
  generalize introConst f g h = t
  obtain ⟨f1, g1, h1⟩ := t
  intro const triple
  cases e : terminal? f1 g1 h1 with
  | some r => exact const r e
  | none => exact triple e

/-- `Ite::new` is sound for EVERY order predicate -/
theorem iteNew_sound (ord) (f g h : Ptr) (a : Assign) :
    (Ite.new ord f g h).eval a = iteB (f.eval a) (g.eval a) (h.eval a) := by
  apply iteNew_cases ord f g h (M := fun i => i.eval a = iteB (f.eval a) (g.eval a) (h.eval a))
  · intro r hr
    rw [Ite.eval, terminal_sound _ _ _ _ a hr]
    exact introConst_sound f g h a
  · intro _
    rw [standardise_sound]
    exact (reorder_sound ord _ _ _ a).trans (introConst_sound f g h a)

#print axioms iteNew_sound
end Bdd
