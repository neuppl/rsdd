import RsddModel.Model.Lru
/-!
# Lemmas (core only): the lossy cache `Lru` keeps its slot invariant and obeys the one-step law

This file lives under `Model/` because `Model/LruCache.lean` (linked into the compiled driver)
needs `inv_new`, `inv_insert` and `insert_law` to build the `CacheImpl` instance.  The history
theorem, the growth-test lemma and the counter-example are in `Lemmas/Lru.lean`.

`hashOf : K → Nat` is the hash function of the adapter (`LruIteTable::hash`, a function of the
key).  Nothing is assumed about it: collisions are arbitrary.
-/
namespace Lru

variable {K V : Type}

/-- slot invariant: the table has `2^cap` slots and every stored element sits in the slot of its
stored hash, which is the hash of its key -/
def Inv (hashOf : K → Nat) (t : Tbl K V) : Prop :=
  t.tbl.length = 2 ^ t.cap ∧
  ∀ (pos : Nat) (e : Elem K V), t.tbl[pos]? = some (some e) → e.hash = hashOf e.key ∧ powCap e.hash t.cap = pos

/-- `num_filled` is the number of filled slots -/
def CountOk (t : Tbl K V) : Prop := t.numFilled = t.tbl.countP Option.isSome

/-! ## arithmetic -/

theorem powCap_lt (h c : Nat) : powCap h c < 2 ^ c := Nat.mod_lt _ (Nat.two_pow_pos c)

/-- equal slots in the doubled table give equal slots in the old one; contrapositive: two
elements in distinct slots mod `2^c` stay in distinct slots mod `2^(c+1)` -/
theorem powCap_of_powCap_succ {a b c : Nat} (h : powCap a (c + 1) = powCap b (c + 1)) :
    powCap a c = powCap b c := by
  unfold powCap at *
  have hd : 2 ^ c ∣ 2 ^ (c + 1) := ⟨2, by rw [Nat.pow_succ]⟩
  rw [← Nat.mod_mod_of_dvd a hd, ← Nat.mod_mod_of_dvd b hd, h]

theorem powCap_succ_ne {a b c : Nat} (h : powCap a c ≠ powCap b c) :
    powCap a (c + 1) ≠ powCap b (c + 1) := fun h' => h (powCap_of_powCap_succ h')

/-! ## `get` -/

section
variable [DecidableEq K]

theorem get_eq_some_iff (t : Tbl K V) (k : K) (h : Nat) (v : V) :
    get t k h = some v ↔
      ∃ e, t.tbl[powCap h t.cap]? = some (some e) ∧ e.key = k ∧ e.val = v := by
  unfold get
  rw [List.getD_eq_getElem?_getD]
  rcases t.tbl[powCap h t.cap]? with _ | _ | e <;> simp

end

/-! ## `new` -/

theorem new_getElem? (cap p : Nat) (e : Elem K V) : (new cap : Tbl K V).tbl[p]? ≠ some (some e) := by
  intro h
  simp only [new, List.getElem?_replicate] at h
  split at h <;> cases h

theorem inv_new (hashOf : K → Nat) (cap : Nat) : Inv hashOf (new cap : Tbl K V) :=
  ⟨List.length_replicate, fun pos e h => absurd h (new_getElem? cap pos e)⟩

theorem get_new [DecidableEq K] (cap : Nat) (k : K) (h : Nat) : get (new cap : Tbl K V) k h = none := by
  cases hg : get (new cap : Tbl K V) k h with
  | none => rfl
  | some v =>
    obtain ⟨e, he, _⟩ := (get_eq_some_iff _ k h v).1 hg
    exact absurd he (new_getElem? cap _ e)

/-! ## `insertNoGrow` -/

@[simp] theorem insertNoGrow_cap (t : Tbl K V) (k : K) (v : V) (h : Nat) :
    (insertNoGrow t k v h).cap = t.cap := rfl

@[simp] theorem insertNoGrow_tbl (t : Tbl K V) (k : K) (v : V) (h : Nat) :
    (insertNoGrow t k v h).tbl = t.tbl.set (powCap h t.cap) (some ⟨k, v, h⟩) := rfl

theorem insertNoGrow_length (t : Tbl K V) (k : K) (v : V) (h : Nat) :
    (insertNoGrow t k v h).tbl.length = t.tbl.length := by simp

theorem insertNoGrow_stored {t : Tbl K V} {k : K} {v : V} {h p : Nat} {e : Elem K V}
    (he : (insertNoGrow t k v h).tbl[p]? = some (some e)) :
    (e = ⟨k, v, h⟩ ∧ powCap h t.cap = p) ∨ t.tbl[p]? = some (some e) := by
  rw [insertNoGrow_tbl, List.getElem?_set] at he
  by_cases hp : powCap h t.cap = p
  · rw [if_pos hp] at he
    split at he
    · cases he; exact Or.inl ⟨rfl, hp⟩
    · cases he
  · rw [if_neg hp] at he; exact Or.inr he

variable {hashOf : K → Nat} {t : Tbl K V}

theorem inv_insertNoGrow (hi : Inv hashOf t) (k : K) (v : V) :
    Inv hashOf (insertNoGrow t k v (hashOf k)) := by
  refine ⟨(insertNoGrow_length ..).trans hi.1, fun pos e h => ?_⟩
  rcases insertNoGrow_stored h with ⟨rfl, hp⟩ | h
  · exact ⟨rfl, hp⟩
  · exact hi.2 pos e h

section
variable [DecidableEq K]

/-- one-step law of the slot overwrite; holds for arbitrary hashes and any table -/
theorem insertNoGrow_law (t : Tbl K V) (k k' : K) (v v' : V) (h h' : Nat)
    (hg : get (insertNoGrow t k v h) k' h' = some v') :
    (k' = k ∧ v' = v) ∨ get t k' h' = some v' := by
  obtain ⟨e, he, hk, hv⟩ := (get_eq_some_iff _ _ _ _).1 hg
  rcases insertNoGrow_stored he with ⟨rfl, _⟩ | he
  · exact Or.inl ⟨hk.symm, hv.symm⟩
  · exact Or.inr ((get_eq_some_iff _ _ _ _).2 ⟨e, he, hk, hv⟩)

/-- a fresh entry is visible (needs only that the slot exists) -/
theorem insertNoGrow_get_self {t : Tbl K V} (hl : t.tbl.length = 2 ^ t.cap) (k : K) (v : V)
    (h : Nat) : get (insertNoGrow t k v h) k h = some v := by
  refine (get_eq_some_iff _ _ _ _).2 ⟨⟨k, v, h⟩, ?_, rfl, rfl⟩
  simp only [insertNoGrow_tbl, insertNoGrow_cap, List.getElem?_set]
  have := powCap_lt h t.cap
  simp [hl, this]

end

/-! ## `grow` -/

/-- one iteration of the loop of `grow` -/
def growStep (acc : Tbl K V) (e : Option (Elem K V)) : Tbl K V :=
  match e with
  | some e => insertNoGrow acc e.key e.val e.hash
  | none => acc

theorem grow_eq (t : Tbl K V) :
    grow t = ⟨(t.tbl.foldl growStep (new (t.cap + 1))).tbl,
              (t.tbl.foldl growStep (new (t.cap + 1))).cap, t.numFilled⟩ := rfl

theorem growStep_cap (acc : Tbl K V) (e : Option (Elem K V)) : (growStep acc e).cap = acc.cap := by
  cases e <;> rfl

theorem foldl_growStep_cap (l : List (Option (Elem K V))) (acc : Tbl K V) :
    (l.foldl growStep acc).cap = acc.cap := by
  induction l generalizing acc with
  | nil => rfl
  | cons x l ih => rw [List.foldl_cons, ih, growStep_cap]

/-- Precondition of the re-insertion loop of `grow` into the table `acc` of `2^c` slots with `l` still to
insert: the elements of `l` go to pairwise distinct slots, and those slots are still empty.  Nothing is
overwritten, so the result holds exactly the old content plus every list element. -/
structure GrowPre (c : Nat) (acc : Tbl K V) (l : List (Option (Elem K V))) : Prop where
  hcap : acc.cap = c
  hlen : acc.tbl.length = 2 ^ c
  hpw : l.Pairwise (fun a b => ∀ ea eb, a = some ea → b = some eb → powCap ea.hash c ≠ powCap eb.hash c)
  hfree : ∀ e : Elem K V, some e ∈ l → acc.tbl[powCap e.hash c]? = some none

section
variable {c : Nat} {acc : Tbl K V} {l : List (Option (Elem K V))} {e0 : Elem K V}

theorem GrowPre.step_none (h : GrowPre c acc (none :: l)) : GrowPre c acc l :=
  ⟨h.hcap, h.hlen, (List.pairwise_cons.1 h.hpw).2, fun e he => h.hfree e (List.mem_cons_of_mem _ he)⟩

theorem GrowPre.step_getElem? (h : GrowPre c acc (some e0 :: l)) (p : Nat) (e : Elem K V) :
    (growStep acc (some e0)).tbl[p]? = some (some e) ↔
      acc.tbl[p]? = some (some e) ∨ (e = e0 ∧ powCap e.hash c = p) := by
  have hq : powCap e0.hash c < acc.tbl.length := by rw [h.hlen]; exact powCap_lt _ _
  show (acc.tbl.set (powCap e0.hash acc.cap) (some e0))[p]? = _ ↔ _
  rw [h.hcap, List.getElem?_set]
  by_cases hp : powCap e0.hash c = p
  · subst hp
    rw [if_pos rfl, if_pos hq, h.hfree e0 (List.mem_cons_self ..)]
    exact ⟨fun he => by cases he; exact Or.inr ⟨rfl, rfl⟩,
      fun h' => h'.elim (fun he => nomatch he) (fun ⟨he, _⟩ => he ▸ rfl)⟩
  · rw [if_neg hp]
    exact ⟨Or.inl, fun h' => h'.elim id (fun ⟨he, hp'⟩ => absurd (he ▸ hp') hp)⟩

theorem GrowPre.step_some (h : GrowPre c acc (some e0 :: l)) : GrowPre c (growStep acc (some e0)) l := by
  have hpw := List.pairwise_cons.1 h.hpw
  refine ⟨by rw [growStep_cap, h.hcap], (List.length_set ..).trans h.hlen, hpw.2, fun e he => ?_⟩
  show (acc.tbl.set (powCap e0.hash acc.cap) (some e0))[_]? = _
  rw [h.hcap, List.getElem?_set_ne (hpw.1 _ he e0 e rfl rfl)]
  exact h.hfree e (List.mem_cons_of_mem _ he)

end

theorem GrowPre.foldl {c : Nat} : ∀ (l : List (Option (Elem K V))) (acc : Tbl K V),
    GrowPre c acc l → GrowPre c (l.foldl growStep acc) []
  | [], _, h => h
  | none :: l, acc, h => GrowPre.foldl l acc h.step_none
  | some _ :: l, _, h => GrowPre.foldl l _ h.step_some

theorem foldl_growStep_char {c : Nat} (l : List (Option (Elem K V))) (acc : Tbl K V)
    (h : GrowPre c acc l) (p : Nat) (e : Elem K V) :
    (l.foldl growStep acc).tbl[p]? = some (some e) ↔
      (acc.tbl[p]? = some (some e) ∨ (some e ∈ l ∧ powCap e.hash c = p)) := by
  induction l generalizing acc with
  | nil => simp
  | cons x l ih =>
    cases x with
    | none =>
      rw [List.foldl_cons, show growStep acc none = acc from rfl, ih acc h.step_none]
      simp only [List.mem_cons, reduceCtorEq, false_or]
    | some e0 =>
      rw [List.foldl_cons, ih _ h.step_some, h.step_getElem?]
      simp only [List.mem_cons, Option.some.injEq, or_and_right, or_assoc]

theorem inv_pairwise (hi : Inv hashOf t) :
    t.tbl.Pairwise (fun a b => ∀ ea eb, a = some ea → b = some eb →
      powCap ea.hash t.cap ≠ powCap eb.hash t.cap) := by
  rw [List.pairwise_iff_getElem]
  intro i j hi' hj' hij ea eb ha hb
  rw [(hi.2 i ea (by rw [List.getElem?_eq_getElem hi', ha])).2,
    (hi.2 j eb (by rw [List.getElem?_eq_getElem hj', hb])).2]
  exact Nat.ne_of_lt hij

theorem GrowPre.of_inv (hi : Inv hashOf t) : GrowPre (t.cap + 1) (new (t.cap + 1)) t.tbl :=
  ⟨rfl, List.length_replicate,
    (inv_pairwise hi).imp fun h ea eb ha hb => powCap_succ_ne (h ea eb ha hb),
    fun e _ => by
      show (List.replicate _ none)[_]? = _
      rw [List.getElem?_replicate, if_pos (powCap_lt _ _)]⟩

/-- content of the grown table: exactly the old elements, each in the slot of its stored hash
modulo `2^(cap+1)` -/
theorem grow_char (hi : Inv hashOf t) (p : Nat) (e : Elem K V) :
    (grow t).tbl[p]? = some (some e) ↔ (some e ∈ t.tbl ∧ powCap e.hash (t.cap + 1) = p) := by
  rw [grow_eq]
  simp only [foldl_growStep_char t.tbl _ (GrowPre.of_inv hi), new_getElem?, false_or]

theorem grow_cap (t : Tbl K V) : (grow t).cap = t.cap + 1 := by
  rw [grow_eq]; simp only [foldl_growStep_cap]; rfl

theorem inv_grow {hashOf : K → Nat} {t : Tbl K V} (hi : Inv hashOf t) : Inv hashOf (grow t) := by
  refine ⟨by rw [grow_cap]; exact (GrowPre.foldl _ _ (GrowPre.of_inv hi)).hlen, ?_⟩
  intro p e h
  obtain ⟨hm, hp⟩ := (grow_char hi p e).1 h
  obtain ⟨i, hi'⟩ := List.getElem?_of_mem hm
  exact ⟨(hi.2 i e hi').1, by rw [grow_cap]; exact hp⟩

/-- growth loses nothing and confuses nothing -/
theorem grow_keeps [DecidableEq K] {hashOf : K → Nat} {t : Tbl K V} (hi : Inv hashOf t) (k : K) :
    get (grow t) k (hashOf k) = get t k (hashOf k) := by
  apply Option.ext
  intro v
  rw [get_eq_some_iff, get_eq_some_iff]
  constructor
  · rintro ⟨e, he, hk, hv⟩
    rw [grow_cap] at he
    obtain ⟨hm, hp⟩ := (grow_char hi _ e).1 he
    obtain ⟨i, hi'⟩ := List.getElem?_of_mem hm
    have := (hi.2 i e hi').2
    rw [powCap_of_powCap_succ hp] at this
    exact ⟨e, by rw [this]; exact hi', hk, hv⟩
  · rintro ⟨e, he, hk, hv⟩
    refine ⟨e, ?_, hk, hv⟩
    rw [grow_cap, grow_char hi]
    refine ⟨List.mem_of_getElem? he, ?_⟩
    rw [(hi.2 _ e he).1, hk]

/-! ## `insert` -/

theorem insert_eq (num den : Nat) (t : Tbl K V) (k : K) (v : V) (h : Nat) :
    insert num den t k v h = insertNoGrow (if needGrow num den t then grow t else t) k v h := rfl

theorem inv_insert {hashOf : K → Nat} (num den : Nat) {t : Tbl K V} (hi : Inv hashOf t)
    (k : K) (v : V) : Inv hashOf (insert num den t k v (hashOf k)) := by
  rw [insert_eq]
  split
  · exact inv_insertNoGrow (inv_grow hi) k v
  · exact inv_insertNoGrow hi k v

section
variable [DecidableEq K]

/-- the one-step law (the contract `CacheImpl.lawful`) -/
theorem insert_law {hashOf : K → Nat} (num den : Nat) {t : Tbl K V} (hi : Inv hashOf t)
    (k k' : K) (v v' : V)
    (hg : get (insert num den t k v (hashOf k)) k' (hashOf k') = some v') :
    (k' = k ∧ v' = v) ∨ get t k' (hashOf k') = some v' := by
  rw [insert_eq] at hg
  rcases insertNoGrow_law _ _ _ _ _ _ _ hg with h | h
  · exact Or.inl h
  · right
    split at h
    · rwa [grow_keeps hi] at h
    · exact h

/-- a fresh insertion is visible until overwritten -/
theorem insert_get_self {hashOf : K → Nat} (num den : Nat) {t : Tbl K V} (hi : Inv hashOf t)
    (k : K) (v : V) : get (insert num den t k v (hashOf k)) k (hashOf k) = some v := by
  rw [insert_eq]
  apply insertNoGrow_get_self
  split
  · exact (inv_grow hi).1
  · exact hi.1

end

end Lru
