import RsddModel.Spec.Cnf
import RsddModel.Spec.Wmc
/-!
# Model of the CNF-side utilities — property C15

Mirrors `src/repr/cnf.rs` (`Cnf::{new, eval, is_sat_partial, condition, wmc, var_in_cnf,
to_dimacs}`, `AssignmentIter`, `CnfHasher`, `HashedCNF`), `src/repr/model.rs` (`PartialModel`)
and `src/repr/var_label.rs` (`VarLabel`, `Literal` bit packing through the `BITFIELD!` macro of
`src/util/mod.rs`, `VarSet` over `bit_set::BitSet`).

Core Lean only; everything is executable and can be linked into the differential driver.

Representation choices:

* a `Literal` is, outside the packing section, a `Spec.Lit` (label, polarity).  The packing
  section models the `u64` word bit by bit (`packLit`, `rawLabel`, `polarity`); the two views
  agree for labels below `2^63` (`Lemmas/CnfBook.lean: literal_pack_roundtrip`).
* a Rust panic (`assert!`, slice index out of bounds, `unwrap` on `None`) is `none`.
* `VarSet` (a `BitSet`: extensional equality, ascending iteration) is the strictly ascending
  list of its members.
* `HashSet<usize>` of clause indices is an ascending list of indices.  The only observation
  made of the set is the `wrapping_mul` product in `hash`, which does not depend on the
  iteration order (`C15.hash_order_irrelevant`).
* `Vec` stacks (`CnfHasher::state`) are lists with the top at the head.
* `u128` + `wrapping_mul` = `Nat` and multiplication modulo `2^128`.
* `primal::Primes::all()` (2, 3, 5, …) is `nextPrime` iterated from 1, by trial division.
-/
namespace CnfUtil
open Spec

/-! ## `BITFIELD!` and the `Literal` word -/

def W64 : Nat := 2 ^ 64
/-- `x << k` on `u64` -/
def shl64 (x k : Nat) : Nat := (x <<< k) % W64
/-- `!x` on `u64` -/
def not64 (x : Nat) : Nat := W64 - 1 - x

/-- the getter generated by `BITFIELD!` for the bit range `s..e` of a `u64`:
`data << (64 - e) >> (64 - e + s)` -/
def bfGet (data s e : Nat) : Nat := (shl64 data (64 - e)) >>> (64 - e + s)

/-- the setter generated by `BITFIELD!`:
`mask = ((1 << (e - s)) - 1) << s; data &= !mask; data |= (val << s) & mask` -/
def bfSet (data val s e : Nat) : Nat :=
  let mask := shl64 (shl64 1 (e - s) - 1) s
  (data &&& not64 mask) ||| (shl64 val s &&& mask)

/-- `raw_label` = bits `0..63` -/
def rawLabel (d : Nat) : Nat := bfGet d 0 63
/-- `raw_polarity` = bit `63..64` -/
def rawPolarity (d : Nat) : Nat := bfGet d 63 64
/-- `Literal::new(VarLabel(label), polarity)`: the `u64` word -/
def packNew (label : Nat) (pol : Bool) : Nat :=
  bfSet (bfSet 0 label 0 63) (if pol then 1 else 0) 63 64
def packLit (l : Lit) : Nat := packNew l.var l.pol
/-- `Literal::label().value()` -/
def packedLabel (d : Nat) : Nat := rawLabel d
/-- `Literal::polarity()` -/
def packedPolarity (d : Nat) : Bool := rawPolarity d == 1
def unpackLit (d : Nat) : Lit := ⟨packedLabel d, packedPolarity d⟩
/-- `Literal::negated()` on the word -/
def packedNegated (d : Nat) : Nat := packNew (packedLabel d) (!packedPolarity d)
/-- `Literal::implies_true` on words -/
def packedImpliesTrue (d e : Nat) : Bool :=
  packedLabel d == packedLabel e && packedPolarity d == packedPolarity e
/-- `Literal::implies_false` on words -/
def packedImpliesFalse (d e : Nat) : Bool :=
  packedLabel d == packedLabel e && packedPolarity d != packedPolarity e

/-- `Literal::negated` -/
def litNegated (l : Lit) : Lit := ⟨l.var, !l.pol⟩
/-- `Literal::implies_true` -/
def litImpliesTrue (l o : Lit) : Bool := l.var == o.var && l.pol == o.pol
/-- `Literal::implies_false` -/
def litImpliesFalse (l o : Lit) : Bool := l.var == o.var && l.pol != o.pol

/-! ## `VarSet` -/

/-- strictly ascending list of members (`VarSet.WF`) -/
structure VarSet where
  elems : List Nat
deriving DecidableEq, Repr, Inhabited

namespace VarSet

def WF (s : VarSet) : Prop := s.elems.Pairwise (· < ·)

/-- `VarSet::new` / `VarSet::new_with_num_vars` (capacity is not observable) -/
def new : VarSet := ⟨[]⟩
def newWithNumVars (_n : Nat) : VarSet := ⟨[]⟩

def insertL (v : Nat) : List Nat → List Nat
  | [] => [v]
  | x :: xs => if v < x then v :: x :: xs else if v = x then x :: xs else x :: insertL v xs

/-- `VarSet::insert` -/
def insert (s : VarSet) (v : Nat) : VarSet := ⟨insertL v s.elems⟩
/-- `VarSet::remove` -/
def remove (s : VarSet) (v : Nat) : VarSet := ⟨s.elems.filter (fun x => x != v)⟩
/-- `VarSet::contains` -/
def contains (s : VarSet) (v : Nat) : Bool := s.elems.contains v
/-- `VarSet::union` (and `union_with`, its in-place form) -/
def union (s t : VarSet) : VarSet := ⟨t.elems.foldl (fun acc v => insertL v acc) s.elems⟩
def unionWith (s t : VarSet) : VarSet := union s t
/-- `VarSet::minus` -/
def minus (s t : VarSet) : VarSet := ⟨s.elems.filter (fun x => !t.elems.contains x)⟩
/-- `VarSet::difference`: the iterator, as the list it yields -/
def difference (s t : VarSet) : List Nat := (minus s t).elems
/-- `VarSet::intersect_varset` -/
def intersectVarset (s t : VarSet) : VarSet := ⟨s.elems.filter (fun x => t.elems.contains x)⟩
/-- `VarSet::intersect`: the iterator, as the list it yields -/
def intersect (s t : VarSet) : List Nat := (intersectVarset s t).elems
/-- `VarSet::iter`: ascending -/
def iter (s : VarSet) : List Nat := s.elems
/-- `VarSet::len` -/
def len (s : VarSet) : Nat := s.elems.length
/-- `VarSet::is_empty` -/
def isEmpty (s : VarSet) : Bool := s.elems.isEmpty
/-- build from any list of labels by repeated `insert` -/
def ofList (l : List Nat) : VarSet := l.foldl insert new

end VarSet

/-! ## `PartialModel` -/

structure PartialModel where
  trueA : VarSet
  falseA : VarSet
deriving DecidableEq, Repr, Inhabited

namespace PartialModel

def WF (m : PartialModel) : Prop := m.trueA.WF ∧ m.falseA.WF

/-- `PartialModel::new` -/
def new (n : Nat) : PartialModel := ⟨VarSet.newWithNumVars n, VarSet.newWithNumVars n⟩

/-- the loop of `from_assignments`, starting at index `i` -/
def fromAssignmentsAux : List (Option Bool) → Nat → PartialModel → PartialModel
  | [], _, m => m
  | some true :: r, i, m => fromAssignmentsAux r (i + 1) { m with trueA := m.trueA.insert i }
  | some false :: r, i, m => fromAssignmentsAux r (i + 1) { m with falseA := m.falseA.insert i }
  | none :: r, i, m => fromAssignmentsAux r (i + 1) m

/-- `PartialModel::from_assignments` -/
def fromAssignments (as : List (Option Bool)) : PartialModel :=
  fromAssignmentsAux as 0 (new as.length)

/-- `PartialModel::from_total_model` -/
def fromTotalModel (as : List Bool) : PartialModel := fromAssignments (as.map some)

/-- the first loop of `from_litvec`: `init_assgn[label] = Some(polarity)`; an out-of-range
index panics -/
def litvecFill : List Lit → List (Option Bool) → Option (List (Option Bool))
  | [], acc => some acc
  | l :: r, acc => if l.var < acc.length then litvecFill r (acc.set l.var (some l.pol)) else none

/-- `PartialModel::from_litvec` (`none` = index panic) -/
def fromLitvec (lits : List Lit) (numVars : Nat) : Option PartialModel :=
  (litvecFill lits (List.replicate numVars none)).map fromAssignments

/-- `PartialModel::unset` -/
def unset (m : PartialModel) (x : Nat) : PartialModel := ⟨m.trueA.remove x, m.falseA.remove x⟩
/-- `PartialModel::set` -/
def set (m : PartialModel) (x : Nat) (b : Bool) : PartialModel :=
  if b then ⟨m.trueA.insert x, m.falseA.remove x⟩ else ⟨m.trueA.remove x, m.falseA.insert x⟩
/-- `PartialModel::get` -/
def get (m : PartialModel) (x : Nat) : Option Bool :=
  if m.trueA.contains x then some true else if m.falseA.contains x then some false else none
/-- `PartialModel::lit_implied` -/
def litImplied (m : PartialModel) (l : Lit) : Bool :=
  match m.get l.var with
  | some v => v == l.pol
  | none => false
/-- `PartialModel::lit_neg_implied` -/
def litNegImplied (m : PartialModel) (l : Lit) : Bool :=
  match m.get l.var with
  | some v => v != l.pol
  | none => false
/-- `PartialModel::is_set` -/
def isSet (m : PartialModel) (x : Nat) : Bool := m.trueA.contains x || m.falseA.contains x
/-- `PartialModel::assignment_iter`: false literals ascending, then true literals ascending -/
def assignmentIter (m : PartialModel) : List Lit :=
  m.falseA.iter.map (fun x => ⟨x, false⟩) ++ m.trueA.iter.map (fun x => ⟨x, true⟩)
/-- `PartialModel::difference` -/
def difference (m o : PartialModel) : List Lit :=
  (m.falseA.difference o.falseA).map (fun x => ⟨x, false⟩)
    ++ (m.trueA.difference o.trueA).map (fun x => ⟨x, true⟩)
/-- the specification view -/
def toSpec (m : PartialModel) : PModel := fun x => m.get x

end PartialModel

/-! ## primes by trial division (`primal::Primes::all()`) -/

/-- trial division by every `d` with `2 ≤ d < n` -/
def isPrimeB (n : Nat) : Bool := 2 ≤ n && (List.range' 2 (n - 2)).all (fun d => n % d != 0)

theorem isPrimeB_iff {n : Nat} :
    isPrimeB n = true ↔ 2 ≤ n ∧ ∀ d, 2 ≤ d → d < n → ¬ d ∣ n := by
  simp only [isPrimeB, Bool.and_eq_true, decide_eq_true_eq, List.all_eq_true,
    List.mem_range'_1, bne_iff_ne, ne_eq, and_imp]
  exact ⟨fun ⟨h2, h⟩ => ⟨h2, fun d hd hdn hdiv =>
      h d hd ((Nat.add_sub_cancel' h2).symm ▸ hdn) (Nat.mod_eq_zero_of_dvd hdiv)⟩,
    fun ⟨h2, h⟩ => ⟨h2, fun d hd hdn hmod =>
      h d hd (Nat.add_sub_cancel' h2 ▸ hdn) (Nat.dvd_of_mod_eq_zero hmod)⟩⟩

theorem exists_prime_dvd : ∀ (n : Nat), 2 ≤ n → ∃ p, isPrimeB p = true ∧ p ∣ n := by
  intro n
  induction n using Nat.strongRecOn with
  | _ n ih =>
    intro h2
    by_cases hp : isPrimeB n = true
    · exact ⟨n, hp, Nat.dvd_refl n⟩
    · obtain ⟨d, hd, hdn, hdiv⟩ : ∃ d, 2 ≤ d ∧ d < n ∧ d ∣ n :=
        Classical.byContradiction fun hne =>
          hp (isPrimeB_iff.mpr ⟨h2, fun d hd hdn hdiv => hne ⟨d, hd, hdn, hdiv⟩⟩)
      obtain ⟨p, hpp, hpd⟩ := ih d hdn hd
      exact ⟨p, hpp, Nat.dvd_trans hpd hdiv⟩

def fact : Nat → Nat
  | 0 => 1
  | n + 1 => (n + 1) * fact n

theorem fact_pos : ∀ n, 0 < fact n
  | 0 => by decide
  | n + 1 => Nat.mul_pos (Nat.succ_pos n) (fact_pos n)

theorem dvd_fact : ∀ {n d : Nat}, 1 ≤ d → d ≤ n → d ∣ fact n
  | 0, _, h1, h2 => absurd (Nat.le_trans h1 h2) (by decide)
  | n + 1, d, h1, h2 => by
    by_cases h : d = n + 1
    · subst h; exact Nat.dvd_mul_right _ _
    · exact Nat.dvd_trans (dvd_fact h1 (Nat.le_of_lt_succ (Nat.lt_of_le_of_ne h2 h)))
        (Nat.dvd_mul_left _ _)

/-- Euclid: there is a prime at or above every bound -/
theorem exists_prime_ge (c : Nat) : ∃ p, c ≤ p ∧ isPrimeB p = true := by
  obtain ⟨p, hp, hdiv⟩ := exists_prime_dvd (fact c + 1) (Nat.succ_le_succ (fact_pos c))
  refine ⟨p, Classical.byContradiction fun hlt => ?_, hp⟩
  have h2 : 2 ≤ p := (isPrimeB_iff.mp hp).1
  -- a prime below `c` divides `c!` and `c! + 1`, hence 1
  have hd : p ∣ fact c := dvd_fact (Nat.le_of_succ_le h2) (Nat.le_of_lt (Nat.lt_of_not_le hlt))
  have h1 : p ∣ 1 := (Nat.dvd_add_right hd).mp hdiv
  exact absurd (Nat.le_trans h2 (Nat.le_of_dvd Nat.one_pos h1)) (by decide)

/-- the search space of `findPrime`: a start value together with the fact that a prime lies
at or above it -/
structure PrimeSearch where
  val : Nat
  property : ∃ p, val ≤ p ∧ isPrimeB p = true

theorem primeSearch_acc : ∀ (k c : Nat) (h : ∃ p, c ≤ p ∧ isPrimeB p = true) (p : Nat),
    c ≤ p → isPrimeB p = true → p - c = k →
    Acc (fun (x y : PrimeSearch) => x.1 = y.1 + 1 ∧ isPrimeB y.1 = false) ⟨c, h⟩
  | 0, c, h, p, hle, hp, hk => by
    refine Acc.intro _ fun y hy => ?_
    have hc : c = p := Nat.le_antisymm hle (Nat.sub_eq_zero_iff_le.mp hk)
    exact absurd (hc ▸ hp) (by rw [show isPrimeB c = false from hy.2]; decide)
  | k + 1, c, h, p, hle, hp, hk => by
    refine Acc.intro _ fun ⟨y, hy⟩ hy1 => ?_
    cases (show y = c + 1 from hy1.1)
    exact primeSearch_acc k (c + 1) hy p (Nat.lt_of_sub_eq_succ hk) hp
      (by rw [Nat.sub_succ, hk]; rfl)

instance : WellFoundedRelation PrimeSearch where
  rel x y := x.1 = y.1 + 1 ∧ isPrimeB y.1 = false
  wf := ⟨fun ⟨c, h⟩ => by
    obtain ⟨p, hle, hp⟩ := h
    exact primeSearch_acc (p - c) c _ p hle hp rfl⟩

/-- the least prime at or above `c` -/
def findPrime (c : Nat) (h : ∃ p, c ≤ p ∧ isPrimeB p = true) : Nat :=
  if hp : isPrimeB c = true then c
  else findPrime (c + 1) (by
    obtain ⟨p, hle, hpp⟩ := h
    refine ⟨p, ?_, hpp⟩
    by_cases he : c = p
    · subst he; exact absurd hpp hp
    · omega)
termination_by (⟨c, h⟩ : PrimeSearch)
decreasing_by exact ⟨trivial, by simpa using hp⟩

/-- the least prime above `p`; `nextPrime 1 = 2` -/
def nextPrime (p : Nat) : Nat := findPrime (p + 1) (exists_prime_ge (p + 1))

/-- the first `k` values of `primal::Primes::all()` -/
def primesFrom : Nat → Nat → List Nat
  | 0, _ => []
  | k + 1, p => nextPrime p :: primesFrom k (nextPrime p)
def firstPrimes (k : Nat) : List Nat := primesFrom k 1

/-! ## `CnfHasher` -/

def M128 : Nat := 2 ^ 128
/-- `u128::wrapping_mul` -/
def wmul (a b : Nat) : Nat := (a * b) % M128

/-- number of primes (`NUM_PRIMES`) -/
def numPrimes : Nat := 2

structure CnfHasher where
  /-- `weighted_cnf`: each literal occurrence with its prime -/
  weighted : List (List (Nat × Lit))
  /-- `state`: stack (top first) of the sets of clause indices not known satisfied -/
  state : List (List Nat)
  /-- `pos_lits[v]`: indices of the clauses that contain the positive literal of `v` -/
  posLits : List (List Nat)
  /-- `neg_lits[v]` -/
  negLits : List (List Nat)
deriving DecidableEq, Repr, Inhabited

/-- one clause of the `map(|lit| (primes.next().unwrap(), *lit))`; `p` is the prime handed out
last (1 before the first), returned updated -/
def weightClause : List Lit → Nat → List (Nat × Lit) × Nat
  | [], p => ([], p)
  | l :: ls, p =>
    let q := nextPrime p
    let r := weightClause ls q
    ((q, l) :: r.1, r.2)

def weightCnf : List (List Lit) → Nat → List (List (Nat × Lit))
  | [], _ => []
  | c :: cs, p =>
    let r := weightClause c p
    r.1 :: weightCnf cs r.2

/-- indices of the clauses containing the literal `l` (`clause.contains(&l)`), ascending -/
def clausesWith (cs : List (List Lit)) (l : Lit) : List Nat :=
  (List.range cs.length).filter fun i => (cs.getD i []).contains l

namespace CnfHasher

/-- `CnfHasher::new` -/
def new (cs : List (List Lit)) (numVars : Nat) : CnfHasher :=
  { weighted := weightCnf cs 1
    state := [(List.range cs.length).filter fun i => decide ((cs.getD i []).length > 1)]
    posLits := (List.range numVars).map fun v => clausesWith cs ⟨v, true⟩
    negLits := (List.range numVars).map fun v => clausesWith cs ⟨v, false⟩ }

/-- `CnfHasher::decide`; `none` = panic (label out of range of `pos_lits`/`neg_lits`, or
`last_mut().unwrap()` on an empty stack — the latter only when the index list is non-empty,
because the `unwrap` sits inside the loop body) -/
def decide (h : CnfHasher) (lit : Lit) : Option CnfHasher :=
  match (if lit.pol then h.posLits else h.negLits)[lit.var]? with
  | none => none
  | some idxs =>
    if idxs.isEmpty then some h
    else match h.state with
      | [] => none
      | top :: rest => some { h with state := top.filter (fun i => !idxs.contains i) :: rest }

/-- `CnfHasher::push`; `none` = `last().unwrap()` panic -/
def push (h : CnfHasher) : Option CnfHasher :=
  match h.state with
  | [] => none
  | top :: rest => some { h with state := top :: top :: rest }

/-- `CnfHasher::pop` (`Vec::pop`; a no-op on the empty stack) -/
def pop (h : CnfHasher) : CnfHasher := { h with state := h.state.tail }

/-- the inner loop of `hash` over one weighted clause; `none` = `continue 'outer` (a literal is
implied: the clause is satisfied and contributes nothing) -/
def hashClause (m : PartialModel) : List (Nat × Lit) → Nat → Option Nat
  | [], acc => some acc
  | (w, l) :: r, acc =>
    if m.litImplied l then none
    else if m.litNegImplied l then hashClause m r acc
    else hashClause m r (wmul acc w)

/-- the outer loop of `hash` over a list of clause indices -/
def hashOver (wc : List (List (Nat × Lit))) (m : PartialModel) (idxs : List Nat) : Nat :=
  idxs.foldl (fun v ci =>
    match hashClause m (wc.getD ci []) 1 with
    | none => v
    | some cv => wmul v cv) 1

/-- `CnfHasher::hash`: the common value of the `NUM_PRIMES` equal entries of `HashedCNF::v`;
`none` = `last().unwrap()` panic -/
def hash (h : CnfHasher) (m : PartialModel) : Option Nat :=
  match h.state with
  | [] => none
  | top :: _ => some (hashOver h.weighted m top)

/-- `HashedCNF { v }` -/
def hashedCnf (h : CnfHasher) (m : PartialModel) : Option (List Nat) :=
  (h.hash m).map fun v => List.replicate numPrimes v

end CnfHasher

/-! ## `Cnf` -/

/-- stable insertion: before the first element whose label is not smaller -/
def insertByLabel (l : Lit) : List Lit → List Lit
  | [] => [l]
  | x :: xs => if l.var ≤ x.var then l :: x :: xs else x :: insertByLabel l xs

/-- `clause.sort_by_key(|a| a.label().value())` (stable) -/
def sortByLabel : List Lit → List Lit
  | [] => []
  | l :: ls => insertByLabel l (sortByLabel ls)

/-- `Vec::dedup`: removes consecutive repeated elements -/
def dedupAdj : List Lit → List Lit
  | [] => []
  | [a] => [a]
  | a :: b :: t => if a = b then dedupAdj (b :: t) else a :: dedupAdj (b :: t)

def normClause (c : List Lit) : List Lit := dedupAdj (sortByLabel c)

/-- `max` of `label + 1` over one clause, `unwrap_or(0)` -/
def clauseMax (c : List Lit) : Nat := (c.map (fun l => l.var + 1)).foldl max 0

/-- `num_vars` as computed in `Cnf::new` -/
def numVarsOf (cs : List (List Lit)) : Nat := (cs.map clauseMax).foldl max 0

structure CnfM where
  clauses : List (List Lit)
  numVars : Nat
  hasher : CnfHasher
deriving DecidableEq, Repr, Inhabited

/-- `Cnf::new` -/
def cnfNew (cs : List (List Lit)) : CnfM :=
  let cl := cs.map normClause
  let n := numVarsOf cl
  { clauses := cl, numVars := n, hasher := CnfHasher.new cl n }

/-- `Cnf::num_vars` -/
def numVars (c : CnfM) : Nat := c.numVars

/-- `Cnf::eval`; `none` = panic (the `assert!` on the vector length; afterwards every index is
in range for a `Cnf` built by `Cnf::new`, see `C15.eval_index_in_range`) -/
def eval (c : CnfM) (asg : List Bool) : Option Bool :=
  if asg.length < c.numVars then none
  else some (c.clauses.all fun cl => cl.any fun l => l.pol == asg.getD l.var false)

/-- `Cnf::eval` with the slice indexing also made partial -/
def evalStrict (c : CnfM) (asg : List Bool) : Option Bool :=
  if asg.length < c.numVars then none
  else
    let rec clauseLoop : List Lit → Bool → Option Bool
      | [], sat => some sat
      | l :: r, sat =>
        match asg[l.var]? with
        | none => none
        | some b => clauseLoop r (if l.pol == b then true else sat)
    let rec cnfLoop : List (List Lit) → Option Bool
      | [] => some true
      | cl :: r =>
        match clauseLoop cl false with
        | none => none
        | some false => some false
        | some true => cnfLoop r
    cnfLoop c.clauses

/-- `Cnf::is_sat_partial` -/
def isSatPartial (c : CnfM) (m : PartialModel) : Bool :=
  c.clauses.all fun cl => cl.any fun l =>
    match m.get l.var with
    | some b => l.pol == b
    | none => false

/-- the `'clause` loop of `Cnf::condition` on one clause; `none` = `continue 'cnf` -/
def condClause (lit : Lit) : List Lit → List Lit → Option (List Lit)
  | [], acc => some acc
  | l :: r, acc =>
    if l.var == lit.var && l.pol == lit.pol then none
    else if l.var == lit.var && l.pol != lit.pol then condClause lit r acc
    else condClause lit r (acc ++ [l])

/-- the clause list handed to `Cnf::new` at the end of `Cnf::condition` -/
def condClauses (cs : List (List Lit)) (lit : Lit) : List (List Lit) :=
  cs.filterMap fun c => condClause lit c []

/-- `Cnf::condition` -/
def condition (c : CnfM) (lit : Lit) : CnfM := cnfNew (condClauses c.clauses lit)

/-- `Cnf::var_in_cnf` -/
def varInCnf (c : CnfM) (v : Nat) : Bool := c.clauses.flatten.any fun l => l.var == v

/-- `Cnf::to_dimacs` -/
def toDimacs (c : CnfM) : String :=
  c.clauses.foldl (fun r cl =>
    let clauseStr := cl.foldl (fun s l =>
      let litStr := (if l.pol then "" else "-") ++ toString (l.var + 1)
      if s.isEmpty then litStr else s ++ " " ++ litStr) ""
    r ++ "\n" ++ clauseStr ++ " 0") ""

/-! ## `AssignmentIter` -/

/-- the half-adder fold of `AssignmentIter::next` (index 0 first), with incoming carry -/
def incr : List Bool → Bool → List Bool × Bool
  | [], c => ([], c)
  | b :: bs, c =>
    let r := incr bs (b && c)
    ((b != c) :: r.1, r.2)

/-- the vectors produced after `cur`, at most `fuel` of them -/
def iterFrom : Nat → List Bool → List (List Bool)
  | 0, _ => []
  | fuel + 1, cur =>
    let r := incr cur true
    if r.2 then [] else r.1 :: iterFrom fuel r.1

/-- everything `AssignmentIter::new(n)` yields, in order (`2^n` is enough fuel:
`assignmentIter_enumerates`) -/
def assignmentIter (n : Nat) : List (List Bool) :=
  List.replicate n false :: iterFrom (2 ^ n) (List.replicate n false)

/-! ## `Cnf::wmc` -/

/-- the weight fold of one assignment: `fold(one, |v, (idx, pol)| v * (if pol {high} else {low}))` -/
def asgWeightFrom {α : Type} (S : SROps α) (w : Weights α) : List Bool → Nat → α → α
  | [], _, v => v
  | b :: r, i, v => asgWeightFrom S w r (i + 1) (S.mul v (if b then (w i).2 else (w i).1))

def asgWeight {α : Type} (S : SROps α) (w : Weights α) (asg : List Bool) : α :=
  asgWeightFrom S w asg 0 S.one

/-- `Cnf::wmc` (as repaired); `none` = `eval` panicked (never: `C15.wmc_spec`) -/
def wmc {α : Type} (S : SROps α) (c : CnfM) (w : Weights α) : Option α :=
  (assignmentIter c.numVars).foldl (fun total asg =>
    match total, eval c asg with
    | some t, some true => some (S.add t (asgWeight S w asg))
    | some t, some false => some t
    | _, _ => none) (some S.zero)

/-- the loop of the original `Cnf::wmc`, with `if assgn.is_empty() { break }` -/
def wmcOrigLoop {α : Type} (S : SROps α) (c : CnfM) (w : Weights α) : List (List Bool) → α → Option α
  | [], total => some total
  | asg :: r, total =>
    if asg.isEmpty then some total
    else match eval c asg with
      | none => none
      | some true => wmcOrigLoop S c w r (S.add total (asgWeight S w asg))
      | some false => wmcOrigLoop S c w r total

/-- `Cnf::wmc` before the repair -/
def wmcOrig {α : Type} (S : SROps α) (c : CnfM) (w : Weights α) : Option α :=
  wmcOrigLoop S c w (assignmentIter c.numVars) S.zero

/-! ## report functions for differential testing -/

def litOfPair (p : Nat × Bool) : Lit := ⟨p.1, p.2⟩
def pairOfLit (l : Lit) : Nat × Bool := (l.var, l.pol)
def clausesOfPairs (cs : List (List (Nat × Bool))) : List (List Lit) := cs.map (·.map litOfPair)
def pairsOfClauses (cs : List (List Lit)) : List (List (Nat × Bool)) := cs.map (·.map pairOfLit)

def natOps : SROps Nat := { zero := 0, one := 1, add := (· + ·), mul := (· * ·) }
def intOps : SROps Int := { zero := 0, one := 1, add := (· + ·), mul := (· * ·) }

structure CnfReport where
  /-- `Cnf::new(cs).clauses()` as (label, polarity) pairs -/
  clauses : List (List (Nat × Bool))
  /-- `num_vars()` -/
  numVars : Nat
  /-- character `k` is `1`/`0`/`P` = `eval` true/false/panic on the `k`-th vector yielded by
  `AssignmentIter::new(num_vars)` -/
  truthTable : String
  /-- `is_sat_partial(&PartialModel::from_assignments(pm))` -/
  isSatPartial : Bool
  /-- `condition(lit).clauses()` -/
  condClauses : List (List (Nat × Bool))
  /-- `condition(lit).num_vars()` -/
  condNumVars : Nat
  /-- `wmc` with weights `(low, high)` of variable `v` = `ws[v]` (default `(1, 1)`);
  `none` = panic -/
  wmc : Option Int
  /-- the same with the pre-repair loop -/
  wmcOrig : Option Int
  /-- `to_dimacs()` -/
  dimacs : String
deriving Repr, DecidableEq

def cnfReport (cs : List (List (Nat × Bool))) (pm : List (Option Bool)) (lit : Nat × Bool)
    (ws : List (Int × Int)) : CnfReport :=
  let c := cnfNew (clausesOfPairs cs)
  let cc := condition c (litOfPair lit)
  let w : Weights Int := fun v => ws.getD v (1, 1)
  { clauses := pairsOfClauses c.clauses
    numVars := c.numVars
    truthTable := String.ofList ((assignmentIter c.numVars).map fun a =>
      match eval c a with
      | some true => '1'
      | some false => '0'
      | none => 'P')
    isSatPartial := isSatPartial c (PartialModel.fromAssignments pm)
    condClauses := pairsOfClauses cc.clauses
    condNumVars := cc.numVars
    wmc := wmc intOps c w
    wmcOrig := wmcOrig intOps c w
    dimacs := toDimacs c }

def showLit (p : Nat × Bool) : String := (if p.2 then "" else "-") ++ toString p.1
def showClauses (cs : List (List (Nat × Bool))) : String :=
  ";".intercalate (cs.map fun c => ",".intercalate (c.map showLit))
def showOpt {α : Type} [ToString α] : Option α → String
  | some a => toString a
  | none => "panic"

/-- one line: `clauses=<c1;c2;…> nc=<#clauses> nv=<n> tt=<bits> sat=<0|1> cond=<c1;…> cnc=<#clauses>
cnv=<n> wmc=<i|panic> wmc0=<i|panic>`; a clause is a comma-separated list of literals `[-]label`
(0-based label, `-0` is the negative literal of variable 0); the empty clause is the empty string
between separators (`nc`/`cnc` disambiguate the empty list from the list of one empty clause) -/
def CnfReport.render (r : CnfReport) : String :=
  s!"clauses={showClauses r.clauses} nc={r.clauses.length} nv={r.numVars} tt={r.truthTable} sat={if r.isSatPartial then 1 else 0} cond={showClauses r.condClauses} cnc={r.condClauses.length} cnv={r.condNumVars} wmc={showOpt r.wmc} wmc0={showOpt r.wmcOrig}"

/-- commands of a hasher history -/
inductive HCmd where
  | decide (l : Lit)
  | push
  | pop
  | hash
deriving DecidableEq, Repr, Inhabited

/-- a hasher together with the partial models its user keeps in lock step: `decide l` is
`hasher.decide(l); model.set(l.label(), l.polarity())`, `push` saves the model, `pop` restores
it (a `pop` of the last level leaves no model, as it leaves no hasher state) -/
structure HDriver where
  h : CnfHasher
  models : List PartialModel
deriving DecidableEq, Repr, Inhabited

namespace HDriver

def init (cs : List (List Lit)) (numVars : Nat) : HDriver :=
  { h := CnfHasher.new cs numVars, models := [PartialModel.new numVars] }

/-- one command; `none` = panic -/
def step (d : HDriver) : HCmd → Option HDriver
  | .decide l =>
    (d.h.decide l).map fun h' =>
      { h := h', models := match d.models with
          | [] => []
          | m :: r => m.set l.var l.pol :: r }
  | .push =>
    (d.h.push).map fun h' =>
      { h := h', models := match d.models with
          | [] => []
          | m :: r => m :: m :: r }
  | .pop => some { h := d.h.pop, models := d.models.tail }
  | .hash => some d

/-- `hasher.hash(&model)` for the current model; `none` = panic -/
def hash (d : HDriver) : Option Nat :=
  match d.models with
  | [] => none
  | m :: _ => d.h.hash m

def run (d : HDriver) : List HCmd → Option HDriver
  | [] => some d
  | c :: cs => (d.step c).bind fun d' => run d' cs

/-- the hash after every command; after a panic every further entry is `none` -/
def trace : Option HDriver → List HCmd → List (Option Nat)
  | _, [] => []
  | none, _ :: cs => none :: trace none cs
  | some d, c :: cs =>
    match d.step c with
    | none => none :: trace none cs
    | some d' => d'.hash :: trace (some d') cs

end HDriver

/-- `CnfHasher::new(clauses, num_vars)` driven by `cmds`: the value of `hash(&model).v[0]`
(`= v[1]`) after every command, `none` once a command (or that `hash`) panicked -/
def hasherRun (clauses : List (List (Nat × Bool))) (numVars : Nat) (cmds : List HCmd) :
    List (Option Nat) :=
  HDriver.trace (some (HDriver.init (clausesOfPairs clauses) numVars)) cmds

/-- the same for the hasher stored in `Cnf::new(clauses)` (`cnf.hasher().clone()`) -/
def cnfHasherRun (clauses : List (List (Nat × Bool))) (cmds : List HCmd) : List (Option Nat) :=
  let c := cnfNew (clausesOfPairs clauses)
  HDriver.trace (some { h := c.hasher, models := [PartialModel.new c.numVars] }) cmds

/-- report for `VarSet`: from two label lists, `[iter a, iter b, union, minus, intersect,
difference]` and `(len a, is_empty a, contains a probe)` -/
def varSetReport (a b : List Nat) (probe : Nat) : List (List Nat) × (Nat × Bool × Bool) :=
  let s := VarSet.ofList a
  let t := VarSet.ofList b
  ([s.iter, t.iter, (s.union t).iter, (s.minus t).iter, s.intersect t, s.difference t],
   (s.len, s.isEmpty, s.contains probe))

/-- report for `PartialModel`: start from `from_assignments(pm)`, apply `set`/`unset`
(`(x, some b)` / `(x, none)`), return `assignment_iter`, `get` on `0..n-1` and
`difference` with `from_assignments(other)` -/
def partialModelReport (pm : List (Option Bool)) (ops : List (Nat × Option Bool))
    (other : List (Option Bool)) (n : Nat) :
    List (Nat × Bool) × List (Option Bool) × List (Nat × Bool) :=
  let m := ops.foldl (fun m op =>
    match op.2 with
    | some b => m.set op.1 b
    | none => m.unset op.1) (PartialModel.fromAssignments pm)
  (m.assignmentIter.map pairOfLit, (List.range n).map m.get,
   (m.difference (PartialModel.fromAssignments other)).map pairOfLit)

/-- report for the literal word: `(data, label(), polarity(), negated().data)` of
`Literal::new(VarLabel(label), pol)` -/
def literalReport (label : Nat) (pol : Bool) : Nat × Nat × Bool × Nat :=
  let d := packNew (label % W64) pol
  (d, packedLabel d, packedPolarity d, packedNegated d)

end CnfUtil
