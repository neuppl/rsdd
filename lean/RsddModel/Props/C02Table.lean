import RsddModel.Lemmas.RobinHood
/-!
# C02 (table part): the robin-hood unique table is a find-or-insert set

Model: `RsddModel/Model/RobinHood.lean` (mirror of `src/backing_store/bump_table.rs`, current =
repaired `grow`; `growOrig` = pinned `grow`).  Proofs: `RsddModel/Lemmas/RobinHood.lean`.

Hypotheses of every positive theorem, and nothing else:
* `lf.Valid`: `LOAD_FACTOR = num/den` with `0 < den`, `num ≤ den` (true for `7/10`,
  `LoadFactor.valid_default`);
* `0 < cap` for the initial capacity (`DEFAULT_SIZE = 131072` or the hook value);
* hash-function consistency: every call for key `k` passes `hashOf k` for one fixed function
  `hashOf` (this is what `get_or_insert` does, with `FxHasher`); `hashOf` is arbitrary —
  collisions are allowed;
* psl is a natural number.  The theorems are unconditional for this model; the `u8` code agrees
  with it on every history whose tables satisfy `RH.PslBound` (all stored psl ≤ 255), which is
  automatic while `cap ≤ 256` (`RH.RHInv.psl_lt_cap`) and is hypothesis H-psl otherwise.
* fuel: `RH.getOrInsert_fuel` — under the invariant no loop of the model runs out of fuel.
-/
namespace C02Table
open RH

/-- **The table refines a find-or-insert set.**  After any history `ks` of `get_or_insert` calls
on a fresh table (any number of growths), a call for `k` is a hit iff `k` was asked for before;
the returned arena index holds `k`; a hit changes nothing in the arena, a miss appends exactly
`k`; the arena only ever grows at the end (indices are stable); the key set is `ks ∪ {k}`. -/
theorem table_refines_set (hashOf : Nat → Nat) {lf : LoadFactor} (hlf : lf.Valid) {cap : Nat}
    (hc : 0 < cap) (ks : List Nat) (k : Nat) {t' : Tbl} {i : Nat} {found : Bool}
    (e : getOrInsert lf (run lf hashOf (mk cap) ks) (hashOf k) k = (t', i, found)) :
    (found = true ↔ k ∈ ks) ∧
    t'.keys[i]? = some k ∧
    (found = true → t'.keys = (run lf hashOf (mk cap) ks).keys) ∧
    (found = false → t'.keys = (run lf hashOf (mk cap) ks).keys ++ [k] ∧
      i = (run lf hashOf (mk cap) ks).keys.length) ∧
    (run lf hashOf (mk cap) ks).keys <+: t'.keys ∧
    (∀ k', k' ∈ t'.keys ↔ k' ∈ ks ∨ k' = k) ∧
    RHInv hashOf t' := by
  obtain ⟨r1, _, r3⟩ := run_spec hlf ks (RHInv.new hashOf hc)
  obtain ⟨h1, sp⟩ := getOrInsert_spec hlf r1 (extra := 0) e
  have hmem : ∀ k', k' ∈ (run lf hashOf (mk cap) ks).keys ↔ k' ∈ ks := fun k' =>
    (r3 k').trans (or_iff_right List.not_mem_nil)
  exact ⟨sp.found_iff.trans (hmem k), sp.index, fun hf => (sp.hit_keys hf).1, sp.miss_keys,
    sp.prefix_keys, fun k' => (sp.mem k').trans (or_congr_left (hmem k')), h1⟩

/-- **No duplicates, ever.**  After any history the arena holds pairwise distinct keys, exactly
the keys asked for, and `len` counts them. -/
theorem table_no_duplicates (hashOf : Nat → Nat) {lf : LoadFactor} (hlf : lf.Valid) {cap : Nat}
    (hc : 0 < cap) (ks : List Nat) :
    (run lf hashOf (mk cap) ks).keys.Nodup ∧
    (∀ k, k ∈ (run lf hashOf (mk cap) ks).keys ↔ k ∈ ks) ∧
    (run lf hashOf (mk cap) ks).len = (run lf hashOf (mk cap) ks).keys.length := by
  obtain ⟨r1, _, r3⟩ := run_spec hlf ks (RHInv.new hashOf hc)
  exact ⟨r1.nodup, fun k => (r3 k).trans (or_iff_right List.not_mem_nil), r1.len_eq⟩

/-- **Indices are stable.**  The index returned for `k` at any point of a history is returned
again, as a hit, by every later call for `k`, whatever happened in between (including growths). -/
theorem table_index_stable (hashOf : Nat → Nat) {lf : LoadFactor} (hlf : lf.Valid) {cap : Nat}
    (hc : 0 < cap) (ks₁ ks₂ : List Nat) (k : Nat) {t₁ : Tbl} {i : Nat} {b : Bool}
    (e : getOrInsert lf (run lf hashOf (mk cap) ks₁) (hashOf k) k = (t₁, i, b)) :
    (getOrInsert lf (run lf hashOf t₁ ks₂) (hashOf k) k).2 = (i, true) :=
  index_stable hlf (run_spec hlf ks₁ (RHInv.new hashOf hc)).1 e ks₂

/-! ## non-vacuity: a concrete history with collisions, a wrap-around, a displacement and two
growths (4 → 8 → 16) -/

/-- hashes of the keys `0..7`; homes collide modulo 4, 8 and 16 -/
def exHash (k : Nat) : Nat := [7, 3, 15, 2, 3, 10, 19, 31].getD k 0

example : (run {} exHash (mk 4) [0, 1, 2, 3, 4, 5, 6, 7]).cap = 16 := by decide +kernel
example : (run {} exHash (mk 4) [0, 1]).cap = 4 ∧ (run {} exHash (mk 4) [0, 1, 2]).cap = 8 ∧
    (run {} exHash (mk 4) [0, 1, 2, 3, 4]).cap = 8 ∧
    (run {} exHash (mk 4) [0, 1, 2, 3, 4, 5]).cap = 16 := by decide +kernel
-- wrap-around: key 1 (hash 3) lands in slot 0 of the 4-slot table
example : dump (run {} exHash (mk 4) [0, 1]) =
    (4, 2, [(some 1, 3, 1), (none, 0, 0), (none, 0, 0), (some 0, 7, 0)]) := by decide +kernel
example : (run {} exHash (mk 4) [0, 1, 2, 3, 4, 5, 6, 7]).keys = [0, 1, 2, 3, 4, 5, 6, 7] := by
  decide +kernel
-- every key is found again at the index it got, nothing is allocated twice
example : ([0, 1, 2, 3, 4, 5, 6, 7].map fun k =>
      (getOrInsert {} (run {} exHash (mk 4) [0, 1, 2, 3, 4, 5, 6, 7]) (exHash k) k).2) =
    [(0, true), (1, true), (2, true), (3, true), (4, true), (5, true), (6, true), (7, true)] := by
  decide +kernel
-- repeated requests in the history do not allocate
set_option maxRecDepth 8192 in
example : (run {} exHash (mk 4) [0, 1, 0, 2, 1, 3, 4, 4, 5, 0, 6, 7, 2]).keys =
    [0, 1, 2, 3, 4, 5, 6, 7] := by decide +kernel
-- the u8 side condition holds on this history
example : PslBound (run {} exHash (mk 4) [0, 1, 2, 3, 4, 5, 6, 7]) := by decide +kernel

/-! ## the pinned `grow` breaks the property -/

/-- the history driven through the pinned code (`growOrig`) -/
def runOrig (lf : LoadFactor) (hashOf : Nat → Nat) (t : Tbl) (ks : List Nat) : Tbl :=
  ks.foldl (fun t k => (getOrInsertOrig lf t (hashOf k) k).1) t

/-- hashes 1, 0, 2 for the keys 0, 1, 2 -/
def badHash (k : Nat) : Nat := [1, 0, 2].getD k 0

/-- **Negative theorem.**  With the pinned `grow` (every old slot re-propagated, unoccupied ones
included) there is a history after which a previously inserted key is no longer found and a
second copy of it is allocated.  Minimal witness: capacity 4, keys with hashes 1, 0, 2; the third
insertion grows the table to 8 and the unoccupied element re-propagated from slot 0 is swapped
into the cluster, orphaning the key homed at slot 1. -/
theorem growOrig_orphans :
    ∃ (hashOf : Nat → Nat) (cap : Nat) (ks : List Nat) (k : Nat), 0 < cap ∧ k ∈ ks ∧
      (getOrInsertOrig {} (runOrig {} hashOf (mk cap) ks) (hashOf k) k).2.2 = false ∧
      ¬ (getOrInsertOrig {} (runOrig {} hashOf (mk cap) ks) (hashOf k) k).1.keys.Nodup :=
  ⟨badHash, 4, [0, 1, 2], 0, by decide, by decide, by decide +kernel, by decide +kernel⟩

-- the slot array after the bad growth: key 0 (hash 1) sits at slot 2 behind a hole at slot 1
example : dump (runOrig {} badHash (mk 4) [0, 1, 2]) =
    (8, 3, [(some 1, 0, 0), (none, 0, 1), (some 0, 1, 1), (some 2, 2, 1),
            (none, 0, 0), (none, 0, 0), (none, 0, 0), (none, 0, 0)]) := by decide +kernel
-- the same history through the repaired code is fine
example : (getOrInsert {} (run {} badHash (mk 4) [0, 1, 2]) (badHash 0) 0).2 = (0, true) := by
  decide +kernel

end C02Table

#print axioms C02Table.table_refines_set
#print axioms C02Table.table_no_duplicates
#print axioms C02Table.table_index_stable
#print axioms C02Table.growOrig_orphans
#print axioms RH.getOrInsert_spec
#print axioms RH.grow_preserves
#print axioms RH.run_spec
#print axioms RH.index_stable
#print axioms RH.getOrInsert_fuel
#print axioms RH.RHInv.path
#print axioms RH.RHInv.psl_lt_cap
#print axioms RH.getByHash_spec
#print axioms RH.RHInv.pslBound
