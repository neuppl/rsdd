import RsddModel.Model.Semirings
import RsddModel.Lemmas.Semirings
/-!
# C13 — every shipped weight type obeys the semiring (and declared ring / lattice) laws

The property theorems; the lemmas they rest on are in `Lemmas/Semirings`.  The list of exported primes is a
*parameter* `exportedPrimes : List Nat` together with the hypothesis
`∀ P ∈ exportedPrimes, 1 < P ∧ P < 2^127`; a generated file supplies the concrete list from
`src/constants.rs` and discharges the hypothesis by `decide` (done here, too, in the non-vacuity
section, on the list as shipped).

"Exactly representable values": `f64` based types are modelled over `Rat`.

Clauses
* semiring laws (`SROps.Laws`: `+` associative, commutative, identity `zero`; `*` associative,
  commutative, identity `one`, annihilating `zero`; distributivity):
  `real_semiring`, `rational_semiring`, `bool_semiring`, `eu_semiring`, `complex_semiring`,
  `ff_semiring` (every exported prime), `poly_semiring` (+ `poly_wf`, `poly_mul_truncation`);
* finite-field results are integer arithmetic modulo the prime, and the `u128` code neither
  overflows nor underflows: `ff_modular`, `ff_no_overflow`, `ff_ops_reduced`;
* ring subtraction inverts addition: `ff_sub_inverts_add`, `real_sub_inverts_add`,
  `eu_sub_inverts_add`, `complex_sub_inverts_add`; `ff_negate`;
* lattice laws: `real_lattice`, `eu_lattice`;
* order compatibility: `real_order_compat`, `eu_order_compat`;
* replays of finding F5 on the original code: `orig_sub_wrong`, `orig_mul_wrong`.
-/
namespace C13
open Sem

/-- hypothesis on the list of exported primes (discharged by `decide` on the concrete list) -/
abbrev PrimesOk (exportedPrimes : List Nat) : Prop := ∀ P ∈ exportedPrimes, 1 < P ∧ P < 2 ^ 127

/-! ## semiring laws -/

theorem real_semiring : SROps.Laws realOps := realLaws
theorem rational_semiring : SROps.Laws ratOps := realLaws
theorem bool_semiring : SROps.Laws boolOps := boolLaws
theorem eu_semiring : SROps.Laws euOps := euLaws
theorem complex_semiring : SROps.Laws cxOps := cxLaws

/-- `FiniteField<P>` (carrier: the residues `v < P`, which is what the Rust type holds) is a
commutative semiring for every exported prime -/
theorem ff_semiring (exportedPrimes : List Nat) (h : PrimesOk exportedPrimes) :
    ∀ P (hP : P ∈ exportedPrimes),
      SROps.Laws (ffOpsFF P (Nat.lt_trans Nat.zero_lt_one (h P hP).1)) := by
  intro P hP
  exact ffLaws P _ (Nat.lt_trans (h P hP).2 (by decide))

/-- every constructor and operation of `Polynomial<C>` yields a well-formed value
(array of `maxCoeffs` entries, `len ≤ maxCoeffs`, zero at and beyond `len`) -/
theorem poly_wf {α : Type} (S : SROps α) (maxCoeffs : Nat) (hM : 0 < maxCoeffs) :
    PolyWF S maxCoeffs (polyZero S maxCoeffs) ∧ PolyWF S maxCoeffs (polyOne S maxCoeffs) ∧
    (∀ cs, PolyWF S maxCoeffs (polyOfList S maxCoeffs cs)) ∧
    (∀ p q, PolyWF S maxCoeffs (polyAdd S maxCoeffs p q)) ∧
    (∀ p q, PolyWF S maxCoeffs (polyMul S maxCoeffs p q)) :=
  ⟨polyZero_wf S _, polyOne_wf S _ hM, polyOfList_wf S _, polyAdd_wf S _, polyMul_wf S _⟩

/-- truncated polynomials over a commutative semiring are a commutative semiring for the derived
`PartialEq` (coefficient array *and* `len`), for every `maxCoeffs > 0` -/
theorem poly_semiring {α : Type} {S : SROps α} (hS : SROps.Laws S) (maxCoeffs : Nat)
    (hM : 0 < maxCoeffs) : SROps.Laws (polyOpsWF S maxCoeffs hM) :=
  polyLaws hS maxCoeffs hM

/-- truncation is the quotient by `X^maxCoeffs`: below `maxCoeffs`, entry `k` of the product is
`Σ_{i+j=k} p_i q_j`; at and beyond it is zero; sums are coefficient-wise -/
theorem poly_mul_truncation {α : Type} {S : SROps α} (hS : SROps.Laws S) (maxCoeffs : Nat)
    {p q : Poly α} (hp : PolyWF S maxCoeffs p) (hq : PolyWF S maxCoeffs q) :
    (∀ k, k < maxCoeffs →
      (polyMul S maxCoeffs p q).coef S k = conv S (p.coef S) (q.coef S) k) ∧
    (∀ k, maxCoeffs ≤ k → (polyMul S maxCoeffs p q).coef S k = S.zero) ∧
    (∀ k, (polyAdd S maxCoeffs p q).coef S k = S.add (p.coef S k) (q.coef S k)) :=
  ⟨fun k hk => polyMul_coef hS hp hq k hk,
   fun k hk => getD_of_le _ _ _ (by rw [polyMul_length]; exact hk),
   fun k => polyAdd_coef_wf hS hp hq k⟩

/-! ## finite fields: arithmetic modulo the prime, without overflow -/

/-- results equal integer arithmetic modulo the prime, for all residues and every exported prime -/
theorem ff_modular (exportedPrimes : List Nat) (h : PrimesOk exportedPrimes) :
    ∀ P ∈ exportedPrimes, ∀ a b, a < P → b < P →
      ffAdd P a b = (a + b) % P ∧ ffMul P a b = a * b % P ∧ ffSub P a b = (a + P - b) % P ∧
      ffNew P 0 = 0 ∧ ffNew P 1 = 1 := by
  intro P hP a b ha hb
  obtain ⟨h1, h2⟩ := h P hP
  exact ⟨ffAdd_spec P a b, ffMul_spec ha hb h1 h2, ffSub_spec' P a b (Nat.le_of_lt hb),
    Nat.zero_mod P, Nat.mod_eq_of_lt h1⟩

/-- no `u128` sum, difference or product formed by the (repaired) code on reduced operands
overflows/underflows, and the multiplication loop terminates within 128 iterations: the checked
reading returns `some` of the unbounded-integer reading -/
theorem ff_no_overflow (exportedPrimes : List Nat) (h : PrimesOk exportedPrimes) :
    ∀ P ∈ exportedPrimes, ∀ a b, a < P → b < P →
      ffAddC P a b = some (ffAdd P a b) ∧ ffMulC P a b = some (ffMul P a b) ∧
      ffSubC P a b = some (ffSub P a b) ∧ ffNegateC P a = some (ffNegate P a) := by
  intro P hP a b ha hb
  have h2 : P ≤ 2 ^ 127 := Nat.le_of_lt (h P hP).2
  exact ⟨ffAddC_eq ha hb h2, ffMulC_eq ha hb h2, ffSubC_eq ha hb h2, ffNegateC_eq ha h2⟩

/-- the raw operations keep residues reduced (so `FF P` is closed under them) -/
theorem ff_ops_reduced (exportedPrimes : List Nat) (h : PrimesOk exportedPrimes) :
    ∀ P ∈ exportedPrimes, ∀ a b,
      ffNew P a < P ∧ ffAdd P a b < P ∧ ffMul P a b < P ∧ ffSub P a b < P ∧ ffNegate P a < P := by
  intro P hP a b
  have h0 : 0 < P := Nat.lt_trans Nat.zero_lt_one (h P hP).1
  refine ⟨ffNew_lt h0 _, ffNew_lt h0 _, ?_, ffNew_lt h0 _, ffNew_lt h0 _⟩
  unfold ffMul; split <;> exact ffNew_lt h0 _

/-! ## ring subtraction inverts addition -/

theorem ff_sub_inverts_add (exportedPrimes : List Nat) (_h : PrimesOk exportedPrimes) :
    ∀ P ∈ exportedPrimes, ∀ a b, a < P → b < P →
      ffAdd P (ffSub P a b) b = a ∧ ffSub P (ffAdd P a b) b = a :=
  fun _ _ _ _ ha hb => ⟨ff_sub_add ha hb, ff_add_sub ha hb⟩

/-- `negate` (used by semantic hashing) is "one minus": `negate a + a = 1` -/
theorem ff_negate (exportedPrimes : List Nat) (h : PrimesOk exportedPrimes) :
    ∀ P ∈ exportedPrimes, ∀ a, a < P → ffAdd P (ffNegate P a) a = 1 := by
  intro P hP a ha
  rw [ffNegate_spec (Nat.le_of_lt ha), Nat.mod_eq_of_lt (h P hP).1]

theorem real_sub_inverts_add (a b : Rat) :
    realAdd (realSub a b) b = a ∧ realSub (realAdd a b) b = a :=
  ⟨Rat.sub_add_cancel, Rat.add_sub_cancel⟩

theorem eu_sub_inverts_add (a b : EU) : euAdd (euSub a b) b = a ∧ euSub (euAdd a b) b = a :=
  ⟨EU.ext' Rat.sub_add_cancel Rat.sub_add_cancel, EU.ext' Rat.add_sub_cancel Rat.add_sub_cancel⟩

theorem complex_sub_inverts_add (a b : Cx) : cxAdd (cxSub a b) b = a ∧ cxSub (cxAdd a b) b = a :=
  ⟨Cx.ext' Rat.sub_add_cancel Rat.sub_add_cancel, Cx.ext' Rat.add_sub_cancel Rat.add_sub_cancel⟩

/-! ## lattice laws -/

theorem real_lattice (a b c : Rat) :
    realJoin a a = a ∧ realJoin a b = realJoin b a ∧
    realJoin (realJoin a b) c = realJoin a (realJoin b c) ∧
    realMeet a a = a ∧ realMeet a b = realMeet b a ∧
    realMeet (realMeet a b) c = realMeet a (realMeet b c) :=
  ⟨realJoin_idem a, realJoin_comm a b, realJoin_assoc a b c,
   realMeet_idem a, realMeet_comm a b, realMeet_assoc a b c⟩

theorem eu_lattice (a b c : EU) :
    euJoin a a = a ∧ euJoin a b = euJoin b a ∧ euJoin (euJoin a b) c = euJoin a (euJoin b c) ∧
    euMeet a a = a ∧ euMeet a b = euMeet b a ∧ euMeet (euMeet a b) c = euMeet a (euMeet b c) :=
  -- join and meet are those of the reals in each component
  ⟨EU.ext' (realJoin_idem _) (realJoin_idem _), EU.ext' (realJoin_comm ..) (realJoin_comm ..),
   EU.ext' (realJoin_assoc ..) (realJoin_assoc ..),
   EU.ext' (realMeet_idem _) (realMeet_idem _), EU.ext' (realMeet_comm ..) (realMeet_comm ..),
   EU.ext' (realMeet_assoc ..) (realMeet_assoc ..)⟩

/-! ## order compatibility: whenever the declared order relates two elements, join and choose
return the larger and meet the smaller -/

/-- reals: the declared order (derived `PartialOrd` of the `f64` field) is total on exact values
and is `<`/`=`/`>` of the value -/
theorem real_order_compat (a b : Rat) :
    (realPartialCmp a b = some .lt ↔ a < b) ∧ (realPartialCmp a b = some .eq ↔ a = b) ∧
    (realPartialCmp a b = some .gt ↔ b < a) ∧ realPartialCmp a b ≠ none ∧
    (a ≤ b → realJoin a b = b ∧ realChoose a b = b ∧ realMeet a b = a) ∧
    (b ≤ a → realJoin a b = a ∧ realChoose a b = a ∧ realMeet a b = b) := by
  refine ⟨?_, ?_, ?_, ?_, Sem.real_order_compat, Sem.real_order_compat'⟩ <;>
    (simp only [realPartialCmp]; grind)

/-- expected utility: `partial_cmp` relates `a` and `b` in exactly three ways -/
theorem eu_order_compat (a b : EU) :
    (euPartialCmp a b = some .lt → euJoin a b = b ∧ euChoose a b = b ∧ euMeet a b = a) ∧
    (euPartialCmp a b = some .gt → euJoin a b = a ∧ euChoose a b = a ∧ euMeet a b = b) ∧
    (euPartialCmp a b = some .eq → a = b ∧ euJoin a b = b ∧ euChoose a b = b ∧ euMeet a b = a) :=
  ⟨fun h => eu_order_compat_le (Rat.le_of_lt (euPartialCmp_lt.1 h).1) (Rat.le_of_lt (euPartialCmp_lt.1 h).2),
   fun h =>
    have hp := Sem.real_order_compat' (Rat.le_of_lt (euPartialCmp_gt.1 h).1)
    have hu := Sem.real_order_compat' (Rat.le_of_lt (euPartialCmp_gt.1 h).2)
    ⟨EU.ext' hp.1 hu.1, if_pos (euPartialCmp_gt.1 h).2, EU.ext' hp.2.2 hu.2.2⟩,
   fun h => ⟨euPartialCmp_eq.1 h, euPartialCmp_eq.1 h ▸ eu_order_compat_le Rat.le_refl Rat.le_refl⟩⟩

/-! ## finding F5 replayed on the original operations -/

/-- original `sub` was `|a - b|`: in `F_7`, `(1 - 2) + 2 ≠ 1` -/
theorem orig_sub_wrong : ffAdd 7 (ffSubOrig 7 1 2) 2 ≠ 1 := by decide

/-- original `mul` formed `a * b` in `u128`: for `U128_LARGE_1` and `a = b = P - 1` the release
build returns a wrong residue and the debug build panics -/
theorem orig_mul_wrong :
    ffMulOrig 46084029846212370199652019757 46084029846212370199652019756
        46084029846212370199652019756
      ≠ 46084029846212370199652019756 * 46084029846212370199652019756
          % 46084029846212370199652019757 ∧
    ffMulOrigC 46084029846212370199652019757 46084029846212370199652019756
        46084029846212370199652019756 = none :=
  ⟨by decide, by decide⟩

/-! ## non-vacuity -/

/-- the primes of `src/constants.rs` as shipped (the generated file re-derives this list) -/
def shippedPrimes : List Nat :=
  [1000001, 479001599, 18446744073709551591, 46084029846212370199652019757,
   49703069216273825773136967137, 64733603481794218985640164159, 79016979402926483817096290621]

theorem shippedPrimes_ok : PrimesOk shippedPrimes := by decide

-- the hypotheses are satisfiable: the theorems apply to the shipped list
example := ff_semiring shippedPrimes shippedPrimes_ok
example := ff_modular shippedPrimes shippedPrimes_ok 46084029846212370199652019757 (by decide)
  46084029846212370199652019756 46084029846212370199652019756 (by decide) (by decide)

-- the large-prime path really goes through the double-and-add loop, and gives `(-1)^2 = 1`
example : ¬ (46084029846212370199652019756 * 46084029846212370199652019756 < 2 ^ 128) := by decide
example : ffMul 46084029846212370199652019757 46084029846212370199652019756
    46084029846212370199652019756 = 1 := by decide +kernel
example : ffMulC 79016979402926483817096290621 79016979402926483817096290620 2
    = some 79016979402926483817096290619 := by decide +kernel
example : ffSub 7 1 2 = 6 ∧ ffAdd 7 (ffSub 7 1 2) 2 = 1 := by decide
example : ffNegate 7 3 = 5 ∧ ffAdd 7 (ffNegate 7 3) 3 = 1 := by decide

-- the three related cases of the expected-utility order all occur, and so does "unrelated"
example : euPartialCmp ⟨1, 2⟩ ⟨2, 3⟩ = some .lt := by decide
example : euPartialCmp ⟨2, 3⟩ ⟨1, 2⟩ = some .gt := by decide
example : euPartialCmp ⟨1, 2⟩ ⟨1, 2⟩ = some .eq := by decide
example : euPartialCmp ⟨1, 3⟩ ⟨2, 2⟩ = none := by decide
-- on unrelated elements `choose` is not the join (so the hypothesis of `eu_order_compat` matters)
example : euChoose ⟨1, 3⟩ ⟨2, 2⟩ = ⟨1, 3⟩ ∧ euJoin ⟨1, 3⟩ ⟨2, 2⟩ = ⟨2, 3⟩ := by decide

-- polynomials: `(1 + X)(1 + X) = 1 + X + X^2` over the Boolean semiring truncated at 2 is `1 + X`…
example : polyMul boolOps 2 (polyOfList boolOps 2 [true, true]) (polyOfList boolOps 2 [true, true])
    = ⟨[true, true], 2⟩ := by decide
-- … and `(1 + 2X)(3 + X + X^2)` truncated at 32 over `F_7`
example : (polyMul (ffOps 7) 32 (polyOfList (ffOps 7) 32 [1, 2]) (polyOfList (ffOps 7) 32 [3, 1, 1])).len = 4
    ∧ (polyMul (ffOps 7) 32 (polyOfList (ffOps 7) 32 [1, 2])
        (polyOfList (ffOps 7) 32 [3, 1, 1])).coeffs.take 5 = [3, 0, 3, 2, 0] := by decide
example := poly_semiring bool_semiring 32 (by decide)

/-! ## axioms -/
#print axioms real_semiring
#print axioms rational_semiring
#print axioms bool_semiring
#print axioms eu_semiring
#print axioms complex_semiring
#print axioms ff_semiring
#print axioms poly_wf
#print axioms poly_semiring
#print axioms poly_mul_truncation
#print axioms ff_modular
#print axioms ff_no_overflow
#print axioms ff_ops_reduced
#print axioms ff_sub_inverts_add
#print axioms ff_negate
#print axioms real_sub_inverts_add
#print axioms eu_sub_inverts_add
#print axioms complex_sub_inverts_add
#print axioms real_lattice
#print axioms eu_lattice
#print axioms real_order_compat
#print axioms eu_order_compat
#print axioms orig_sub_wrong
#print axioms orig_mul_wrong
#print axioms shippedPrimes_ok

end C13
