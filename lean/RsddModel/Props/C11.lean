import RsddModel.Lemmas.SddHash
import RsddModel.Lemmas.SddSemantic
import RsddModel.Lemmas.SddWFd
import RsddModel.Props.C11Bdd
import RsddModel.Props.C03
import RsddModel.Props.C04
/-!
# C11 — semantic hashing

"The semantic hash of a diagram is determined by the Boolean function it denotes: diagrams of the
same function, of any kind, order, vtree or construction history, hash equally; a negation hashes
to one minus the hash; and, for a fixed field and weight map, a cached hash equals a recomputed
one.  Builders that identify nodes by semantic hash therefore never judge two equal functions
different, and over the 64-bit field the diagrams they return for conjunction, disjunction,
negation, conditioning, quantification and CNF compilation denote the correct function."

Reading.
* The hash is `DDNNFPtr::semantic_hash` = `unsmoothed_wmc` over `FiniteField<P>` with weights
  `low + high = 1` (`create_semantic_hash_map`): `Bdd.wmc (ffOps P) w`, `Sdd.semanticHash P w`.
  Statements are over the raw `u128` operations (`Sem.ffOps P`), for `0 < P < 2^128` (primality
  is never used: `primes::U32_SMALL = 1000001 = 101 · 9901` is not a prime) and weights below `P`.
* "any kind": free BDDs / decision-DNNFs (`Bdd.Ptr.free`) and deterministic decomposable SDDs
  (`Sdd.DD`; every `WFs` pointer, i.e. every result of the compressing builder, and every `WFd`
  pointer, i.e. every result of the semantic builder).
* "cached = recomputed": `cached_semantic_hash` keeps one value per node, never cleared and not
  keyed by the map.  For a FIXED prime and weight map, from the empty cache, every call of every
  sequence returns the recomputed hash; with a second map it does not (`two_maps`).
* the semantic builder: `Model/SddSemantic.lean`.  `semantic_never_splits` is unconditional.
  Correctness of the returned diagrams is *conditional*: the builder identifies nodes whose hashes
  coincide, there are `2^(2^n)` functions of `n` variables and `P` hash values, so for
  `2^(2^n) > P` two different functions share a hash whatever the weights (pigeonhole), and the
  builder then returns a wrong diagram (`collision_wrong`).  The hypothesis is *collision freedom
  of the history*: the run of the same builder with the collision detector on (`runChecked`:
  every hash-based judgement — an equality test, a node-table hit or insertion, an apply-cache
  hit, the `0`/`1` shortcuts — is compared with the truth tables) returns.  Under it the detector
  changes nothing (`semantic_correct_partial`, first clause) and every result is right.
-/
namespace C11
open Spec Sem

variable {P : Nat}

/-! ## clause 1: determined by the denoted function, for every kind of diagram -/

/-- over any commutative semiring (the weights need not be a field): a free BDD / decision-DNNF
and a deterministic decomposable SDD that denote the same function have the same count -/
theorem hash_any_kind_semiring {α : Type} {S : SROps α} (hS : S.Laws) (w : Weights α)
    {d : Bdd.Ptr} (hd : d.free) {s : Sdd.Ptr} (hs : Sdd.DD s)
    (hn : ∀ v, v ∈ d.vars ∨ v ∈ s.vars → S.add (w v).1 (w v).2 = S.one)
    (heq : ∀ a, d.eval a = s.eval a) : Bdd.wmc S w d = Sdd.wmc S w s := by
  have hN : Normalised S w (d.vars ++ s.vars) := fun v hv => hn v (List.mem_append.mp hv)
  rw [Bdd.wmc_free hS w hd (fun v => List.mem_append_left _) hN (fun _ => false),
    Sdd.wmc_dd hS w hs (fun v => List.mem_append_right _) hN (fun _ => false)]
  exact wsum_congr _ _ _ _ heq

/-- **any kind, any order, any vtree**: a free BDD / decision-DNNF and a deterministic
decomposable SDD that denote the same function have the same semantic hash (the semiring statement
in the field `FF P`, read through `FF.v`) -/
theorem hash_any_kind (h0 : 0 < P) (hP : P < 2 ^ 128) {w : Weights Nat} (hw : WBelow P w)
    {d : Bdd.Ptr} (hd : d.free) {s : Sdd.Ptr} (hs : Sdd.DD s)
    (hn : ∀ v, v ∈ d.vars ∨ v ∈ s.vars → ffAdd P (w v).1 (w v).2 = ffNew P 1)
    (heq : ∀ a, d.eval a = s.eval a) :
    Bdd.wmc (ffOps P) w d = Sdd.wmc (ffOps P) w s := by
  rw [Bdd.wmc, Sdd.wmc, Bdd.wmc_ff h0 hw, Sdd.wmc_ff h0 hw]
  exact congrArg FF.v (hash_any_kind_semiring (ffLaws P h0 hP) _ hd hs (fun v hv =>
    liftW_normalised h0 hw (vars := [v]) (fun _ hu => List.mem_singleton.1 hu ▸ hn v hv) v
      List.mem_cons_self) heq)

/-- two SDDs of the same function — any two vtrees, compressed or not — hash equally -/
theorem sdd_same_function_same_hash (h0 : 0 < P) (hP : P < 2 ^ 128) {w : Weights Nat} (hw : WBelow P w)
    {p q : Sdd.Ptr} (hp : Sdd.DD p) (hq : Sdd.DD q)
    (hn : ∀ v, v ∈ p.vars ∨ v ∈ q.vars → ffAdd P (w v).1 (w v).2 = ffNew P 1)
    (heq : ∀ a, p.eval a = q.eval a) : Sdd.semanticHash P w p = Sdd.semanticHash P w q := by
  rw [Sdd.semanticHash, Sdd.semanticHash, Sdd.wmc, Sdd.wmc, Sdd.wmc_ff h0 hw, Sdd.wmc_ff h0 hw]
  exact congrArg FF.v (Sdd.wmc_denotational (ffLaws P h0 hP) _ hp hq (fun v hv =>
    liftW_normalised h0 hw (vars := [v]) (fun _ hu => List.mem_singleton.1 hu ▸ hn v hv) v
      List.mem_cons_self) heq)

theorem run_wfd {cfg : Sdd.Config} (hnd : cfg.vt.leaves.Nodup) {fuel : Nat} {ops : List Sdd.Op}
    {pool : List Sdd.Ptr} (h : Sdd.run cfg fuel ops = some pool) : ∀ s ∈ pool, SddSem.WFd cfg.vt s := by
  intro s hs
  obtain ⟨vt, c⟩ := cfg
  cases c
  · exact Sdd.run_wfd_uncompressed vt fuel ops pool h s hs
  · exact SddSem.WFs_WFd s (Sdd.run_wfs vt hnd fuel ops pool h s hs)

/-- a result of the SDD builder (any vtree with distinct leaves, compression on or off) and a
free BDD for the same function: one hash -/
theorem run_hash_any_kind (h0 : 0 < P) (hP : P < 2 ^ 128) {w : Weights Nat} (hw : WBelow P w)
    {cfg : Sdd.Config} (hnd : cfg.vt.leaves.Nodup) (hn : Normalised (ffOps P) w cfg.vt.leaves)
    {fuel : Nat} {ops : List Sdd.Op} {pool : List Sdd.Ptr} (h : Sdd.run cfg fuel ops = some pool)
    {s : Sdd.Ptr} (hs : s ∈ pool) {d : Bdd.Ptr} (hd : d.free) (hdv : ∀ v ∈ d.vars, v ∈ cfg.vt.leaves)
    (heq : ∀ a, d.eval a = s.eval a) : Bdd.wmc (ffOps P) w d = Sdd.semanticHash P w s := by
  have ws := run_wfd hnd h s hs
  refine hash_any_kind h0 hP hw hd (SddSem.WFd_DD hnd s ws) ?_ heq
  intro v hv
  rcases hv with hv | hv
  · exact hn v (hdv v hv)
  · exact hn v (SddSem.WFd_vars s ws v hv)

/-- two runs of the SDD builder, on two vtrees and with any compression settings: results that
denote the same function hash equally -/
theorem run_run_same_hash (h0 : 0 < P) (hP : P < 2 ^ 128) {w : Weights Nat} (hw : WBelow P w)
    {cfg cfg' : Sdd.Config} (hnd : cfg.vt.leaves.Nodup) (hnd' : cfg'.vt.leaves.Nodup)
    (hn : Normalised (ffOps P) w cfg.vt.leaves) (hn' : Normalised (ffOps P) w cfg'.vt.leaves)
    {fuel fuel' : Nat} {ops ops' : List Sdd.Op} {pool pool' : List Sdd.Ptr}
    (h : Sdd.run cfg fuel ops = some pool) (h' : Sdd.run cfg' fuel' ops' = some pool')
    {p q : Sdd.Ptr} (hp : p ∈ pool) (hq : q ∈ pool') (heq : ∀ a, p.eval a = q.eval a) :
    Sdd.semanticHash P w p = Sdd.semanticHash P w q := by
  have wp := run_wfd hnd h p hp
  have wq := run_wfd hnd' h' q hq
  refine sdd_same_function_same_hash h0 hP hw (SddSem.WFd_DD hnd p wp) (SddSem.WFd_DD hnd' q wq) ?_ heq
  intro v hv
  rcases hv with hv | hv
  · exact hn v (SddSem.WFd_vars p wp v hv)
  · exact hn' v (SddSem.WFd_vars q wq v hv)

/-! ## clause 2: negation -/

/-- a negation hashes to `negate` of the hash ("one minus") -/
theorem sdd_hash_neg (h0 : 0 < P) (hP : P < 2 ^ 128) {w : Weights Nat} (hw : WBelow P w)
    {p : Sdd.Ptr} (hd : Sdd.DD p) (hn : ∀ v ∈ p.vars, ffAdd P (w v).1 (w v).2 = ffNew P 1) :
    Sdd.semanticHash P w p.neg = ffNegate P (Sdd.semanticHash P w p) ∧
    ffAdd P (Sdd.semanticHash P w p) (Sdd.semanticHash P w p.neg) = ffNew P 1 := by
  have e : Sdd.semanticHash P w p.neg = ffNegate P (Sdd.semanticHash P w p) := by
    simp only [Sdd.semanticHash, Sdd.wmc]
    rw [Sdd.wmc_ff h0 hw, Sdd.wmc_ff h0 hw, Sdd.wmcAux_neg]
    exact congrArg FF.v (Sdd.X_neg h0 hP hw hd hn)
  refine ⟨e, ?_⟩
  rw [e]
  have := FF.negate_add (Sdd.X h0 (w := w) p)
  have hv := congrArg FF.v this
  simp only [Sdd.semanticHash, Sdd.wmc]
  rw [Sdd.wmc_ff h0 hw]
  rw [ffAdd_spec, Nat.add_comm, ← ffAdd_spec]
  exact hv

/-- the BDD clause, over the raw field operations -/
theorem bdd_hash_neg (h0 : 0 < P) (hP : P < 2 ^ 128) {w : Weights Nat} (hw : WBelow P w)
    (p : Bdd.Ptr) (hn : ∀ v ∈ p.vars, ffAdd P (w v).1 (w v).2 = ffNew P 1) :
    Bdd.wmc (ffOps P) w p.neg = ffNegate P (Bdd.wmc (ffOps P) w p) := by
  have hN : ∀ u ∈ p.vars, (ffOpsFF P h0).add (liftW h0 w u).1 (liftW h0 w u).2 = (ffOpsFF P h0).one :=
    liftW_normalised h0 hw (vars := p.vars) hn
  have := Bdd.hash_neg (ffLaws P h0 hP) (liftW h0 w) p hN
  rw [(ffLaws P h0 hP).add_comm] at this
  have e := FF.eq_negate this
  simp only [Bdd.wmc] at e ⊢
  rw [Bdd.wmc_ff h0 hw, Bdd.wmc_ff h0 hw, e]
  rfl

/-! ## clause 3: cached = recomputed, for a fixed prime and weight map -/

/-- **BDDs** (`BddPtr::cached_semantic_hash`, model `Scratch.cachedHash`): over any sequence of
calls on any roots of one store, starting from the empty cache, every returned value is the
recomputed hash of the unfolded diagram (no assumption on `P` or the weights), and that is the
`semantic_hash` of the fold when the weights are normalised residues -/
theorem cached_eq_recomputed_bdd (w : Weights Nat) (s : Scratch.Store) (rs : List Scratch.Ref) :
    (Scratch.cachedHashSeq P w s rs (fun _ => none)).1 =
      rs.map (fun r => Scratch.hashTreeB P w (Scratch.unfold s r)) ∧
    ((0 < P) → (P < 2 ^ 128) → WBelow P w →
      (∀ r ∈ rs, ∀ v ∈ (Scratch.unfold s r).vars, ffAdd P (w v).1 (w v).2 = ffNew P 1) →
      (Scratch.cachedHashSeq P w s rs (fun _ => none)).1 =
        rs.map (fun r => Bdd.wmc (ffOps P) w (Scratch.unfold s r))) := by
  have h1 := (Scratch.cachedHashSeq_ok P w s rs _ (Scratch.cacheOK_empty P w s)).1
  refine ⟨h1, fun h0 hP hw hn => ?_⟩
  rw [h1]
  apply List.map_congr_left
  intro r hr
  exact Scratch.hashTreeB_eq h0 hP hw (hn r hr)

/-- the invariant behind it: every cache entry is the hash of its node under THAT map; it is
kept by every call, from any cache that satisfies it -/
theorem cache_invariant_bdd (w : Weights Nat) (s : Scratch.Store) (r : Scratch.Ref)
    (c : Scratch.HashCache) (hc : Scratch.CacheOK P w s c) :
    (Scratch.cachedHash P w s r c).1 = Scratch.hashTreeB P w (Scratch.unfold s r) ∧
      Scratch.CacheOK P w s (Scratch.cachedHash P w s r c).2 :=
  ⟨(Scratch.cachedHash_ok P w s r c hc).1, (Scratch.cachedHash_ok P w s r c hc).2.1⟩

/-- **SDDs** (`SddPtr::cached_semantic_hash`, model `Sdd.cachedHash`) -/
theorem cached_eq_recomputed_sdd (w : Weights Nat) (s : Sdd.Store) (rs : List Sdd.Ref) :
    (Sdd.cachedHashes P w s rs (fun _ => none)).1 =
      rs.map (fun r => Sdd.hashTree P w (Sdd.unfold s r)) ∧
    ((0 < P) → (P < 2 ^ 128) → WBelow P w →
      (∀ r ∈ rs, Sdd.DD (Sdd.unfold s r) ∧
        ∀ v ∈ (Sdd.unfold s r).vars, ffAdd P (w v).1 (w v).2 = ffNew P 1) →
      (Sdd.cachedHashes P w s rs (fun _ => none)).1 =
        rs.map (fun r => Sdd.semanticHash P w (Sdd.unfold s r))) := by
  have h1 := (Sdd.cachedHashes_ok P w s rs _ (Sdd.cacheOK_empty P w s)).1
  refine ⟨h1, fun h0 hP hw hn => ?_⟩
  rw [h1]
  apply List.map_congr_left
  intro r hr
  exact Sdd.hashTree_eq h0 hP hw (hn r hr).1 (hn r hr).2

/-- `x0 ∧ x1` as a two-node BDD store and a one-node SDD store -/
def exB : Scratch.Store := Scratch.Store.ofList [⟨1, .fls, .tru⟩, ⟨0, .fls, .reg 0⟩]
def exS : Sdd.Store := [.dec 1 [(.lit 0 true, .lit 1 true), (.lit 0 false, .fls)]]
def m1 : Weights Nat := fun _ => (3, 5)
def m2 : Weights Nat := fun _ => (2, 6)

/-- two weight maps (both normalised in `𝔽₇`): the second map reads the first map's value —
the property claims the fixed-map case only -/
example :
    (Scratch.cachedHash 7 m1 exB (.reg 1) (fun _ => none)).1 = 4 ∧
    (Scratch.cachedHash 7 m2 exB (.reg 1) (fun _ => none)).1 = 1 ∧
    (Scratch.cachedHash 7 m2 exB (.reg 1) (Scratch.cachedHash 7 m1 exB (.reg 1) (fun _ => none)).2).1 = 4 ∧
    (Sdd.cachedHash 7 m1 exS (.reg 0) (fun _ => none)).1 = 4 ∧
    (Sdd.cachedHash 7 m2 exS (.reg 0) (fun _ => none)).1 = 1 ∧
    (Sdd.cachedHash 7 m2 exS (.compl 0) (Sdd.cachedHash 7 m1 exS (.reg 0) (fun _ => none)).2).1 = 4 := by
  decide

/-- … while within one map cached, recomputed and folded agree (instances of the theorems) -/
example :
    (Scratch.cachedHashSeq 7 m1 exB [.reg 1, .compl 1, .reg 0, .reg 1] (fun _ => none)).1 = [4, 4, 5, 4] ∧
    Bdd.wmc (ffOps 7) m1 (Scratch.unfold exB (.compl 1)) = 4 ∧
    (Sdd.cachedHashes 7 m1 exS [.reg 0, .compl 0, .reg 0] (fun _ => none)).1 = [4, 4, 4] ∧
    Sdd.semanticHash 7 m1 (Sdd.unfold exS (.compl 0)) = 4 := by decide

/-! ## the semantic-hash SDD builder -/
open Sdd SddSem

/-- the hash the builder uses is the semantic hash, on every pointer it handles -/
def HashOf (vt : VTree) (P : Nat) (w : Weights Nat) (h : Ptr → Nat) : Prop :=
  ∀ p, WFd vt p → h p = semanticHash P w p

/-- hypotheses on the builder's parameters: a `u128` modulus, residues, `low + high = 1` on the
vtree's variables, distinct leaf labels -/
structure GoodMap (vt : VTree) (P : Nat) (w : Weights Nat) : Prop where
  pos : 0 < P
  lt : P < 2 ^ 128
  below : WBelow P w
  norm : Normalised (ffOps P) w vt.leaves
  nodup : vt.leaves.Nodup

theorem hashTree_hashOf {vt : VTree} {w : Weights Nat} (g : GoodMap vt P w) :
    HashOf vt P w (hashTree P w) := fun p wp =>
  hashTree_eq g.pos g.lt g.below (WFd_DD g.nodup p wp) (fun v hv => g.norm v (WFd_vars p wp v hv))

/-- equal functions ⇒ equal hashes, from `wmc_sdd` -/
theorem hashOf_denotational {vt : VTree} {w : Weights Nat} (g : GoodMap vt P w) {h : Ptr → Nat}
    (hh : HashOf vt P w h) {a b : Ptr} (wa : WFd vt a) (wb : WFd vt b)
    (heq : ∀ asg, a.eval asg = b.eval asg) : h a = h b := by
  rw [hh a wa, hh b wb]
  exact sdd_same_function_same_hash g.pos g.lt g.below (WFd_DD g.nodup a wa) (WFd_DD g.nodup b wb)
    (fun v hv => by
      rcases hv with hv | hv
      · exact g.norm v (WFd_vars a wa v hv)
      · exact g.norm v (WFd_vars b wb v hv)) heq

/-- **never splits** (unconditional): two well formed arguments that denote the same function
are judged equal by `sdd_eq` -/
theorem semantic_never_splits {vt : VTree} {ws : List (Nat × Nat)} (g : GoodMap vt P (weightsOf ws))
    {a b : Ptr} (wa : WFd vt a) (wb : WFd vt b) (heq : ∀ asg, a.eval asg = b.eval asg) :
    sddEq vt P ws a b = true := by
  simp only [sddEq, beq_iff_eq]
  exact hashOf_denotational g (hashTree_hashOf g) wa wb heq

/-- what the collision detector reports on an equality test IS a collision: two well formed
pointers of different functions with one hash -/
theorem detector_reports_collisions {vt : VTree} {ws : List (Nat × Nat)} (g : GoodMap vt P (weightsOf ws))
    {a b : Ptr} (wa : WFd vt a) (wb : WFd vt b) (h : eqJ (params vt P ws true) a b = none) :
    hashTree P (weightsOf ws) a = hashTree P (weightsOf ws) b ∧ ¬ ∀ asg, a.eval asg = b.eval asg := by
  simp only [eqJ, guardJ, params, Bool.true_and] at h
  split at h
  · rename_i hbad
    simp only [Bool.not_eq_true', beq_eq_false_iff_ne, ne_eq] at hbad
    cases he : equivB vt a b
    · rw [he] at hbad
      have hne : ¬ ∀ asg, a.eval asg = b.eval asg := fun hall => by
        rw [(equivB_iff (WFd_vars a wa) (WFd_vars b wb)).2 hall] at he; cases he
      refine ⟨?_, hne⟩
      cases hb : (hashTree P (weightsOf ws) a == hashTree P (weightsOf ws) b)
      · exact absurd hb hbad
      · exact beq_iff_eq.1 hb
    · exfalso
      rw [he] at hbad
      apply hbad
      have := hashOf_denotational g (hashTree_hashOf g) wa wb
        ((equivB_iff (WFd_vars a wa) (WFd_vars b wb)).1 he)
      simp [this]
  · cases h

/-! ### conditional correctness of the single operations (detector on, any hash function) -/
section ops
variable {π : Params} (hc : π.chk = true) (fuel : Nat)
include hc

theorem sem_and_correct {st st' : St} {a b r : Ptr} (hst : Inv π st) (wa : WFd π.vt a)
    (wb : WFd π.vt b) (h : bAnd π fuel st a b = some (st', r)) :
    bAnd π.off fuel st a b = some (st', r) ∧ Inv π st' ∧ WFd π.vt r ∧ den r = fAnd (den a) (den b) :=
  (and_run hc fuel _ _ _ hst wa wb _ h).imp id (.imp id (.imp id funext))

theorem sem_or_correct {st st' : St} {a b r : Ptr} (hst : Inv π st) (wa : WFd π.vt a)
    (wb : WFd π.vt b) (h : bOr π fuel st a b = some (st', r)) :
    bOr π.off fuel st a b = some (st', r) ∧ Inv π st' ∧ WFd π.vt r ∧ den r = fOr (den a) (den b) :=
  (orF_run (and_run hc fuel) hst wa wb _ h).imp id (.imp id (.imp id funext))

omit hc in
/-- `negate` (a pointer flip, no judgement) -/
theorem sem_neg_correct {a : Ptr} (wa : WFd π.vt a) : WFd π.vt a.neg ∧ den a.neg = fNot (den a) :=
  ⟨WFd_neg wa, funext fun asg => by simp [den, fNot]⟩

theorem sem_condition_correct {st st' : St} {f r : Ptr} {x : Nat} {v : Bool} (hst : Inv π st)
    (wf : WFd π.vt f) (h : bCond π fuel st f x v = some (st', r)) :
    bCond π.off fuel st f x v = some (st', r) ∧ Inv π st' ∧ WFd π.vt r ∧ den r = fCond (den f) x v :=
  (condition_run hc x v fuel _ _ hst wf _ h).imp id (.imp id (.imp id funext))

theorem sem_exists_correct {st st' : St} {f r : Ptr} {x : Nat} (hst : Inv π st)
    (wf : WFd π.vt f) (h : bExists π fuel st f x = some (st', r)) :
    bExists π.off fuel st f x = some (st', r) ∧ Inv π st' ∧ WFd π.vt r ∧ den r = fExists (den f) x :=
  (bExists_run hc fuel hst wf _ h).imp id (.imp id (.imp id funext))

/-- `compile_cnf`, for every order in which the clauses are processed -/
theorem sem_compile_cnf_correct {st st' : St} {cnf cnf' : Cnf} {r : Ptr} (hst : Inv π st)
    (hperm : cnf'.Perm cnf) (hl : ∀ c ∈ cnf, ∀ l ∈ c, l.var ∈ π.vt.leaves)
    (h : compileCnf π fuel st cnf' = some (st', r)) :
    compileCnf π.off fuel st cnf' = some (st', r) ∧ Inv π st' ∧ WFd π.vt r ∧ den r = cnfFn cnf := by
  obtain ⟨h0, h1, h2, h3⟩ := compileCnf_run hc fuel hst (fun c hc' => hl c (hperm.mem_iff.1 hc')) _ h
  refine ⟨h0, h1, h2, funext fun a => ?_⟩
  simp only [den, cnfFn, h3 a, cnfSat]
  exact hperm.all_eq

end ops

/-! ### runs -/

def InvR (π : Params) (rs : RunSt) : Prop := Inv π rs.st ∧ ∀ p ∈ rs.pool, WFd π.vt p

theorem step_run {π : Params} (hc : π.chk = true) (fuel : Nat) {rs : RunSt} (hinv : InvR π rs) (op : Op) :
    Run (SddSem.step π fuel rs op) (SddSem.step π.off fuel rs op) fun rs' =>
      InvR π rs' ∧ specStep π.vt (rs.pool.map den) op = some (rs'.pool.map den) := by
  have wfAt : ∀ {i p}, rs.pool[i]? = some p → WFd π.vt p := fun h => hinv.2 _ (List.mem_of_getElem? h)
  have denAt : ∀ {i p}, rs.pool[i]? = some p → (rs.pool.map den)[i]? = some (den p) := fun h => by
    rw [List.getElem?_map, h]; rfl
  -- a step that returns state `s` and a pointer `r` denoting `g`, where the specification appends `g`
  have push : ∀ {g : BoolFn} {o : Option (List BoolFn)} (y : St × Ptr),
      o = some (rs.pool.map den ++ [g]) → Inv π y.1 ∧ WFd π.vt y.2 ∧ (∀ a, y.2.eval a = g a) →
      InvR π ⟨y.1, rs.pool ++ [y.2]⟩ ∧ o = some ((rs.pool ++ [y.2]).map den) := by
    intro g o y ho ⟨h1, h2, h3⟩
    refine ⟨⟨h1, fun p hp => ?_⟩, ?_⟩
    · rcases List.mem_append.1 hp with h' | h'
      · exact hinv.2 p h'
      · simp only [List.mem_singleton] at h'; subst h'; exact h2
    · rw [ho, List.map_append, List.map_cons, List.map_nil, show den y.2 = g from funext h3]
  cases op with
  | const b =>
    refine .pure (push (rs.st, if b then .tru else .fls) ?_ ⟨hinv.1, ?_, fun _ => rfl⟩)
    · cases b <;> rfl
    · cases b <;> simp [WFd_tru, WFd_fls]
  | var x pol =>
    exact .ite (fun hx => .pure (push (g := fVar x pol) (rs.st, .lit x pol) (by simp [specStep, hx])
      ⟨hinv.1, hasVar_iff.1 hx, fun a => by simp [fVar, eval_lit]⟩)) fun _ => .fail
  | neg i =>
    simp only [SddSem.step, specStep, List.getElem?_map]
    cases hp : rs.pool[i]? with
    | none => exact .fail
    | some p => exact .pure (push (rs.st, p.neg) rfl ⟨hinv.1, WFd_neg (wfAt hp), fun a => by simp [den, fNot]⟩)
  | and i j =>
    simp only [SddSem.step]
    split
    · rename_i p q hp hq
      exact .map _ (and_run hc fuel _ _ _ hinv.1 (wfAt hp) (wfAt hq)) fun y hy =>
        push y (by simp only [specStep, denAt hp, denAt hq]; rfl) hy
    · exact .fail
  | or i j =>
    simp only [SddSem.step]
    split
    · rename_i p q hp hq
      exact .map _ (orF_run (and_run hc fuel) hinv.1 (wfAt hp) (wfAt hq)) fun y hy =>
        push y (by simp only [specStep, denAt hp, denAt hq]; rfl) hy
    · exact .fail
  | cond i x b =>
    simp only [SddSem.step]
    split
    · rename_i p hp
      exact .map _ (condition_run hc x b fuel _ _ hinv.1 (wfAt hp)) fun y hy =>
        push y (by simp only [specStep, denAt hp, Option.map_some]; rfl) hy
    · exact .fail
  | exist i x =>
    simp only [SddSem.step]
    split
    · rename_i p hp
      exact .map _ (bExists_run hc fuel hinv.1 (wfAt hp)) fun y hy =>
        push y (by simp only [specStep, denAt hp, Option.map_some]; rfl) hy
    · exact .fail
  | xor _ _ | iff _ _ | ite _ _ _ | compose _ _ _ => exact .fail

theorem step_okd {π : Params} (hc : π.chk = true) (fuel : Nat) {rs rs' : RunSt} {op : Op}
    (hinv : InvR π rs) (h : SddSem.step π fuel rs op = some rs') :
    InvR π rs' ∧ specStep π.vt (rs.pool.map den) op = some (rs'.pool.map den) :=
  (step_run hc fuel hinv op _ h).2

theorem runFrom_run {π : Params} (hc : π.chk = true) (fuel : Nat) : ∀ (ops : List Op) (rs : RunSt),
    InvR π rs → Run (SddSem.runFrom π fuel rs ops) (SddSem.runFrom π.off fuel rs ops) fun rs' =>
      InvR π rs' ∧ specRun π.vt (rs.pool.map den) ops = some (rs'.pool.map den)
  | [], _, hinv => .pure ⟨hinv, rfl⟩
  | op :: ops, rs, hinv => by
    rw [SddSem.runFrom, SddSem.runFrom]
    intro y h
    split at h
    · cases h
    · rename_i rs1 h1
      obtain ⟨e, i1, s1⟩ := step_run hc fuel hinv op _ h1
      obtain ⟨e2, i2, s2⟩ := runFrom_run hc fuel ops rs1 i1 _ h
      rw [e]
      exact ⟨e2, i2, by simp only [specRun, s1]; exact s2⟩

theorem runFrom_okd {π : Params} (hc : π.chk = true) (fuel : Nat) : ∀ (ops : List Op) (rs rs' : RunSt),
    InvR π rs → SddSem.runFrom π fuel rs ops = some rs' →
    InvR π rs' ∧ specRun π.vt (rs.pool.map den) ops = some (rs'.pool.map den) :=
  fun ops rs _ hinv h => (runFrom_run hc fuel ops rs hinv _ h).2

/-- **conditional correctness of a run** (any prime, any weight list, any vtree, any fuel, any
program over `const/var/neg/and/or/cond/exist`): if the run with the collision detector on
returns, then
* the builder as shipped returns exactly the same pool,
* entry `i` of the pool denotes the `i`-th function of the specification,
* every entry is well formed (`WFd`: in particular deterministic and decomposable). -/
theorem semantic_correct_partial (vt : VTree) (P : Nat) (ws : List (Nat × Nat)) (fuel : Nat)
    (ops : List Op) (pool : List Ptr) (h : runChecked vt P ws fuel ops = some pool) :
    SddSem.run vt P ws fuel ops = some pool ∧
    specRun vt [] ops = some (pool.map den) ∧
    ∀ p ∈ pool, WFd vt p := by
  simp only [runChecked, Option.map_eq_some_iff] at h
  obtain ⟨rs, hrs, rfl⟩ := h
  obtain ⟨hoff, hinv, hspec⟩ := runFrom_run (π := params vt P ws true) rfl fuel ops _
    ⟨inv_init _, fun p hp => by cases hp⟩ _ hrs
  exact ⟨by simp only [SddSem.run, Option.map_eq_some_iff]; exact ⟨rs, hoff, rfl⟩, hspec, hinv.2⟩

/-- **`sdd_eq` decides equality of the denoted functions** on the results of a collision-free
history: `⇐` is unconditional (`semantic_never_splits`), `⇒` holds whenever the detector accepts
the judgement (it rejects it exactly when the two hashes collide, `detector_reports_collisions`) -/
theorem semantic_eq_iff {vt : VTree} {ws : List (Nat × Nat)} (g : GoodMap vt P (weightsOf ws))
    {fuel : Nat} {ops : List Op} {pool : List Ptr} (h : runChecked vt P ws fuel ops = some pool)
    {a b : Ptr} (ha : a ∈ pool) (hb : b ∈ pool) :
    ((∀ asg, a.eval asg = b.eval asg) → sddEq vt P ws a b = true) ∧
    (∀ r, eqJ (params vt P ws true) a b = some r →
      (sddEq vt P ws a b = r ∧ (r = true ↔ ∀ asg, a.eval asg = b.eval asg))) := by
  obtain ⟨_, _, hw⟩ := semantic_correct_partial vt P ws fuel ops pool h
  have wa := hw a ha
  have wb := hw b hb
  refine ⟨semantic_never_splits g wa wb, fun r hr => ?_⟩
  have hv : r = sddEq vt P ws a b := eqJ_val hr
  refine ⟨hv.symm, ?_⟩
  constructor
  · intro hrt
    subst hrt
    exact eqJ_true (π := params vt P ws true) rfl wa wb hr
  · intro hall
    rw [hv]; exact semantic_never_splits g wa wb hall

theorem insertClause_perm (vt : VTree) (c : Clause) : ∀ (l : List Clause),
    (insertClause vt c l).Perm (c :: l)
  | [] => List.Perm.refl _
  | d :: ds => by
    simp only [insertClause]
    split
    · exact ((insertClause_perm vt c ds).cons d).trans (List.Perm.swap c d ds)
    · exact List.Perm.refl _

/-- the clause sort of `compile_cnf` is a permutation -/
theorem sortClauses_perm (vt : VTree) : ∀ (cs : List Clause), (sortClauses vt cs).Perm cs
  | [] => List.Perm.refl _
  | c :: cs => (insertClause_perm vt c _).trans ((sortClauses_perm vt cs).cons c)

/-- **CNF compilation** from a fresh builder (`compile_cnf`, with its clause sort): if the run
with the detector on returns, the builder as shipped returns the same diagram and it denotes the
CNF -/
theorem semantic_cnf_correct_partial (vt : VTree) (P : Nat) (ws : List (Nat × Nat)) (fuel : Nat)
    {cnf : Cnf} (hl : ∀ c ∈ cnf, ∀ l ∈ c, l.var ∈ vt.leaves) {r : Ptr}
    (h : runCnf vt P ws true fuel cnf = some r) :
    runCnf vt P ws false fuel cnf = some r ∧ den r = cnfFn cnf ∧ WFd vt r := by
  simp only [runCnf, compileCnfSorted, Option.map_eq_some_iff] at h
  obtain ⟨⟨st', r'⟩, hr, rfl⟩ := h
  obtain ⟨h1, _, h3, h4⟩ := sem_compile_cnf_correct (π := params vt P ws true) rfl fuel
    (inv_init _) (sortClauses_perm vt cnf) hl hr
  refine ⟨?_, h4, h3⟩
  simp only [runCnf, compileCnfSorted, Option.map_eq_some_iff]
  exact ⟨(st', r'), h1, rfl⟩

/-! ## the unconditional version is false; non-vacuity -/
section demo

theorem wBelow_weightsOf {ws : List (Nat × Nat)} (h0 : 0 < P) (h : ∀ e ∈ ws, e.1 < P ∧ e.2 < P) :
    WBelow P (weightsOf ws) := by
  intro v
  simp only [weightsOf, List.getD_eq_getElem?_getD]
  cases hv : ws[v]? with
  | none => exact ⟨h0, h0⟩
  | some e => exact h e (List.mem_of_getElem? hv)

/-- **a collision makes the builder wrong.**  `𝔽₇`, weights `x0 ↦ (3, 5)`, `x1 ↦ (2, 6)` (both
normalised): `hash(x0 ∧ x1) = 5 · 6 = 2 = hash(¬x1)`, so `and(x0 ∧ x1, ¬x1)` takes the
`eq(a, b) ⇒ return a` exit and returns `x0 ∧ x1` instead of `⊥`.  The detector stops that run.
By pigeonhole some collision exists for every `P` as soon as `2^(2^n) > P`. -/
theorem collision_wrong :
    let vt : VTree := .node (.leaf 0) (.leaf 1)
    let ws := [(3, 5), (2, 6)]
    let prog : List Op := [.var 0 true, .var 1 true, .and 0 1, .var 1 false, .and 2 3]
    (SddSem.run vt 7 ws 20 prog).map (fun pool => pool.map (ttString 2)) =
      some ["0101", "0011", "0001", "1100", "0001"] ∧
    (specRun vt [] prog).map (fun fs => fs.map (truthTable 2)) =
      some ([[false, true, false, true], [false, false, true, true], [false, false, false, true],
        [true, true, false, false], [false, false, false, false]]) ∧
    SddSem.runChecked vt 7 ws 20 prog = none ∧
    hashTree 7 (weightsOf ws) (.lit 1 false) = 2 := by decide +kernel

/-- the weights of `create_semantic_hash_map::<1000001>(4)` (as printed by the harness) -/
def wsB : List (Nat × Nat) := [(86899, 913103), (83960, 916042), (501023, 498979), (8893, 991109)]

theorem goodB : GoodMap vtB 1000001 (weightsOf wsB) where
  pos := by decide
  lt := by decide
  below := wBelow_weightsOf (by decide) (by decide)
  norm := by unfold Normalised; decide
  nodup := by decide

/-- a program over the balanced vtree `((0 1) (2 3))`: conjunction, disjunction, negation,
conditioning, quantification -/
def progS : List Op := [.var 0 true, .var 1 true, .var 2 true, .var 3 false, .and 0 2, .or 4 1,
  .and 0 3, .and 5 6, .exist 7 2, .cond 7 3 true, .neg 5, .or 10 8]

/-- the run with the detector on, evaluated once: it returns, twelve entries, and what the second
example below observes of entries 6 and 8 -/
theorem progS_checked : (SddSem.runChecked vtB 1000001 wsB 20 progS).map
    (fun pool => (pool.length, decide (pool[8]? = pool[6]?), (pool[8]?).map fun a => (pool[6]?).map fun b =>
      sddEq vtB 1000001 wsB a b)) = some (12, true, some (some true)) := by decide +kernel

/-- the detector accepts the whole run, hence (instance of `semantic_correct_partial`) the builder
as shipped returns the same pool, every entry denotes the specified function and is well formed -/
example : ∃ pool, SddSem.runChecked vtB 1000001 wsB 20 progS = some pool ∧ pool.length = 12 ∧
    SddSem.run vtB 1000001 wsB 20 progS = some pool ∧
    specRun vtB [] progS = some (pool.map den) ∧ ∀ p ∈ pool, WFd vtB p := by
  obtain ⟨pool, h, hp⟩ := Option.map_eq_some_iff.1 progS_checked
  obtain ⟨h1, h2, h3⟩ := semantic_correct_partial vtB 1000001 wsB 20 progS pool h
  exact ⟨pool, h, (Prod.mk.inj hp).1, h1, h2, h3⟩

/-- observed: `∃x2. #7` (#8) is the function `x0 ∧ ¬x3` (#6); the builder found the stored node by
its hash and returned the very same pointer, and `sdd_eq` agrees (`semantic_never_splits`) -/
example : (SddSem.run vtB 1000001 wsB 20 progS).map
    (fun pool => (decide (pool[8]? = pool[6]?), (pool[8]?).map fun a => (pool[6]?).map fun b =>
      sddEq vtB 1000001 wsB a b)) = some (true, some (some true)) := by
  obtain ⟨pool, h, hp⟩ := Option.map_eq_some_iff.1 progS_checked
  rw [(semantic_correct_partial vtB 1000001 wsB 20 progS pool h).1]
  exact congrArg some (Prod.mk.inj hp).2

/-- CNF compilation: `(x0 ∨ ¬x1) ∧ (x1 ∨ x2) ∧ (¬x0 ∨ x3)` -/
def cnfS : Cnf := [[⟨0, true⟩, ⟨1, false⟩], [⟨1, true⟩, ⟨2, true⟩], [⟨0, false⟩, ⟨3, true⟩]]

example : ∃ r, runCnf vtB 1000001 wsB true 20 cnfS = some r ∧
    runCnf vtB 1000001 wsB false 20 cnfS = some r ∧ den r = cnfFn cnfS := by
  obtain ⟨r, h⟩ := Option.isSome_iff_exists.1
    (by decide +kernel : (runCnf vtB 1000001 wsB true 20 cnfS).isSome = true)
  obtain ⟨h1, h2, _⟩ := semantic_cnf_correct_partial vtB 1000001 wsB 20 (by decide) h
  exact ⟨r, h, h1, h2⟩

/-- any kind: `x0 ∧ x1` as a BDD under the order `1 < 0` with complement edges, as the SDD the
compressing builder returns for the vtree `((0 1) (2 3))`, and as the semantic builder's result:
one hash (`913103 · 916042 mod 1000001`) -/
example :
    Bdd.wmc (ffOps 1000001) (weightsOf wsB) C11Bdd.exQ = 861887 ∧
    (Sdd.run ⟨vtB, true⟩ 20 [.var 0 true, .var 1 true, .and 0 1]).map
      (fun pool => pool.map (semanticHash 1000001 (weightsOf wsB))) = some [913103, 916042, 861887] ∧
    (SddSem.run vtB 1000001 wsB 20 [.var 0 true, .var 1 true, .and 0 1]).map
      (fun pool => pool.map (hashTree 1000001 (weightsOf wsB))) = some [913103, 916042, 861887] := by
  decide +kernel

end demo

end C11

#print axioms C11.hash_any_kind
#print axioms C11.hash_any_kind_semiring
#print axioms C11.sdd_same_function_same_hash
#print axioms C11.run_hash_any_kind
#print axioms C11.run_run_same_hash
#print axioms C11.sdd_hash_neg
#print axioms C11.bdd_hash_neg
#print axioms C11.cached_eq_recomputed_bdd
#print axioms C11.cache_invariant_bdd
#print axioms C11.cached_eq_recomputed_sdd
#print axioms C11.hashTree_hashOf
#print axioms C11.hashOf_denotational
#print axioms C11.semantic_never_splits
#print axioms C11.detector_reports_collisions
#print axioms C11.sem_and_correct
#print axioms C11.sem_or_correct
#print axioms C11.sem_neg_correct
#print axioms C11.sem_condition_correct
#print axioms C11.sem_exists_correct
#print axioms C11.sem_compile_cnf_correct
#print axioms C11.semantic_correct_partial
#print axioms C11.semantic_eq_iff
#print axioms C11.semantic_cnf_correct_partial
#print axioms C11.collision_wrong
#print axioms C11.step_okd
#print axioms C11.runFrom_okd
#print axioms C11.insertClause_perm
#print axioms C11.sortClauses_perm
#print axioms C11.wBelow_weightsOf
#print axioms C11.goodB
