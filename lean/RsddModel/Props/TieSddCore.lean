import RsddModel.Model.GenSddCore
import RsddModel.Model.Sdd
import RsddModel.Lemmas.TieSddCoreAux
import RsddModel.Lemmas.TieSddCoreCompress
/-!
# Tie to the source text (translator route): the SDD builder core

`RsddModel/Model/GenSddCore.lean` is rewritten by `tools/gen_sddcore.py` from
`src/builder/sdd/builder.rs`, `src/builder/sdd/compression.rs`, `src/builder/mod.rs` and `src/repr/sdd.rs`
on every run.  The theorems below (static, hand-written) state that the regenerated definitions ARE the
definitions of the hand-written model `Sdd` (Model/Sdd.lean), which all other theorems are about.
Each proof is `first | rfl | …`: `rfl` closes the literally equal translations and the alias mode (a function
outside the translator's grammar is generated as an alias of the model, status `UNTRANSLATED`); where a proof
written for the source as it stands follows, it comes next; the last alternatives unfold and case-split
everything (`tie_close`, `split_all`), so that harmless re-arrangements of the Rust still check while a changed
operand / branch / guard / cache key does not.  `open Gen.SddCore`: `rX` is the regenerated `X`
(`rUniqueOr` against `Sdd.uniqueOr`).
-/
set_option linter.unusedSimpArgs false
set_option linter.unusedVariables false
namespace TieSddCore
open Sdd TieSddCoreAux Gen.SddCore

/-- close an equation between two nests of `match` / `if` over the same scrutinees (this file's own
`tie_close`): `rfl`, congruence closure, else split every test and simplify with the case hypotheses -/
syntax "tie_close" : tactic
macro_rules
  | `(tactic| tie_close) =>
    `(tactic| first
      | rfl
      | grind
      | (repeat' (first | rfl | (split <;> simp_all))))

/-- split every `if`/`match` in turn, simplifying with the case hypotheses, until `rfl` closes each branch -/
syntax "split_all" : tactic
macro_rules
  | `(tactic| split_all) => `(tactic| repeat' (first | rfl | (split <;> (try simp_all))))

/-- all constructor cases of a pointer, complement flags and polarities split -/
syntax "ptr_cases " ident : tactic
macro_rules
  | `(tactic| ptr_cases $p) =>
    `(tactic| (rcases $p:ident with _ | _ | ⟨v, pol⟩ | ⟨c, l, i, lo, hi⟩ | ⟨c, i, es⟩ <;>
        (try cases c) <;> (try cases pol)))

/-! ## pointer accessors (`src/repr/sdd.rs`) -/

theorem ptrNeg_tie : @rPtrNeg = @Ptr.neg := by
  first
  | rfl
  | (funext p; ptr_cases p <;> first | rfl | simp [rPtrNeg, Ptr.neg] | grind [rPtrNeg, Ptr.neg])
theorem ptrIsNeg_tie : @rPtrIsNeg = @Ptr.isNeg := by
  first
  | rfl
  | (funext p; ptr_cases p <;> first | rfl | simp [rPtrIsNeg, Ptr.isNeg] | grind [rPtrIsNeg, Ptr.isNeg])
theorem ptrIsTrue_tie : @rPtrIsTrue = @Ptr.isTrue := by
  first
  | rfl
  | (funext p; ptr_cases p <;> first | rfl | simp [rPtrIsTrue, Ptr.isTrue] | grind [rPtrIsTrue, Ptr.isTrue])
theorem ptrIsFalse_tie : @rPtrIsFalse = @Ptr.isFalse := by
  first
  | rfl
  | (funext p; ptr_cases p <;> first | rfl | simp [rPtrIsFalse, Ptr.isFalse] | grind [rPtrIsFalse, Ptr.isFalse])
theorem ptrIsNegVar_tie : @rPtrIsNegVar = @Ptr.isNegVar := by
  first
  | rfl
  | (funext p; ptr_cases p <;> first | rfl | simp [rPtrIsNegVar, Ptr.isNegVar] | grind [rPtrIsNegVar, Ptr.isNegVar])
theorem ptrIsBdd_tie : @rPtrIsBdd = @Ptr.isBdd := by
  first
  | rfl
  | (funext p; ptr_cases p <;> first | rfl | simp [rPtrIsBdd, Ptr.isBdd] | grind [rPtrIsBdd, Ptr.isBdd])
theorem ptrLow_tie : @rPtrLow? = @Ptr.low? := by
  first
  | rfl
  | (funext p; ptr_cases p <;> first | rfl | simp [rPtrLow?, Ptr.low?] | grind [rPtrLow?, Ptr.low?])
theorem ptrHigh_tie : @rPtrHigh? = @Ptr.high? := by
  first
  | rfl
  | (funext p; ptr_cases p <;> first | rfl | simp [rPtrHigh?, Ptr.high?] | grind [rPtrHigh?, Ptr.high?])
theorem ptrVtree_tie : @rPtrVtree? = @vtree? := by
  first
  | rfl
  | (funext p; ptr_cases p <;> first | rfl | simp [rPtrVtree?, vtree?] | grind [rPtrVtree?, vtree?])

/-! ## `SddBuilder` default methods (`src/builder/sdd/builder.rs`) -/

theorem isTrue_tie : @rIsTrue = @Ptr.isTrue := by
  first
  | rfl
  | (funext p; ptr_cases p <;> first | rfl | simp [rIsTrue, Ptr.isTrue] | grind [rIsTrue, Ptr.isTrue])
theorem isFalse_tie : @rIsFalse = @Ptr.isFalse := by
  first
  | rfl
  | (funext p; ptr_cases p <;> first | rfl | simp [rIsFalse, Ptr.isFalse] | grind [rIsFalse, Ptr.isFalse])

theorem uniqueBdd_tie : @rUniqueBdd = @uniqueBdd := by
  first
  | rfl
  | (funext l lo hi idx; simp only [rUniqueBdd, uniqueBdd, Ptr.neg, Bool.not_false, Bool.not_true]; tie_close)
  | (funext l lo hi idx; simp only [rUniqueBdd, uniqueBdd]
     ptr_cases hi <;> ptr_cases lo <;>
       simp [Ptr.isTrue, Ptr.isFalse, Ptr.isNeg, Ptr.isNegVar, Ptr.neg] <;> grind)

theorem uniqueOr_tie : @rUniqueOr = @uniqueOr := by
  first
  | rfl
  | (funext node table
     unfold rUniqueOr uniqueOr
     rcases node with _ | ⟨⟨p0, s0⟩, _ | ⟨⟨p1, s1⟩, _ | ⟨e2, tl⟩⟩⟩
     -- two elements: the BDD test reads both primes
     case cons.cons.nil =>
       simp only []
       generalize sortByPrime _ = L
       rcases L with _ | ⟨⟨p, s⟩, L⟩ <;> cases p0 <;> first | rfl | (cases p1 <;> rfl)
     -- any other length is no BDD; with the head of the sorted vector known both sides compute to the same value
     all_goals
       simp only [asBdd?]
       generalize sortByPrime _ = L
       rcases L with _ | ⟨⟨p, s⟩, L⟩ <;> rfl)
  -- tolerant: the same case analysis closed by `simp` and `split_all` instead of `rfl`
  | (funext node table
     rcases node with _ | ⟨⟨p0, s0⟩, _ | ⟨⟨p1, s1⟩, _ | ⟨e2, tl⟩⟩⟩
     · simp [rUniqueOr, uniqueOr, asBdd?, sortByPrime]
     · generalize hL : sortByPrime [(p0, s0)] = L
       cases p0 <;> simp [rUniqueOr, uniqueOr, asBdd?, negSubs, Ptr.neg, hL] <;>
         (cases L <;> simp <;> split_all)
     · generalize hL : sortByPrime [(p0, s0), (p1, s1)] = L
       cases p0 <;> cases p1 <;> simp [rUniqueOr, uniqueOr, asBdd?, negSubs, Ptr.neg, hL] <;>
         (first
          | done
          | (cases L <;> simp <;> split_all)
          | (rename_i pol _ _; cases pol <;> simp <;> split_all))
     · generalize hL : sortByPrime ((p0, s0) :: (p1, s1) :: e2 :: tl) = L
       simp [rUniqueOr, uniqueOr, asBdd?, negSubs, Ptr.neg, hL]
       cases L <;> simp <;> split_all)

theorem vtreeIndex_tie : @rVtreeIndex? = @vtreeIndex? := by
  first
  | rfl
  | (funext vt p; ptr_cases p <;>
       first | rfl | simp [rVtreeIndex?, vtreeIndex?, vtreeIndex, vtree?, Ptr.isTrue, Ptr.isFalse])

theorem andIndep_tie : @rAndIndep = @andIndep := by
  first
  | rfl
  | (funext vt a b lca; simp only [rAndIndep, andIndep]; tie_close)
  | (funext vt a b lca; simp only [rAndIndep, andIndep]; ptr_cases a <;> simp <;> grind)

/-! ## `BottomUpBuilder` for SDDs -/

theorem var_tie : @rVar = fun (label : Nat) (polarity : Bool) => Ptr.lit label polarity := by
  first
  | rfl
  | (funext l p; simp [rVar])
theorem negate_tie : @rNegate = @Ptr.neg := by
  first
  | rfl
  | (funext p; ptr_cases p <;> first | rfl | simp [rNegate, Ptr.neg])

theorem or_tie : @rOr_ = @orF := by
  first
  | rfl
  | (funext σ andF st a b; simp only [rOr_, orF]; tie_close)

theorem andBody_tie : @rAndBody = @andBody := by
  first
  | rfl
  | (funext A vt cmpr andF st a b; simp only [rAndBody, andBody, andCore]; tie_close)
  | (funext A vt cmpr andF st a b; simp only [rAndBody, andBody, andCore]
     repeat' (first | rfl | (split <;> simp_all) | grind))

theorem ite_tie : @rIte = @iteBody := by
  first
  | rfl
  -- the source as it stands: one `match` on the standardised triple, the arms literally the model's
  | (funext A I vt andF s f g h; unfold rIte iteBody
     generalize Ite.new (primeOrd vt) f g h = key
     cases key <;> rfl)
  -- tolerant: split whatever nest of tests the source has; last, with the triple decided first
  | (funext A I vt andF s f g h; simp only [rIte, iteBody]; tie_close)
  | (funext A I vt andF s f g h; simp only [rIte, iteBody]
     cases hk : Ite.new (primeOrd vt) f g h <;> simp_all <;> tie_close)
theorem iff_tie : @rIff = @iffBody := by
  first
  | rfl
  | (funext τ iteF s f g; simp only [rIff, iffBody]; tie_close)
theorem xor_tie : @rXor = @xorBody := by
  first
  | rfl
  | (funext τ iteF s f g; simp only [rXor, xorBody]; tie_close)
theorem exists_tie : @rExists_ = @existsBody := by
  first
  | rfl
  | (funext σ andF condF st f x; simp only [rExists_, existsBody]; tie_close)
theorem compose_tie : @rCompose = @composeBody := by
  first
  | rfl
  | (funext A I andF iffF existsF s f x g; simp only [rCompose, composeBody]; tie_close)

/-! ## `CompressionSddBuilder` (`src/builder/sdd/compression.rs`) -/

theorem sddEq_tie : @rSddEq = fun (a b : Ptr) => decide (a = b) := by
  first
  | rfl
  | (funext a b; simp [rSddEq]; done)
  | (funext a b; simp [rSddEq]; grind)

theorem canonBase_tie : @rCanonBase? = fun (node : List Elem) => some (canonBase? node) := by
  first
  | rfl
  | (funext node
     -- the source wraps each answer in `Some`, the model the whole conditional
     rcases node with _ | ⟨⟨p0, s0⟩, _ | ⟨⟨p1, s1⟩, _ | ⟨e2, tl⟩⟩⟩ <;>
       first | rfl | (simp only [rCanonBase?, canonBase?, apply_ite some]; done))
  | (funext node
     rcases node with _ | ⟨⟨p0, s0⟩, _ | ⟨⟨p1, s1⟩, _ | ⟨e2, tl⟩⟩⟩ <;>
       simp [rCanonBase?, canonBase?] <;> (repeat' (first | rfl | (split <;> simp_all))) <;> grind)

theorem canonicalize_tie : @rCanonicalize = @canonicalize := by
  first
  | rfl
  | (funext σ cmpr andF st node table; simp only [rCanonicalize, canonicalize]; tie_close)

/-! `compress`: the regenerated index loops are the literal mirror of `Lemmas/TieSddCoreCompress.lean`, which is
proved EQUAL to the model's list recursion (`compressIdx_eq`, same order of elements) -/

theorem compress_while2_tie : @rCompress_while2 = @TieSddCoreCompress.compressWhile := by
  first
  | rfl
  | (funext σ wf andF i fuel
     induction fuel with
     | zero => funext st node j; simp [rCompress_while2, TieSddCoreCompress.compressWhile]
     | succ f ih =>
       funext st node j
       simp only [rCompress_while2, TieSddCoreCompress.compressWhile, ih]
       split_all)

theorem compress_for1_tie : @rCompress_for1 = @TieSddCoreCompress.compressFor := by
  first
  | rfl
  | (funext σ wf andF k
     induction k with
     | zero => funext st i node; simp [rCompress_for1, TieSddCoreCompress.compressFor]
     | succ k ih =>
       funext st i node
       simp only [rCompress_for1, TieSddCoreCompress.compressFor, ih, compress_while2_tie]
       split_all)

theorem compress_tie : @rCompress = @TieSddCoreCompress.compressIdx := by
  first
  | rfl
  | (funext σ wf andF st node
     simp only [rCompress, TieSddCoreCompress.compressIdx, compress_for1_tie]
     split_all)

/-- `compress` as the source reads IS the model's `compress` (fuel for the `while` ≥ length of the vector) -/
theorem compress_source {σ : Type} (wf : Nat) (andF : AndF σ) (st : σ) (node : List Elem)
    (hwf : node.length ≤ wf) : rCompress wf andF st node = Sdd.compress andF st node := by
  rw [compress_tie]; exact TieSddCoreCompress.compressIdx_eq wf andF st node hwf

theorem appCacheGet_tie :
    @rAppCacheGet = fun (A : CacheImpl (Ptr × Ptr)) (st : A.σ) (k : Elem) => A.get st k := by
  first
  | rfl
  | (funext A st k; simp [rAppCacheGet])
theorem appCacheInsert_tie :
    @rAppCacheInsert = fun (A : CacheImpl (Ptr × Ptr)) (st : A.σ) (k : Elem) (r : Ptr) => A.insert st k r := by
  first
  | rfl
  | (funext A st k r; simp [rAppCacheInsert])
theorem iteCacheGet_tie : @rIteCacheGet = @iteCacheGet := by
  first
  | rfl
  | (funext I st i; cases i <;> simp [rIteCacheGet, iteCacheGet])
theorem iteCacheInsert_tie : @rIteCacheInsert = @iteCacheInsert := by
  first
  | rfl
  | (funext I st i r; cases i <;> simp [rIteCacheInsert, iteCacheInsert, isComplChoice] <;> grind)

/-! ## the loops (`for … in node_iter()`), by induction on the element list -/

theorem andSubDesc_loop1_tie : @rAndSubDesc_loop1 = @subDescLoopG := by
  first
  | rfl
  | (funext σ cmpr andF d c i es st l
     induction l generalizing st with
     | nil => simp [rAndSubDesc_loop1, subDescLoopG, adj_nil, subDescLoop, liftList]
     | cons hd tl ih =>
       obtain ⟨p, s⟩ := hd
       simp only [rAndSubDesc_loop1, subDescLoopG, adj_cons, subDescLoop, liftList, isNeg_dec, ih]
       cases h1 : andF st (if c = true then s.neg else s) d with
       | none => simp
       | some r1 =>
         obtain ⟨st1, ns⟩ := r1
         simp only [subDescLoopG]
         cases h2 : subDescLoop andF d st1 (adj c tl) with
         | none => simp [liftList]
         | some r2 => obtain ⟨st2, v⟩ := r2; simp [liftList])

theorem andPrimeDesc_loop2_tie : @rAndPrimeDesc_loop2 = @primeInnerG := by
  first
  | rfl
  | (funext σ cmpr andF r a1 st l
     induction l generalizing st with
     | nil => simp [rAndPrimeDesc_loop2, primeInnerG, innerLoop]
     | cons hd tl ih =>
       obtain ⟨p2, s2⟩ := hd
       simp only [rAndPrimeDesc_loop2, primeInnerG, innerLoop, ih, Bool.false_and, Bool.false_eq_true, if_false]
       split_all)

theorem andPrimeDesc_loop1_tie : @rAndPrimeDesc_loop1 = @primeOuterG := by
  first
  | rfl
  | (funext σ cmpr andF r d st l
     induction l generalizing st with
     | nil => simp [rAndPrimeDesc_loop1, primeOuterG, adj_nil, prodLoop]
     | cons hd tl ih =>
       obtain ⟨p1, s1⟩ := hd
       simp only [rAndPrimeDesc_loop1, primeOuterG, adj_cons, prodLoop, ih, andPrimeDesc_loop2_tie, primeInnerG,
         Bool.false_eq_true, if_false]
       split_all)

theorem andCartesian_loop2_tie : @rAndCartesian_loop2 = @cartInnerG := by
  first
  | rfl
  | (funext σ vt cmpr andF a b a1 st l
     induction l generalizing st with
     | nil => simp [rAndCartesian_loop2, cartInnerG, adj_nil, innerLoop]
     | cons hd tl ih =>
       obtain ⟨p2, s2⟩ := hd
       simp only [rAndCartesian_loop2, cartInnerG, adj_cons, innerLoop, ih, Bool.true_and]
       first
       | (simp only [decide_eq_true_eq]; rfl)  -- the model's test `p1 == p` is a `decide`
       | split_all)

theorem andCartesian_loop1_tie : @rAndCartesian_loop1 = @cartOuterG := by
  first
  | rfl
  | (funext σ vt cmpr andF a b st l
     induction l generalizing st with
     | nil => simp [rAndCartesian_loop1, cartOuterG]
     | cons hd tl ih =>
       obtain ⟨p1, s1⟩ := hd
       simp only [rAndCartesian_loop1, cartOuterG, adj_cons, prodLoop, ih, andCartesian_loop2_tie, find?_adj,
         if_true, cartInnerG]
       cases hb : Ptr.nodeIter? b with
       | none => simp
       | some eb =>
         simp only []
         cases hf : List.find? (fun e => decide (e.1 = p1)) eb <;> simp only [Option.map_none, Option.map_some] <;>
           cases tl <;> simp only [adj_nil, prodLoop] <;> split_all)

theorem condition_loop1_tie : @rCondition_loop1 = @condLoopG := by
  first
  | rfl
  | (funext σ cmpr andF condF f x v st l
     induction l generalizing st with
     | nil => simp [rCondition_loop1, condLoopG, adj_nil, condLoop]
     | cons hd tl ih =>
       obtain ⟨p, s⟩ := hd
       simp only [rCondition_loop1, condLoopG, adj_cons, condLoop, ih]
       split_all)

/-! ## the vtree cases of `and`, `condition` -/

theorem andSubDesc_tie : @rAndSubDesc = @andSubDesc := by
  first
  | rfl
  | (funext σ cmpr andF st r d
     rcases r with _ | _ | ⟨v, pol⟩ | ⟨c, l, i, lo, hi⟩ | ⟨c, i, es⟩
     · rfl
     · rfl
     · rfl
     · simp only [rAndSubDesc, andSubDesc, Ptr.low?, Ptr.high?]
       first | rfl | grind | split_all
     · simp only [rAndSubDesc, andSubDesc, andSubDesc_loop1_tie, subDescLoopG, adj]
       cases h : subDescLoop andF d st (if c = true then negSubs es else es) with
       | none => simp [liftList]
       | some r => obtain ⟨st', v⟩ := r; simp [liftList])

theorem andPrimeDesc_tie : @rAndPrimeDesc = @andPrimeDesc := by
  first
  | rfl
  | (funext σ cmpr andF st r d
     rcases r with _ | _ | ⟨v, pol⟩ | ⟨c, l, i, lo, hi⟩ | ⟨c, i, es⟩ <;>
       simp only [rAndPrimeDesc, andPrimeDesc, andPrimeDesc_loop1_tie, primeOuterG, elems?_eq, Ptr.nodeIter?,
         vtree?, Option.map] <;>
       split_all)

theorem prodLoop_nil_adj {σ : Type} (andF : AndF σ) (eb : List Elem) (st : σ) (c : Bool) (tl : List Elem) :
    (match tl with
      | [] => some (st, LoopRes.elems [])
      | _ :: _ => prodLoop andF true eb st (adj c tl)) = prodLoop andF true eb st (adj c tl) := by
  cases tl <;> simp [adj_nil, prodLoop]

/-- `and_cartesian`.  The hypothesis excludes a decision node WITHOUT elements as first operand: there the
Rust (and the generated definition) never looks at `b` and answers `canonicalize([])`, while the model panics
on a non-node `b` (see TRANSLATOR_NOTES_sddcore.md); such a node is never built (`unique_or` panics on `[]`). -/
theorem andCartesian_tie {σ : Type} (vt : VTree) (cmpr : Bool) (andF : AndF σ) (st : σ) (a b : Ptr) (lca : Nat)
    (ha : ∀ c i, a ≠ .dec c i []) :
    rAndCartesian vt cmpr andF st a b lca = andCartesian vt cmpr andF st a b lca := by
  first
  | rfl
  | (have key : ∀ es, a.nodeIter? = some es → es ≠ [] →
         (match cartOuterG vt cmpr andF a b st es with
           | none => none
           | some (st', LoopRes.early x) => some (st', x)
           | some (st', LoopRes.elems l) => canonicalize cmpr andF st' l lca) =
         (match a.elems?, b.elems? with
           | some ea, some eb =>
             match prodLoop andF true eb st ea with
             | none => none
             | some (st', .early x) => some (st', x)
             | some (st', .elems l) => canonicalize cmpr andF st' l lca
           | _, _ => none) := by
       intro es hes hne
       rcases es with _ | ⟨e, es⟩
       · exact absurd rfl hne
       · simp only [cartOuterG, elems?_eq, hes, Option.map]
         cases hb : Ptr.nodeIter? b <;> simp
     rcases a with _ | _ | ⟨v, pol⟩ | ⟨c, l, i, lo, hi⟩ | ⟨c, i, es⟩
     -- `a` not a node: both sides panic whatever the vtree says
     iterate 3
       first
       | (unfold rAndCartesian andCartesian; cases vt.isRLAt lca <;> rfl)
       | (cases hrl : vt.isRLAt lca <;> simp [rAndCartesian, andCartesian, Ptr.nodeIter?, Ptr.elems?, hrl])
     · have k2 := key _ rfl (by simp)
       simp only [rAndCartesian, andCartesian, andCartesian_loop1_tie]
       cases hrl : vt.isRLAt lca
       · simp only [Bool.false_eq_true, if_false]
         exact k2
       · -- right-linear vtree node: `low`/`high` of `b` are both there or both missing
         simp only [if_true]
         first
         | (cases b <;> rfl)
         | (simp only [Ptr.low?, Ptr.high?]; split_all)
     · have k2 := key es rfl (by intro h; exact ha c i (by rw [h]))
       simp only [rAndCartesian, andCartesian, andCartesian_loop1_tie]
       cases hrl : vt.isRLAt lca <;> simp only [Bool.false_eq_true, if_false, if_true] <;> exact k2)

theorem condition_tie : @rCondition = @condBody := by
  first
  | rfl
  | (funext σ cmpr andF condF st f x v
     rcases f with _ | _ | ⟨v, pol⟩ | ⟨c, l, i, lo, hi⟩ | ⟨c, i, es⟩ <;> (try cases c) <;>
       simp only [rCondition, condBody, condition_loop1_tie, condLoopG, Ptr.nodeIter?, isNeg_dec, isNeg_bdd, vtree?,
         adj, negSubs, List.map, if_true, if_false, Bool.false_eq_true] <;>
       split_all)

/-! ## the model's derived operations are the generated ones -/

section
variable (A : CacheImpl (Ptr × Ptr)) (I : CacheImpl (Ptr × Ptr × Ptr)) (cfg : Config) (fuel : Nat)

theorem and_source : Sdd.and A cfg.vt cfg.compress (fuel + 1) = rAndBody A cfg.vt cfg.compress (Sdd.and A cfg.vt cfg.compress fuel) := by
  rw [andBody_tie]; rfl
theorem or_source : bOr A cfg fuel = rOr_ (bAnd A cfg fuel) := by rw [or_tie]; rfl
theorem ite_source : bIte A I cfg fuel = rIte A I cfg.vt (bAnd A cfg fuel) := by rw [ite_tie]; rfl
theorem iff_source : bIff A I cfg fuel = rIff (bIte A I cfg fuel) := by rw [iff_tie]; rfl
theorem xor_source : bXor A I cfg fuel = rXor (bIte A I cfg fuel) := by rw [xor_tie]; rfl
theorem exists_source :
    bExists A cfg fuel = rExists_ (bAnd A cfg fuel) (fun st f x v => bCond A cfg fuel st f x v) := by
  rw [exists_tie]; exact bExists_eq A cfg fuel
theorem compose_source :
    bCompose A I cfg fuel = rCompose A I (bAnd A cfg fuel) (bIff A I cfg fuel) (bExists A cfg fuel) := by
  rw [compose_tie]; rfl
theorem condition_source {σ : Type} (cmpr : Bool) (andF : AndF σ) (x : Nat) (v : Bool) (n : Nat) (st : σ) (f : Ptr) :
    Sdd.condition cmpr andF x v (n + 1) st f =
      rCondition cmpr andF (fun st f _ _ => Sdd.condition cmpr andF x v n st f) st f x v := by
  rw [condition_tie]; exact condition_succ cmpr andF x v n st f
end

end TieSddCore

#print axioms TieSddCore.ptrNeg_tie
#print axioms TieSddCore.ptrIsNeg_tie
#print axioms TieSddCore.ptrIsTrue_tie
#print axioms TieSddCore.ptrIsFalse_tie
#print axioms TieSddCore.ptrIsNegVar_tie
#print axioms TieSddCore.ptrIsBdd_tie
#print axioms TieSddCore.ptrLow_tie
#print axioms TieSddCore.ptrHigh_tie
#print axioms TieSddCore.ptrVtree_tie
#print axioms TieSddCore.isTrue_tie
#print axioms TieSddCore.isFalse_tie
#print axioms TieSddCore.uniqueBdd_tie
#print axioms TieSddCore.uniqueOr_tie
#print axioms TieSddCore.vtreeIndex_tie
#print axioms TieSddCore.andIndep_tie
#print axioms TieSddCore.var_tie
#print axioms TieSddCore.negate_tie
#print axioms TieSddCore.or_tie
#print axioms TieSddCore.andBody_tie
#print axioms TieSddCore.ite_tie
#print axioms TieSddCore.iff_tie
#print axioms TieSddCore.xor_tie
#print axioms TieSddCore.exists_tie
#print axioms TieSddCore.compose_tie
#print axioms TieSddCore.sddEq_tie
#print axioms TieSddCore.canonBase_tie
#print axioms TieSddCore.canonicalize_tie
#print axioms TieSddCore.compress_while2_tie
#print axioms TieSddCore.compress_for1_tie
#print axioms TieSddCore.compress_tie
#print axioms TieSddCore.compress_source
#print axioms TieSddCore.appCacheGet_tie
#print axioms TieSddCore.appCacheInsert_tie
#print axioms TieSddCore.iteCacheGet_tie
#print axioms TieSddCore.iteCacheInsert_tie
#print axioms TieSddCore.andSubDesc_loop1_tie
#print axioms TieSddCore.andPrimeDesc_loop2_tie
#print axioms TieSddCore.andPrimeDesc_loop1_tie
#print axioms TieSddCore.andCartesian_loop2_tie
#print axioms TieSddCore.andCartesian_loop1_tie
#print axioms TieSddCore.condition_loop1_tie
#print axioms TieSddCore.andSubDesc_tie
#print axioms TieSddCore.andPrimeDesc_tie
#print axioms TieSddCore.prodLoop_nil_adj
#print axioms TieSddCore.andCartesian_tie
#print axioms TieSddCore.condition_tie
#print axioms TieSddCore.and_source
#print axioms TieSddCore.or_source
#print axioms TieSddCore.ite_source
#print axioms TieSddCore.iff_source
#print axioms TieSddCore.xor_source
#print axioms TieSddCore.exists_source
#print axioms TieSddCore.compose_source
#print axioms TieSddCore.condition_source
