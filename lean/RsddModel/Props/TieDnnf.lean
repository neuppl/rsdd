import RsddModel.Model.GenDnnf
import RsddModel.Model.TopDown
import RsddModel.Lemmas.TieDnnfAux
/-!
# Tie to the source text (translator route): the decision-DNNF builder

`RsddModel/Model/GenDnnf.lean` is rewritten by `tools/gen_dnnf.py` from
`src/builder/decision_nnf/{builder,standard,semantic}.rs` on every run.  The theorems below state
that the regenerated definitions ARE the definitions of the hand-written model `TopDown`
(`Model/TopDown.lean`), up to the order of the arguments (the generated definitions take the
arguments in the order of the Rust signature, followed by the node store).

Each proof is `first | rfl | …`: `rfl` closes the literally equal translations and the alias mode (a function
outside the translator's grammar is generated as an alias of the model, status `UNTRANSLATED`); where a proof
for the source as it stands follows, it comes next; the last alternatives unfold both sides and case-split
(`tie_split`, `grind`), so that a re-arrangement of the source that leaves the function unchanged still checks.

Names: `x_tie` is the equality of functions (the generated one under a `fun` that puts the arguments in the
model's order); `x_pt` is the same with every argument applied; `x_fn` is the generated function at a fixed
store (and solver) as a `fun` of the model's, the form `rw` needs under a recursive call.
-/
set_option linter.unusedSimpArgs false
set_option linter.unusedVariables false
namespace TieDnnf
open Spec Bdd TopDown

/-- closes goals that differ by the placement of `if`/`match`/`let` only (a macro of this file) -/
macro "tie_split" : tactic =>
  `(tactic| all_goals (repeat' (first | rfl | (split <;> try simp only [*]))))

/-! ## the two stores -/

theorem standard_get_or_insert_tie :
    (fun (t : Unit) v lo hi => Gen.TopDown.standardGetOrInsert (v, lo, hi) t) = standardStore.getOrInsert := by
  first
  | rfl
  | (funext t v lo hi
     simp only [Gen.TopDown.standardGetOrInsert, standardStore, dnnfNode, Ptr.neg, Bool.not_false, Bool.not_true]
     first | rfl | (split <;> simp_all [Ptr.neg]) | (cases lo <;> cases hi <;> simp_all [Ptr.neg, Ptr.isNeg] <;> grind))

theorem semantic_get_or_insert_tie {H : Type} [DecidableEq H] (semHash : Ptr → H) (negH key : H → H) :
    (fun t v lo hi => Gen.TopDown.semanticGetOrInsert semHash negH key (v, lo, hi) t)
      = getOrInsertSemantic semHash negH key := by
  first
  | rfl
  | (funext t v lo hi
     unfold Gen.TopDown.semanticGetOrInsert getOrInsertSemantic TieDnnfAux.tblGetByHash
       TieDnnfAux.tblGetOrInsertByHash
     dsimp only
     -- the probe under the key, then under the key of the complement (the source probes the first again to insert)
     cases List.find? (fun e => e.1 == key (semHash (Ptr.node false v lo hi))) t <;>
       cases List.find? (fun e => e.1 == key (negH (semHash (Ptr.node false v lo hi)))) t <;> rfl)
  | (funext t v lo hi
     simp only [Gen.TopDown.semanticGetOrInsert, getOrInsertSemantic, TieDnnfAux.tblGetByHash,
       TieDnnfAux.tblGetOrInsertByHash, Option.map]
     cases h1 : List.find? (fun e => e.1 == key (semHash (Ptr.node false v lo hi))) t <;>
       cases h2 : List.find? (fun e => e.1 == key (negH (semHash (Ptr.node false v lo hi)))) t <;>
       simp_all)

/-! ## `conjoin_implied` -/

theorem conjoin_implied_loop_tie :
    (fun NS t ls sub => Gen.TopDown.conjoinImplied_loop NS ls sub t) = @implyChain := by
  first
  | rfl
  | (funext NS t ls sub
     induction ls generalizing t sub with
     | nil => first | done | rfl | simp [Gen.TopDown.conjoinImplied_loop, implyChain]
     | cons l ls ih =>
       simp only [Gen.TopDown.conjoinImplied_loop, implyChain]
       first
       | done
       | (rw [ih]; done)
       | (cases hp : l.pol <;> simp only [hp, if_true, if_false, Bool.false_eq_true] <;> rw [ih] <;> done)
       | (cases hp : l.pol <;> simp_all))

theorem conjoin_implied_loop_pt (NS : NodeStore) (t : NS.τ) (ls : List Lit) (sub : Ptr) :
    Gen.TopDown.conjoinImplied_loop NS ls sub t = implyChain NS t ls sub :=
  congrFun (congrFun (congrFun (congrFun conjoin_implied_loop_tie NS) t) ls) sub

theorem conjoin_implied_tie :
    (fun NS t ls nnf => Gen.TopDown.conjoinImplied NS ls nnf t) = @conjoinImplied := by
  first
  | rfl
  | (funext NS t ls nnf
     simp only [Gen.TopDown.conjoinImplied, conjoinImplied, conjoin_implied_loop_pt]
     first
     | (tie_split; done)
     | (cases nnf <;> simp [Ptr.isFalse, Ptr.isTrue, Ptr.isNeg] <;> tie_split)
     | grind)

theorem conjoin_implied_pt (NS : NodeStore) (t : NS.τ) (ls : List Lit) (nnf : Ptr) :
    Gen.TopDown.conjoinImplied NS ls nnf t = conjoinImplied NS t ls nnf :=
  congrFun (congrFun (congrFun (congrFun conjoin_implied_tie NS) t) ls) nnf

/-! ## conditioning -/

theorem cond_helper_pt (NS : NodeStore) (x : Nat) (b : Bool) (p : Ptr) :
    ∀ t, Gen.TopDown.condHelper NS p x b t = condHelper NS x b p t := by
  first
  | (intro t; rfl)
  | (induction p with
     | tru => intro t; first | done | rfl | simp [Gen.TopDown.condHelper, condHelper]
     | fls => intro t; first | done | rfl | simp [Gen.TopDown.condHelper, condHelper]
     | node c v lo hi ihlo ihhi =>
       intro t
       simp only [Gen.TopDown.condHelper, condHelper, ihlo, ihhi, negIf]
       first
       | done
       | rfl
       | (cases c <;> tie_split; done)
       -- tolerant: name the results of the two recursive calls and of `get_or_insert`, then decide `c` and `b`
       | (try (generalize condHelper NS x b lo t = r1; rcases r1 with ⟨l, t1⟩; simp only [])
          try (generalize condHelper NS x b hi _ = r2; rcases r2 with ⟨h, t2⟩; simp only [])
          try (generalize NodeStore.getOrInsert NS _ _ _ _ = r3; rcases r3 with ⟨r, t3⟩; simp only [])
          cases c <;> cases b <;> simp <;> grind)
       | grind
       | (cases c <;> cases b <;> simp_all <;> grind))

theorem cond_helper_tie :
    (fun NS x b p t => Gen.TopDown.condHelper NS p x b t) = @condHelper := by
  funext NS x b p t; exact cond_helper_pt NS x b p t

theorem condition_tie :
    (fun NS t p x b => Gen.TopDown.condition NS p x b t) = @TopDown.condition := by
  first
  | rfl
  | (funext NS t p x b
     simp only [Gen.TopDown.condition, TopDown.condition, cond_helper_pt]
     tie_split)

theorem var_tie :
    (fun NS t x pol => Gen.TopDown.mkVar NS x pol t) = @TopDown.mkVar := by
  first
  | rfl
  | (funext NS t x pol
     simp only [Gen.TopDown.mkVar, TopDown.mkVar]
     tie_split)

/-! ## `topdown_h` and `compile_cnf_topdown` -/

theorem conjoin_implied_fn (NS : NodeStore) :
    Gen.TopDown.conjoinImplied NS = fun ls nnf t => TopDown.conjoinImplied NS t ls nnf := by
  funext ls nnf t; exact conjoin_implied_pt NS t ls nnf

theorem ite_or_left {α : Type} {p q : Prop} [Decidable p] [Decidable q] (hp : ¬p) (a b : α) :
    (if p ∨ q then a else b) = if q then a else b := by simp only [hp, false_or]

/-- The generated `topdown_h` recurses with fuel; with `fuel = num_vars - level` (the model's `rem`) it is the
model's `topdownH`.  (`cnf` is only asked for `num_vars()`.) -/
theorem topdown_h_fn (S : Solver) (NS : NodeStore) (varAt : Nat → Nat) (cnf : Cnf) (numVars : Nat) :
    ∀ (rem level : Nat), level + rem = numVars →
      Gen.TopDown.topdownH S NS varAt rem cnf numVars level
        = fun s cache t => TopDown.topdownH S NS varAt rem level s cache t := by
  intro rem
  induction rem with
  | zero =>
    intro level hl
    funext s cache t
    have h0 : level ≥ numVars := by omega
    simp [Gen.TopDown.topdownH, TopDown.topdownH, h0]
  | succ rem ih =>
    intro level hl
    funext s cache t
    have h0 : (level ≥ numVars) = False := by simp; omega
    have ih' := ih (level + 1) (by omega)
    first
    -- the source as it stands
    | (unfold Gen.TopDown.topdownH TopDown.topdownH
       rw [ih', conjoin_implied_fn, ite_or_left (by omega : ¬ level ≥ numVars)]
       -- what is left differs by `let`s and tuple patterns only, except that the source lists the `None` arm of
       -- the cache probe first; the blocks below it stay folded (reducing them multiplies their size)
       extract_lets cur_v hashed
       cases cache.get hashed <;> rfl)
    -- tolerant: unfold (first without, then with reducing `let`s and patterns) and split every test
    | (unfold Gen.TopDown.topdownH TopDown.topdownH
       simp (config := {zeta := false, iota := false, proj := false}) only [h0, false_or, decideNode, branch]
       (try rw [ih']); (try rw [conjoin_implied_fn])
       tie_split)
    | (simp only [Gen.TopDown.topdownH, TopDown.topdownH, TopDown.decideNode, TopDown.branch, ih', h0,
         false_or, conjoin_implied_fn]
       tie_split)
    | (simp only [Gen.TopDown.topdownH, TopDown.topdownH, TopDown.decideNode, TopDown.branch, ih', h0,
         false_or, conjoin_implied_fn]
       repeat' (first | rfl | (split <;> try simp_all)))

theorem topdown_h_pt (S : Solver) (NS : NodeStore) (varAt : Nat → Nat) (cnf : Cnf) (numVars : Nat)
    (rem level : Nat) (h : level + rem = numVars) (s : S.σ) (cache : Cache S.κ) (t : NS.τ) :
    Gen.TopDown.topdownH S NS varAt rem cnf numVars level s cache t
      = TopDown.topdownH S NS varAt rem level s cache t :=
  congrFun (congrFun (congrFun (topdown_h_fn S NS varAt cnf numVars rem level h) s) cache) t

theorem compile_loop_tie :
    (fun NS t ls r => Gen.TopDown.compileTopdown_loop NS ls r t) = @implyChain := by
  first
  | rfl
  | (funext NS t ls sub
     induction ls generalizing t sub with
     | nil => first | done | rfl | simp [Gen.TopDown.compileTopdown_loop, implyChain]
     | cons l ls ih =>
       simp only [Gen.TopDown.compileTopdown_loop, implyChain]
       first
       | done
       | (rw [ih]; done)
       | (cases hp : l.pol <;> simp only [hp, if_true, if_false, Bool.false_eq_true] <;> rw [ih] <;> done)
       | (cases hp : l.pol <;> simp_all))

theorem compile_loop_fn (NS : NodeStore) :
    Gen.TopDown.compileTopdown_loop NS = fun ls r t => implyChain NS t ls r := by
  funext ls r t
  exact congrFun (congrFun (congrFun (congrFun compile_loop_tie NS) t) ls) r

theorem compile_cnf_topdown_tie :
    (fun S NS varAt cnf numVars t => Gen.TopDown.compileTopdown S NS varAt cnf numVars t)
      = @TopDown.compileTopdown := by
  funext S NS varAt cnf numVars t
  have hh := topdown_h_fn S NS varAt cnf numVars numVars 0 (by omega)
  first
  | (unfold Gen.TopDown.compileTopdown TopDown.compileTopdown
     simp (config := {zeta := false, iota := false, proj := false}) only [Nat.sub_zero, conjoinImplied]
     (try rw [hh]); (try rw [compile_loop_fn]); (try rw [conjoin_implied_fn])
     (try simp (config := {zeta := false, iota := false, proj := false}) only [conjoinImplied])
     tie_split)
  | (simp only [Gen.TopDown.compileTopdown, TopDown.compileTopdown, Nat.sub_zero, hh, compile_loop_fn,
       conjoin_implied_fn, conjoinImplied]
     tie_split)

/-! ## `BddPtr` observers (`src/repr/bdd.rs`)

These justify the entries of the translator's mapping table for a matched pointer
(`low_raw ↦ lo`, `is_neg ↦ c`, `low ↦ negIf c lo`, …).  `panic!` (constant pointers) is `default`. -/

/-- an observer against the model's accessor: `rfl`, else by cases on the pointer (and its complement bit) -/
macro "obs_tac" defs:term : tactic =>
  `(tactic| first
    | rfl
    | (funext p; cases p <;> first | rfl | (rename_i c _ _ _; cases c <;> rfl) | simp [$defs:term, Ptr.isNeg, Ptr.isTrue, Ptr.isFalse, Ptr.neg, negIf, TieDnnfAux.varSafe]))

theorem obs_is_neg_tie : Gen.TopDown.obsIsNeg = Ptr.isNeg := by obs_tac Gen.TopDown.obsIsNeg
theorem obs_is_true_tie : Gen.TopDown.obsIsTrue = Ptr.isTrue := by obs_tac Gen.TopDown.obsIsTrue
theorem obs_is_false_tie : Gen.TopDown.obsIsFalse = Ptr.isFalse := by obs_tac Gen.TopDown.obsIsFalse
theorem obs_neg_tie : Gen.TopDown.obsNeg = Ptr.neg := by obs_tac Gen.TopDown.obsNeg
theorem obs_var_safe_tie : Gen.TopDown.obsVarSafe = TieDnnfAux.varSafe := by obs_tac Gen.TopDown.obsVarSafe
theorem obs_low_raw_tie (c : Bool) (v : Nat) (lo hi : Ptr) : Gen.TopDown.obsLowRaw (.node c v lo hi) = lo := by
  first | rfl | (cases c <;> rfl) | (cases c <;> simp [Gen.TopDown.obsLowRaw])
theorem obs_high_raw_tie (c : Bool) (v : Nat) (lo hi : Ptr) : Gen.TopDown.obsHighRaw (.node c v lo hi) = hi := by
  first | rfl | (cases c <;> rfl) | (cases c <;> simp [Gen.TopDown.obsHighRaw])
theorem obs_low_tie (c : Bool) (v : Nat) (lo hi : Ptr) : Gen.TopDown.obsLow (.node c v lo hi) = negIf c lo := by
  first | rfl | (cases c <;> rfl) | (cases c <;> simp [Gen.TopDown.obsLow, negIf])
theorem obs_high_tie (c : Bool) (v : Nat) (lo hi : Ptr) : Gen.TopDown.obsHigh (.node c v lo hi) = negIf c hi := by
  first | rfl | (cases c <;> rfl) | (cases c <;> simp [Gen.TopDown.obsHigh, negIf])

end TieDnnf

#print axioms TieDnnf.standard_get_or_insert_tie
#print axioms TieDnnf.semantic_get_or_insert_tie
#print axioms TieDnnf.conjoin_implied_loop_tie
#print axioms TieDnnf.conjoin_implied_loop_pt
#print axioms TieDnnf.conjoin_implied_tie
#print axioms TieDnnf.conjoin_implied_pt
#print axioms TieDnnf.cond_helper_pt
#print axioms TieDnnf.cond_helper_tie
#print axioms TieDnnf.condition_tie
#print axioms TieDnnf.var_tie
#print axioms TieDnnf.conjoin_implied_fn
#print axioms TieDnnf.topdown_h_fn
#print axioms TieDnnf.topdown_h_pt
#print axioms TieDnnf.compile_loop_tie
#print axioms TieDnnf.compile_loop_fn
#print axioms TieDnnf.compile_cnf_topdown_tie
#print axioms TieDnnf.obs_is_neg_tie
#print axioms TieDnnf.obs_is_true_tie
#print axioms TieDnnf.obs_is_false_tie
#print axioms TieDnnf.obs_neg_tie
#print axioms TieDnnf.obs_var_safe_tie
#print axioms TieDnnf.obs_low_raw_tie
#print axioms TieDnnf.obs_high_raw_tie
#print axioms TieDnnf.obs_low_tie
#print axioms TieDnnf.obs_high_tie
