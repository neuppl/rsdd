import RsddModel.Props.C19
import RsddModel.Lemmas.CompileLvlCongr
import RsddModel.Lemmas.Orders
/-!
# C19 / C05 / C08 for a REAL variable order (not an abstract injective level map)

The theorems of `Props/C19.lean` (and of C01/C05/C08 below them) quantify over an injective level
map `lvl : Nat → Nat`.  What the tools pass is `VarOrder::get` of an order over `n` variables,
which is defined — and injective — only on `0..n-1` (the Rust indexes a vector; the model's
`VarOrder.get` is totalised with a default).  `cli_wmc_spec` could therefore not be instantiated
with `lvl := order.get` literally.  This file closes the gap without touching the existing
theorems:

* `extLvl o n` extends `o.get` by the identity above `n`; it is injective for a well-formed order
  (`extLvl_inj`) and agrees with `o.get` below `n`;
* compilation and smoothing read the level map only at variables `< n` when the expression only
  mentions such variables (`Lemmas/BddLvlCongr.lean`, `Lemmas/CompileLvlCongr.lean`:
  `ite_lvl_congr`, `compileExpr_agree`, `smooth_lvl_congr`), so the run under `o.get` IS the run
  under `extLvl o n`;
* hence `cli_wmc_order`: for every well-formed order over `n` variables (every permutation), every
  lawful cache, every commutative semiring and weight table and every expression over variables
  `< n`, the count printed by `single_wmc` under THAT order's own `get`/`var_at_level` is the
  brute-force weighted sum of the formula over the `n` variables.  No side condition on the
  diagram is left (the two `d.vars` hypotheses of `cli_wmc_spec` are discharged).
-/
namespace C19Order
open Cli Spec Bdd Spec.Text Ser Orders

/-- `o.get` below `n`, the identity from `n` on -/
def extLvl (o : VarOrder) (n : Nat) (v : Nat) : Nat := if v < n then o.get v else v

theorem extLvl_agree (o : VarOrder) (n : Nat) : AgreeLt n o.get (extLvl o n) := by
  intro v hv; simp [extLvl, hv]

theorem extLvl_inj {o : VarOrder} {n : Nat} (h : o.WF n) :
    ∀ x y, extLvl o n x = extLvl o n y → x = y := by
  intro x y hxy
  unfold extLvl at hxy
  by_cases hx : x < n <;> by_cases hy : y < n <;> simp only [hx, hy, if_true, if_false] at hxy
  · rw [← h.varAtLevel_get x hx, ← h.varAtLevel_get y hy, hxy]
  · have := Orders.WF.get_lt h hx; omega
  · have := Orders.WF.get_lt h hy; omega
  · exact hxy

theorem extLvl_inv {o : VarOrder} {n : Nat} (h : o.WF n) :
    ∀ i, i < n → extLvl o n (o.varAtLevel i) = i := by
  intro i hi
  have := Orders.WF.varAtLevel_lt h hi
  simp only [extLvl, this, if_true]
  exact h.get_varAtLevel i hi

/-- compilation under the order's own `get` is compilation under its injective extension, and the
result only mentions variables of the order -/
theorem compile_order (C : CacheImpl) (o : VarOrder) (n fuel : Nat) (e : Compile.LogicalExpr)
    (hv : e.AllVars (· < n)) :
    Compile.compileExpr (Bdd.ops C o.get fuel) C.empty e
      = Compile.compileExpr (Bdd.ops C (extLvl o n) fuel) C.empty e ∧
    ∀ s' d, Compile.compileExpr (Bdd.ops C o.get fuel) C.empty e = some (s', d) → d.varsLt n := by
  obtain ⟨h1, h2⟩ := Compile.compileExpr_agree (ops_agree (extLvl_agree o n) C fuel) e C.empty
    (cacheVars_empty C n) hv
  exact ⟨h1, fun s' d h => (h2 s' d h).2⟩

/-- **the count tool under a real order.**  For every well-formed order `o` over `n` variables,
every lawful cache, every fuel, every commutative semiring and weight table, and every formula
text whose indexed expression mentions variables `< n` only: if `single_wmc` under `o.get` /
`o.var_at_level` returns `r`, then `r` is the brute-force weighted sum of the formula over the
`n` variables of the order (both the list form and the recursive form). -/
theorem cli_wmc_order {α : Type} (C : CacheImpl) (o : VarOrder) (n : Nat) (hwf : o.WF n)
    (fuel : Nat) (t : SExp) (e : LogicalSExpr) (le : Ser.LogicalExpr)
    (ht : LogicalSExpr.ofSExp t = some e) (hle : fromSexpr e = some le)
    (hvars : (toCompileExpr le).AllVars (· < n))
    {S : SROps α} (hS : S.Laws) (w : Weights α) (r : α)
    (hrun : singleWmc C o.get o.varAtLevel fuel S w n le = some r) :
    ∀ a, r = wsumList S (levelVars o.varAtLevel 0 n) w (fun b => le.eval b) a ∧
         r = wsum S (levelVars o.varAtLevel 0 n) w (fun b => le.eval b) a := by
  obtain ⟨hc1, hc2⟩ := compile_order C o n fuel (toCompileExpr le) hvars
  obtain ⟨s', d, hc, rfl⟩ := C19.compiled_of_map hrun
  have vd := hc2 s' d hc
  have hlt := mem_vars_of_varsLt vd
  have hget : ∀ v ∈ d.vars, extLvl o n v = o.get v := fun v hvm => if_pos (hlt v hvm)
  -- the run, and the smoothing, are those under the injective extension of `o.get`
  rw [hc1] at hc
  obtain ⟨hwfd, hd⟩ := C19.compiled_sem C _ (extLvl_inj hwf) fuel le hc
  dsimp only
  rw [smooth_lvl_congr (extLvl_agree o n) o.varAtLevel d n vd]
  exact C19.wmc_of_den hS w hwfd hd (extLvl_inv hwf)
    (fun v hvm => hget v hvm ▸ hwf.varAtLevel_get v (hlt v hvm))
    (fun v hvm => hget v hvm ▸ Orders.WF.get_lt hwf (hlt v hvm))

/-- **the formula-to-BDD tool under a real order**: for every well-formed order over `n` variables
and every formula text over variables `< n`, the table emitted under the order's own `get` denotes
the formula as written. -/
theorem cli_formula_to_bdd_order (C : CacheImpl) (o : VarOrder) (n : Nat) (hwf : o.WF n)
    (fuel : Nat) (t : SExp) (e : LogicalSExpr) (le : Ser.LogicalExpr)
    (ht : LogicalSExpr.ofSExp t = some e) (hle : fromSexpr e = some le)
    (hvars : (toCompileExpr le).AllVars (· < n)) (tbl : BddTable)
    (hrun : formulaToBdd C o.get fuel le = some tbl) :
    ∃ root, tbl.roots = [root] ∧
      ∀ a, evalSExp (nameAssign t a) t = some (evalBddTable tbl root a) := by
  unfold formulaToBdd at hrun
  rw [(compile_order C o n fuel (toCompileExpr le) hvars).1] at hrun
  exact C19.cli_formula_to_bdd_spec C (extLvl o n) (extLvl_inj hwf) fuel t e le ht hle tbl hrun

/-- plan compilation under the order's own `get` is compilation under its injective extension -/
theorem compilePlan_order (C : CacheImpl) (o : VarOrder) (n fuel : Nat) (p : Compile.Plan)
    (hv : p.AllVars (· < n)) :
    Compile.compilePlan (Bdd.ops C o.get fuel) C.empty p
      = Compile.compilePlan (Bdd.ops C (extLvl o n) fuel) C.empty p ∧
    ∀ s' d, Compile.compilePlan (Bdd.ops C o.get fuel) C.empty p = some (s', d) → d.varsLt n := by
  obtain ⟨h1, h2⟩ := Compile.compilePlan_agree (ops_agree (extLvl_agree o n) C fuel) p C.empty
    (cacheVars_empty C n) hv
  exact ⟨h1, fun s' d h => (h2 s' d h).2⟩

/-- **the CNF-to-BDD tool under a real order**: for every well-formed order over `n` variables and
every dtree over the clauses of the parsed text whose plan mentions variables `< n` only, the table
emitted for the diagram compiled under the order's own `get` denotes the CNF of the text, and the
diagram only mentions variables of the order. -/
theorem cli_cnf_to_bdd_order (C : CacheImpl) (o : VarOrder) (n : Nat) (hwf : o.WF n)
    (fuel : Nat) (text : String) (c0 : Cnf) (hparse : parseDimacs text = some c0)
    (tree : Compile.DTree) (hleaves : tree.clauses.Perm (Ser.cnfNew c0))
    (hvars : (Compile.Plan.fromDtree tree).AllVars (· < n))
    {s' : C.σ} {d : Ptr}
    (hcomp : Compile.compilePlan (Bdd.ops C o.get fuel) C.empty (Compile.Plan.fromDtree tree) = some (s', d)) :
    d.varsLt n ∧ ∃ root, (serBdd d).roots = [root] ∧
      ∀ a, evalBddTable (serBdd d) root a = cnfSat a c0 := by
  obtain ⟨h1, h2⟩ := compilePlan_order C o n fuel (Compile.Plan.fromDtree tree) hvars
  refine ⟨h2 s' d hcomp, ?_⟩
  rw [h1] at hcomp
  exact C19.cli_cnf_to_bdd_spec C (extLvl o n) (extLvl_inj hwf) fuel text c0 hparse tree hleaves hcomp

/-! non-vacuity: a non-trivial permutation is a well-formed order, and the linear order is -/
example : (VarOrder.new [2, 0, 1]).WF 3 := new_wf (by decide)
example (n : Nat) : (VarOrder.linear n).WF n := linear_wf n

#print axioms extLvl_inj
#print axioms compile_order
#print axioms cli_wmc_order
#print axioms cli_formula_to_bdd_order
#print axioms compilePlan_order
#print axioms cli_cnf_to_bdd_order
end C19Order
