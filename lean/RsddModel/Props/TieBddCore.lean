import RsddModel.Model.GenBddCore
import RsddModel.Model.BddBuilder
import RsddModel.Model.BddWmc
/-!
# Tie to the source text (translator route): the core ROBDD builder

`RsddModel/Model/GenBddCore.lean` is rewritten by `tools/gen_bddcore.py` from the Rust source on
every run.  The theorems below state that the regenerated definitions ARE the hand-written model
definitions of `Model/BddBuilder.lean` / `Model/BddWmc.lean` (function equality).

How a tie is proved here: `first | rfl | …`.  `rfl` closes the literally equal translations and the alias
mode (a function outside the translator's grammar is generated as an alias of the model, status
`UNTRANSLATED`); next, where there is one, a direct proof for the source as it stands; last the tolerant
alternatives (`repeat' split <;> simp_all <;> grind` and the like) that absorb commuted tests, `if`/`else`
for an early return, reordered independent statements and renamed locals.  Where the right-hand side of a
tie is a lambda (`orderLt_tie`, `orderGet_tie`, `orderVarAt_tie`, `bAndLst_tie`, `bOrLst_tie`,
`smoothHelper_tie`, `ptrLowRaw_tie` … `ptrHigh_tie`) it is the term given as the alias of that
function in `FUNCTIONS` of `tools/gen_bddcore.py`, so that the alias mode closes by `rfl`.
-/
set_option linter.unusedSimpArgs false
set_option linter.unusedVariables false
namespace TieBddCore
open Bdd

theorem mkNode_tie : Gen.BddCore.mkNode = Bdd.mkNode := by
  first
  | rfl
  | (funext x lo hi; simp only [Gen.BddCore.mkNode, Bdd.mkNode]; grind)

theorem condEssential_tie : Gen.BddCore.condEssential = Bdd.condEssential := by
  first
  | rfl
  | (funext f x v; cases f <;> simp only [Gen.BddCore.condEssential, Bdd.condEssential] <;> grind)

theorem orderLt_tie : Gen.BddCore.orderLt = fun (lvl varAt : Nat → Nat) (a b : Nat) => decide (lvl a < lvl b) := by
  first
  | rfl
  | (funext lvl varAt a b; simp only [Gen.BddCore.orderLt]; grind)

theorem orderGet_tie : Gen.BddCore.orderGet = fun (lvl varAt : Nat → Nat) (a : Nat) => lvl a := by
  first
  | rfl
  | (funext lvl varAt a; simp only [Gen.BddCore.orderGet])

theorem first_tie : Gen.BddCore.first = Bdd.first := by
  first
  | rfl
  | (funext lvl a b; cases a <;> cases b <;> simp [Gen.BddCore.first, Bdd.first, Bdd.Ptr.top?] <;> grind)

theorem firstEssential_tie : Gen.BddCore.firstEssential = Bdd.firstEssential := by
  first
  | rfl
  | (funext lvl a b c; simp only [Gen.BddCore.firstEssential, Bdd.firstEssential, first_tie]
     cases (Bdd.first lvl (Bdd.first lvl a b) c).top? <;> rfl)

theorem ordP_tie : Gen.BddCore.ordP = Bdd.ordP := by
  first
  | rfl
  | (funext lvl a b; cases a <;> cases b <;> simp [Gen.BddCore.ordP, Bdd.ordP] <;> grind)


/-! ## the `IteTable` adapters -/

theorem cacheGetAll_tie : Gen.BddCore.cacheGetAll = Bdd.cacheGet := by
  first
  | rfl
  | (funext C s i; cases i <;> simp [Gen.BddCore.cacheGetAll, Bdd.cacheGet] <;> grind)
theorem cacheGetLru_tie : Gen.BddCore.cacheGetLru = Bdd.cacheGet := by
  first
  | rfl
  | (funext C s i; cases i <;> simp [Gen.BddCore.cacheGetLru, Bdd.cacheGet] <;> grind)
theorem cacheInsertAll_tie : Gen.BddCore.cacheInsertAll = Bdd.cacheInsert := by
  first
  | rfl
  | (funext C s i r; cases i <;> simp [Gen.BddCore.cacheInsertAll, Bdd.cacheInsert] <;> grind)
theorem cacheInsertLru_tie : Gen.BddCore.cacheInsertLru = Bdd.cacheInsert := by
  first
  | rfl
  | (funext C s i r; cases i <;> simp [Gen.BddCore.cacheInsertLru, Bdd.cacheInsert] <;> grind)

/-! ## `ite_helper` -/

theorem ite_tie : Gen.BddCore.ite = Bdd.ite := by
  first
  | rfl
  | (funext C lvl fuel
     induction fuel with
     | zero => funext s f g h; first | rfl | simp [Gen.BddCore.ite, Bdd.ite]
     | succ n ih =>
       funext s f g h
       simp only [Gen.BddCore.ite, Bdd.ite, ih, ordP_tie, firstEssential_tie, condEssential_tie, mkNode_tie]
       first
       | rfl
       -- the same tree of matches on both sides, compiled to different matchers: descend it
       | (cases Ite.new (ordP lvl) f g h <;> dsimp only <;>
            cases cacheGet C s _ <;> dsimp only <;>
            cases firstEssential lvl f g h <;> dsimp only <;>
            rcases Bdd.ite C lvl n s _ _ _ with _ | ⟨s1, t⟩ <;> dsimp only <;>
            cases Bdd.ite C lvl n s1 _ _ _ <;> rfl)
       | ((repeat' split) <;> simp_all <;> grind))


/-! ## conditioning -/

theorem condWithAlloc_tie : Gen.BddCore.condWithAlloc = Bdd.condWithAlloc := by
  first
  | rfl
  | (funext lvl x value p
     induction p with
     | tru => funext m; first | rfl | simp [Gen.BddCore.condWithAlloc, Bdd.condWithAlloc]
     | fls => funext m; first | rfl | simp [Gen.BddCore.condWithAlloc, Bdd.condWithAlloc]
     | node c y lo hi ihlo ihhi =>
       funext m
       simp only [Gen.BddCore.condWithAlloc, Bdd.condWithAlloc, ihlo, ihhi, mkNode_tie]
       first
       | rfl
       -- the source tests the complement bit before pairing and lists the memo miss first
       | (cases c <;> cases Memo.get m _ <;> rfl)
       | (cases c <;> (repeat' split) <;> simp_all <;> grind))

theorem condHelper_tie : Gen.BddCore.condHelper = Bdd.condition := by
  first
  | rfl
  | (funext lvl p x v; simp only [Gen.BddCore.condHelper, Bdd.condition, condWithAlloc_tie])

theorem condition_tie : Gen.BddCore.condition = Bdd.condition := by
  first
  | rfl
  | (funext lvl p x v; simp only [Gen.BddCore.condition, condHelper_tie])
  | (funext lvl p x v; simp only [Gen.BddCore.condition, Gen.BddCore.condHelper, Bdd.condition, condWithAlloc_tie])

theorem condModelH_loop_tie : Gen.BddCore.condModelH_loop = Bdd.condModel := by
  first
  | rfl
  | (funext lvl p m
     induction m generalizing p with
     | nil => first | rfl | simp [Gen.BddCore.condModelH_loop, Bdd.condModel]
     | cons xb rest ih =>
       obtain ⟨x, b⟩ := xb
       simp only [Gen.BddCore.condModelH_loop, Bdd.condModel, condition_tie, ih]
       first | done | rfl | ((repeat' split) <;> simp_all) | grind)
theorem condModelH_tie : Gen.BddCore.condModelH = Bdd.condModel := by
  first
  | rfl
  | (funext lvl p m; simp only [Gen.BddCore.condModelH, condModelH_loop_tie]; done)
  -- the `for` loop of `cond_model_h` written as `assignment_iter().fold(..)`: no `_loop`, the induction again
  | (funext lvl p m
     induction m generalizing p with
     | nil => first | rfl | simp [Gen.BddCore.condModelH, Bdd.condModel, condModelH_loop_tie]
     | cons xb rest ih =>
       obtain ⟨x, b⟩ := xb
       simp only [Gen.BddCore.condModelH, condModelH_loop_tie, condition_tie, List.foldl, Bdd.condModel] at ih ⊢
       first | done | rfl | exact ih _ | (simp_all; done) | grind)

/-! ## the derived operations -/

theorem bNegate_tie : Gen.BddCore.bNegate = Bdd.Ptr.neg := by
  first
  | rfl
  | (funext p; simp only [Gen.BddCore.bNegate])

theorem mkVar_tie : Gen.BddCore.mkVar = Bdd.mkVar := by
  first
  | rfl
  | (funext x pol; simp only [Gen.BddCore.mkVar, Bdd.mkVar, mkNode_tie]; first | rfl | (cases pol <;> simp) | grind)

theorem bAnd_tie : Gen.BddCore.bAnd = Bdd.bAnd := by
  first
  | rfl
  | (funext C lvl fuel s f g; simp only [Gen.BddCore.bAnd, Bdd.bAnd, ite_tie])
theorem bIff_tie : Gen.BddCore.bIff = Bdd.bIff := by
  first
  | rfl
  | (funext C lvl fuel s f g; simp only [Gen.BddCore.bIff, Bdd.bIff, ite_tie])
theorem bXor_tie : Gen.BddCore.bXor = Bdd.bXor := by
  first
  | rfl
  | (funext C lvl fuel s f g; simp only [Gen.BddCore.bXor, Bdd.bXor, ite_tie])
theorem bOr_tie : Gen.BddCore.bOr = Bdd.bOr := by
  first
  | rfl
  | (funext C lvl fuel s f g; simp only [Gen.BddCore.bOr, Bdd.bOr, bAnd_tie, bNegate_tie]
     first | done | rfl | (split <;> simp_all) | grind)
theorem bExists_tie : Gen.BddCore.bExists = Bdd.bExists := by
  first
  | rfl
  | (funext C lvl fuel s f x; simp only [Gen.BddCore.bExists, Bdd.bExists, bOr_tie, condition_tie])
theorem bCompose_tie : Gen.BddCore.bCompose = Bdd.bCompose := by
  first
  | rfl
  | (funext C lvl fuel s f x g
     simp only [Gen.BddCore.bCompose, Bdd.bCompose, bIff_tie, bAnd_tie, bExists_tie, mkVar_tie]
     first | done | rfl | ((repeat' split) <;> simp_all) | grind)


theorem bAndLst_loop_tie : Gen.BddCore.bAndLst_loop = Bdd.bAndLst := by
  first
  | rfl
  | (funext C lvl fuel s acc l
     induction l generalizing s acc with
     | nil => first | rfl | simp [Gen.BddCore.bAndLst_loop, Bdd.bAndLst]
     | cons p ps ih =>
       simp only [Gen.BddCore.bAndLst_loop, Bdd.bAndLst, bAnd_tie, ih]
       first | done | rfl | ((repeat' split) <;> simp_all) | grind)
theorem bAndLst_tie : Gen.BddCore.bAndLst =
    fun (C : Bdd.CacheImpl) (lvl : Nat → Nat) (fuel : Nat) (s : C.σ) (l : List Bdd.Ptr) => Bdd.bAndLst C lvl fuel s Bdd.Ptr.tru l := by
  first
  | rfl
  | (funext C lvl fuel s l; simp only [Gen.BddCore.bAndLst, bAndLst_loop_tie])
theorem bOrLst_loop_tie : Gen.BddCore.bOrLst_loop = Bdd.bOrLst := by
  first
  | rfl
  | (funext C lvl fuel s acc l
     induction l generalizing s acc with
     | nil => first | rfl | simp [Gen.BddCore.bOrLst_loop, Bdd.bOrLst]
     | cons p ps ih =>
       simp only [Gen.BddCore.bOrLst_loop, Bdd.bOrLst, bOr_tie, ih]
       first | done | rfl | ((repeat' split) <;> simp_all) | grind)
theorem bOrLst_tie : Gen.BddCore.bOrLst =
    fun (C : Bdd.CacheImpl) (lvl : Nat → Nat) (fuel : Nat) (s : C.σ) (l : List Bdd.Ptr) => Bdd.bOrLst C lvl fuel s Bdd.Ptr.fls l := by
  first
  | rfl
  | (funext C lvl fuel s l; simp only [Gen.BddCore.bOrLst, bOrLst_loop_tie])

theorem orderVarAt_tie : Gen.BddCore.orderVarAt = fun (lvl varAt : Nat → Nat) (a : Nat) => varAt a := by
  first
  | rfl
  | (funext lvl varAt a; simp only [Gen.BddCore.orderVarAt])

/-! ## smoothing -/

theorem smoothHelper_aux (lvl varAt : Nat → Nat) : ∀ (n cur total : Nat) (p : Bdd.Ptr), total - cur = n →
    Gen.BddCore.smoothHelper lvl varAt p cur total = Bdd.smoothH lvl varAt n cur p := by
  first
  -- alias mode: the alias of `smoothHelper` is `Bdd.smoothH` at `total - cur`
  | (intro n cur total p h; subst h; rfl)
  | (intro n
     induction n with
     | zero =>
       intro cur total p h
       have : cur ≥ total := by omega
       unfold Gen.BddCore.smoothHelper
       cases p <;> simp [Bdd.smoothH, this]
     | succ n ih =>
       intro cur total p h
       have hlt : ¬ cur ≥ total := by omega
       have h1 : total - (cur + 1) = n := by omega
       have key : ∀ p, p.isNeg = false →
           Gen.BddCore.smoothHelper lvl varAt p cur total = Bdd.smoothH lvl varAt (n + 1) cur p := by
         intro p hp
         rw [Gen.BddCore.smoothHelper.eq_def]
         cases p with
         | tru => simp [Bdd.smoothH, hlt, ih _ _ _ h1, mkNode_tie]
         | fls => simp [Bdd.smoothH, hlt, ih _ _ _ h1, mkNode_tie]
         | node c v lo hi =>
           cases c with
           | true => simp [Bdd.Ptr.isNeg] at hp
           | false =>
             simp only [Bdd.smoothH, hlt, ih _ _ _ h1, mkNode_tie]
             first | rfl | (clear ih h h1; simp; (repeat' split) <;> simp_all <;> grind)
       cases p with
       | tru => exact key _ rfl
       | fls => exact key _ rfl
       | node c v lo hi =>
         cases c with
         | false => exact key _ rfl
         | true =>
           rw [Gen.BddCore.smoothHelper.eq_def]
           simp only [hlt, Bdd.smoothH]
           first
           -- complemented node: the source calls itself on the regular node at the same `current` and negates
           | (simp only [key (Bdd.Ptr.node false v lo hi) rfl, Bdd.smoothH]
              first | rfl | (clear ih key h h1; simp; (repeat' split) <;> simp_all <;> grind))
           -- … or handles it in place, with recursive calls at `current + 1` only
           | (simp only [ih _ _ _ h1, mkNode_tie]
              first | rfl | (clear ih key h h1; simp; (repeat' split) <;> simp_all <;> grind)))

theorem smoothHelper_tie : Gen.BddCore.smoothHelper =
    fun (lvl varAt : Nat → Nat) (p : Bdd.Ptr) (cur total : Nat) => Bdd.smoothH lvl varAt (total - cur) cur p := by
  first
  | rfl
  | (funext lvl varAt p cur total; exact smoothHelper_aux lvl varAt _ cur total p rfl)

theorem smooth_tie : Gen.BddCore.smooth = Bdd.smooth := by
  first
  | rfl
  | (funext lvl varAt p n; unfold Gen.BddCore.smooth Bdd.smooth
     first
     | exact smoothHelper_aux lvl varAt n 0 n p (by omega)
     | (rw [smoothHelper_aux lvl varAt _ _ _ p rfl]; first | rfl | simp))


/-! ## the `BddPtr` accessors (they justify the translator's evaluation of accessors on a known node) -/

theorem ptrNeg_tie : Gen.BddCore.ptrNeg = Bdd.Ptr.neg := by
  first
  | rfl
  | (funext p; rcases p with _ | _ | ⟨_ | _, v, lo, hi⟩ <;> first | rfl | simp [Gen.BddCore.ptrNeg, Bdd.Ptr.neg])
theorem ptrIsNeg_tie : Gen.BddCore.ptrIsNeg = Bdd.Ptr.isNeg := by
  first
  | rfl
  | (funext p; rcases p with _ | _ | ⟨_ | _, v, lo, hi⟩ <;> first | rfl | simp [Gen.BddCore.ptrIsNeg, Bdd.Ptr.isNeg])
theorem ptrIsTrue_tie : Gen.BddCore.ptrIsTrue = Bdd.Ptr.isTrue := by
  first
  | rfl
  | (funext p; rcases p with _ | _ | ⟨_ | _, v, lo, hi⟩ <;> first | rfl | simp [Gen.BddCore.ptrIsTrue, Bdd.Ptr.isTrue])
theorem ptrIsFalse_tie : Gen.BddCore.ptrIsFalse = Bdd.Ptr.isFalse := by
  first
  | rfl
  | (funext p; rcases p with _ | _ | ⟨_ | _, v, lo, hi⟩ <;> first | rfl | simp [Gen.BddCore.ptrIsFalse, Bdd.Ptr.isFalse])
-- `var_safe()` and `var()` both read as `Ptr.top?`: the panic of `var()` on a constant is `none`
theorem ptrVarSafe_tie : Gen.BddCore.ptrVarSafe = Bdd.Ptr.top? := by
  first
  | rfl
  | (funext p; rcases p with _ | _ | ⟨_ | _, v, lo, hi⟩ <;> first | rfl | simp [Gen.BddCore.ptrVarSafe, Bdd.Ptr.top?])
theorem ptrVar_tie : Gen.BddCore.ptrVar = Bdd.Ptr.top? := by
  first
  | rfl
  | (funext p; rcases p with _ | _ | ⟨_ | _, v, lo, hi⟩ <;> first | rfl | simp [Gen.BddCore.ptrVar, Bdd.Ptr.top?])
theorem ptrLowRaw_tie : Gen.BddCore.ptrLowRaw =
    fun (p : Bdd.Ptr) => match p with | Bdd.Ptr.node _ _ lo _ => some lo | _ => none := by
  first
  | rfl
  | (funext p; rcases p with _ | _ | ⟨_ | _, v, lo, hi⟩ <;> first | rfl | simp [Gen.BddCore.ptrLowRaw])
theorem ptrHighRaw_tie : Gen.BddCore.ptrHighRaw =
    fun (p : Bdd.Ptr) => match p with | Bdd.Ptr.node _ _ _ hi => some hi | _ => none := by
  first
  | rfl
  | (funext p; rcases p with _ | _ | ⟨_ | _, v, lo, hi⟩ <;> first | rfl | simp [Gen.BddCore.ptrHighRaw])
theorem ptrLow_tie : Gen.BddCore.ptrLow =
    fun (p : Bdd.Ptr) => match p with | Bdd.Ptr.node c _ lo _ => some (if c then Bdd.Ptr.neg lo else lo) | _ => none := by
  first
  | rfl
  | (funext p; rcases p with _ | _ | ⟨_ | _, v, lo, hi⟩ <;> first | rfl | simp [Gen.BddCore.ptrLow])
theorem ptrHigh_tie : Gen.BddCore.ptrHigh =
    fun (p : Bdd.Ptr) => match p with | Bdd.Ptr.node c _ _ hi => some (if c then Bdd.Ptr.neg hi else hi) | _ => none := by
  first
  | rfl
  | (funext p; rcases p with _ | _ | ⟨_ | _, v, lo, hi⟩ <;> first | rfl | simp [Gen.BddCore.ptrHigh])

/-- what the regenerated accessors return on `Ptr.node c v lo hi`: the Lean statement of the table by which
`tools/gen_bddcore.py` evaluates an accessor call on a pointer it knows to be a node -/
theorem accessors_on_node (c : Bool) (v : Nat) (lo hi : Bdd.Ptr) :
    Gen.BddCore.ptrLowRaw (.node c v lo hi) = some lo ∧ Gen.BddCore.ptrHighRaw (.node c v lo hi) = some hi ∧
    Gen.BddCore.ptrIsNeg (.node c v lo hi) = c ∧
    Gen.BddCore.ptrLow (.node c v lo hi) = some (if c then lo.neg else lo) ∧
    Gen.BddCore.ptrHigh (.node c v lo hi) = some (if c then hi.neg else hi) ∧
    Gen.BddCore.ptrIsTrue (.node c v lo hi) = false ∧ Gen.BddCore.ptrIsFalse (.node c v lo hi) = false ∧
    Gen.BddCore.ptrVarSafe (.node c v lo hi) = some v ∧ Gen.BddCore.ptrVar (.node c v lo hi) = some v := by
  rw [ptrLowRaw_tie, ptrHighRaw_tie, ptrIsNeg_tie, ptrLow_tie, ptrHigh_tie, ptrIsTrue_tie, ptrIsFalse_tie, ptrVarSafe_tie, ptrVar_tie]
  cases c <;> simp [Bdd.Ptr.isNeg, Bdd.Ptr.isTrue, Bdd.Ptr.isFalse, Bdd.Ptr.top?]

end TieBddCore

#print axioms TieBddCore.mkNode_tie
#print axioms TieBddCore.condEssential_tie
#print axioms TieBddCore.orderLt_tie
#print axioms TieBddCore.orderGet_tie
#print axioms TieBddCore.first_tie
#print axioms TieBddCore.firstEssential_tie
#print axioms TieBddCore.ordP_tie
#print axioms TieBddCore.cacheGetAll_tie
#print axioms TieBddCore.cacheGetLru_tie
#print axioms TieBddCore.cacheInsertAll_tie
#print axioms TieBddCore.cacheInsertLru_tie
#print axioms TieBddCore.ite_tie
#print axioms TieBddCore.condWithAlloc_tie
#print axioms TieBddCore.condHelper_tie
#print axioms TieBddCore.condition_tie
#print axioms TieBddCore.condModelH_loop_tie
#print axioms TieBddCore.condModelH_tie
#print axioms TieBddCore.bNegate_tie
#print axioms TieBddCore.mkVar_tie
#print axioms TieBddCore.bAnd_tie
#print axioms TieBddCore.bIff_tie
#print axioms TieBddCore.bXor_tie
#print axioms TieBddCore.bOr_tie
#print axioms TieBddCore.bExists_tie
#print axioms TieBddCore.bCompose_tie
#print axioms TieBddCore.bAndLst_loop_tie
#print axioms TieBddCore.bAndLst_tie
#print axioms TieBddCore.bOrLst_loop_tie
#print axioms TieBddCore.bOrLst_tie
#print axioms TieBddCore.orderVarAt_tie
#print axioms TieBddCore.smoothHelper_aux
#print axioms TieBddCore.smoothHelper_tie
#print axioms TieBddCore.smooth_tie
#print axioms TieBddCore.ptrNeg_tie
#print axioms TieBddCore.ptrIsNeg_tie
#print axioms TieBddCore.ptrIsTrue_tie
#print axioms TieBddCore.ptrIsFalse_tie
#print axioms TieBddCore.ptrVarSafe_tie
#print axioms TieBddCore.ptrVar_tie
#print axioms TieBddCore.ptrLowRaw_tie
#print axioms TieBddCore.ptrHighRaw_tie
#print axioms TieBddCore.ptrLow_tie
#print axioms TieBddCore.ptrHigh_tie
#print axioms TieBddCore.accessors_on_node
