import RsddModel.Props.TieTables
import RsddModel.Lemmas.TieTablesAux
import RsddModel.Props.C02Table
import RsddModel.Props.C16
/-!
# Source-level corollaries (translator route): the two hash tables

The key theorems of `Props/C02Table.lean` (robin-hood unique table) and `Props/C16.lean` (lossy
cache `Lru`) restated for the definitions REGENERATED from the Rust text
(`Model/GenTables.lean`, rewritten by `tools/gen_tables.py` on every run).  Every proof rewrites
with the tie theorems of `Props/TieTables.lean` and `exact`s the existing theorem about the
hand-written model; nothing is re-proved.  So the properties are statements about what the
source says now (under the trusted mapping in the header of `tools/gen_tables.py`).

Reading of the statements
* the Rust `get_or_insert_by_hash` returns the table and the arena index only (no "was a hit"
  flag): "hit" is read off the tied components (`k ∈ ks`, arena unchanged).
* `equality_by_hash = false`, `extra = 0` (the model's default fuel), `hashOf k` passed for `k`.
* `Lru::insert` is open in the `grow` it calls (mutual recursion in the Rust).  The theorems
  hold for every partner `g` with `GrowOK hashOf g` (`g` agrees with the model's `grow` on tables
  satisfying the slot invariant); `growOK_gen` / `growOK_rust` show that the regenerated `grow`
  is such a partner — with inner insertions `insertNoGrow` unconditionally, and with the
  regenerated full `insert` as inner insertion when `GROW_RATIO = num/den ≥ 1/2`.
-/
namespace TieTablesSource
open TieTables

/-! ## `src/backing_store/bump_table.rs` -/

/-- one call `get_or_insert_by_hash(hashOf k, k, false)` of the regenerated code: the new table -/
def step (num den : Nat) (hashOf : Nat → Nat) (t : RH.Tbl) (k : Nat) : RH.Tbl :=
  (Gen.RH.getOrInsertByHash num den 0 t (hashOf k) k false).1

/-- the table after a history of calls of the regenerated `get_or_insert_by_hash` -/
def run (num den : Nat) (hashOf : Nat → Nat) (t : RH.Tbl) (ks : List Nat) : RH.Tbl :=
  ks.foldl (step num den hashOf) t

/-- the regenerated call, as the triple of the model with its hit flag -/
theorem goi_eq (num den : Nat) (t : RH.Tbl) (h k : Nat) :
    Gen.RH.getOrInsertByHash num den 0 t h k false
      = ((RH.getOrInsert ⟨num, den⟩ t h k).1, (RH.getOrInsert ⟨num, den⟩ t h k).2.1) :=
  rh_getOrInsertByHash num den 0 t h k

/-- a history through the regenerated code is a history through the model -/
theorem run_eq (num den : Nat) (hashOf : Nat → Nat) (t : RH.Tbl) (ks : List Nat) :
    run num den hashOf t ks = RH.run ⟨num, den⟩ hashOf t ks := by
  induction ks generalizing t with
  | nil => rfl
  | cons k ks ih =>
    simp only [run, RH.run, List.foldl_cons] at ih ⊢
    have : step num den hashOf t k = RH.step ⟨num, den⟩ hashOf t k := by
      simp only [step, RH.step, goi_eq]
    rw [this]; exact ih _

/-- **the regenerated `get_or_insert_by_hash` refines find-or-insert on an append-only set across
growth** (source form of `C02Table.table_refines_set`): after any history on a fresh table the
returned index holds `k`; a call for a key asked before changes nothing in the arena, a call for a
new key appends exactly `k` at the returned index; the arena only grows at the end; the key set
is `ks ∪ {k}`; the table invariant holds -/
theorem table_refines_set_source (hashOf : Nat → Nat) {num den : Nat}
    (hlf : (⟨num, den⟩ : RH.LoadFactor).Valid) {cap : Nat} (hc : 0 < cap) (ks : List Nat) (k : Nat) :
    let prev := run num den hashOf (Gen.RH.verifWithCapacity cap) ks
    let r := Gen.RH.getOrInsertByHash num den 0 prev (hashOf k) k false
    r.1.keys[r.2]? = some k ∧
    (k ∈ ks → r.1.keys = prev.keys) ∧
    (k ∉ ks → r.1.keys = prev.keys ++ [k] ∧ r.2 = prev.keys.length) ∧
    prev.keys <+: r.1.keys ∧
    (∀ k', k' ∈ r.1.keys ↔ k' ∈ ks ∨ k' = k) ∧
    RH.RHInv hashOf r.1 := by
  intro prev r
  have hp : prev = RH.run ⟨num, den⟩ hashOf (RH.mk cap) ks := by
    show run num den hashOf (Gen.RH.verifWithCapacity cap) ks = _
    rw [run_eq, rh_verifWithCapacity]
  have hr : r = ((RH.getOrInsert ⟨num, den⟩ prev (hashOf k) k).1,
      (RH.getOrInsert ⟨num, den⟩ prev (hashOf k) k).2.1) := goi_eq ..
  rw [hr, hp]
  rcases hgo : RH.getOrInsert ⟨num, den⟩ (RH.run ⟨num, den⟩ hashOf (RH.mk cap) ks) (hashOf k) k with ⟨t', i, found⟩
  obtain ⟨h1, h2, h3, h4, h5, h6, h7⟩ := C02Table.table_refines_set hashOf hlf hc ks k hgo
  refine ⟨h2, fun hk => h3 (h1.2 hk), fun hk => h4 ?_, h5, h6, h7⟩
  cases found with
  | false => rfl
  | true => exact absurd (h1.1 rfl) hk

/-- the same from the table `new()` builds (`DEFAULT_SIZE` slots, as the source says now) -/
theorem table_refines_set_source_new (hashOf : Nat → Nat) {num den : Nat}
    (hlf : (⟨num, den⟩ : RH.LoadFactor).Valid) (ks : List Nat) (k : Nat) :
    let prev := run num den hashOf Gen.RH.new ks
    let r := Gen.RH.getOrInsertByHash num den 0 prev (hashOf k) k false
    r.1.keys[r.2]? = some k ∧ (k ∈ ks → r.1.keys = prev.keys) ∧
    (k ∉ ks → r.1.keys = prev.keys ++ [k] ∧ r.2 = prev.keys.length) ∧
    (∀ k', k' ∈ r.1.keys ↔ k' ∈ ks ∨ k' = k) := by
  have h := table_refines_set_source hashOf hlf (cap := 131072) (by decide) ks k
  have e : Gen.RH.verifWithCapacity 131072 = Gen.RH.new := by
    rw [rh_verifWithCapacity, rh_new]
  rw [e] at h
  exact ⟨h.1, h.2.1, h.2.2.1, h.2.2.2.2.1⟩

/-- **no duplicates, ever** (source form of `C02Table.table_no_duplicates`): after any history
through the regenerated code the arena holds pairwise distinct keys, exactly the keys asked for,
and `len` counts them -/
theorem table_no_duplicates_source (hashOf : Nat → Nat) {num den : Nat}
    (hlf : (⟨num, den⟩ : RH.LoadFactor).Valid) {cap : Nat} (hc : 0 < cap) (ks : List Nat) :
    (run num den hashOf (Gen.RH.verifWithCapacity cap) ks).keys.Nodup ∧
    (∀ k, k ∈ (run num den hashOf (Gen.RH.verifWithCapacity cap) ks).keys ↔ k ∈ ks) ∧
    (run num den hashOf (Gen.RH.verifWithCapacity cap) ks).len
      = (run num den hashOf (Gen.RH.verifWithCapacity cap) ks).keys.length := by
  rw [run_eq, rh_verifWithCapacity]
  exact C02Table.table_no_duplicates hashOf hlf hc ks

/-- **indices are stable** (source form of `C02Table.table_index_stable`): the index the
regenerated code returns for `k` at any point of a history is returned again by every later call
for `k`, whatever happened in between (including growths) -/
theorem table_index_stable_source (hashOf : Nat → Nat) {num den : Nat}
    (hlf : (⟨num, den⟩ : RH.LoadFactor).Valid) {cap : Nat} (hc : 0 < cap) (ks₁ ks₂ : List Nat) (k : Nat) :
    let r₁ := Gen.RH.getOrInsertByHash num den 0
      (run num den hashOf (Gen.RH.verifWithCapacity cap) ks₁) (hashOf k) k false
    (Gen.RH.getOrInsertByHash num den 0 (run num den hashOf r₁.1 ks₂) (hashOf k) k false).2 = r₁.2 := by
  intro r₁
  have hr : r₁ = ((RH.getOrInsert ⟨num, den⟩ (RH.run ⟨num, den⟩ hashOf (RH.mk cap) ks₁) (hashOf k) k).1,
      (RH.getOrInsert ⟨num, den⟩ (RH.run ⟨num, den⟩ hashOf (RH.mk cap) ks₁) (hashOf k) k).2.1) := by
    show Gen.RH.getOrInsertByHash _ _ _ _ _ _ _ = _
    rw [goi_eq, run_eq, rh_verifWithCapacity]
  rw [hr, goi_eq, run_eq]
  rcases hgo : RH.getOrInsert ⟨num, den⟩ (RH.run ⟨num, den⟩ hashOf (RH.mk cap) ks₁) (hashOf k) k with ⟨t₁, i, b⟩
  dsimp only
  rw [C02Table.table_index_stable hashOf hlf hc ks₁ ks₂ k hgo]

/-- **the regenerated `grow` preserves the table** (source form of `RH.grow_preserves`): invariant,
arena and `len` are kept, the capacity strictly increases -/
theorem grow_preserves_source {hashOf : Nat → Nat} {t : RH.Tbl} (h : RH.RHInv hashOf t) (extra : Nat) :
    RH.RHInv hashOf (Gen.RH.grow extra t) ∧ (Gen.RH.grow extra t).keys = t.keys ∧
    (Gen.RH.grow extra t).len = t.len ∧ t.cap < (Gen.RH.grow extra t).cap := by
  rw [rh_grow]
  exact RH.grow_preserves h extra

/-- **the regenerated `grow` keeps every entry findable**: a key stored at arena index `i` is
found again, at the same index and without allocation, by the regenerated
`get_or_insert_by_hash` on the grown table -/
theorem grow_keeps_findable_source {hashOf : Nat → Nat} {num den : Nat}
    (hlf : (⟨num, den⟩ : RH.LoadFactor).Valid) {t : RH.Tbl} (h : RH.RHInv hashOf t) (extra : Nat)
    {i k : Nat} (hik : t.keys[i]? = some k) :
    (Gen.RH.getOrInsertByHash num den 0 (Gen.RH.grow extra t) (hashOf k) k false).2 = i ∧
    (Gen.RH.getOrInsertByHash num den 0 (Gen.RH.grow extra t) (hashOf k) k false).1.keys = t.keys := by
  rw [goi_eq, rh_grow]
  obtain ⟨g1, g2, _, _⟩ := RH.grow_preserves h extra
  rcases hgo : RH.getOrInsert ⟨num, den⟩ (RH.grow t extra) (hashOf k) k with ⟨t', j, found⟩
  obtain ⟨h1, sp⟩ := RH.getOrInsert_spec hlf g1 (extra := 0) hgo
  have hmem : k ∈ (RH.grow t extra).keys := by rw [g2]; exact List.mem_iff_getElem?.2 ⟨i, hik⟩
  have hk := (sp.hit_keys (sp.found_iff.2 hmem)).1
  refine ⟨?_, by rw [hk, g2]⟩
  have hidx := sp.index
  rw [hk, g2] at hidx
  exact RH.nodup_index_inj h.nodup hidx hik

/-- **the regenerated `get_by_hash`** (source form of `RH.getByHash_spec`): it only bumps `hits`,
what it returns is the index of a key with that hash, and it returns nothing iff no stored key has
that hash -/
theorem getByHash_spec_source {hashOf : Nat → Nat} {t : RH.Tbl} (h : RH.RHInv hashOf t)
    (hlt : t.len < t.cap) (hash extra : Nat) :
    ((Gen.RH.getByHash extra t hash).1 = t ∨ (Gen.RH.getByHash extra t hash).1 = RH.hit t) ∧
    (∀ i, (Gen.RH.getByHash extra t hash).2 = some i → ∃ k, t.keys[i]? = some k ∧ hashOf k = hash) ∧
    ((Gen.RH.getByHash extra t hash).2 = none ↔ ∀ k ∈ t.keys, hashOf k ≠ hash) := by
  rw [rh_getByHash]
  obtain ⟨a, b, c, _⟩ := RH.getByHash_spec h hlt hash extra
  exact ⟨a, b, c⟩

/-! ## `src/util/lru.rs` -/

section lru
variable {K V : Type}

/-- a `grow` that `Lru::insert` may be linked with: it agrees with the model's `grow` on every
table satisfying the slot invariant -/
def GrowOK (hashOf : K → Nat) (g : Lru.Tbl K V → Lru.Tbl K V) : Prop :=
  ∀ t, Lru.Inv hashOf t → g t = Lru.grow t

/-- the regenerated `grow` (inner insertions by `insertNoGrow`) is such a partner -/
theorem growOK_gen (hashOf : K → Nat) : GrowOK hashOf (Gen.Lru.grow (K := K) (V := V) Lru.insertNoGrow) :=
  fun t _ => by rw [lru_grow]

/-- the regenerated `grow` whose inner insertions are the regenerated full `insert` (as the Rust
says) is such a partner when `GROW_RATIO = num/den ≥ 1/2` -/
theorem growOK_rust (hashOf : K → Nat) {num den : Nat} (hr : den ≤ 2 * num) :
    GrowOK hashOf (Gen.Lru.grow (K := K) (V := V) (Gen.Lru.insert num den Lru.grow)) :=
  fun _ hi => TieTablesAux.lru_grow_knot hr hi.1

/-- the table after a history of regenerated `insert`s into the table `Lru::new(cap)` builds -/
def lruRun (hashOf : K → Nat) (num den : Nat) (g : Lru.Tbl K V → Lru.Tbl K V) (cap : Nat)
    (ops : List (K × V)) : Lru.Tbl K V :=
  ops.foldl (fun t kv => Gen.Lru.insert num den g t kv.1 kv.2 (hashOf kv.1)) (Gen.Lru.new cap)

/-- a history through the regenerated code is a history through the model -/
theorem lruRun_eq (hashOf : K → Nat) (num den : Nat) {g : Lru.Tbl K V → Lru.Tbl K V}
    (hg : GrowOK hashOf g) (cap : Nat) (ops : List (K × V)) :
    lruRun hashOf num den g cap ops = Lru.run hashOf num den cap ops := by
  have key : ∀ (ops : List (K × V)) (t : Lru.Tbl K V), Lru.Inv hashOf t →
      ops.foldl (fun t kv => Gen.Lru.insert num den g t kv.1 kv.2 (hashOf kv.1)) t
        = Lru.runFrom hashOf num den t ops := by
    intro ops
    induction ops with
    | nil => intro t _; rfl
    | cons kv ops ih =>
      intro t hi
      have e : Gen.Lru.insert num den g t kv.1 kv.2 (hashOf kv.1)
          = Lru.insert num den t kv.1 kv.2 (hashOf kv.1) := by
        rw [lru_insert, hg t hi]; rfl
      simp only [List.foldl_cons, Lru.runFrom, e]
      exact ih _ (Lru.inv_insert num den hi kv.1 kv.2)
  show List.foldl _ (Gen.Lru.new cap) ops = _
  rw [lru_new]
  exact key ops _ (Lru.inv_new hashOf cap)

variable [DecidableEq K]

/-- **the regenerated `Lru::insert`/`get` are lawful** (source form of `C16.lru_lawful`): after
any history a `get` returns nothing or the value most recently inserted under exactly that key -/
theorem lru_lawful_source (hashOf : K → Nat) (num den : Nat) {g : Lru.Tbl K V → Lru.Tbl K V}
    (hg : GrowOK hashOf g) (cap : Nat) (ops : List (K × V)) (k : K) :
    Gen.Lru.get (lruRun hashOf num den g cap ops) k (hashOf k) = none ∨
    Gen.Lru.get (lruRun hashOf num den g cap ops) k (hashOf k) = Lru.lastInserted ops k := by
  rw [lruRun_eq hashOf num den hg, lru_get]
  exact C16.lru_lawful hashOf num den cap ops k

/-- **never a foreign or outdated value** (source form of `C16.lru_never_foreign`): what the
regenerated `get k` returns is the value of a pair `(k, v)` of the history after which no
insertion under `k` occurs -/
theorem lru_never_foreign_source (hashOf : K → Nat) (num den : Nat) {g : Lru.Tbl K V → Lru.Tbl K V}
    (hg : GrowOK hashOf g) (cap : Nat) (ops : List (K × V)) (k : K) (v : V)
    (h : Gen.Lru.get (lruRun hashOf num den g cap ops) k (hashOf k) = some v) :
    ∃ pre post, ops = pre ++ (k, v) :: post ∧ ∀ kv ∈ post, kv.1 ≠ k := by
  rw [lruRun_eq hashOf num den hg, lru_get] at h
  exact C16.lru_never_foreign hashOf num den cap ops k v h

/-- the raw API (source form of `C16.lru_never_foreign_raw`): on any table and for any hash the
regenerated `get` returns the value of an element stored under the asked key -/
theorem lru_never_foreign_raw_source (t : Lru.Tbl K V) (k : K) (h : Nat) (v : V)
    (hg : Gen.Lru.get t k h = some v) : ∃ e, some e ∈ t.tbl ∧ e.key = k ∧ e.val = v := by
  rw [lru_get] at hg
  exact C16.lru_never_foreign_raw t k h v hg

/-- **growth loses nothing and confuses nothing** (source form of `C16.lru_grow_keeps`), for the
regenerated `grow` with any inner insertion that makes it a `GrowOK` partner -/
theorem lru_grow_keeps_source (hashOf : K → Nat) {g : Lru.Tbl K V → Lru.Tbl K V} (hg : GrowOK hashOf g)
    (t : Lru.Tbl K V) (hi : Lru.Inv hashOf t) (k : K) :
    Gen.Lru.get (g t) k (hashOf k) = Gen.Lru.get t k (hashOf k) ∧ Lru.Inv hashOf (g t) := by
  rw [hg t hi, lru_get]
  exact C16.lru_grow_keeps hashOf t hi k

/-- `lru_grow_keeps_source` for the regenerated `grow` as the Rust says it (inner insertions by the
regenerated full `insert`), `GROW_RATIO = num/den ≥ 1/2` -/
theorem lru_grow_keeps_source_rust (hashOf : K → Nat) {num den : Nat} (hr : den ≤ 2 * num)
    (t : Lru.Tbl K V) (hi : Lru.Inv hashOf t) (k : K) :
    Gen.Lru.get (Gen.Lru.grow (Gen.Lru.insert num den Lru.grow) t) k (hashOf k)
      = Gen.Lru.get t k (hashOf k) ∧
    Lru.Inv hashOf (Gen.Lru.grow (Gen.Lru.insert num den Lru.grow) t) :=
  lru_grow_keeps_source hashOf (growOK_rust hashOf hr) t hi k

/-- the history theorem with the constant of the source (`GROW_RATIO = 7/10`) and the regenerated
`grow` as the Rust says it as partner of the regenerated `insert` -/
theorem lru_lawful_source_7_10 (hashOf : K → Nat) (cap : Nat) (ops : List (K × V)) (k : K) :
    let g := Gen.Lru.grow (K := K) (V := V) (Gen.Lru.insert 7 10 Lru.grow)
    Gen.Lru.get (lruRun hashOf 7 10 g cap ops) k (hashOf k) = none ∨
    Gen.Lru.get (lruRun hashOf 7 10 g cap ops) k (hashOf k) = Lru.lastInserted ops k :=
  lru_lawful_source hashOf 7 10 (growOK_rust hashOf (by decide)) cap ops k

end lru

end TieTablesSource

#print axioms TieTablesSource.run_eq
#print axioms TieTablesSource.table_refines_set_source
#print axioms TieTablesSource.table_refines_set_source_new
#print axioms TieTablesSource.table_no_duplicates_source
#print axioms TieTablesSource.table_index_stable_source
#print axioms TieTablesSource.grow_preserves_source
#print axioms TieTablesSource.grow_keeps_findable_source
#print axioms TieTablesSource.getByHash_spec_source
#print axioms TieTablesSource.growOK_gen
#print axioms TieTablesSource.growOK_rust
#print axioms TieTablesSource.lruRun_eq
#print axioms TieTablesSource.lru_lawful_source
#print axioms TieTablesSource.lru_never_foreign_source
#print axioms TieTablesSource.lru_never_foreign_raw_source
#print axioms TieTablesSource.lru_grow_keeps_source
#print axioms TieTablesSource.lru_grow_keeps_source_rust
#print axioms TieTablesSource.lru_lawful_source_7_10
