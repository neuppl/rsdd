import RsddModel.Model.BddCompile
import RsddModel.Model.BddCaches
import RsddModel.Lemmas.BddCompile
/-!
# C05 (BDD half) — bottom-up compilation yields a diagram whose models are exactly the satisfying
assignments of the input

Property theorems only; the work is in `Lemmas/BddCompile` (generic in the record of builder
operations, so the SDD half can reuse it by supplying an `OpsSpec`), on top of `Lemmas/BddSem`,
`Lemmas/BddWF`, `Lemmas/BddCanon`.

Everything is partial correctness (`… = some (s', r) → …`) for EVERY lawful apply cache
`C : CacheImpl`, EVERY injective level map `lvl` (variable order) and EVERY fuel, from ANY builder
state satisfying the invariant `CInv` (cache sound and well formed; the fresh builder satisfies
it, `cinv_empty`), and the invariant is re-established, so compilations can be chained with any
other builder calls.

* `compileCnf_correct` — `compile_cnf`, for EVERY permutation `cs'` of the clause list `cs` (the
  Rust's `sort_by` comparator is not a total order; nothing is assumed about the permutation):
  the result is well formed and its models are the satisfying assignments of `cs`.  No
  hypothesis on `cs`: the empty formula, empty clauses, unit clauses, clauses with repeated and
  with complementary literals are covered (`compileCnf_models` spells the semantics out;
  `compileCnf_raw_correct` starts from the clause list BEFORE the `Cnf::new` normalisation);
* `compileWithAssign_correct` — `compile_cnf_with_assignments`, for EVERY merge strategy (the
  `BinaryHeap` is ordered by size only; ties are broken by its array layout): the result denotes
  the CNF conditioned on the literals of the partial model;
* `compileWithAssign_eq_condition` — it is THE SAME DIAGRAM (`=`) as `condition_model` applied
  to `compile_cnf`, for every two builders (caches, fuels, starting states), every clause
  permutation, every merge strategy and every listing `lits` of the model's literals
  (`compileWithAssign_eq_condition_vec`: in particular `assignment_iter` of a model given as a
  vector).  Variable ranges: the level map is a total function here, so no range hypothesis is
  needed in the model; the single link between the two sides is `Represents lits m` (the literal
  list and the partial model assign exactly the same variables the same values).  A label beyond
  the vector `m` is unassigned (`pmodelOfList`), as `PartialModel::get` answers.  In the Rust
  every label must in addition be smaller than the order's length, else `var_to_pos[..]` panics;
* `compileExpr_correct`, `compilePlan_correct` — `compile_logical_expr`, `compile_plan`;
* `planFromDtree_sem`, `compileDtree_correct`, `compileDtree_eq_compileCnf` — the plan of ANY
  dtree denotes the conjunction of its leaf clauses, so compiling it gives the models of that
  CNF, and the same diagram as `compile_cnf` of any CNF with the same clauses up to order.
* `…_total` (in `Lemmas/BddCompile`): the extra recursion bounds of the model (`collapse`,
  `mergeLoop`) and the modelled panics (`lit_vec[0]`, `pop().unwrap()`) are never the reason for
  `none`: if `and`/`or` return, so do `compile_cnf` and `compile_cnf_with_assignments`.
-/
namespace Bdd
open Spec Compile

section props
variable (C : CacheImpl) (lvl : Nat → Nat) (inj : ∀ x y, lvl x = lvl y → x = y) (fuel : Nat)
include inj

/-! ## `compile_cnf` -/

/-- **C05, CNF**: for every permutation `cs'` of the clauses that `sort_by` may produce -/
theorem compileCnf_correct {cs cs' : Cnf} (hperm : List.Perm cs cs') {s s' : C.σ} {r : Ptr}
    (hinv : CInv C lvl s) (h : compileCnf (ops C lvl fuel) s cs' = some (s', r)) :
    CInv C lvl s' ∧ WF lvl r ∧ ∀ a, r.eval a = cnfSat a cs :=
  (compileCnf_ok (bddSpec C lvl inj fuel) hperm hinv fun _ _ _ _ => trivial).out_den h

/-- the semantics spelled out: `a` is a model of the diagram iff every clause has a literal that
`a` makes true (an empty clause has none, the empty formula has no clause) -/
theorem compileCnf_models {cs cs' : Cnf} (hperm : List.Perm cs cs') {s s' : C.σ} {r : Ptr}
    (hinv : CInv C lvl s) (h : compileCnf (ops C lvl fuel) s cs' = some (s', r)) (a : Assign) :
    r.eval a = true ↔ ∀ c ∈ cs, ∃ l ∈ c, a l.var = l.pol := by
  rw [(compileCnf_correct C lvl inj fuel hperm hinv h).2.2 a]
  simp [cnfSat, clauseSat, litSat]

/-- with the permutation the current `std` produces (stable sort by the level of the last
literal) -/
theorem compileCnf_sorted_correct {cs : Cnf} {s s' : C.σ} {r : Ptr} (hinv : CInv C lvl s)
    (h : compileCnf (ops C lvl fuel) s (sortClauses lvl cs) = some (s', r)) :
    CInv C lvl s' ∧ WF lvl r ∧ ∀ a, r.eval a = cnfSat a cs :=
  compileCnf_correct C lvl inj fuel (sortClauses_perm lvl cs) hinv h

/-- from the clause list handed to `Cnf::new` (per-clause stable sort by label and `dedup`) -/
theorem compileCnf_raw_correct {raw : List Clause} {cs' : Cnf} (hperm : List.Perm (cnfNew raw) cs')
    {s s' : C.σ} {r : Ptr} (hinv : CInv C lvl s)
    (h : compileCnf (ops C lvl fuel) s cs' = some (s', r)) :
    CInv C lvl s' ∧ WF lvl r ∧ ∀ a, r.eval a = cnfSat a raw := by
  obtain ⟨h1, h2, h3⟩ := compileCnf_correct C lvl inj fuel hperm hinv h
  exact ⟨h1, h2, fun a => by rw [h3 a, cnfSat_cnfNew]⟩

/-- the clause permutation does not change the diagram -/
theorem compileCnf_perm_irrelevant {cs cs₁ cs₂ : Cnf} (p₁ : List.Perm cs cs₁)
    (p₂ : List.Perm cs cs₂) {s₁ s₁' s₂ s₂' : C.σ} {r₁ r₂ : Ptr} (i₁ : CInv C lvl s₁)
    (i₂ : CInv C lvl s₂) (h₁ : compileCnf (ops C lvl fuel) s₁ cs₁ = some (s₁', r₁))
    (h₂ : compileCnf (ops C lvl fuel) s₂ cs₂ = some (s₂', r₂)) : r₁ = r₂ := by
  obtain ⟨_, w₁, e₁⟩ := compileCnf_correct C lvl inj fuel p₁ i₁ h₁
  obtain ⟨_, w₂, e₂⟩ := compileCnf_correct C lvl inj fuel p₂ i₂ h₂
  exact (canon lvl inj w₁ w₂).1 fun a => by rw [e₁ a, e₂ a]

/-! ## `compile_cnf_with_assignments` -/

/-- **C05, CNF under a partial model**, for EVERY merge strategy: the result denotes the CNF
conditioned on the model's literals -/
theorem compileWithAssign_correct (strat : Strategy Ptr) {m : PModel} {lits : List (Nat × Bool)}
    (hr : Represents lits m) {cs : Cnf} {s s' : C.σ} {r : Ptr} (hinv : CInv C lvl s)
    (h : compileWithAssign (ops C lvl fuel) strat m s cs = some (s', r)) :
    CInv C lvl s' ∧ WF lvl r ∧ den r = fCondList (cnfFn cs) lits := by
  obtain ⟨h1, h2, h3⟩ :=
    (compileWithAssign_ok (bddSpec C lvl inj fuel) strat m hinv fun _ _ _ _ => trivial).out h
  refine ⟨h1, h2, ?_⟩
  rw [fCondList_represents hr]; exact h3

/-- pointwise: the diagram's value at `a` is the CNF's value at `a` overridden by the model -/
theorem compileWithAssign_eval (strat : Strategy Ptr) (m : PModel) {cs : Cnf} {s s' : C.σ}
    {r : Ptr} (hinv : CInv C lvl s)
    (h : compileWithAssign (ops C lvl fuel) strat m s cs = some (s', r)) (a : Assign) :
    r.eval a = cnfSat (fun x => (m x).getD (a x)) cs := by
  obtain ⟨_, _, h3⟩ :=
    (compileWithAssign_ok (bddSpec C lvl inj fuel) strat m hinv fun _ _ _ _ => trivial).out h
  exact congrFun h3 a

end props

/-- **C05: compiling under a partial assignment gives the SAME diagram as compiling and then
conditioning** — for any two builders (caches `C₁ C₂`, fuels, starting states), any clause
permutation `cs'` used by `compile_cnf`, any merge strategy, and any list `lits` of exactly the
model's literals (in any order, `condition_model` conditions on them left to right) -/
theorem compileWithAssign_eq_condition (C₁ C₂ : CacheImpl) (lvl : Nat → Nat)
    (inj : ∀ x y, lvl x = lvl y → x = y) (fuel₁ fuel₂ : Nat) (strat : Strategy Ptr)
    {m : PModel} {lits : List (Nat × Bool)} (hr : Represents lits m)
    {cs cs' : Cnf} (hperm : List.Perm cs cs')
    {s₁ s₁' : C₁.σ} {s₂ s₂' : C₂.σ} {r₁ r₂ : Ptr} (i₁ : CInv C₁ lvl s₁) (i₂ : CInv C₂ lvl s₂)
    (h₁ : compileCnf (ops C₁ lvl fuel₁) s₁ cs' = some (s₁', r₁))
    (h₂ : compileWithAssign (ops C₂ lvl fuel₂) strat m s₂ cs = some (s₂', r₂)) :
    r₂ = condModel lvl r₁ lits := by
  obtain ⟨_, w₁, e₁⟩ := compileCnf_correct C₁ lvl inj fuel₁ hperm i₁ h₁
  obtain ⟨_, w₂, e₂⟩ := compileWithAssign_correct C₂ lvl inj fuel₂ strat hr i₂ h₂
  have wc : WF lvl (condModel lvl r₁ lits) := condModel_WF lvl lits w₁
  have ec : den (condModel lvl r₁ lits) = fCondList (cnfFn cs) lits := by
    rw [condModel_sem lits w₁.1]
    congr 1
    funext a; exact e₁ a
  exact (canon lvl inj w₂ wc).1 fun a => by
    have := congrFun (e₂.trans ec.symm) a
    simpa [den] using this

/-- the same for a partial model given as a vector indexed by label and the literal order of
`PartialModel::assignment_iter` (false literals ascending, then true literals ascending) -/
theorem compileWithAssign_eq_condition_vec (C₁ C₂ : CacheImpl) (lvl : Nat → Nat)
    (inj : ∀ x y, lvl x = lvl y → x = y) (fuel₁ fuel₂ : Nat) (strat : Strategy Ptr)
    (m : List (Option Bool)) {cs cs' : Cnf} (hperm : List.Perm cs cs')
    {s₁ s₁' : C₁.σ} {s₂ s₂' : C₂.σ} {r₁ r₂ : Ptr} (i₁ : CInv C₁ lvl s₁) (i₂ : CInv C₂ lvl s₂)
    (h₁ : compileCnf (ops C₁ lvl fuel₁) s₁ cs' = some (s₁', r₁))
    (h₂ : compileWithAssign (ops C₂ lvl fuel₂) strat (pmodelOfList m) s₂ cs = some (s₂', r₂)) :
    r₂ = condModel lvl r₁ (assignmentIter m) :=
  compileWithAssign_eq_condition C₁ C₂ lvl inj fuel₁ fuel₂ strat (assignmentIter_represents m)
    hperm i₁ i₂ h₁ h₂

/-- the merge order does not change the diagram -/
theorem compileWithAssign_strategy_irrelevant (C : CacheImpl) (lvl : Nat → Nat)
    (inj : ∀ x y, lvl x = lvl y → x = y) (fuel : Nat) (strat₁ strat₂ : Strategy Ptr) (m : PModel)
    {cs : Cnf} {s₁ s₁' s₂ s₂' : C.σ} {r₁ r₂ : Ptr} (i₁ : CInv C lvl s₁) (i₂ : CInv C lvl s₂)
    (h₁ : compileWithAssign (ops C lvl fuel) strat₁ m s₁ cs = some (s₁', r₁))
    (h₂ : compileWithAssign (ops C lvl fuel) strat₂ m s₂ cs = some (s₂', r₂)) : r₁ = r₂ := by
  obtain ⟨_, w₁, e₁⟩ :=
    (compileWithAssign_ok (bddSpec C lvl inj fuel) strat₁ m i₁ fun _ _ _ _ => trivial).out h₁
  obtain ⟨_, w₂, e₂⟩ :=
    (compileWithAssign_ok (bddSpec C lvl inj fuel) strat₂ m i₂ fun _ _ _ _ => trivial).out h₂
  exact (canon lvl inj w₁ w₂).1 fun a => congrFun (e₁.trans e₂.symm) a

section props
variable (C : CacheImpl) (lvl : Nat → Nat) (inj : ∀ x y, lvl x = lvl y → x = y) (fuel : Nat)
include inj

/-! ## logical expressions and plans -/

/-- **C05, logical expressions** -/
theorem compileExpr_correct (e : LogicalExpr) {s s' : C.σ} {r : Ptr} (hinv : CInv C lvl s)
    (h : compileExpr (ops C lvl fuel) s e = some (s', r)) :
    CInv C lvl s' ∧ WF lvl r ∧ ∀ a, r.eval a = exprSem e a :=
  (compileExpr_ok (bddSpec C lvl inj fuel) e hinv (e.allVars_of_forall fun _ => trivial)).out_den h

/-- **C05, plans** -/
theorem compilePlan_correct (p : Plan) {s s' : C.σ} {r : Ptr} (hinv : CInv C lvl s)
    (h : compilePlan (ops C lvl fuel) s p = some (s', r)) :
    CInv C lvl s' ∧ WF lvl r ∧ ∀ a, r.eval a = planSem p a :=
  (compilePlan_ok (bddSpec C lvl inj fuel) p hinv (p.allVars_of_forall fun _ => trivial)).out_den h

omit inj in
/-- **the plan `from_dtree` builds denotes the conjunction of the leaf clauses**, for ANY dtree
(restated from `Compile.planFromDtree_sem`) -/
theorem planFromDtree_sem (t : DTree) : planSem (Plan.fromDtree t) = cnfFn t.clauses :=
  Compile.planFromDtree_sem t

/-- **C05, plan of a dtree**: the models of the diagram are the satisfying assignments of the
CNF formed by the dtree's leaves -/
theorem compileDtree_correct (t : DTree) {s s' : C.σ} {r : Ptr} (hinv : CInv C lvl s)
    (h : compilePlan (ops C lvl fuel) s (Plan.fromDtree t) = some (s', r)) :
    CInv C lvl s' ∧ WF lvl r ∧ ∀ a, r.eval a = cnfSat a t.clauses := by
  obtain ⟨h1, h2, h3⟩ := compilePlan_correct C lvl inj fuel _ hinv h
  exact ⟨h1, h2, fun a => by rw [h3 a, planFromDtree_sem]; rfl⟩

/-- hence, once the dtree's leaves are the clauses of `cs` up to order (proved with the dtree
model), compiling the plan and `compile_cnf` return the same diagram -/
theorem compileDtree_eq_compileCnf (t : DTree) {cs cs' : Cnf} (hleaves : List.Perm t.clauses cs)
    (hperm : List.Perm cs cs') {s₁ s₁' s₂ s₂' : C.σ} {r₁ r₂ : Ptr} (i₁ : CInv C lvl s₁)
    (i₂ : CInv C lvl s₂) (h₁ : compilePlan (ops C lvl fuel) s₁ (Plan.fromDtree t) = some (s₁', r₁))
    (h₂ : compileCnf (ops C lvl fuel) s₂ cs' = some (s₂', r₂)) : r₁ = r₂ := by
  obtain ⟨_, w₁, e₁⟩ := compileDtree_correct C lvl inj fuel t i₁ h₁
  obtain ⟨_, w₂, e₂⟩ := compileCnf_correct C lvl inj fuel hperm i₂ h₂
  exact (canon lvl inj w₁ w₂).1 fun a => by rw [e₁ a, e₂ a, cnfSat_perm a hleaves]

end props

/-! ## non-vacuity: the model returns on real inputs, edge cases included -/
section demo
open Ptr

private def L (v : Nat) (p : Bool) : Lit := ⟨v, p⟩
private def x0 : Ptr := node false 0 fls tru
private def x1 : Ptr := node false 1 fls tru

/-- the empty formula is `true`; a formula with an empty clause is `false` -/
example : runCompileCnf [0, 1, 2] [] 20 = some tru := by decide +kernel
example : runCompileCnf [0, 1, 2] [[L 0 true, L 1 false], [], [L 2 true]] 20 = some fls := by decide +kernel
/-- unit clauses; a repeated literal; complementary literals (a tautological clause) -/
example : runCompileCnf [0, 1, 2] [[L 0 true]] 20 = some x0 := by decide +kernel
example : runCompileCnf [0, 1, 2] [[L 1 true, L 1 false, L 1 true]] 20 = some tru := by decide +kernel
example : runCompileCnf [0, 1, 2] [[L 1 true, L 1 true], [L 0 true]] 20
    = some (node false 0 fls x1) := by decide +kernel
/-- contradictory units -/
example : runCompileCnf [0, 1, 2] [[L 0 true], [L 0 false]] 20 = some fls := by decide +kernel

/-- a four-clause CNF over three variables: `(x0 ∨ ¬x1) ∧ (x1 ∨ x2) ∧ (¬x2 ∨ ¬x0 ∨ x0) ∧ x1` -/
def demoCnf : Cnf :=
  [[L 0 true, L 1 false], [L 1 true, L 2 true, L 2 true], [L 2 false, L 0 false, L 0 true], [L 1 true]]

theorem demoCnf_run : runCompileCnf [0, 1, 2] demoCnf 20 = some (node false 0 fls x1) := by
  decide +kernel

/-- `= x0 ∧ x1`, under two different orders, and for a different clause permutation -/
example : runCompileCnf [0, 1, 2] demoCnf 20 = some (node false 0 fls x1) := demoCnf_run
example : runCompileCnf [1, 2, 0] demoCnf 20 = some (node false 1 fls x0) := by decide +kernel
example : runCompileCnfPermuted [0, 1, 2] demoCnf.reverse 20 = some (node false 0 fls x1) := by
  decide +kernel
/-- the stable sort by the level of the LAST literal really permutes (order `x1 < x2 < x0`) -/
example : sortClauses (lvlOfOrder [1, 2, 0]) demoCnf
    = [[L 0 true, L 1 false], [L 1 true], [L 1 true, L 2 true, L 2 true],
       [L 2 false, L 0 false, L 0 true]] := by decide +kernel

/-- compiling under `x1 = true` is compiling and then conditioning; both strategies agree -/
example : runCompileCnfWithAssign [0, 1, 2] demoCnf [none, some true, none] 20 = some x0 := by
  decide +kernel
example : runCompileThenCondition [0, 1, 2] demoCnf [none, some true, none] 20 = some x0 := by
  rw [runCompileThenCondition, demoCnf_run]; decide +kernel
example : (compileWithAssign (ops ListCache id 20) (fun _ => (3, 1)) (pmodelOfList [none, some true])
    ListCache.empty demoCnf).map (·.2) = some x0 := by decide +kernel
/-- every clause satisfied, and some clause falsified, by the partial model -/
example : runCompileCnfWithAssign [0, 1, 2] demoCnf [some true, some true, some false] 20
    = some tru := by decide +kernel
example : runCompileCnfWithAssign [0, 1, 2] demoCnf [some false, some true] 20 = some fls := by
  decide +kernel

/-- an expression with every constructor: `ite x0 (x1 ⊕ ¬x2) (x1 ⇔ ¬(x2 ∧ (x0 ∨ x2)))` -/
def demoExpr : LogicalExpr :=
  .ite (.lit 0 true) (.xor (.lit 1 true) (.lit 2 false))
    (.iff (.lit 1 true) (.not (.and (.lit 2 true) (.or (.lit 0 true) (.lit 2 true)))))

example : (runCompileExpr [0, 1, 2] demoExpr 20).isSome = true := by decide +kernel

/-- a dtree with an empty, a unit and a three-literal leaf -/
def demoDtree : DTree :=
  .node (.node (.leaf [L 0 true, L 1 false, L 2 true]) (.leaf [L 1 true])) (.leaf [L 2 false])

example : Plan.fromDtree demoDtree
    = .and (.and (.or (.or (.lit 0 true) (.lit 1 false)) (.lit 2 true)) (.lit 1 true))
        (.lit 2 false) := by decide +kernel
example : runCompileDtree [0, 1, 2] demoDtree 20
    = runCompileCnf [0, 1, 2] demoDtree.clauses 20 := by decide +kernel
example : runCompileDtree [0, 1, 2] (.node demoDtree (.leaf [])) 20 = some fls := by decide +kernel

theorem lvlOfOrder_012 : ∀ v, lvlOfOrder [0, 1, 2] v = v
  | 0 | 1 | 2 => rfl
  | v + 3 => by simp [lvlOfOrder, List.idxOf?, List.findIdx?, List.findIdx?.go]

/-- the hypotheses of the theorems are met: instances with the list cache and the linear order -/
example : ∃ r, runCompileCnf [0, 1, 2] demoCnf 20 = some r ∧ WF (lvlOfOrder [0, 1, 2]) r ∧
    ∀ a, r.eval a = cnfSat a demoCnf := by
  have hrun := demoCnf_run
  rw [runCompileCnf, Option.map_eq_some_iff] at hrun
  obtain ⟨⟨s', r⟩, h, _⟩ := hrun
  have inj : ∀ x y, lvlOfOrder [0, 1, 2] x = lvlOfOrder [0, 1, 2] y → x = y := by
    intro x y e; rwa [lvlOfOrder_012, lvlOfOrder_012] at e
  obtain ⟨_, w, e⟩ := compileCnf_sorted_correct ListCache _ inj 20 (cinv_empty _ _) h
  exact ⟨r, by rw [runCompileCnf, h]; rfl, w, e⟩

end demo

#print axioms compileCnf_correct
#print axioms compileCnf_models
#print axioms compileCnf_sorted_correct
#print axioms compileCnf_raw_correct
#print axioms compileCnf_perm_irrelevant
#print axioms compileWithAssign_correct
#print axioms compileWithAssign_eval
#print axioms compileWithAssign_eq_condition
#print axioms compileWithAssign_eq_condition_vec
#print axioms compileWithAssign_strategy_irrelevant
#print axioms compileExpr_correct
#print axioms compilePlan_correct
#print axioms planFromDtree_sem
#print axioms compileDtree_correct
#print axioms compileDtree_eq_compileCnf
end Bdd
