import RsddModel.Model.GenOptim
import RsddModel.Model.Optim
import RsddModel.Model.Semirings
/-!
# Tie to the source text (translator route): optimisation queries, `FiniteField::mul`, `Polynomial`

`RsddModel/Model/GenOptim.lean` is rewritten by `tools/gen_optim.py` from `src/repr/bdd.rs`,
`src/util/semirings/finitefield.rs` and `src/util/semirings/polynomial_semiring_implementation.rs`
on every run.  The theorems below state that the regenerated definitions ARE the hand-written model
definitions (`Optim.*`, `Sem.ffMul`, `Sem.poly*`) that C12 / C13 / C07 are about; they are re-checked
by the kernel on every run.  Each proof is `first | rfl | …`: `rfl` closes the literally equal translations and
the alias mode (a function outside the translator's grammar is generated as an alias of the model, status
`UNTRANSLATED`); the alternatives after it are extensional (unfold, push operations into `if`, split), so that a
re-arrangement of the source that leaves the function unchanged still checks, while a changed operand /
comparison / branch does not.

| Rust (`src/repr/bdd.rs`)  | generated                  | model                    |
|---------------------------|----------------------------|--------------------------|
| `marginal_map_eval`       | `Gen.Optim.marginalMapEval`| `Optim.marginalMapEval`  |
| `marginal_map_h`          | `Gen.Optim.marginalMapH`   | `Optim.marginalMapH`     |
| `marginal_map`            | `Gen.Optim.marginalMap`    | `Optim.marginalMap`      |
| `eu_ub`                   | `Gen.Optim.euUb`           | `Optim.euUb`             |
| `meu_h`                   | `Gen.Optim.meuH`           | `Optim.meuH`             |
| `meu`                     | `Gen.Optim.meu`            | `Optim.meu`              |
| `bb_ub`                   | `Gen.Optim.bbUb`           | `Optim.bbUb`             |
| `bb_h`                    | `Gen.Optim.bbH`            | `Optim.bbH` (`bbStep`)   |
| `bb`                      | `Gen.Optim.bb`             | `Optim.bb`               |
| `FiniteField::mul`        | `Gen.OptimSem.ffMul`, `ffMulLoop` | `Sem.ffMul`, `Sem.ffMulLoop` |
| `Polynomial::{zero,one,add,mul}` | `Gen.OptimSem.poly*` | `Sem.polyZero/One/Add/Mul` |
| `Add/Mul/Sub` of `ExpectedUtility`, `Complex`, `RealSemiring` | `Gen.OptimSem.eu*/cx*/real*` | `Sem.eu*/cx*/real*` |
-/
set_option linter.unusedSimpArgs false
set_option linter.unusedVariables false
namespace TieOptim
open Optim Sem

/-! ## rewriting helpers: an operation applied to an `if` is the `if` of the operations -/

theorem rat_mul_ite (c : Prop) [Decidable c] (a x y : Rat) :
    a * (if c then x else y) = if c then a * x else a * y := by split <;> rfl
theorem ops_mul_ite {α : Type} (B : BBOps α) (c : Prop) [Decidable c] (a x y : α) :
    B.mul a (if c then x else y) = if c then B.mul a x else B.mul a y := by split <;> rfl
theorem eu_mul_ite (c : Prop) [Decidable c] (a x y : EU) :
    euMul a (if c then x else y) = if c then euMul a x else euMul a y := by split <;> rfl
theorem pair_ite {β γ : Type} (c : Prop) [Decidable c] (a a' : β) (b b' : γ) :
    ((if c then a else a'), (if c then b else b')) = if c then (a, b) else (a', b') := by
  split <;> rfl
theorem fst_ite {β γ : Type} (c : Prop) [Decidable c] (x y : β × γ) :
    (if c then x else y).1 = if c then x.1 else y.1 := by split <;> rfl
theorem snd_ite {β γ : Type} (c : Prop) [Decidable c] (x y : β × γ) :
    (if c then x else y).2 = if c then x.2 else y.2 := by split <;> rfl

/-- after both sides are unfolded: descend by `split`, `congr 1` and `funext` until `rfl` closes every branch -/
macro "tie_unfold_split" : tactic =>
  `(tactic| (repeat' (first | rfl | split | (congr 1) | (funext _))))

/-! ## marginal MAP -/

theorem marginal_map_eval_tie : Gen.Optim.marginalMapEval = Optim.marginalMapEval := by
  first
  | rfl
  | (funext p m vars w
     simp only [Gen.Optim.marginalMapEval, Optim.marginalMapEval, rat_mul_ite, List.map_id', Rat.mul_comm, Rat.add_comm,
       Rat.max_def] <;> first | rfl | grind | (congr 1 <;> tie_unfold_split))

theorem marginal_map_h_tie : Gen.Optim.marginalMapH = Optim.marginalMapH := by
  funext p w curLb curBest vars curAssgn
  induction vars generalizing curLb curBest curAssgn with
  | nil =>
    first
    | rfl
    | (simp only [Gen.Optim.marginalMapH, Optim.marginalMapH, marginal_map_eval_tie] <;> first | rfl | grind)
  | cons x rest ih =>
    first
    | -- whichever bound is the greater, the two-element loop is the model's two steps
      (rw [Gen.Optim.marginalMapH, Optim.marginalMapH]
       simp only [marginal_map_eval_tie, ih]
       by_cases h : marginalMapEval p (curAssgn.set x true) rest w > marginalMapEval p (curAssgn.set x false) rest w
       · rw [if_pos h, if_pos h]; rfl
       · rw [if_neg h, if_neg h]; rfl)
    | (simp only [Gen.Optim.marginalMapH, Optim.marginalMapH, marginal_map_eval_tie, ih, List.map_id'] <;> first
       | rfl
       | (split <;> simp only [List.foldl] <;> first | rfl | grind)
       | (split <;> simp only [List.foldl, fst_ite, snd_ite, pair_ite] <;> first | rfl | grind))

theorem marginal_map_tie : Gen.Optim.marginalMap = Optim.marginalMap := by
  first
  | (funext p vars numVars w
     simp only [Gen.Optim.marginalMap, Optim.marginalMap, marginal_map_eval_tie, marginal_map_h_tie] <;> first | rfl | grind)

/-! ## maximum expected utility -/

theorem eu_ub_tie : Gen.Optim.euUb = Optim.euUb := by
  first
  | rfl
  | (funext p m vars w
     simp only [Gen.Optim.euUb, Optim.euUb, eu_mul_ite, List.map_id'] <;> first | rfl | grind | (congr 1 <;> tie_unfold_split))

theorem meu_h_tie : Gen.Optim.meuH = Optim.meuH := by
  funext p w curLb curBest vars curAssgn
  induction vars generalizing curLb curBest curAssgn with
  | nil =>
    first
    | rfl
    | (simp only [Gen.Optim.meuH, Optim.meuH, eu_ub_tie] <;> first | rfl | grind)
  | cons x rest ih =>
    first
    | (rw [Gen.Optim.meuH, Optim.meuH]
       simp only [eu_ub_tie, ih]
       by_cases h : (euUb p (curAssgn.set x true) rest w).u > (euUb p (curAssgn.set x false) rest w).u
       · rw [if_pos h, if_pos h]; rfl
       · rw [if_neg h, if_neg h]; rfl)
    | (simp only [Gen.Optim.meuH, Optim.meuH, eu_ub_tie, ih, List.map_id'] <;> first
       | rfl
       | (split <;> simp only [List.foldl] <;> first | rfl | grind)
       | (split <;> simp only [List.foldl, fst_ite, snd_ite, pair_ite] <;> first | rfl | grind))

theorem meu_tie : Gen.Optim.meu = Optim.meu := by
  first
  | (funext p vars numVars w
     simp only [Gen.Optim.meu, Optim.meu, eu_ub_tie, meu_h_tie] <;> first | rfl | grind)

/-! ## generic branch and bound -/

theorem bb_ub_tie : @Gen.Optim.bbUb = @Optim.bbUb := by
  first
  | rfl
  | (funext α B p m vars w
     simp only [Gen.Optim.bbUb, Optim.bbUb, ops_mul_ite, List.map_id'] <;> first | rfl | grind | (congr 1 <;> tie_unfold_split))

theorem bb_h_tie : @Gen.Optim.bbH = @Optim.bbH := by
  funext α B p w curLb curBest vars curAssgn
  induction vars generalizing curLb curBest curAssgn with
  | nil =>
    first
    | rfl
    | (simp only [Gen.Optim.bbH, Optim.bbH, bb_ub_tie] <;> first | rfl | grind)
  | cons x rest ih =>
    first
    | -- `bbStep` stays folded: in either order the two-element loop is two `bbStep`s
      (simp only [Gen.Optim.bbH, Optim.bbH, bb_ub_tie, ih]
       split <;> rfl)
    | (simp only [Gen.Optim.bbH, Optim.bbH, Optim.bbStep, bb_ub_tie, ih, List.map_id'] <;> first
       | rfl
       | (split <;> simp only [List.foldl] <;> first | rfl | grind)
       | (split <;> simp only [List.foldl, fst_ite, snd_ite, pair_ite] <;> first | rfl | grind))

theorem bb_tie : @Gen.Optim.bb = @Optim.bb := by
  first
  | (funext α B p vars numVars w
     simp only [Gen.Optim.bb, Optim.bb, bb_ub_tie, bb_h_tie] <;> first | rfl | grind)

/-! ## `FiniteField::mul` -/

theorem ffMulLoop_reduced (P : Nat) : ∀ fuel a b acc, acc % P = acc →
    Sem.ffMulLoop P fuel a b acc % P = Sem.ffMulLoop P fuel a b acc := by
  intro fuel
  induction fuel with
  | zero => intro a b acc h; simpa [Sem.ffMulLoop] using h
  | succ n ih =>
    intro a b acc h
    simp only [Sem.ffMulLoop]
    split
    · apply ih
      split
      · exact Nat.mod_mod _ _
      · exact h
    · exact h

/-- the generated loop (state `(a, b, acc)`) computes the model's loop in its last component -/
theorem ff_mul_loop_tie (P : Nat) : ∀ fuel a b acc,
    (Gen.OptimSem.ffMulLoop P fuel a b acc).2.2 = Sem.ffMulLoop P fuel a b acc := by
  first
  | (intro fuel a b acc; rfl)
  | (intro fuel
     induction fuel with
     | zero => intro a b acc; rfl
     | succ n ih =>
       intro a b acc
       simp only [Gen.OptimSem.ffMulLoop, Sem.ffMulLoop]
       first
       | (simp only [beq_iff_eq]; split <;> first | rfl | exact ih _ _ _)
       | (split <;> first | rfl | exact ih _ _ _)
       | (simp only [Nat.pos_iff_ne_zero, Nat.and_one_is_mod, beq_iff_eq, ne_eq, ih]
          split <;> simp_all <;> grind))

theorem ff_mul_tie : Gen.OptimSem.ffMul = Sem.ffMul := by
  funext P a b
  simp only [Gen.OptimSem.ffMul, Sem.ffMul, Sem.cmul, ff_mul_loop_tie] <;> first
  | -- `checked_mul` answers exactly when the model takes its first branch
    (by_cases h : a * b < 2 ^ 128
     · rw [if_pos h, if_pos h]
     · rw [if_neg h, if_neg h])
  | (split <;> rfl)
  | (split <;> simp only [Sem.ffNew, Nat.mod_mod, ffMulLoop_reduced P 128 a b 0 (Nat.zero_mod P)] <;> first | rfl | grind)

/-! ## `Polynomial` -/

theorem poly_zero_tie : @Gen.OptimSem.polyZero = @Sem.polyZero := by
  first
  | rfl
  | (funext α S n; simp [Gen.OptimSem.polyZero, Sem.polyZero, Sem.polyZeros])
theorem poly_one_tie : @Gen.OptimSem.polyOne = @Sem.polyOne := by
  first
  | rfl
  | (funext α S n; simp [Gen.OptimSem.polyOne, Sem.polyOne, Sem.polyZeros])
theorem poly_add_tie : @Gen.OptimSem.polyAdd = @Sem.polyAdd := by
  first
  | rfl
  | (funext α S n p q; simp [Gen.OptimSem.polyAdd, Sem.polyAdd, Sem.polyZeros, Sem.Poly.coef])
theorem poly_mul_tie : @Gen.OptimSem.polyMul = @Sem.polyMul := by
  first
  | rfl
  | (funext α S n p q
     simp only [Gen.OptimSem.polyMul, Sem.polyMul, Sem.polyMulInner, poly_zero_tie, Sem.polyZeros, Sem.Poly.coef] <;> first | rfl | (split <;> rfl) | grind)

/-! ## `Add` / `Mul` / `Sub` of `ExpectedUtility`, `Complex`, `RealSemiring` (bodies with `let`s and early returns) -/

local macro "tie_sem" g:ident m:ident : tactic =>
  `(tactic| first
    | rfl
    | (funext a b; simp only [$g:ident, $m:ident]
       first | rfl | grind | (congr 1 <;> grind) | (split <;> simp_all <;> grind)))

theorem eu_add_tie : Gen.OptimSem.euAdd = Sem.euAdd := by tie_sem Gen.OptimSem.euAdd Sem.euAdd
theorem eu_mul_tie : Gen.OptimSem.euMul = Sem.euMul := by tie_sem Gen.OptimSem.euMul Sem.euMul
theorem eu_sub_tie : Gen.OptimSem.euSub = Sem.euSub := by tie_sem Gen.OptimSem.euSub Sem.euSub
theorem cx_add_tie : Gen.OptimSem.cxAdd = Sem.cxAdd := by tie_sem Gen.OptimSem.cxAdd Sem.cxAdd
theorem cx_mul_tie : Gen.OptimSem.cxMul = Sem.cxMul := by tie_sem Gen.OptimSem.cxMul Sem.cxMul
theorem cx_sub_tie : Gen.OptimSem.cxSub = Sem.cxSub := by tie_sem Gen.OptimSem.cxSub Sem.cxSub
theorem real_add_tie : Gen.OptimSem.realAdd = Sem.realAdd := by tie_sem Gen.OptimSem.realAdd Sem.realAdd
theorem real_mul_tie : Gen.OptimSem.realMul = Sem.realMul := by tie_sem Gen.OptimSem.realMul Sem.realMul
theorem real_sub_tie : Gen.OptimSem.realSub = Sem.realSub := by tie_sem Gen.OptimSem.realSub Sem.realSub

end TieOptim

#print axioms TieOptim.marginal_map_eval_tie
#print axioms TieOptim.marginal_map_h_tie
#print axioms TieOptim.marginal_map_tie
#print axioms TieOptim.eu_ub_tie
#print axioms TieOptim.meu_h_tie
#print axioms TieOptim.meu_tie
#print axioms TieOptim.bb_ub_tie
#print axioms TieOptim.bb_h_tie
#print axioms TieOptim.bb_tie
#print axioms TieOptim.ff_mul_loop_tie
#print axioms TieOptim.ff_mul_tie
#print axioms TieOptim.poly_zero_tie
#print axioms TieOptim.poly_one_tie
#print axioms TieOptim.poly_add_tie
#print axioms TieOptim.poly_mul_tie
#print axioms TieOptim.eu_add_tie
#print axioms TieOptim.eu_mul_tie
#print axioms TieOptim.eu_sub_tie
#print axioms TieOptim.cx_add_tie
#print axioms TieOptim.cx_mul_tie
#print axioms TieOptim.cx_sub_tie
#print axioms TieOptim.real_add_tie
#print axioms TieOptim.real_mul_tie
#print axioms TieOptim.real_sub_tie
