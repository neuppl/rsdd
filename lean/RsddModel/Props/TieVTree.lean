import RsddModel.Model.GenVTree
import RsddModel.Model.VTree
import RsddModel.Model.Orders
import RsddModel.Lemmas.TieVTreeAux
import RsddModel.Lemmas.DTree
/-!
# Tie to the source text (translator route): vtrees, the vtree manager, `BTree`, dtrees

`RsddModel/Model/GenVTree.lean` is rewritten from `src/repr/vtree.rs`, `src/util/btree.rs`,
`src/repr/dtree.rs` on every run (tools/gen_vtree.py).  Each theorem states that the regenerated
definition IS the hand-written model definition (`VT.*`, Model/VTree.lean) the theorems of C14 (and,
through the vtree manager, the SDD properties) are about.  A generated `Option` result means "the
Rust may panic here" (`none`); where the model has a total function the tie says the generated one
is `some (model …)`, i.e. the Rust does not panic and computes the model's value.

The `first | rfl | …` cascades accept harmless re-arrangements of the Rust; a changed operand, a
dropped `+ 1`, a swapped branch does not check.
-/
set_option linter.unusedSimpArgs false
set_option linter.unusedVariables false
namespace TieVTree
open VT

/-! ## generic facts used by the cascades -/

theorem bind_some_id {α : Type} (x : Option α) : (x.bind fun b => some b) = x := by
  cases x <;> rfl

theorem bind_some_some {α : Type} {x : Option α} {t : α} (h : x = some t) :
    (x.bind fun b => some (some b)) = some x := by
  subst h; rfl

theorem foldlM_total {α σ : Type} (f : σ → α → Option σ) (g : σ → α → σ) (h : ∀ s a, f s a = some (g s a))
    (l : List α) (s : σ) : l.foldlM f s = some (l.foldl g s) := by
  induction l generalizing s with
  | nil => rfl
  | cons x xs ih => simp only [List.foldlM_cons, List.foldl_cons, h]; exact ih _

/-! ## `VTree` constructors and measures (src/repr/vtree.rs) -/

theorem newNode_tie : Gen.VT.newNode = VTree.node := by
  first | rfl | (funext l r; simp [Gen.VT.newNode]; done)
theorem newLeaf_tie : Gen.VT.newLeaf = VTree.leaf := by
  first | rfl | (funext v; simp [Gen.VT.newLeaf]; done)

theorem numVarsTree_tie : Gen.VT.numVarsTree = VTree.numVarsTree := by
  first
  | rfl
  | (funext t; induction t <;> simp_all [Gen.VT.numVarsTree, VTree.numVarsTree]; done)
  | (funext t; induction t <;> simp_all [Gen.VT.numVarsTree, VTree.numVarsTree] <;> omega; done)
  | (funext t
     induction t with
     | leaf v => simp [Gen.VT.numVarsTree, VTree.numVarsTree]
     | node l r ihl ihr => simp only [Gen.VT.numVarsTree, VTree.numVarsTree, ihl, ihr]; omega)

theorem allVars_tie : Gen.VT.allVars = Tr.allVars := by
  first
  | rfl
  | (funext t; induction t <;> simp_all [Gen.VT.allVars, Tr.allVars]; done)

theorem flattenVtree_tie : Gen.VT.flattenVtree = VTree.leaves := by
  first
  | rfl
  | (funext t; induction t <;> simp_all [Gen.VT.flattenVtree, VTree.leaves]; done)

theorem rightLinear_tie : Gen.VT.rightLinear = VTree.rightLinear := by
  first
  | rfl
  | (funext order
     induction order with
     | nil => simp [Gen.VT.rightLinear, VTree.rightLinear]
     | cons x xs ih =>
       cases xs with
       | nil => simp [Gen.VT.rightLinear, VTree.rightLinear]
       | cons y ys =>
         simp only [Gen.VT.rightLinear, VTree.rightLinear, ih]
         cases VTree.rightLinear (y :: ys) <;> simp [newNode_tie, newLeaf_tie])

theorem leftLinearF_spec : ∀ (fuel : Nat) (xs : List Nat) (x : Nat), xs.length < fuel →
    Gen.VT.leftLinearF fuel (x :: xs)
      = some (xs.foldl (fun t y => VTree.node t (VTree.leaf y)) (VTree.leaf x)) := by
  first
  | (intro fuel xs x _; rfl)
  | (intro fuel
     induction fuel with
     | zero => intro xs x h; omega
     | succ n ih =>
       intro xs x h
       by_cases hx : xs = []
       · subst hx; simp [Gen.VT.leftLinearF, newNode_tie, newLeaf_tie]
       · have e := List.dropLast_concat_getLast hx
         generalize xs.getLast hx = y at e
         generalize xs.dropLast = ys at e
         subst e
         have hs : Tr.sliceBack (x :: (ys ++ [y])) = some (x :: ys, y) := Tr.sliceBack_append (x :: ys) y
         have hl : ys.length < n := by simp at h; omega
         have hrec := ih ys x hl
         cases ys with
         | nil =>
           simp only [List.nil_append] at hs ⊢
           simp [Gen.VT.leftLinearF, hs, hrec, newNode_tie, newLeaf_tie]
         | cons z zs =>
           simp only [List.cons_append] at hs ⊢
           simp [Gen.VT.leftLinearF, hs, hrec, newNode_tie, newLeaf_tie])

theorem leftLinear_tie : Gen.VT.leftLinear = VTree.leftLinear := by
  first
  | rfl
  | (funext order
     cases order with
     | nil => simp [Gen.VT.leftLinear, Gen.VT.leftLinearF, VTree.leftLinear, Tr.sliceBack]
     | cons x xs =>
       simp only [Gen.VT.leftLinear, VTree.leftLinear]
       exact leftLinearF_spec _ xs x (by simp only [List.length_cons]; omega))

theorem rightLinearC_cons_some (v : Nat) (vs : List Nat) (c : Option VTree) :
    ∃ t, VTree.rightLinearC (v :: vs) c = some t := by
  simp only [VTree.rightLinearC]
  cases VTree.rightLinearC vs c <;> simp

theorem rightLinearC_some_some (vs : List Nat) (s : VTree) :
    ∃ t, VTree.rightLinearC vs (some s) = some t := by
  cases vs with
  | nil => exact ⟨s, rfl⟩
  | cons v vs => exact rightLinearC_cons_some v vs _

theorem rightLinearC_tie : Gen.VT.rightLinearC = VTree.rightLinearC := by
  first
  | rfl
  | (funext vars c
     induction vars with
     | nil => cases c <;> simp [Gen.VT.rightLinearC, VTree.rightLinearC]
     | cons v vs ih =>
       cases vs with
       | nil => cases c <;> simp [Gen.VT.rightLinearC, VTree.rightLinearC, newNode_tie, newLeaf_tie]
       | cons w ws =>
         obtain ⟨t, ht⟩ := rightLinearC_cons_some w ws c
         simp only [Gen.VT.rightLinearC, VTree.rightLinearC, ih, ht]
         first
         | (simp [newNode_tie, newLeaf_tie]; done)
         | (cases VTree.rightLinearC ws c <;> simp [newNode_tie, newLeaf_tie]))

theorem evenSplitF_spec : ∀ (fuel : Nat) (order : List Nat) (k : Nat), k < fuel →
    Gen.VT.evenSplitF fuel order k = VTree.evenSplit order k := by
  first
  | (intro fuel order k _; rfl)
  | (intro fuel
     induction fuel with
     | zero => intro order k h; omega
     | succ n ih =>
       intro order k h
       cases k with
       | zero => simp [Gen.VT.evenSplitF, VTree.evenSplit, rightLinear_tie, bind_some_id]
       | succ k =>
         have hk : k < n := by omega
         simp only [Gen.VT.evenSplitF, VTree.evenSplit, Nat.add_sub_cancel, ih _ k hk]
         cases VTree.evenSplit (order.take (order.length / 2)) k <;>
           cases VTree.evenSplit (order.drop (order.length / 2)) k <;>
             simp [newNode_tie, newLeaf_tie])

theorem evenSplit_tie : Gen.VT.evenSplit = VTree.evenSplit := by
  first
  | rfl
  | (funext order k; simp only [Gen.VT.evenSplit]; exact evenSplitF_spec _ order k (by omega); done)

/-! ## `BTree` (src/util/btree.rs) -/

theorem isLeaf_tie : Gen.VT.isLeaf = VTree.isLeaf := by
  first
  | rfl
  | (funext t; cases t <;> rfl; done)
  | (funext t; cases t <;> simp [Gen.VT.isLeaf, VTree.isLeaf]; done)

theorem dfsRecurse_tie : Gen.VT.dfsRecurse = fun t v => v ++ VTree.inorder t := by
  first
  | rfl
  | (funext t
     induction t with
     | leaf x => funext v; simp [Gen.VT.dfsRecurse, VTree.inorder]
     | node l r ihl ihr => funext v; simp [Gen.VT.dfsRecurse, VTree.inorder, ihl, ihr, List.append_assoc])

theorem inorderDfsIter_tie : Gen.VT.inorderDfsIter = VTree.inorder := by
  first
  | rfl
  | (funext t; simp [Gen.VT.inorderDfsIter, dfsRecurse_tie]; done)

theorem lcaBfs_tie : Gen.VT.lcaBfs = VTreeManager.lcaBfs := by
  first
  | rfl
  | (funext m l r; simp only [Gen.VT.lcaBfs, VTreeManager.lcaBfs, decide_eq_true_eq]
     by_cases h1 : l = r
     · rw [if_pos h1, if_pos h1]
     · rw [if_neg h1, if_neg h1]
       by_cases h2 : m.indexMap.getD l 0 < m.indexMap.getD r 0
       · rw [if_pos h2, if_pos h2]
       · rw [if_neg h2, if_neg h2])
  | (funext m l r; simp only [Gen.VT.lcaBfs, VTreeManager.lcaBfs]; split <;> (try split) <;> simp_all <;> (intros; omega); done)
  | (funext m l r; simp only [Gen.VT.lcaBfs, VTreeManager.lcaBfs]
     generalize m.indexMap.getD l 0 = a
     generalize m.indexMap.getD r 0 = b
     by_cases h1 : l = r
     · simp [h1]
     · rcases Nat.lt_trichotomy a b with h | h | h
       · have h' : a ≤ b := by omega
         simp [h1, h, h']
       · subst h; simp [h1]
       · have h' : ¬ a ≤ b := by omega
         have h'' : ¬ a < b := by omega
         have h3 : b ≤ a := by omega
         simp [h1, h, h', h'', h3])
  | (funext m l r; simp only [Gen.VT.lcaBfs, VTreeManager.lcaBfs]
     by_cases h1 : l = r <;> by_cases h2 : m.indexMap.getD l 0 < m.indexMap.getD r 0 <;> simp_all <;> (intros; omega))

/-! ## `VTreeManager` (src/repr/vtree.rs) -/

/-- the `for (idx, v) in tree.inorder_dfs_iter().enumerate()` loop of `VTreeManager::new`: any body
that appends `v` to `index_lookup` and records `idx` for a leaf is the model's `lookupLoop` -/
theorem forEnum_lookup0 (L : List VTree) (k : Nat) (acc : List VTree) (tbl : List Nat) :
    (L.zipIdx k).foldl (fun (s : List VTree × List Nat) p =>
        (s.1 ++ [p.1], match p.1 with | .leaf x => s.2.set x p.2 | .node _ _ => s.2)) (acc, tbl)
      = (acc ++ L, VTree.lookupLoop L k tbl) := by
  induction L generalizing k acc tbl with
  | nil => simp [VTree.lookupLoop]
  | cons x xs ih =>
    rw [List.zipIdx_cons, List.foldl_cons, ih]
    cases x <;> simp [VTree.lookupLoop]

theorem forEnum_lookup (f : Nat → VTree → List VTree × List Nat → List VTree × List Nat)
    (hf : ∀ i v s, f i v s = (s.1 ++ [v], match v with | .leaf x => s.2.set x i | .node _ _ => s.2))
    (L : List VTree) (acc : List VTree) (tbl : List Nat) :
    Tr.forEnum L (acc, tbl) f = (acc ++ L, VTree.lookupLoop L 0 tbl) := by
  have : f = fun i v s => (s.1 ++ [v], match v with | .leaf x => s.2.set x i | .node _ _ => s.2) := by
    funext i v s; exact hf i v s
  subst this
  exact forEnum_lookup0 L 0 acc tbl

theorem mgrNew_tie : Gen.VT.mgrNew = VTreeManager.new := by
  first
  | rfl
  | (funext t
     simp only [Gen.VT.mgrNew, VTreeManager.new]
     rw [forEnum_lookup]
     · simp [inorderDfsIter_tie, numVarsTree_tie, Tr.lcaNew]
     · intro i v s; cases v <;> simp [isLeaf_tie, VTree.isLeaf, Tr.leafD])

theorem vtreeRoot_tie : Gen.VT.vtreeRoot = VTreeManager.tree := by
  first | rfl | (funext m; simp [Gen.VT.vtreeRoot]; done)

theorem mgrLca_tie : Gen.VT.mgrLca = VTreeManager.lca := by
  first
  | rfl
  | (funext m l r; simp [Gen.VT.mgrLca, VTreeManager.lca, lcaBfs_tie]; done)

theorem mgrVtree_tie : Gen.VT.mgrVtree = VTreeManager.vtree := by
  first
  | rfl
  | (funext m i; simp [Gen.VT.mgrVtree, VTreeManager.vtree, bind_some_id]; done)

theorem varIndex_tie : Gen.VT.varIndex = VTreeManager.getVarlabelIdx := by
  first | rfl | (funext m l; simp [Gen.VT.varIndex, VTreeManager.getVarlabelIdx]; done)

theorem isPrimeIndex_tie : Gen.VT.isPrimeIndex = VTreeManager.isPrimeIndex := by
  first | rfl | (funext m l r; simp [Gen.VT.isPrimeIndex, VTreeManager.isPrimeIndex]; done) |
    (funext m l r; simp [Gen.VT.isPrimeIndex, VTreeManager.isPrimeIndex]; omega; done)

theorem isPrimeVar_tie : Gen.VT.isPrimeVar = VTreeManager.isPrimeVar := by
  first
  | rfl
  | (funext m a b; simp [Gen.VT.isPrimeVar, VTreeManager.isPrimeVar, isPrimeIndex_tie, varIndex_tie]; done)
  | (funext m a b; simp [Gen.VT.isPrimeVar, VTreeManager.isPrimeVar, isPrimeIndex_tie, varIndex_tie,
      VTreeManager.isPrimeIndex, VTreeManager.getVarlabelIdx, Gen.VT.isPrimeIndex, Gen.VT.varIndex])

/-- `VTreeManager::num_vars` does not panic and is the model's `numVars` (largest label + 1) -/
theorem mgrNumVars_tie : Gen.VT.mgrNumVars = fun m => some (VTreeManager.numVars m) := by
  first
  | rfl
  | (funext m; simp [Gen.VT.mgrNumVars, VTreeManager.numVars, vtreeRoot_tie, allVars_tie, Tr.listMax?_allVars]; done)

/-! ## dtrees (src/repr/dtree.rs) -/

theorem getVars_tie : Gen.VT.getVars = DTree.vars := by
  first
  | rfl
  | (funext d; cases d <;> rfl; done)
  | (funext d; cases d <;> simp [Gen.VT.getVars, DTree.vars]; done)

theorem initVars_tie : Gen.VT.initVars = DTree.initVars := by
  first
  | rfl
  | (funext d; induction d <;> simp_all [Gen.VT.initVars, DTree.initVars, getVars_tie, Tr.forIn']; done)

theorem genCutset_tie : Gen.VT.genCutset = fun d a => DTree.genCutset a d := by
  first
  | rfl
  | (funext d
     induction d with
     | leaf c cut vs => funext a; simp [Gen.VT.genCutset, DTree.genCutset]
     | node l r cut vs ihl ihr => funext a; simp [Gen.VT.genCutset, DTree.genCutset, ihl, ihr, getVars_tie])

theorem balancedF_tie : ∀ (fuel : Nat) (ts : List DTree), Gen.VT.balancedF fuel ts = DTree.balancedAux fuel ts := by
  first
  | (intro fuel ts; rfl)
  | (intro fuel
     induction fuel with
     | zero => intro ts; simp [Gen.VT.balancedF, DTree.balancedAux]
     | succ n ih =>
       intro ts
       match ts with
       | [] => simp [Gen.VT.balancedF, DTree.balancedAux]
       | [t] => simp [Gen.VT.balancedF, DTree.balancedAux]
       | a :: b :: rest =>
         simp only [Gen.VT.balancedF, DTree.balancedAux, ih]
         cases DTree.balancedAux n ((a :: b :: rest).take ((a :: b :: rest).length / 2)) <;>
           cases DTree.balancedAux n ((a :: b :: rest).drop ((a :: b :: rest).length / 2)) <;>
             simp)

theorem balanced_tie : Gen.VT.balanced = DTree.balanced := by
  first
  | rfl
  | (funext ts; simp [Gen.VT.balanced, DTree.balanced, balancedF_tie]; done)

theorem cutwidth_tie : Gen.VT.cutwidth = DTree.cutwidth := by
  first
  | rfl
  | (funext d; induction d <;> simp_all [Gen.VT.cutwidth, DTree.cutwidth]; done)
  | (funext d; induction d <;> simp_all [Gen.VT.cutwidth, DTree.cutwidth] <;> omega; done)
  | (funext d
     induction d with
     | leaf c cut vs => simp [Gen.VT.cutwidth, DTree.cutwidth]
     | node l r cut vs ihl ihr => simp only [Gen.VT.cutwidth, DTree.cutwidth, ihl, ihr]; omega)

/-- one round of the elimination loop never panics and is the model's `elimStep` -/
theorem elimStep_total (f : List DTree → Nat → Option (List DTree))
    (hf : ∀ s o, f s o =
      if (s.filter fun d => d.vars.contains o).isEmpty then some (s.filter fun d => !d.vars.contains o)
      else (DTree.balanced (s.filter fun d => d.vars.contains o)).bind fun nt =>
        some ((s.filter fun d => !d.vars.contains o) ++ [DTree.initVars nt])) :
    ∀ s o, f s o = some (DTree.elimStep s o) := by
  intro s o
  rw [hf]
  simp only [DTree.elimStep]
  cases hb : DTree.balanced (s.filter fun d => d.vars.contains o) with
  | none =>
    have := balanced_none hb
    rw [this]; rfl
  | some nt =>
    have hne : (s.filter fun d => d.vars.contains o).isEmpty = false := by
      cases h : (s.filter fun d => d.vars.contains o) with
      | nil => rw [h, balanced_nil] at hb; cases hb
      | cons a as => rfl
    rw [hne]; rfl

/-- `DTree::from_cnf` reads its `&VarOrder` argument only through `in_order_iter()` (the `pos_to_var` list) -/
theorem fromCnf_tie : Gen.VT.fromCnf = fun (cs : Spec.Cnf) (o : Orders.VarOrder) => DTree.fromCnf cs o.inOrder := by
  first
  | rfl
  | (funext cs eo
     simp only [Gen.VT.fromCnf, DTree.fromCnf, Tr.forInM]
     rw [foldlM_total _ DTree.elimStep
       (elimStep_total _ (by intro s o; simp [getVars_tie, balanced_tie, initVars_tie]))]
     have hl : (fun c => DTree.initVars (DTree.leaf c [] [])) = DTree.leafOf := rfl
     simp only [Option.bind_some, balanced_tie, initVars_tie, genCutset_tie, DTree.components, hl]
     cases DTree.balanced (List.foldl DTree.elimStep (List.map DTree.leafOf cs) eo.inOrder) <;> rfl)

/-! ## `VTree::from_dtree` -/

/-- `VTree::from_dtree` does not panic and is the model's `fromDtree` -/
theorem fromDtree_tie : Gen.VT.fromDtree = fun d => some (VTree.fromDtree d) := by
  first
  | rfl
  | (funext d
     induction d with
     | leaf c cut vs =>
       cases cut with
       | nil => simp [Gen.VT.fromDtree, VTree.fromDtree, rightLinearC_tie, VTree.rightLinearC]
       | cons x xs =>
         obtain ⟨t, ht⟩ := rightLinearC_cons_some x xs none
         simp [Gen.VT.fromDtree, VTree.fromDtree, rightLinearC_tie, ht]
     | node l r cut vs ihl ihr =>
       simp only [Gen.VT.fromDtree, VTree.fromDtree, ihl, ihr, rightLinearC_tie, newNode_tie, Option.bind_some]
       cases VTree.fromDtree l <;> cases VTree.fromDtree r <;> cases cut with
       | nil => simp [VTree.rightLinearC]
       | cons x xs =>
         first
         | (obtain ⟨t, ht⟩ := rightLinearC_cons_some x xs none; simp [ht]; done)
         | (rename_i a; obtain ⟨t, ht⟩ := rightLinearC_cons_some x xs (some a); simp [ht]; done)
         | (rename_i a b; obtain ⟨t, ht⟩ := rightLinearC_cons_some x xs (some (VTree.node a b)); simp [ht]; done))

end TieVTree

#print axioms TieVTree.newNode_tie
#print axioms TieVTree.newLeaf_tie
#print axioms TieVTree.numVarsTree_tie
#print axioms TieVTree.allVars_tie
#print axioms TieVTree.flattenVtree_tie
#print axioms TieVTree.rightLinear_tie
#print axioms TieVTree.leftLinearF_spec
#print axioms TieVTree.leftLinear_tie
#print axioms TieVTree.rightLinearC_tie
#print axioms TieVTree.evenSplitF_spec
#print axioms TieVTree.evenSplit_tie
#print axioms TieVTree.isLeaf_tie
#print axioms TieVTree.dfsRecurse_tie
#print axioms TieVTree.inorderDfsIter_tie
#print axioms TieVTree.lcaBfs_tie
#print axioms TieVTree.mgrNew_tie
#print axioms TieVTree.vtreeRoot_tie
#print axioms TieVTree.mgrLca_tie
#print axioms TieVTree.mgrVtree_tie
#print axioms TieVTree.varIndex_tie
#print axioms TieVTree.isPrimeIndex_tie
#print axioms TieVTree.isPrimeVar_tie
#print axioms TieVTree.mgrNumVars_tie
#print axioms TieVTree.getVars_tie
#print axioms TieVTree.initVars_tie
#print axioms TieVTree.genCutset_tie
#print axioms TieVTree.balancedF_tie
#print axioms TieVTree.balanced_tie
#print axioms TieVTree.cutwidth_tie
#print axioms TieVTree.fromCnf_tie
#print axioms TieVTree.fromDtree_tie
