import RsddModel.Model.Ffi
import RsddModel.Model.CacheList
import RsddModel.Props.C01
import RsddModel.Props.C02
import RsddModel.Props.C08
import RsddModel.Lemmas.Semirings
/-!
# C18 — the C ABI is a faithful wrapper of the Rust operations

The handle layer adds nothing: a sequence of C calls, projected through "dereference the
handle", is the native builder run of the translated operation sequence (`ffi_step_native`,
`ffi_run_native`), so C01 / C02 / C08 apply verbatim to diagrams built through the C interface
(`ffi_refines`, `ffi_eq_iff_sem`, `ffi_model_count`).  The accessors expose the complement-
adjusted children of the top variable (`ffi_low_high_sem`), and `from_c_parts` truncates at
`MAX_COEFFS` (`fromCParts_spec`).
-/
namespace C18
open Ffi Bdd Spec

/-- one exported call is the native operation on the dereferenced handles -/
theorem ffi_step_native (C : CacheImpl) (lvl : Nat → Nat) (fuel : Nat) (st : Ffi.St C) (c : Call) :
    (Ffi.step C lvl fuel st c).map Ffi.St.toNative = Bdd.step C lvl fuel st.toNative c.toOp := by
  obtain ⟨cache, nv, hs⟩ := st
  cases c <;> dsimp only [Ffi.step, Bdd.step, Call.toOp, Ffi.St.toNative]
  case var x p => by_cases h : x < nv <;> simp only [h, if_true, if_false] <;> rfl
  case neg f => cases hs[f]? <;> rfl
  case and l r =>
    rcases hs[l]? with _ | p <;> rcases hs[r]? with _ | q <;> try rfl
    dsimp only
    rcases bAnd C lvl fuel cache p q with _ | ⟨s, x⟩ <;> rfl
  case or l r =>
    rcases hs[l]? with _ | p <;> rcases hs[r]? with _ | q <;> try rfl
    dsimp only
    rcases bOr C lvl fuel cache p q with _ | ⟨s, x⟩ <;> rfl
  case ite f g h =>
    rcases hs[f]? with _ | p <;> rcases hs[g]? with _ | q <;> rcases hs[h]? with _ | r <;> try rfl
    dsimp only
    rcases Bdd.ite C lvl fuel cache p q r with _ | ⟨s, x⟩ <;> rfl
  case compose f l g =>
    by_cases h : l < nv
    · simp only [h, if_true]
      rcases hs[f]? with _ | p <;> rcases hs[g]? with _ | q <;> try rfl
      dsimp only
      rcases bCompose C lvl fuel cache p l q with _ | ⟨s, x⟩ <;> rfl
    · simp only [h, if_false]; rfl
  all_goals rfl

/-- any sequence of exported calls is the native run of the translated sequence -/
theorem ffi_run_native (C : CacheImpl) (lvl : Nat → Nat) (fuel : Nat) :
    ∀ (cs : List Call) (st : Ffi.St C),
      (Ffi.run C lvl fuel st cs).map Ffi.St.toNative = Bdd.run C lvl fuel st.toNative (cs.map Call.toOp)
  | [], st => by simp [Ffi.run, Bdd.run]
  | c :: cs, st => by
    have h := ffi_step_native C lvl fuel st c
    simp only [Ffi.run, Bdd.run, List.map_cons]
    rw [← h]
    cases Ffi.step C lvl fuel st c with
    | none => rfl
    | some st' => exact ffi_run_native C lvl fuel cs st'

/-- **diagrams built through the C interface denote the specified functions** -/
theorem ffi_refines (C : CacheImpl) (lvl : Nat → Nat) (inj : ∀ x y, lvl x = lvl y → x = y)
    (fuel n : Nat) (cs : List Call) (st : Ffi.St C)
    (hrun : Ffi.run C lvl fuel (Ffi.St.init C n) cs = some st) :
    ∃ sp, specRun (n, []) (cs.map Call.toOp) = some sp ∧ Rel st.toNative sp ∧ Inv C lvl st.toNative := by
  have h := ffi_run_native C lvl fuel cs (Ffi.St.init C n)
  rw [hrun] at h
  exact run_refines C lvl inj fuel n (cs.map Call.toOp) st.toNative h.symm

/-- **`bdd_eq` on two handles of one manager is semantic equality** -/
theorem ffi_eq_iff_sem (C : CacheImpl) (lvl : Nat → Nat) (inj : ∀ x y, lvl x = lvl y → x = y)
    (fuel n : Nat) (cs : List Call) (st : Ffi.St C)
    (hrun : Ffi.run C lvl fuel (Ffi.St.init C n) cs = some st) {p q : Ptr}
    (hp : p ∈ st.handles) (hq : q ∈ st.handles) :
    bddEq p q = true ↔ ∀ a, p.eval a = q.eval a := by
  have h := ffi_run_native C lvl fuel cs (Ffi.St.init C n)
  rw [hrun] at h
  have := eq_iff_sem C lvl inj fuel n (cs.map Call.toOp) st.toNative h.symm (p := p) (q := q) hp hq
  simpa [bddEq] using this

/-- **`bdd_topvar` / `bdd_low` / `bdd_high`** on a non-constant handle: the children are the two
cofactors with respect to the top variable -/
theorem ffi_low_high_sem (lvl : Nat → Nat) (c : Bool) (v : Nat) (lo hi : Ptr)
    (hwf : WF lvl (.node c v lo hi)) :
    topvar (.node c v lo hi) = v ∧
    ∃ l h, low (.node c v lo hi) = some l ∧ high (.node c v lo hi) = some h ∧
      (∀ a, l.eval a = (Ptr.node c v lo hi).eval (upd a v false)) ∧
      (∀ a, h.eval a = (Ptr.node c v lo hi).eval (upd a v true)) := by
  obtain ⟨⟨_, hlo, hhi⟩, _⟩ := hwf
  refine ⟨rfl, _, _, rfl, rfl, fun a => ?_, fun a => ?_⟩
  · have e := eval_upd_of_above (x := v) false a hlo (Nat.lt_succ_self _)
    cases c <;> simp [Ptr.eval, e]
  · have e := eval_upd_of_above (x := v) true a hhi (Nat.lt_succ_self _)
    cases c <;> simp [Ptr.eval, e]

/-- constants have no children (the Rust panics) and report the placeholder top variable -/
theorem ffi_const_accessors : low .tru = none ∧ high .tru = none ∧ low .fls = none ∧ high .fls = none ∧
    topvar .tru = 0 ∧ topvar .fls = 0 := ⟨rfl, rfl, rfl, rfl, rfl, rfl⟩

theorem one_mul_mod (P x : Nat) : (1 % P) * (x % P) % P = x % P := by
  rw [← Nat.mul_mod, Nat.one_mul]

/-- counting with unit weights in `FiniteField<P>` is counting in the naturals modulo `P` -/
theorem ff_count_mod (P : Nat) (hP : 0 < P) (hP2 : P < 2 ^ 128) :
    ∀ (p : Ptr) (n : Bool),
      wmcAux (Sem.ffOps P) (fun _ => (Sem.ffNew P 1, Sem.ffNew P 1)) p n =
        wmcAux countOps (fun _ => (1, 1)) p n % P
  | .tru, n => by cases n <;> simp [wmcAux, Sem.ffOps, Sem.ffNew, countOps]
  | .fls, n => by cases n <;> simp [wmcAux, Sem.ffOps, Sem.ffNew, countOps]
  | .node c v lo hi, n => by
    have h1 := ff_count_mod P hP hP2 lo (xor n c)
    have h2 := ff_count_mod P hP hP2 hi (xor n c)
    have lt1 : wmcAux countOps (fun _ => (1, 1)) lo (xor n c) % P < 2 ^ 128 :=
      Nat.lt_trans (Nat.mod_lt _ hP) hP2
    have lt2 : wmcAux countOps (fun _ => (1, 1)) hi (xor n c) % P < 2 ^ 128 :=
      Nat.lt_trans (Nat.mod_lt _ hP) hP2
    show Sem.ffAdd P
        (Sem.ffMul P (Sem.ffNew P 1) (wmcAux (Sem.ffOps P) (fun _ => (Sem.ffNew P 1, Sem.ffNew P 1)) lo (xor n c)))
        (Sem.ffMul P (Sem.ffNew P 1) (wmcAux (Sem.ffOps P) (fun _ => (Sem.ffNew P 1, Sem.ffNew P 1)) hi (xor n c)))
      = (1 * wmcAux countOps (fun _ => (1, 1)) lo (xor n c) + 1 * wmcAux countOps (fun _ => (1, 1)) hi (xor n c)) % P
    rw [h1, h2, Sem.ffAdd_spec, Sem.ffMul_spec' hP lt1, Sem.ffMul_spec' hP lt2]
    simp only [Sem.ffNew]
    rw [one_mul_mod, one_mul_mod, Nat.one_mul, Nat.one_mul, ← Nat.add_mod]

/-- **`robdd_model_count`** is the number of models over the manager's variables (modulo the
prime of the counting field, which exceeds every count below `2^64 - 25`) -/
theorem ffi_model_count (P : Nat) (hP : 0 < P) (hP2 : P < 2 ^ 128) {lvl varAt : Nat → Nat} {n : Nat}
    {p : Ptr} (hinv : ∀ i, i < n → lvl (varAt i) = i) (hv : ∀ v ∈ p.vars, varAt (lvl v) = v)
    (hord : p.ordBetween lvl 0 n) (a : Assign) :
    modelCount P lvl varAt n p = (allAssignments (levelVars varAt 0 n) a).countP p.eval % P := by
  unfold modelCount wmc
  rw [ff_count_mod P hP hP2]
  have := C08.smooth_count hinv hv hord a
  unfold wmc at this
  rw [this]

/-- **`from_c_parts`**: at most `MAX_COEFFS` coefficients are kept, the rest of the array is zero -/
theorem fromCParts_spec {α : Type} (S : SROps α) (M : Nat) (cs : List α) :
    (fromCParts S M cs).len = min cs.length M ∧
    (fromCParts S M cs).coeffs.length = M ∧
    ∀ i, (fromCParts S M cs).coef S i = if i < min cs.length M then cs.getD i S.zero else S.zero := by
  unfold fromCParts
  split
  · rename_i h
    have : cs = [] := by simpa using h
    subst this
    refine ⟨by simp [Sem.polyZero], by simp [Sem.polyZero, Sem.polyZeros], fun i => ?_⟩
    simp [Sem.Poly.coef, Sem.polyZero, Sem.polyZeros, List.getD_eq_getElem?_getD, List.getElem?_replicate]
    split <;> rfl
  · refine ⟨by simp [Sem.polyOfList], by simp [Sem.polyOfList], fun i => ?_⟩
    simp only [Sem.Poly.coef, Sem.polyOfList, List.getD_eq_getElem?_getD, List.getElem?_map]
    by_cases h : i < M
    · simp [List.getElem?_range h]
      intro h2
      have : cs.length ≤ i := by omega
      simp [List.getElem?_eq_none this]
    · have hle : (List.range M).length ≤ i := by simpa using Nat.le_of_not_lt h
      simp [List.getElem?_eq_none hle]
      intro h2; omega

/-! ## non-vacuity -/

example : (Ffi.run Bdd.ListCache (fun v => v) 50 (Ffi.St.init Bdd.ListCache 2)
    [.var 0 true, .var 1 false, .and 0 1, .newVar true, .ite 2 3 0, .compose 4 1 0, .neg 5]).map (·.handles.length)
    = some 7 := by decide +kernel

example : (fromCParts Sem.boolOps 2 [true, false, true]).len = 2 := by decide +kernel

end C18

#print axioms C18.ffi_step_native
#print axioms C18.ffi_run_native
#print axioms C18.ffi_refines
#print axioms C18.ffi_eq_iff_sem
#print axioms C18.ffi_low_high_sem
#print axioms C18.ffi_const_accessors
#print axioms C18.ff_count_mod
#print axioms C18.ffi_model_count
#print axioms C18.fromCParts_spec
