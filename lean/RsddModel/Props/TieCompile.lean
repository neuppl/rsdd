import RsddModel.Model.GenCompile
import RsddModel.Lemmas.TieCompileAux
/-!
# Tie to the source text (translator route): compilation and serialisation

`RsddModel/Model/GenCompile.lean` is rewritten by `tools/gen_compile.py` from the Rust source on
every run (statement by statement, in the monad `Option`; loops through the combinators of
`Lemmas/TieCompileAux.lean`).  The theorems below state that the regenerated definitions ARE the
hand-written model definitions (`Model/BddCompile.lean`, `Model/Serialize.lean`) that the
theorems of C05 / C17 / C19 are about.  They are re-checked by the kernel on every run.

Each proof first tries definitional equality (this is also what closes the goal when the
translator route is not available and the generated name is an alias of the model), then
extensional equality by induction / case analysis with robust closing tactics, so that a
re-arrangement of the source that leaves the function unchanged still checks.  The generated
loop bodies are never named here: they are unfolded through the simp set `tie_unfold`.
-/
set_option linter.unusedSimpArgs false
set_option linter.unusedVariables false
namespace TieCompile
open Spec Compile TieAuxC

/-- closing tactic shared by the case analyses of this file (every tie file has its own `tie_close`): `rfl`, else
unfold the loop bodies (`tie_unfold`) and split the remaining `if`/`match` -/
macro "tie_close" : tactic =>
  `(tactic| first
    | rfl
    | (simp_all [tie_unfold]; done)
    | (repeat' split) <;> (first | rfl | (simp_all [tie_unfold]; done) | grind)
    | grind)

/-! ## `compile_logical_expr`, `compile_plan` (src/builder/mod.rs) -/

theorem compileExpr_tie : @Gen.Compile.compileExpr = @Compile.compileExpr := by
  first
  | rfl
  | (funext σ P O s e
     induction e generalizing s <;>
       simp only [Gen.Compile.compileExpr, Compile.compileExpr, *] <;> tie_close)

theorem compilePlan_tie : @Gen.Compile.compilePlan = @Compile.compilePlan := by
  first
  | rfl
  | (funext σ P O s e
     induction e generalizing s <;>
       simp only [Gen.Compile.compilePlan, Compile.compilePlan, *] <;> tie_close)

/-! ## `BottomUpPlan::from_dtree` (src/plan/bottom_up_plan.rs) -/

theorem fromDtree_tie : Gen.Compile.fromDtree = fun t => some (Compile.Plan.fromDtree t) := by
  first
  | rfl
  | (funext t
     induction t with
     | node l r ihl ihr => simp only [Gen.Compile.fromDtree, Compile.Plan.fromDtree, ihl, ihr] <;> tie_close
     | leaf c =>
       rcases c with _ | ⟨l, _ | ⟨l', ls⟩⟩ <;>
         simp [Gen.Compile.fromDtree, Compile.Plan.fromDtree, Compile.Plan.ofClause] <;> tie_close)

/-! ## `collapse_clauses`, `compile_cnf`, `compile_cnf_with_assignments` (src/builder/bdd/builder.rs) -/

theorem collapse_tie : @Gen.Compile.collapse = @Compile.collapse := by
  first
  | rfl
  | (funext σ P O fuel
     induction fuel with
     | zero =>
       funext s v
       rcases v with _ | ⟨p, _ | ⟨q, ps⟩⟩ <;>
         simp [Gen.Compile.collapse, Compile.collapse] <;> tie_close
     | succ n ih =>
       funext s v
       rcases v with _ | ⟨p, _ | ⟨q, ps⟩⟩ <;>
         simp only [Gen.Compile.collapse, Compile.collapse, ih] <;>
         simp <;> tie_close)

/-- `compile_cnf` with the `sort_by` call as the permutation parameter `perm` -/
theorem compileCnf_tie : @Gen.Compile.compileCnf = @TieAuxC.compileCnfPerm := by
  first
  | rfl
  | (funext σ P O perm s cs
     simp only [Gen.Compile.compileCnf, TieAuxC.compileCnfPerm, collapse_tie, collapseClauses]
     rw [clauses_loop O]
     · first
       | (split
          · rfl
          · split
            · rfl
            · rcases compileClauses O s (perm cs) with _ | ⟨s1, ps⟩
              · rfl
              · simp only [List.nil_append]
                rcases collapse O ps.length s1 ps with _ | ⟨s2, _ | r⟩ <;> rfl)
       | ((repeat' split) <;> tie_close)
     · intro s acc c
       simp only [tie_unfold]
       rcases c with _ | ⟨l, ls⟩
       · simp
       · simp only [List.getElem?_cons_zero]
         rw [clause_loop O]
         · tie_close
         · intro s acc l; simp only [tie_unfold]; tie_close)

/-- on the identity permutation this is the model's `compileCnf` (which takes the already permuted list) -/
theorem compileCnf_tie_id {σ P : Type} (O : Ops σ P) (s : σ) (cs : Cnf) :
    Gen.Compile.compileCnf O (fun x => x) s cs = Compile.compileCnf O s cs := by
  rw [compileCnf_tie]; rfl

/-- for every `perm` that keeps emptiness (as every permutation does) -/
theorem compileCnf_tie_perm {σ P : Type} (O : Ops σ P) (perm : List Clause → List Clause) (s : σ) (cs : Cnf)
    (h1 : (perm cs).isEmpty = cs.isEmpty) (h2 : (perm cs).any List.isEmpty = cs.any List.isEmpty) :
    Gen.Compile.compileCnf O perm s cs = Compile.compileCnf O s (perm cs) := by
  rw [compileCnf_tie]; exact compileCnfPerm_eq O perm s cs h1 h2

theorem compileWithAssign_tie :
    @Gen.Compile.compileWithAssign = fun {σ P : Type} (O : Ops σ P) strat s cs m => Compile.compileWithAssign O strat m s cs := by
  first
  | rfl
  | (funext σ P O strat s cs m
     simp only [Gen.Compile.compileWithAssign, Compile.compileWithAssign, AHeap.new]
     split
     · rfl
     · rw [clausesUnder_loop O m]
       · cases clausesUnder O m s cs with
         | none => rfl
         | some r =>
           obtain ⟨s1, es⟩ := r
           simp only [List.nil_append, AHeap.len]
           rw [whileFuel_congr (c' := mergeCond) (f' := mergeBody O strat), ← merge_loop O strat es.length s1 es]
           · cases whileFuel mergeCond (mergeBody O strat) es.length (s1, ⟨es, none⟩) with
             | none => rfl
             | some r =>
               obtain ⟨s2, h2⟩ := r
               simp only []
               first
               | rfl
               | ((repeat' split) <;> tie_close)
           · intro b; obtain ⟨s, h⟩ := b; simp only [tie_unfold, mergeCond]
           · intro b; obtain ⟨s, h⟩ := b; simp only [tie_unfold, mergeBody]
             first
             | (rcases AHeap.pop strat h with _ | ⟨e1, h1⟩
                · rfl
                · rcases AHeap.pop strat h1 with _ | ⟨e2, h2⟩
                  · rfl
                  · cases O.and s e1.1 e2.1 <;> rfl)
             | ((repeat' split) <;> tie_close)
       · intro s h c
         simp only [tie_unfold]
         rw [clauseUnder_loop O m]
         · tie_close
         · intro s cur l; simp only [tie_unfold]
           first
           | (cases m l.var with
              | none => rfl
              | some v => cases v <;> cases l.pol <;> rfl)
           | ((repeat' split) <;> tie_close))

/-! ## serialisers (src/serialize/ser_vtree.rs, ser_bdd.rs) -/

theorem serVtreeHelper_tie : Gen.Compile.serVtreeHelper = fun t => some (Ser.serVtree t) := by
  first
  | rfl
  | (funext t
     induction t <;> simp only [Gen.Compile.serVtreeHelper, Ser.serVtree, *] <;> tie_close)

theorem serVtree_tie : Gen.Compile.serVtree = fun t => some (Ser.serVtree t) := by
  first
  | rfl
  | (funext t; simp only [Gen.Compile.serVtree, serVtreeHelper_tie] <;> tie_close)

/-- `serialize_helper`: the two `&mut` arguments are returned next to the pointer; the model bundles
them in `Ser.BddSt` -/
theorem serBddHelper_tie : Gen.Compile.serBddHelper = fun bdd table nodes =>
    some ((Ser.serBddAux bdd ⟨nodes, table⟩).1, (Ser.serBddAux bdd ⟨nodes, table⟩).2.table,
      (Ser.serBddAux bdd ⟨nodes, table⟩).2.nodes) := by
  first
  | rfl
  | (funext bdd
     induction bdd with
     | tru => funext table nodes; simp [Gen.Compile.serBddHelper, Ser.serBddAux]
     | fls => funext table nodes; simp [Gen.Compile.serBddHelper, Ser.serBddAux]
     | node c v lo hi ihlo ihhi =>
       funext table nodes
       simp only [Gen.Compile.serBddHelper, Ser.serBddAux, ihlo, ihhi]
       cases h : Ser.assocGet table (Bdd.Ptr.node false v lo hi) <;> simp <;> tie_close)

theorem serBdd_tie : Gen.Compile.serBdd = fun d => some (Ser.serBdd d) := by
  first
  | rfl
  | (funext d; simp only [Gen.Compile.serBdd, serBddHelper_tie, Ser.serBdd] <;> tie_close)

/-! ## `LogicalExpr::from_sexpr`, `eval` (src/repr/logical_expr.rs), `unique_variables` (src/serialize/ser_logical_expr.rs) -/

theorem fromSexprHelper_tie : Gen.Compile.fromSexprHelper = fun e m => Ser.fromSexprHelper m e := by
  first
  | rfl
  | (funext e m
     -- both sides are case analyses on the answers of the recursive calls
     induction e with
     | tru | fls => rfl
     | var s =>
       simp only [Gen.Compile.fromSexprHelper, Ser.fromSexprHelper]; cases Ser.mapGet m s <;> rfl
     | not e ih =>
       cases e with
       | var s =>
         simp only [Gen.Compile.fromSexprHelper, Ser.fromSexprHelper]; cases Ser.mapGet m s <;> rfl
       | _ =>
         unfold Gen.Compile.fromSexprHelper
         rw [ih]
         show _ = (Ser.fromSexprHelper m _).map _
         generalize Ser.fromSexprHelper m _ = o; cases o <;> rfl
     | or l r ihl ihr | and l r ihl ihr | iff l r ihl ihr | xor l r ihl ihr =>
       simp only [Gen.Compile.fromSexprHelper, Ser.fromSexprHelper, ihl, ihr]
       cases Ser.fromSexprHelper m l <;> cases Ser.fromSexprHelper m r <;> rfl
     | ite g t e ihg iht ihe =>
       simp only [Gen.Compile.fromSexprHelper, Ser.fromSexprHelper, ihg, iht, ihe]
       cases Ser.fromSexprHelper m g <;> cases Ser.fromSexprHelper m t <;>
         cases Ser.fromSexprHelper m e <;> rfl)
  | (funext e m
     induction e with
     | not e ih =>
       cases e <;> simp [Gen.Compile.fromSexprHelper, Ser.fromSexprHelper, Option.map, bind, Option.bind] at ih ⊢ <;>
         (try rw [ih]) <;> tie_close
     | _ => simp [Gen.Compile.fromSexprHelper, Ser.fromSexprHelper, Option.map, bind, Option.bind, *] <;> tie_close)

theorem fromSexpr_tie : Gen.Compile.fromSexpr = fun e => Ser.fromSexpr e := by
  first
  | rfl
  | (funext e; simp only [Gen.Compile.fromSexpr, fromSexprHelper_tie, Ser.fromSexpr] <;> tie_close)

/-- `eval` on a total assignment (`values.get` always answers) -/
theorem eval_tie : Gen.Compile.eval = fun e a => some (Ser.LogicalExpr.eval a e) := by
  first
  | rfl
  | (funext e a
     induction e <;> simp [Gen.Compile.eval, Ser.LogicalExpr.eval, *] <;> tie_close)

/-- `unique_variables`, the `HashSet` as the list of its members (only membership matters) -/
theorem uniqueVariables_tie : Gen.Compile.uniqueVariables = fun e => some (Ser.LogicalSExpr.uniqueVariables e) := by
  first
  | rfl
  | (funext e
     induction e <;> simp [Gen.Compile.uniqueVariables, Ser.LogicalSExpr.uniqueVariables, *] <;> tie_close)

/-! ## the SDD serialiser (src/serialize/ser_sdd.rs)

The Rust starts with `table.get(&reg)` for every pointer (also constants and literals), the model
looks only nodes up; they agree on every table whose keys are regular node pointers
(`TieAuxC.NodeKeys`: what `table.insert` is called with; preserved, `TieAuxC.serSddAux_nodeKeys`;
the initial table of `from_sdd` is empty). -/

theorem sddSt_eta (s : Ser.SddSt) : (⟨s.nodes, s.table⟩ : Ser.SddSt) = s := rfl

mutual
theorem serSddHelper_tie : ∀ (d : Sdd.Ptr) (table : List (Sdd.Ptr × Nat)) (nodes : Array Ser.SddOr), NodeKeys table →
    Gen.Compile.serSddHelper d table nodes =
      some ((Ser.serSddAux d ⟨nodes, table⟩).1, (Ser.serSddAux d ⟨nodes, table⟩).2.table,
        (Ser.serSddAux d ⟨nodes, table⟩).2.nodes)
  | .tru, table, nodes, h => by
    first
    | rfl
    | (have hn := assocGet_none_of_not_key table .tru h (by simp [IsNodeKey])
       unfold Gen.Compile.serSddHelper
       simp [Ser.serSddAux, hn] <;> tie_close)
  | .fls, table, nodes, h => by
    first
    | rfl
    | (have hn := assocGet_none_of_not_key table .fls h (by simp [IsNodeKey])
       unfold Gen.Compile.serSddHelper
       simp [Ser.serSddAux, hn] <;> tie_close)
  | .lit v p, table, nodes, h => by
    first
    | rfl
    | (have hn := assocGet_none_of_not_key table (.lit v p) h (by simp [IsNodeKey])
       unfold Gen.Compile.serSddHelper
       cases p <;> simp [Ser.serSddAux] at hn ⊢ <;> simp [hn] <;> tie_close)
  | .bdd c l i lo hi, table, nodes, h => by
    first
    | rfl
    | (have ihlo := serSddHelper_tie lo table nodes h
       have ihhi := serSddHelper_tie hi _ (Ser.serSddAux lo ⟨nodes, table⟩).2.nodes
         (serSddAux_nodeKeys lo ⟨nodes, table⟩ h)
       simp only [sddSt_eta] at ihhi
       unfold Gen.Compile.serSddHelper
       cases c <;> cases hg : Ser.assocGet table (.bdd false l i lo hi) <;>
         simp [Ser.serSddAux, hg, ihlo, ihhi] <;> tie_close)
  | .dec c i es, table, nodes, h => by
    first
    | rfl
    | (have ih := serSddElems_tie es table nodes h
       unfold Gen.Compile.serSddHelper
       cases c <;> cases hg : Ser.assocGet table (.dec false i es) <;>
         simp [Ser.serSddAux, hg, ih] <;> tie_close)
theorem serSddElems_tie : ∀ (es : List (Sdd.Ptr × Sdd.Ptr)) (table : List (Sdd.Ptr × Nat)) (nodes : Array Ser.SddOr),
    NodeKeys table →
    Gen.Compile.serSddHelper_elems es table nodes =
      some ((Ser.serSddElems es ⟨nodes, table⟩).1, (Ser.serSddElems es ⟨nodes, table⟩).2.table,
        (Ser.serSddElems es ⟨nodes, table⟩).2.nodes)
  | [], table, nodes, h => by
    first
    | rfl
    | (unfold Gen.Compile.serSddHelper_elems; simp [Ser.serSddElems] <;> tie_close)
  | (p, sub) :: rest, table, nodes, h => by
    first
    | rfl
    | (have ihp := serSddHelper_tie p table nodes h
       have hk1 := serSddAux_nodeKeys p ⟨nodes, table⟩ h
       have ihs := serSddHelper_tie sub _ (Ser.serSddAux p ⟨nodes, table⟩).2.nodes hk1
       simp only [sddSt_eta] at ihs
       have hk2 := serSddAux_nodeKeys sub _ hk1
       have ihr := serSddElems_tie rest _ (Ser.serSddAux sub (Ser.serSddAux p ⟨nodes, table⟩).2).2.nodes hk2
       simp only [sddSt_eta] at ihr
       unfold Gen.Compile.serSddHelper_elems
       simp [Ser.serSddElems, ihp, ihs, ihr] <;> tie_close)
end

/-- `SDDSerializer::from_sdd` (the initial table is empty, so the side condition of `serSddHelper_tie` holds) -/
theorem serSdd_tie : Gen.Compile.serSdd = fun d => some (Ser.serSdd d) := by
  first
  | rfl
  | (funext d
     simp only [Gen.Compile.serSdd, serSddHelper_tie d [] #[] nodeKeys_nil, Ser.serSdd] <;> tie_close)

end TieCompile

#print axioms TieCompile.compileExpr_tie
#print axioms TieCompile.compilePlan_tie
#print axioms TieCompile.fromDtree_tie
#print axioms TieCompile.collapse_tie
#print axioms TieCompile.compileCnf_tie
#print axioms TieCompile.compileCnf_tie_id
#print axioms TieCompile.compileCnf_tie_perm
#print axioms TieCompile.compileWithAssign_tie
#print axioms TieCompile.serVtreeHelper_tie
#print axioms TieCompile.serVtree_tie
#print axioms TieCompile.serBddHelper_tie
#print axioms TieCompile.serBdd_tie
#print axioms TieCompile.fromSexprHelper_tie
#print axioms TieCompile.fromSexpr_tie
#print axioms TieCompile.eval_tie
#print axioms TieCompile.uniqueVariables_tie
#print axioms TieCompile.serSddHelper_tie
#print axioms TieCompile.serSddElems_tie
#print axioms TieCompile.serSdd_tie
