import RsddModel.Lemmas.Scratch
/-!
# C10 — queries are pure (BDD / decision-DNNF diagrams)

"Model counting in any semiring, evaluation, node counting, semantic hashing, the optimisation
queries, smoothing and conditioning leave no observable residue: repeating them, interleaving
them in any order, or running them on diagrams that share sub-structure returns the same
answers as on a freshly built copy of the diagram.  In particular every per-node scratch slot
is empty again when a public call returns."

Model: `RsddModel/Model/Scratch.lean` (a store of nodes addressed by index, one tagged scratch
cell per node, the memoised passes with the control flow of `src/repr/bdd.rs`).

* `foldDag_eq_tree`, `pass_occupies_reachable`, `clear_after_pass`: the memo of
  `bottomup_pass_h` is transparent (shared nodes, both polarities of one node) and the
  short-circuiting `clear_scratch` removes everything the pass wrote;
* `fold_pure`, `bddFold_pure`, `optim_pure`, `countNodes_pure`: the public calls, with the
  precondition *the cells reachable from the root are empty* (weaker: `fold_robust`,
  `countNodes_robust` — only leftovers of the call's own Rust type can hurt);
* `queries_pure`, `queries_answers_fresh`, `queries_commute`: sequences of calls of different
  result types over arbitrary roots of one store.

What the precondition is.  The Rust only `debug_assert!`s `is_scratch_cleared()` on the *root*
cell at the start of `fold`/`count_nodes` (nothing in `bdd_fold`).  The theorems show that the
all-clear state is an invariant of the public calls, so between public calls the precondition
always holds; the `example`s at the end show what happens when it is broken through the raw
scratch API, and that the separate `semantic_hash` cache is *not* covered.
-/
namespace C10
open Scratch Bdd Spec

section
variable {Tag : Type} [DecidableEq Tag] {U : Tag → Type}

/-! ## the memoised pass -/

/-- The memo is transparent: started on empty reachable cells, `bottomup_pass_h` returns the
value of the un-memoised fold of the tree the reference denotes — whatever sharing there is,
including a node met first through a complemented and later through a regular edge. -/
theorem foldDag_eq_tree (t : Tag) (A : Alg (U t)) (s : Store) (r : Ref) (σ σ' : Scr U) (v : U t)
    (hclear : ClearOn s r σ) (hrun : foldDag t A s r σ = (v, σ')) :
    v = treeFold A (unfold s r) false := by
  have h := (foldDag_spec t A s r σ (preOK_of_clearOn hclear)).1
  rw [hrun] at h; exact h

/-- Key lemma for the clean-up: after the pass *every* reachable cell is occupied, and no other
cell has been touched. -/
theorem pass_occupies_reachable (t : Tag) (A : Alg (U t)) (s : Store) (r : Ref) (σ σ' : Scr U) (v : U t)
    (hclear : ClearOn s r σ) (hrun : foldDag t A s r σ = (v, σ')) :
    (∀ j, reaches s r j = true → (σ' j).isSome = true) ∧ (∀ j, reaches s r j = false → σ' j = σ j) := by
  obtain ⟨_, h2, h3⟩ := foldDag_spec t A s r σ (preOK_of_clearOn hclear)
  rw [hrun] at h2 h3
  exact ⟨fun j hj => (h2 j hj).2, h3⟩

/-- … hence the short-circuiting `clear_scratch` reaches everything that was written: the
trailing clear restores the state from before the pass exactly. -/
theorem clear_after_pass (t : Tag) (A : Alg (U t)) (s : Store) (r : Ref) (σ σ' : Scr U) (v : U t)
    (hclear : ClearOn s r σ) (hrun : foldDag t A s r σ = (v, σ')) :
    clearScratch s r σ' = σ ∧ ClearOn s r (clearScratch s r σ') := by
  have h := fold_spec t A s r σ (preOK_of_clearOn hclear)
  rw [emptied_of_clearOn hclear] at h
  simp only [fold, hrun, Prod.mk.injEq] at h
  exact ⟨h.2, by rw [h.2]; exact hclear⟩

/-- The short-circuit of `clear_scratch` is sound exactly under the closure condition "below an
empty reachable cell every cell is empty" (it is not sound in general, see the first `example` on the raw scratch API below). -/
theorem clear_short_circuit (s : Store) (r : Ref) (σ : Scr U)
    (hcl : ∀ j, reaches s r j = true → (σ j).isSome = false →
      ∀ k, reaches s (.reg j) k = true → (σ k).isSome = false) :
    ∀ j, clearScratch s r σ j = if reaches s r j then .empty else σ j :=
  fun j => congrFun (clearScratch_spec s r σ hcl) j

/-! ## the public calls -/

/-- `DDNNFPtr::fold` (model counting in any semiring, `evaluate`, the trait's `semantic_hash`):
the tree-level answer, and the scratch exactly as before. -/
theorem fold_pure (t : Tag) (A : Alg (U t)) (s : Store) (r : Ref) (σ : Scr U) (h : ClearOn s r σ) :
    fold t A s r σ = (treeFold A (unfold s r) false, σ) := by
  rw [fold_spec t A s r σ (preOK_of_clearOn h), emptied_of_clearOn h]; rfl

/-- Stronger: leftovers of any *other* type (a `usize`, a pair of another result type, a
`BddPtr`) anywhere below the root are harmless — the downcast fails, the node is recomputed and
overwritten, and the trailing clear removes them. -/
theorem fold_robust (t : Tag) (A : Alg (U t)) (s : Store) (r : Ref) (σ : Scr U)
    (h : ∀ j, reaches s r j = true → (σ j).asPair t = none) :
    fold t A s r σ = (treeFold A (unfold s r) false, fun j => if reaches s r j then .empty else σ j) :=
  fold_spec t A s r σ (preOK_of_noPair h)

/-- `BddPtr::bdd_fold` -/
theorem bddFold_pure (t : Tag) (f : Nat → U t → U t → U t) (lowV highV : U t) (s : Store) (r : Ref)
    (σ : Scr U) (h : ClearOn s r σ) :
    bddFold t f lowV highV s r σ = (treeFold (bddAlg f lowV highV) (unfold s r) false, σ) :=
  (bddFold_eq_fold t f lowV highV s r σ).trans (fold_pure t _ s r σ h)

/-- `marginal_map`, `meu`, `bb`: any adaptive sequence of `bdd_fold` passes -/
theorem optim_pure (t : Tag) (p : OptProg (U t)) (s : Store) (r : Ref) (σ : Scr U) (h : ClearOn s r σ) :
    runOpt t s r p σ = (optSpec (unfold s r) p, σ) := by
  induction p with
  | done v => rfl
  | pass f lo hi k ih => simp only [runOpt, bddFold_pure t f lo hi s r σ h, optSpec]; exact ih _

/-- only a leftover `usize` can hurt `count_nodes` -/
theorem countNodes_robust (s : Store) (r : Ref) (σ : Scr U)
    (h : ∀ j, reaches s r j = true → (σ j).asCount = none) :
    countNodes s r σ = (reachCount s r, fun j => if reaches s r j then .empty else σ j) := by
  have hvis : ∀ j, (reaches s r j && (σ j).asCount.isNone) = reaches s r j := fun j => by
    cases hj : reaches s r j with
    | false => rfl
    | true => simp [h j hj]
  simp only [countNodes, countH_eq_dfs,
    dfs_spec (visit := fun c => c.asCount.isNone) (mark := .count 0) rfl s.length s r σ 0 (Nat.le_refl _)
      (fun j hj hn => by simp [h j hj] at hn), entered, hvis]
  rw [clearScratch_of_occupied s r _ (fun j hj => by simp [markOn, hj, h j hj, Cell.isSome])]
  refine Prod.ext ?_ (funext fun j => by cases hj : reaches s r j <;> simp [markOn, hj])
  simp only [reachCount, Nat.zero_add]
  induction List.range s.length with
  | nil => rfl
  | cons x l ih => cases hx : reaches s r x <;> simp [hx, ih] <;> omega

/-- `count_nodes` = the number of distinct reachable nodes, scratch as before -/
theorem countNodes_pure (s : Store) (r : Ref) (σ : Scr U) (h : ClearOn s r σ) :
    countNodes s r σ = (((List.range s.length).filter (reaches s r)).length, σ) := by
  rw [countNodes_robust s r σ (fun j hj => by rw [h j hj]; rfl), emptied_of_clearOn h]; rfl

/-! ## sequences of queries -/

/-- one public call from the all-clear state: the scratch-free answer, the scratch-free store,
and the all-clear state again -/
theorem runQuery_spec (s : Store) (r : Ref) (q : Query U) :
    runQuery ⟨s, Scr.clear⟩ r q = ((specQuery s r q).1, ⟨(specQuery s r q).2, Scr.clear⟩) := by
  have hc : ClearOn s r (Scr.clear (U := U)) := fun _ _ => rfl
  cases q <;> simp only [runQuery, specQuery, fold_pure _ _ s r _ hc, bddFold_pure _ _ _ _ s r _ hc,
    optim_pure _ _ s r _ hc, countNodes_pure s r _ hc, reachCount, Scratch.condition, dnnfCondition, clearScratch_clear]

theorem runQueries_spec : ∀ (qs : List (Ref × Query U)) (s : Store),
    runQueries ⟨s, Scr.clear⟩ qs = ((specQueries s qs).1, ⟨(specQueries s qs).2, Scr.clear⟩)
  | [], _ => rfl
  | (r, q) :: qs, s => by
    simp only [runQueries, specQueries, runQuery_spec s r q, runQueries_spec qs]

/-- **Queries are pure.**  For every list of public calls — of different result types, on
arbitrary roots of one store, the roots sharing whatever they share — started from the
all-clear state:

* the final state is all-clear again (so is every intermediate state, by the same theorem on
  the prefixes);
* the `k`-th answer is the answer the `k`-th call gives when run *alone* from an all-clear
  scratch on the store as it then is, which is the initial store plus nodes allocated on top
  by earlier `condition`/`smooth` calls. -/
theorem queries_pure (s : Store) (qs : List (Ref × Query U)) :
    (runQueries ⟨s, Scr.clear⟩ qs).2.scr = Scr.clear ∧
    ∀ (k : Nat) (r : Ref) (q : Query U), qs[k]? = some (r, q) →
      ∃ s', Extends s' s ∧
        (runQueries ⟨s, Scr.clear⟩ qs).1[k]? = some (runQuery ⟨s', Scr.clear⟩ r q).1 := by
  rw [runQueries_spec qs s]
  refine ⟨rfl, fun k r q hk => ?_⟩
  obtain ⟨s', he, hk'⟩ := specQueries_get qs s k r q hk
  exact ⟨s', he, by rw [runQuery_spec s' r q]; exact hk'⟩

/-- Allocation on top of a store changes no diagram that was already there … -/
theorem old_diagrams_unchanged {s' s : Store} (h : Extends s' s) {r : Ref} (hr : r.ValidIn s) :
    unfold s' r = unfold s r ∧ reachCount s' r = reachCount s r :=
  ⟨unfold_extends h hr, reachCount_extends h hr⟩

/-- … hence: wherever a read-only call stands in a sequence, whatever ran before it, on a root
of the initial store its answer is the tree-level answer on the initial store — the answer on a
freshly built copy of the diagram. -/
theorem queries_answers_fresh (s : Store) (qs : List (Ref × Query U)) (k : Nat) (r : Ref)
    (hr : r.ValidIn s) :
    (∀ t A, qs[k]? = some (r, .fold t A) →
      (runQueries ⟨s, Scr.clear⟩ qs).1[k]? = some (.val t (treeFold A (unfold s r) false))) ∧
    (∀ t f lo hi, qs[k]? = some (r, .bddFold t f lo hi) →
      (runQueries ⟨s, Scr.clear⟩ qs).1[k]? =
        some (.val t (treeFold (bddAlg f lo hi) (unfold s r) false))) ∧
    (∀ t p, qs[k]? = some (r, .optim t p) →
      (runQueries ⟨s, Scr.clear⟩ qs).1[k]? = some (.val t (optSpec (unfold s r) p))) ∧
    (qs[k]? = some (r, .countNodes) →
      (runQueries ⟨s, Scr.clear⟩ qs).1[k]? = some (.num (reachCount s r))) := by
  rw [runQueries_spec qs s]
  refine ⟨fun t A hk => ?_, fun t f lo hi hk => ?_, fun t p hk => ?_, fun hk => ?_⟩ <;>
  · obtain ⟨s', he, hk'⟩ := specQueries_get qs s k r _ hk
    obtain ⟨hu, hc⟩ := old_diagrams_unchanged he hr
    simp only [specQuery, hu, hc] at hk'
    exact hk'

/-- two diagrams that unfold to the same tree (a diagram and a freshly built copy, in the same
or in another builder) give the same `fold` answer, whatever else their stores contain -/
theorem fold_copy (t : Tag) (A : Alg (U t)) (s s' : Store) (r r' : Ref) (σ σ' : Scr U)
    (h : ClearOn s r σ) (h' : ClearOn s' r' σ') (hcopy : unfold s' r' = unfold s r) :
    (fold t A s' r' σ').1 = (fold t A s r σ).1 := by
  rw [fold_pure t A s r σ h, fold_pure t A s' r' σ' h', hcopy]

/-- **Queries commute.**  A sequence of read-only calls is a `map` of the single calls on the
fresh state, so any reordering of the calls reorders the answers and changes none; repeating a
call repeats its answer. -/
theorem queries_commute (s : Store) (qs : List (Ref × Query U)) (h : ∀ p ∈ qs, p.2.readOnly = true) :
    runQueries ⟨s, Scr.clear⟩ qs =
      (qs.map fun p => (runQuery ⟨s, Scr.clear⟩ p.1 p.2).1, ⟨s, Scr.clear⟩) := by
  rw [runQueries_spec qs s, specQueries_readOnly qs s h]
  simp only [runQuery_spec s _ _]

theorem queries_perm (s : Store) (qs qs' : List (Ref × Query U)) (hp : qs.Perm qs')
    (h : ∀ p ∈ qs, p.2.readOnly = true) :
    (runQueries ⟨s, Scr.clear⟩ qs).1.Perm (runQueries ⟨s, Scr.clear⟩ qs').1 := by
  rw [queries_commute s qs h, queries_commute s qs' (fun p hp' => h p (hp.mem_iff.2 hp'))]
  exact hp.map _

end

/-! ## non-vacuity: a store with sharing

```
0: (x2, F, T)
1: (x1, !0, 0)      node 0 under a complemented and under a regular edge
2: (x0, 0, 1)       root A: node 0 shared by A directly and through 1
3: (x0, !1, 0)      root B shares 0 and 1 with A
```
-/

inductive DTag | b | n | z deriving DecidableEq
abbrev DU : DTag → Type
  | .b => Bool | .n => Nat | .z => Int

def exS : Store := Store.ofList
  [⟨2, .fls, .tru⟩, ⟨1, .compl 0, .reg 0⟩, ⟨0, .reg 0, .reg 1⟩, ⟨0, .compl 1, .reg 0⟩]
def natOps : SROps Nat := ⟨0, 1, (· + ·), (· * ·)⟩
def intOps : SROps Int := ⟨0, 1, (· + ·), (· * ·)⟩
def w1 : Weights Nat := fun v => (v + 2, v + 3)
def ansNat : Answer DU → Option Int
  | .val .b v => some (if v then 1 else 0)
  | .val .n v => some v
  | .val .z v => some v
  | .num k => some k
  | .ref _ => none

/-- after the pass, before the clear: node 0 has been met complemented (4) and regular (5); every reachable cell is occupied -/
example : ((foldDag (U := DU) .n (wmcAlg natOps w1) exS (.reg 2) Scr.clear).2 0).asPair .n = some (some 4, some 5) := by
  decide +kernel
example : (foldDag (U := DU) .n (wmcAlg natOps w1) exS (.reg 2) Scr.clear).2.occupied 4 = [true, true, true, false] := by
  decide +kernel
example : (foldDag (U := DU) .n (wmcAlg natOps w1) exS (.reg 2) Scr.clear).1 = 106 ∧
    treeFold (wmcAlg natOps w1) (unfold exS (.reg 2)) false = 106 ∧
    wmc natOps w1 (unfold exS (.reg 2)) = 106 := by decide +kernel
example : (fold (U := DU) .n (wmcAlg natOps w1) exS (.reg 2) Scr.clear).2.occupied 4 = [false, false, false, false] := by
  decide +kernel

/-- ten calls of three result types on the two roots in both polarities, with allocation in
between -/
def exQs : List (Ref × Query DU) :=
  [(.reg 2, .wmc .n natOps w1), (.compl 3, .countNodes), (.reg 3, .fold .b (evalAlg fun v => v == 1)),
   (.compl 2, .wmc .n natOps (fun _ => (1, 1))), (.reg 2, .condition (· < ·) 1 true),
   (.reg 3, .wmc .z intOps (fun _ => (1, -1))), (.reg 2, .countNodes), (.reg 2, .smooth id id 3),
   (.reg 2, .dnnfCondition 2 false), (.reg 2, .wmc .n natOps w1)]

theorem exQs_run :
    (runQueries ⟨exS, Scr.clear⟩ exQs).1.map ansNat =
      [some 106, some 3, some 1, some 3, none, some (-1), some 3, none, none, some 106] ∧
    (runQueries ⟨exS, Scr.clear⟩ exQs).2.store.length = 8 ∧
    (runQueries ⟨exS, Scr.clear⟩ exQs).2.scr.occupied 8 = List.replicate 8 false := by decide +kernel

example : (runQueries ⟨exS, Scr.clear⟩ exQs).1.map ansNat =
    [some 106, some 3, some 1, some 3, none, some (-1), some 3, none, none, some 106] := exQs_run.1
example : (runQueries ⟨exS, Scr.clear⟩ exQs).2.store.length = 8 ∧
    (runQueries ⟨exS, Scr.clear⟩ exQs).2.scr.occupied 8 = List.replicate 8 false := exQs_run.2

/-! ## what the precondition protects against (raw scratch API, not a query) -/

/-- `set_scratch::<usize>` on an inner node while the root's cell is empty (`bdd_set_scratch`
of the C API): `clear_scratch(root)` is cut short at the root and does not remove it; the next
`count_nodes(root)` under-counts (2 instead of 3); the call after that is right again. -/
example :
    let st1 := rawSetScratch (U := DU) ⟨exS, Scr.clear⟩ 0 (.count 7)
    let st2 := rawClearScratch st1 (.reg 2)
    let a := runQuery st2 (.reg 2) .countNodes
    let b := runQuery a.2 (.reg 2) .countNodes
    st2.scr.occupied 4 = [true, false, false, false] ∧ ansNat a.1 = some 2 ∧ ansNat b.1 = some 3 := by
  decide +kernel

/-- a stale pair of the *same* result type below an empty root is believed: 2300 instead of 106;
a stale pair of another type is not (`fold_robust`) -/
example :
    ansNat (runQuery (rawSetScratch (U := DU) ⟨exS, Scr.clear⟩ 0 (.pair .n (some 100) (some 100)))
      (.reg 2) (.wmc .n natOps w1)).1 = some 2300 ∧
    ansNat (runQuery (rawSetScratch (U := DU) ⟨exS, Scr.clear⟩ 0 (.pair .z (some 100) (some 100)))
      (.reg 2) (.wmc .n natOps w1)).1 = some 106 := by decide +kernel

/-! ## the `semantic_hash` cache is outside the scratch discipline

`cached_semantic_hash(order, map)` stores the hash in a second per-node field that no call ever
clears and that is not keyed by the weight map or the prime: a second call with another map
returns the first map's hash (3, the correct value is 0), and if only a sub-diagram was hashed
before, a value that belongs to neither map (4).  (Field 𝔽₇; both maps have `low + high = 1`.) -/
def m1 : Weights Nat := fun _ => (3, 5)
def m2 : Weights Nat := fun _ => (2, 6)

example :
    (cachedHash 7 m1 exS (.reg 2) (fun _ => none)).1 = 3 ∧
    (cachedHash 7 m2 exS (.reg 2) (fun _ => none)).1 = 0 ∧
    (cachedHash 7 m2 exS (.reg 2) (cachedHash 7 m1 exS (.reg 2) (fun _ => none)).2).1 = 3 ∧
    (cachedHash 7 m2 exS (.reg 2) (cachedHash 7 m1 exS (.reg 1) (fun _ => none)).2).1 = 4 := by decide +kernel

end C10

#print axioms C10.foldDag_eq_tree
#print axioms C10.pass_occupies_reachable
#print axioms C10.clear_after_pass
#print axioms C10.clear_short_circuit
#print axioms C10.fold_pure
#print axioms C10.fold_robust
#print axioms C10.bddFold_pure
#print axioms C10.optim_pure
#print axioms C10.countNodes_pure
#print axioms C10.countNodes_robust
#print axioms C10.queries_pure
#print axioms C10.old_diagrams_unchanged
#print axioms C10.queries_answers_fresh
#print axioms C10.fold_copy
#print axioms C10.queries_commute
#print axioms C10.queries_perm
