import RsddModel.Lemmas.Lru
import RsddModel.Model.LruCache
import RsddModel.Props.C02
/-!
# C16 — operation caches are transparent (the lossy cache `Lru` of `src/util/lru.rs`)

Property theorems only; the work is in `Model/LruLemmas` (slot invariant, growth, one-step law)
and `Lemmas/Lru` (history theorem, growth-test lemma, fill counter).

Everywhere `hashOf : K → Nat` is an arbitrary function (collisions arbitrary), `num/den` an
arbitrary growth ratio, `cap` an arbitrary initial capacity exponent, `ops` an arbitrary list of
insertions.

* `lru_lawful` : after any history, `get k` is `none` or the value of the last insertion under `k`;
* `lru_never_foreign` : a returned value was inserted under exactly the asked key, and no later
  insertion in the history has that key;
* `lru_never_foreign_raw` : even for the raw API (any table, any hashes) a returned value is stored
  under the asked key;
* `lru_grow_keeps` : growth loses nothing and confuses nothing;
* `lru_grow_is_rust_grow` : the model's `grow` is the Rust's (inner growth test never fires);
* `lruCache_is_lawful` : the `CacheImpl` instance backed by `Lru`, for all parameters;
* `lru_builder_same_diagrams` : consequently a builder run with the lossy cache (any capacity,
  ratio, hash function) returns the same diagrams as one that caches every application;
* non-vacuity examples and the stale-value counter-example for inconsistent hashes.
-/
namespace C16
open Lru

variable {K V : Type} [DecidableEq K]

/-- **C16, history form** -/
theorem lru_lawful (hashOf : K → Nat) (num den cap : Nat) (ops : List (K × V)) (k : K) :
    get (run hashOf num den cap ops) k (hashOf k) = none ∨
    get (run hashOf num den cap ops) k (hashOf k) = lastInserted ops k :=
  Lru.lru_lawful hashOf num den cap ops k

/-- **C16, never a foreign or outdated value**: what `get k` returns is the value of a pair
`(k, v)` of the history after which no insertion under `k` occurs -/
theorem lru_never_foreign (hashOf : K → Nat) (num den cap : Nat) (ops : List (K × V)) (k : K)
    (v : V) (hg : get (run hashOf num den cap ops) k (hashOf k) = some v) :
    ∃ pre post, ops = pre ++ (k, v) :: post ∧ ∀ kv ∈ post, kv.1 ≠ k := by
  rcases Lru.lru_lawful hashOf num den cap ops k with h | h
  · rw [h] at hg; cases hg
  · exact lastInserted_last ops k v (by rw [← h, hg])

/-- the raw API, arbitrary table and hash: the key is compared, so the value belongs to an element
stored under the asked key -/
theorem lru_never_foreign_raw (t : Tbl K V) (k : K) (h : Nat) (v : V) (hg : get t k h = some v) :
    ∃ e, some e ∈ t.tbl ∧ e.key = k ∧ e.val = v :=
  have ⟨e, he, hk, hv⟩ := (get_eq_some_iff t k h v).1 hg
  ⟨e, List.mem_of_getElem? he, hk, hv⟩

/-- **C16, growth** -/
theorem lru_grow_keeps (hashOf : K → Nat) (t : Tbl K V) (hi : Inv hashOf t) (k : K) :
    get (grow t) k (hashOf k) = get t k (hashOf k) ∧ Inv hashOf (grow t) :=
  ⟨grow_keeps hi k, inv_grow hi⟩

omit [DecidableEq K] in
/-- the invariant holds after every history (so `lru_grow_keeps` applies at every growth) -/
theorem lru_inv (hashOf : K → Nat) (num den cap : Nat) (ops : List (K × V)) :
    Inv hashOf (run hashOf num den cap ops) := inv_runFrom num den (inv_new hashOf cap) ops

omit [DecidableEq K] in
/-- the modelling remark in `Lru.grow`: with `GROW_RATIO = num/den ≥ 1/2` the literal loop of the
Rust (full `insert`, with its own growth test) is the model's loop -/
theorem lru_grow_is_rust_grow (num den : Nat) (hr : den ≤ 2 * num) (t : Tbl K V)
    (hl : t.tbl.length = 2 ^ t.cap) : growRust num den t = grow t := growRust_eq_grow hr hl

/-- **C16, one-step contract**, and visibility of a fresh insertion -/
theorem lru_one_step (hashOf : K → Nat) (num den : Nat) (t : Tbl K V) (hi : Inv hashOf t)
    (k k' : K) (v : V) :
    get (insert num den t k v (hashOf k)) k (hashOf k) = some v ∧
    ∀ v', get (insert num den t k v (hashOf k)) k' (hashOf k') = some v' →
      (k' = k ∧ v' = v) ∨ get t k' (hashOf k') = some v' :=
  ⟨insert_get_self num den hi k v, fun v' h => insert_law num den hi k k' v v' h⟩

/-- **C16, the adapter**: for every hash function, ratio and initial capacity the `CacheImpl`
`Bdd.LruCache` really is the `Lru` (its `get`/`insert` are `Lru.get`/`Lru.insert` at the hash of
the key, its initial state is `Lru.new`) and satisfies the cache contract -/
theorem lruCache_is_lawful (hashOf : (Bdd.Ptr × Bdd.Ptr × Bdd.Ptr) → Nat) (num den cap0 : Nat) :
    let C := Bdd.LruCache hashOf num den cap0
    (∀ s k v k' v', C.get (C.insert s k v) k' = some v' → (k' = k ∧ v' = v) ∨ C.get s k' = some v') ∧
    (∀ k, C.get C.empty k = none) ∧
    (∀ s k v, C.get (C.insert s k v) k = some v) ∧
    (∀ (s : C.σ) k, C.get s k = Lru.get s.1 k (hashOf k)) ∧
    (∀ (s : C.σ) k v, (C.insert s k v).1 = Lru.insert num den s.1 k v (hashOf k)) ∧
    C.empty.1 = Lru.new cap0 :=
  ⟨(Bdd.LruCache hashOf num den cap0).lawful, (Bdd.LruCache hashOf num den cap0).empty_get,
    fun s k v => insert_get_self num den s.2 k v, fun _ _ => rfl, fun _ _ _ => rfl, rfl⟩

/-- **C16, consequence for the builder**: any two lawful caches — in particular the lossy cache
at any capacity/ratio/hash function and the cache that keeps every application — give the same
diagrams, entry by entry, on every program on which both runs return -/
theorem builder_cache_independent (C₁ C₂ : Bdd.CacheImpl) (lvl : Nat → Nat)
    (inj : ∀ x y, lvl x = lvl y → x = y) (fuel₁ fuel₂ n : Nat) (ops : List Bdd.Op)
    (st₁ : Bdd.St C₁) (st₂ : Bdd.St C₂)
    (h₁ : Bdd.run C₁ lvl fuel₁ (Bdd.St.init C₁ n) ops = some st₁)
    (h₂ : Bdd.run C₂ lvl fuel₂ (Bdd.St.init C₂ n) ops = some st₂) : st₁.pool = st₂.pool := by
  obtain ⟨sp₁, hs₁, hr₁, hi₁⟩ := Bdd.run_refines C₁ lvl inj fuel₁ n ops st₁ h₁
  obtain ⟨sp₂, hs₂, hr₂, hi₂⟩ := Bdd.run_refines C₂ lvl inj fuel₂ n ops st₂ h₂
  cases hs₁.symm.trans hs₂
  apply List.ext_getElem (by rw [← hr₁.2.1, ← hr₂.2.1])
  intro i h1 h2
  have h3 : i < sp₁.2.length := by rw [hr₁.2.1]; exact h1
  apply (Bdd.canon lvl inj (hi₁.2.2 _ (List.getElem_mem h1)) (hi₂.2.2 _ (List.getElem_mem h2))).1
  exact fun a => (congrFun (hr₁.2.2 i h1 h3) a).trans (congrFun (hr₂.2.2 i h2 h3) a).symm

theorem lru_builder_same_diagrams (hashOf : (Bdd.Ptr × Bdd.Ptr × Bdd.Ptr) → Nat)
    (num den cap0 : Nat) (lvl : Nat → Nat) (inj : ∀ x y, lvl x = lvl y → x = y)
    (fuel₁ fuel₂ n : Nat) (ops : List Bdd.Op)
    (st₁ : Bdd.St (Bdd.LruCache hashOf num den cap0)) (st₂ : Bdd.St Bdd.AllCache)
    (h₁ : Bdd.run (Bdd.LruCache hashOf num den cap0) lvl fuel₁ (Bdd.St.init _ n) ops = some st₁)
    (h₂ : Bdd.run Bdd.AllCache lvl fuel₂ (Bdd.St.init _ n) ops = some st₂) :
    st₁.pool = st₂.pool :=
  builder_cache_independent _ _ lvl inj fuel₁ fuel₂ n ops st₁ st₂ h₁ h₂

/-! ## non-vacuity

Capacity exponent 1 (two slots), `GROW_RATIO = 7/10`, hash `k % 8`: keys `1`, `9`, `17` have the
same hash (full collision); `1` and `3` collide in two slots but not in four.  The history
overwrites `1` by `9` (collision), grows twice (at the 4th and the 6th insertion), overwrites `9`
by `1` again, and ends with eight slots. -/

def demoHash (k : Nat) : Nat := k % 8
def demoOps : List (Nat × Nat) := [(1, 100), (9, 900), (2, 200), (1, 101), (3, 300), (5, 500)]
def demoTbl : Tbl Nat Nat := run demoHash 7 10 1 demoOps

example : demoTbl.cap = 3 ∧ demoTbl.tbl.length = 8 ∧ demoTbl.numFilled = 4 := by decide +kernel
/-- the growth steps happen exactly at the 4th and 6th insertion -/
example : (demoOps.length.fold (fun i _ acc => acc ++ [(run demoHash 7 10 1 (demoOps.take (i+1))).cap]) [])
    = [1, 1, 1, 2, 2, 3] := by decide +kernel
/-- last value under `1` (inserted twice, lost once to `9` in between), survives the 2nd growth -/
example : get demoTbl 1 (demoHash 1) = some 101 ∧ lastInserted demoOps 1 = some 101 := by decide +kernel
/-- `9` was inserted but lost to the colliding `1`: permitted forgetting, not a wrong value -/
example : get demoTbl 9 (demoHash 9) = none ∧ lastInserted demoOps 9 = some 900 := by decide +kernel
/-- `17` collides with `1` and was never inserted: nothing, not the value of `1` -/
example : get demoTbl 17 (demoHash 17) = none := by decide +kernel
/-- entries inserted before a growth are found after it -/
example : get demoTbl 2 (demoHash 2) = some 200 ∧ get demoTbl 3 (demoHash 3) = some 300 ∧
    get demoTbl 5 (demoHash 5) = some 500 := by decide +kernel
/-- before the first growth `9` had displaced `1` -/
example : get (run demoHash 7 10 1 (demoOps.take 3)) 1 (demoHash 1) = none ∧
    get (run demoHash 7 10 1 (demoOps.take 3)) 9 (demoHash 9) = some 900 := by decide +kernel

/-- the builder on the demo program of C01 with a one-slot-exponent lossy cache whose hash makes
many keys collide returns (is `some`) and gives the pool of the cache-everything builder -/
def demoPtrHash : (Bdd.Ptr × Bdd.Ptr × Bdd.Ptr) → Nat
  | (.node _ v _ _, .node _ w _ _, _) => v + 2 * w
  | (.node _ v _ _, _, _) => v
  | _ => 0

example : (Bdd.run (Bdd.LruCache demoPtrHash 7 10 1) id 20 (Bdd.St.init _ 3) Bdd.demoProg).map (·.pool)
    = some Bdd.demoPool := by decide +kernel
example : (Bdd.run (Bdd.LruCache (fun _ => 0) 7 10 0) id 20 (Bdd.St.init _ 3) Bdd.demoProg).map (·.pool)
    = some Bdd.demoPool := by decide +kernel

/-! ## why `hashOf` is a hypothesis -/

/-- with INCONSISTENT hashes for one key the raw API returns a stale value: key `5` gets value
`10` at hash `0`, then value `20` at hash `1`; a lookup at hash `0` still answers `10` -/
example : get (insert 7 10 (insert 7 10 (new 1 : Tbl Nat Nat) 5 10 0) 5 20 1) 5 0 = some 10 := by
  decide +kernel

theorem lru_stale_if_hash_inconsistent :
    ∃ (t : Tbl Nat Nat) (k v1 v2 : Nat), v1 ≠ v2 ∧
      get (insert 7 10 (insert 7 10 t k v1 0) k v2 1) k 0 = some v1 :=
  ⟨new 1, 5, 10, 20, by decide, by decide⟩

end C16

#print axioms C16.lru_lawful
#print axioms C16.lru_never_foreign
#print axioms C16.lru_never_foreign_raw
#print axioms C16.lru_grow_keeps
#print axioms C16.lru_inv
#print axioms C16.lru_grow_is_rust_grow
#print axioms C16.lru_one_step
#print axioms C16.lruCache_is_lawful
#print axioms C16.builder_cache_independent
#print axioms C16.lru_builder_same_diagrams
#print axioms C16.lru_stale_if_hash_inconsistent
