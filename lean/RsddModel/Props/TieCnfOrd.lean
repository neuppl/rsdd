import RsddModel.Model.GenCnfOrd
import RsddModel.Model.Orders
import RsddModel.Model.OrdersExtra
import RsddModel.Lemmas.TieCnfOrdAux
/-!
# Tie to the source text (translator route): the order heuristics of `src/repr/cnf.rs`

`RsddModel/Model/GenCnfOrd.lean` is rewritten from `src/repr/cnf.rs` on every run
(tools/gen_cnford.py): `eliminate_node`, `num_fill`, `Cnf::interaction_graph`, `min_fill_order`,
`linear_order`, `average_span`, `center_of_gravity`, `force_order`.  Every loop body of the Rust is
its own generated definition (`…_loop<k>`); the proofs below first characterise the loop bodies
(`have h… : ∀ …, …_loopk … = …`, by unfolding, so a harmless re-arrangement of the body still checks),
then turn the index loops into the list recursion of the hand-written model
(`Tr.forRange_drop_foldl`, `Tr.forRange_dropRec`) and conclude equality with `Orders.*`, the
definitions the theorems of C14 are about.

The loop definitions only exist when the function was translated; they are mentioned only inside
one alternative of a `first` that also offers `rfl`, so that the alias fallback (UNTRANSLATED) still
checks (`rfl` comes last where its failure on the translated text is slow).
-/
set_option linter.unusedSimpArgs false
set_option linter.unusedVariables false
namespace TieCnfOrd
open Orders

theorem getD_eq_of_lt {α : Type} (l : List α) (j : Nat) (d : α) (h : j < l.length) : l.getD j d = l[j] := by
  simp [List.getD_eq_getElem?_getD, List.getElem?_eq_getElem h]

theorem addNodes_range (n : Nat) :
    (List.range n).foldl (fun (s : UnGraph) v => UnGraph.addNode s v) ({ nodes := [], edges := [] } : UnGraph)
      = ({ nodes := List.range n, edges := [] } : UnGraph) := by
  induction n with
  | zero => rfl
  | succ n ih => rw [List.range_succ, List.foldl_append, ih]; rfl

theorem minmax_foldl (p : Spec.Lit → Nat) (c : List Spec.Lit) (a b : Nat) :
    c.foldl (fun (s : Nat × Nat) lit => (min (p lit) s.1, max (p lit) s.2)) (a, b)
      = (c.foldl (fun m l => min (p l) m) a, c.foldl (fun m l => max (p l) m) b) := by
  induction c generalizing a b with
  | nil => rfl
  | cons x xs ih => simp only [List.foldl_cons]; exact ih _ _

/-! ## `num_fill`, `eliminate_node` -/

theorem numFill_tie : Gen.CnfOrd.numFill = Orders.numFill := by
  first
  | rfl
  | (funext g v
     simp only [Gen.CnfOrd.numFill, Orders.numFill]
     have h2 : ∀ n1 n2 s, Gen.CnfOrd.numFill_loop2 g v n1 n2 s
         = (fun (b : Nat) (s : Nat) => if !g.hasEdge ((g.neighbors v).getD n1 0) b then s + 1 else s)
             ((g.neighbors v).getD n2 0) s := by
       intro n1 n2 s
       first
       | rfl
       | (simp only [Gen.CnfOrd.numFill_loop2]; split <;> simp_all <;> omega)
     have h1 : ∀ n1 s, Gen.CnfOrd.numFill_loop1 g v n1 s
         = s + (((g.neighbors v).drop (n1 + 1)).filter fun b => !g.hasEdge ((g.neighbors v).getD n1 0) b).length := by
       intro n1 s
       unfold Gen.CnfOrd.numFill_loop1
       rw [Tr.forRange_drop_foldl _
         (fun (b : Nat) (s : Nat) => if !g.hasEdge ((g.neighbors v).getD n1 0) b then s + 1 else s)
         (g.neighbors v) 0 (fun j s _ => h2 n1 j s)]
       exact Tr.count_foldl _ _ _
     rw [Tr.forRange_dropRec _ (fun a r s => s + (r.filter fun b => !g.hasEdge a b).length) (g.neighbors v) 0
       (fun j s _ => h1 j s)]
     simp [Tr.countMissing_eq_dropRec])

theorem eliminateNode_tie : Gen.CnfOrd.eliminateNode = Orders.eliminateNode := by
  first
  | (funext g v
     simp only [Gen.CnfOrd.eliminateNode, Orders.eliminateNode]
     have h2 : ∀ n1 n2 s, Gen.CnfOrd.eliminateNode_loop2 g v n1 n2 s
         = (fun (b : Nat) (s : UnGraph) =>
              if s.hasEdge ((g.neighbors v).getD n1 0) b then s else s.addEdge ((g.neighbors v).getD n1 0) b)
             ((g.neighbors v).getD n2 0) s := by
       intro n1 n2 s
       simp only [Gen.CnfOrd.eliminateNode_loop2]
       first
       | (cases s.hasEdge ((g.neighbors v).getD n1 0) ((g.neighbors v).getD n2 0) <;> rfl)
       | (split <;> simp_all)
     have h1 : ∀ n1 s, Gen.CnfOrd.eliminateNode_loop1 g v n1 s
         = fillInner ((g.neighbors v).getD n1 0) ((g.neighbors v).drop (n1 + 1)) s := by
       intro n1 s
       unfold Gen.CnfOrd.eliminateNode_loop1
       rw [Tr.forRange_drop_foldl _
         (fun (b : Nat) (s : UnGraph) =>
           if s.hasEdge ((g.neighbors v).getD n1 0) b then s else s.addEdge ((g.neighbors v).getD n1 0) b)
         (g.neighbors v) 0 (fun j s _ => h2 n1 j s), Tr.fillInner_eq_foldl]
     rw [Tr.forRange_dropRec _ (fun a r s => fillInner a r s) (g.neighbors v) 0 (fun j s _ => h1 j s)]
     first
     | (rw [Tr.fillAll_eq_dropRec]; rfl)
     | simp [Tr.fillAll_eq_dropRec])
  | rfl

/-! ## `Cnf::interaction_graph` -/

theorem interactionGraph_tie : Gen.CnfOrd.interactionGraph = Orders.interactionGraph := by
  first
  | rfl
  | (funext cs n
     simp only [Gen.CnfOrd.interactionGraph, Orders.interactionGraph]
     have hnodes : forRange 0 n (fun v s1 => Gen.CnfOrd.interactionGraph_loop1 v s1)
         ({ nodes := [], edges := [] } : UnGraph) = ({ nodes := List.range n, edges := [] } : UnGraph) := by
       rw [Tr.forRange_zero]
       have : (fun (s : UnGraph) v => Gen.CnfOrd.interactionGraph_loop1 v s) = fun s v => UnGraph.addNode s v := by
         funext s v; first | rfl | simp [Gen.CnfOrd.interactionGraph_loop1]
       rw [this]; exact addNodes_range n
     have h4 : ∀ (c : Spec.Clause) i j s, Gen.CnfOrd.interactionGraph_loop4 c i j s
         = (fun (x : Spec.Lit) (s : UnGraph) =>
              if s.hasEdge (c.getD i default).var x.var then s else s.addEdge (c.getD i default).var x.var)
             (c.getD j default) s := by
       intro c i j s
       simp only [Gen.CnfOrd.interactionGraph_loop4]
       first
       | (cases s.hasEdge (c.getD i default).var (c.getD j default).var <;> rfl)
       | (split <;> simp_all)
     have h3 : ∀ (c : Spec.Clause) i s, Gen.CnfOrd.interactionGraph_loop3 c i s
         = igInner (c.getD i default).var (c.drop i) s := by
       intro c i s
       unfold Gen.CnfOrd.interactionGraph_loop3
       rw [Tr.forRange_drop_foldl _
         (fun (x : Spec.Lit) (s : UnGraph) =>
           if s.hasEdge (c.getD i default).var x.var then s else s.addEdge (c.getD i default).var x.var)
         c default (fun j s _ => h4 c i j s), Tr.igInner_eq_foldl]
     have h2 : ∀ (c : Spec.Clause) s, Gen.CnfOrd.interactionGraph_loop2 c s = igClause c s := by
       intro c s
       unfold Gen.CnfOrd.interactionGraph_loop2
       rw [Tr.forRange_dropRec _ (fun (x : Spec.Lit) r g => igInner x.var (x :: r) g) c default
         (fun j s hj => by
           show Gen.CnfOrd.interactionGraph_loop3 c j s = _
           rw [h3, List.drop_eq_getElem_cons hj, getD_eq_of_lt c j default hj])]
       first
       | (rw [Tr.igClause_eq_dropRec]; rfl)
       | simp [Tr.igClause_eq_dropRec]
     simp only [h2, hnodes])

/-! ## `Cnf::min_fill_order`, `linear_order` -/

theorem whileFuel_elimLoop (body : List Nat × UnGraph → List Nat × UnGraph)
    (hb : ∀ s, body s = (s.1 ++ [s.2.nodes.getD (minFillPick s.2) 0], Orders.eliminateNode s.2 (minFillPick s.2))) :
    ∀ (fuel : Nat) (g : UnGraph) (ord : List Nat),
      (Tr.whileFuel fuel (fun s => decide (s.2.nodes.length > 0)) body (ord, g)).1
        = elimLoop minFillPick (fun g v => fillAll (g.neighbors v) g) fuel g ord := by
  intro fuel
  induction fuel with
  | zero => intro g ord; rfl
  | succ n ih =>
    intro g ord
    simp only [Tr.whileFuel, elimLoop]
    by_cases h : g.nodes.length = 0
    · simp [h]
    · have h' : g.nodes.length > 0 := by omega
      simp only [h, h', decide_true, if_true, if_false, hb]
      exact ih _ _

theorem minFillOrder_tie : Gen.CnfOrd.minFillOrder = Orders.minFillOrder := by
  first
  | rfl
  | (funext cs n
     simp only [Gen.CnfOrd.minFillOrder, Orders.minFillOrder, minFillSeq, interactionGraph_tie]
     have hb : ∀ s, Gen.CnfOrd.minFillOrder_loop1 s
         = (s.1 ++ [s.2.nodes.getD (minFillPick s.2) 0], Orders.eliminateNode s.2 (minFillPick s.2)) := by
       intro s
       simp only [Gen.CnfOrd.minFillOrder_loop1, Tr.minBy_firstMinIdx, numFill_tie, eliminateNode_tie, minFillPick]
     rw [whileFuel_elimLoop _ hb])

theorem linearOrder_tie : Gen.CnfOrd.linearOrder = fun (_ : Spec.Cnf) (n : Nat) => Orders.linearOrder n := by
  first
  | rfl
  | (funext cs n; simp [Gen.CnfOrd.linearOrder, Orders.linearOrder]; done)

/-! ## FORCE: `average_span`, `center_of_gravity` -/

theorem averageSpan_tie : @Gen.CnfOrd.averageSpan
    = fun {K : Type} (ops : ForceOps K) (cs : Spec.Cnf) (_ : Nat) (l : List Nat) => Orders.averageSpan ops cs l := by
  first
  | rfl
  | (funext K ops cs n l
     simp only [Gen.CnfOrd.averageSpan, Orders.averageSpan, spanTotal]
     have h2 : ∀ (lit : Spec.Lit) (s : Nat × Nat), Gen.CnfOrd.averageSpan_loop2 l lit s
         = (min (l.getD lit.var 0) s.1, max (l.getD lit.var 0) s.2) := by
       intro lit s; first | rfl | simp [Gen.CnfOrd.averageSpan_loop2]
     have h1 : (fun s1 clause => Gen.CnfOrd.averageSpan_loop1 l clause s1)
         = fun total (c : Spec.Clause) =>
             total + (c.foldl (fun m l' => max (l.getD l'.var 0) m) 0 - c.foldl (fun m l' => min (l.getD l'.var 0) m) l.length) := by
       funext s1 c
       simp only [Gen.CnfOrd.averageSpan_loop1, h2]
       rw [minmax_foldl (fun lit => l.getD lit.var 0)]
     rw [h1])

theorem centerOfGravity_tie : @Gen.CnfOrd.centerOfGravity
    = fun {K : Type} (ops : ForceOps K) (_ : Spec.Cnf) (_ : Nat) (c : Spec.Clause) (l : List Nat) =>
        Orders.centerOfGravity ops c l := by
  first
  | rfl
  | (funext K ops cs n c l; simp [Gen.CnfOrd.centerOfGravity, Orders.centerOfGravity]; done)
  | (funext K ops cs n c l; simp [Gen.CnfOrd.centerOfGravity, Orders.centerOfGravity, Nat.add_comm]; done)
  | (funext K ops cs n c l; simp only [Gen.CnfOrd.centerOfGravity, Orders.centerOfGravity]
     congr 2; congr 1; funext acc lbl; omega)

/-! ## FORCE: `force_order` -/

theorem foldl_push_map {α β : Type} (f : α → β) (l : List α) (acc : List β) :
    l.foldl (fun s x => s ++ [f x]) acc = acc ++ l.map f := by
  induction l generalizing acc with
  | nil => simp
  | cons x xs ih => simp [ih]

theorem forRange_push_replicate {β : Type} (a : β) (n : Nat) :
    forRange 0 n (fun (_ : Nat) (s : List β) => s ++ [a]) [] = List.replicate n a := by
  rw [Tr.forRange_zero, foldl_push_map (fun _ => a)]
  induction n with
  | zero => rfl
  | succ n ih => rw [List.range_succ, List.map_append, ← List.nil_append (List.map _ _ ++ _)] at *; simp_all [List.replicate_succ']

theorem forEnum_newLoop_aux (p : List Nat) (k : Nat) (l : List Nat) :
    (p.zipIdx k).foldl (fun (s : List Nat) q => s.set q.1 q.2) l = newLoop p k l := by
  induction p generalizing k l with
  | nil => rfl
  | cons x xs ih => simp only [List.zipIdx_cons, List.foldl_cons, newLoop]; exact ih _ _

theorem forEnum_newLoop (p l : List Nat) :
    Tr.forEnum p l (fun idx lbl s => List.set s lbl idx) = newLoop p 0 l :=
  forEnum_newLoop_aux p 0 l

theorem forEnum_zip_map_aux {α β σ : Type} (f : α → β) (d : β) (F : α → β → σ → σ) (cs : List α) :
    ∀ (pre : List α) (s : σ),
      (cs.zipIdx pre.length).foldl (fun s p => F p.1 (((pre ++ cs).map f).getD p.2 d) s) s
        = (cs.zip (cs.map f)).foldl (fun s cg => F cg.1 cg.2 s) s := by
  induction cs with
  | nil => intro pre s; rfl
  | cons x xs ih =>
    intro pre s
    simp only [List.zipIdx_cons, List.foldl_cons, List.map_cons, List.zip_cons_cons]
    have hx : (List.map f (pre ++ x :: xs)).getD pre.length d = f x := by simp [List.getD]
    have h := ih (pre ++ [x]) (F x (f x) s)
    simp only [List.length_append, List.length_singleton, List.append_assoc, List.singleton_append] at h
    rw [hx]
    exact h

/-- `for (idx, c) in cs.enumerate() { s = F' idx c s }` where `F'` uses `idx` only to read `cog[idx]`,
`cog = cs.map f` -/
theorem forEnum_zip_map {α β σ : Type} (f : α → β) (d : β) (F : α → β → σ → σ) (F' : Nat → α → σ → σ) (cs : List α)
    (hF : ∀ idx c s, F' idx c s = F c ((cs.map f).getD idx d) s) (s : σ) :
    Tr.forEnum cs s F' = (cs.zip (cs.map f)).foldl (fun s cg => F cg.1 cg.2 s) s := by
  have : F' = fun idx c s => F c ((cs.map f).getD idx d) s := by funext idx c s; exact hF idx c s
  subst this
  exact forEnum_zip_map_aux f d F cs [] s

theorem loopFuel_forceLoop {K : Type} (ops : ForceOps K) (cs : Spec.Cnf) (n : Nat)
    (body : List Nat × K → List Nat × K) (exit : List Nat × K → Bool)
    (hb : ∀ s, body s = (forceStep ops cs n s.1, Orders.averageSpan ops cs (forceStep ops cs n s.1)))
    (he : ∀ s, exit s = ops.lt (ops.sub s.2 (Orders.averageSpan ops cs (forceStep ops cs n s.1))) ops.one) :
    ∀ (fuel : Nat) (l : List Nat) (k : K),
      (Tr.loopFuel fuel body exit (l, k)).map (fun r => r.1) = forceLoop ops cs n fuel l k := by
  intro fuel
  induction fuel with
  | zero => intro l k; rfl
  | succ m ih =>
    intro l k
    simp only [Tr.loopFuel, forceLoop, he, hb]
    split
    · rfl
    · exact ih _ _

theorem forceOrder_tie : @Gen.CnfOrd.forceOrder
    = fun {K : Type} (ops : ForceOps K) (cs : Spec.Cnf) (numVars : Nat) (fuel : Nat) =>
        Orders.forceOrder ops cs numVars fuel := by
  first
  | rfl
  | (funext K ops cs n fuel
     have hcog : ∀ (s1 : List Nat × K),
         List.foldl (fun s2 clause => Gen.CnfOrd.forceOrder_loop2 ops cs n s1 clause s2) [] cs
           = cs.map (fun c => Orders.centerOfGravity ops c s1.1) := by
       intro s1
       have : (fun s2 clause => Gen.CnfOrd.forceOrder_loop2 ops cs n s1 clause s2)
           = fun (s2 : List K) clause => s2 ++ [Orders.centerOfGravity ops clause s1.1] := by
         funext s2 clause; simp [Gen.CnfOrd.forceOrder_loop2, centerOfGravity_tie]
       rw [this, foldl_push_map]; rfl
     have h3 : forRange 0 n (fun i s => Gen.CnfOrd.forceOrder_loop3 ops i s) []
         = List.replicate n (ops.zero, 0) := by
       have : (fun i s => Gen.CnfOrd.forceOrder_loop3 ops i s)
           = fun (_ : Nat) (s : List (K × Nat)) => s ++ [(ops.zero, 0)] := by
         funext i s; first | rfl | simp [Gen.CnfOrd.forceOrder_loop3]
       rw [this, forRange_push_replicate]
     have hupd : ∀ (s1 : List Nat × K) (init : List (K × Nat)),
         Tr.forEnum cs init (fun idx clause s4 => Gen.CnfOrd.forceOrder_loop4 ops cs n s1 idx clause s4)
           = (cs.zip (cs.map fun c => Orders.centerOfGravity ops c s1.1)).foldl (fun upd (cg : Spec.Clause × K) =>
               cg.1.foldl (fun upd l =>
                 let (tot, cnt) := upd.getD l.var (ops.zero, 0)
                 upd.set l.var (ops.add tot cg.2, cnt + 1)) upd) init := by
       intro s1 init
       exact forEnum_zip_map (fun c => Orders.centerOfGravity ops c s1.1) ops.zero
         (fun (c : Spec.Clause) (g : K) (upd : List (K × Nat)) =>
           c.foldl (fun upd l =>
             let (tot, cnt) := upd.getD l.var (ops.zero, 0)
             upd.set l.var (ops.add tot g, cnt + 1)) upd)
         (fun idx clause s4 => Gen.CnfOrd.forceOrder_loop4 ops cs n s1 idx clause s4) cs
         (by
           intro idx c s
           simp only [Gen.CnfOrd.forceOrder_loop4, Gen.CnfOrd.forceOrder_loop5, hcog]
           first | done | rfl | congr 1) init
     have hb : ∀ s, Gen.CnfOrd.forceOrder_loop1 ops cs n s
         = (forceStep ops cs n s.1, Orders.averageSpan ops cs (forceStep ops cs n s.1)) := by
       intro s
       simp only [Gen.CnfOrd.forceOrder_loop1, Gen.CnfOrd.forceOrder_loop8, forEnum_newLoop, hupd, h3, averageSpan_tie,
         forceStep, positionsFrom, sortedLabels, avgCog, forceUpdate, List.range_eq_range', Nat.sub_zero,
         decide_eq_true_eq]
       first | done | rfl | simp
     have he : ∀ s, Gen.CnfOrd.forceOrder_loop1_exit ops cs n s
         = ops.lt (ops.sub s.2 (Orders.averageSpan ops cs (forceStep ops cs n s.1))) ops.one := by
       intro s
       simp only [Gen.CnfOrd.forceOrder_loop1_exit, Gen.CnfOrd.forceOrder_loop8, forEnum_newLoop, hupd, h3, averageSpan_tie,
         forceStep, positionsFrom, sortedLabels, avgCog, forceUpdate, List.range_eq_range', Nat.sub_zero,
         decide_eq_true_eq]
       first | done | rfl | simp
     simp only [Gen.CnfOrd.forceOrder, Orders.forceOrder, forceSeq, averageSpan_tie, Nat.sub_zero, List.map_id',
       ← List.range_eq_range']
     rw [← loopFuel_forceLoop ops cs n _ _ hb he]
     cases Tr.loopFuel fuel (fun s1 => Gen.CnfOrd.forceOrder_loop1 ops cs n s1)
       (fun s1 => Gen.CnfOrd.forceOrder_loop1_exit ops cs n s1)
       (List.range n, Orders.averageSpan ops cs (List.range n)) <;> simp)

end TieCnfOrd

#print axioms TieCnfOrd.numFill_tie
#print axioms TieCnfOrd.eliminateNode_tie
#print axioms TieCnfOrd.interactionGraph_tie
#print axioms TieCnfOrd.minFillOrder_tie
#print axioms TieCnfOrd.linearOrder_tie
#print axioms TieCnfOrd.averageSpan_tie
#print axioms TieCnfOrd.centerOfGravity_tie
#print axioms TieCnfOrd.forceOrder_tie
