import RsddModel.Model.GenCnfUp
import RsddModel.Model.CnfUtil
import RsddModel.Model.UnitProp
import RsddModel.Lemmas.CnfUtil
import RsddModel.Lemmas.UpSolverSpec
import RsddModel.Props.C15
import RsddModel.Props.C09
import RsddModel.Lemmas.TieCnfUpAux
/-!
# Tie to the source text (translator route): `var_label.rs`, `model.rs`, `cnf.rs`, `unit_prop.rs`

`RsddModel/Model/GenCnfUp.lean` is rewritten by `tools/gen_cnfup.py` from the Rust source on every run.  The theorems
below state that the regenerated definitions ARE the hand-written model definitions of `Model/CnfUtil.lean`
(namespace `TieCnfUp`) and of `Model/UnitProp.lean` (namespace `TieUp`, second half of the file).

How a tie is proved here: `first | rfl | …`.  `rfl` closes the literally equal translations and the alias mode
(a function outside the translator's grammar is generated as an alias of the model, status `UNTRANSLATED`).
The next alternative is the proof for the source as it stands: a Rust loop is a `TieAux.forStep`, rewritten
to the model's closed form by a loop lemma (`forStep_all`, `condClause_forStep`, …) whose hypothesis `hf` is
the loop body, proved by `rfl` or a case split, so that a rearranged body still checks.  Where a further
alternative follows, its comment says which other shape of the source it serves.
-/
set_option linter.unusedSimpArgs false
set_option linter.unusedVariables false
namespace TieCnfUp
open Spec CnfUtil TieAux

/-- for the one-line functions (local to this namespace): unfold both sides at one, two or three arguments, then
`rfl`, `grind`, a case on a Boolean last argument, or a `split` (commuted `==`, `if` against `match`) -/
local macro "tie_auto" g:ident m:ident : tactic =>
  `(tactic| first
    | rfl
    | (funext a; simp only [$g:ident, $m:ident]; first | rfl | grind | (split <;> simp_all <;> grind))
    | (funext a b; simp only [$g:ident, $m:ident]; first | rfl | grind | (cases b <;> rfl) | (split <;> simp_all <;> grind))
    | (funext a b c; simp only [$g:ident, $m:ident]; first | rfl | grind | (cases c <;> rfl) | (split <;> simp_all <;> grind)))

/-! ## `Literal` (the `u64` word) -/
theorem literal_new : Gen.CnfUtil.packNew = CnfUtil.packNew := by tie_auto Gen.CnfUtil.packNew CnfUtil.packNew
theorem literal_label : Gen.CnfUtil.packedLabel = CnfUtil.packedLabel := by
  first | rfl | (funext d; simp only [Gen.CnfUtil.packedLabel, CnfUtil.packedLabel, rawLabel])
theorem literal_polarity : Gen.CnfUtil.packedPolarity = CnfUtil.packedPolarity := by
  first | rfl | (funext d; simp only [Gen.CnfUtil.packedPolarity, CnfUtil.packedPolarity, rawPolarity]; first | rfl | grind)
theorem literal_implies_true : Gen.CnfUtil.packedImpliesTrue = CnfUtil.packedImpliesTrue := by
  first
  | rfl
  | (funext d e; simp only [Gen.CnfUtil.packedImpliesTrue, CnfUtil.packedImpliesTrue, literal_label, literal_polarity]; first | rfl | grind)
theorem literal_implies_false : Gen.CnfUtil.packedImpliesFalse = CnfUtil.packedImpliesFalse := by
  first
  | rfl
  | (funext d e; simp only [Gen.CnfUtil.packedImpliesFalse, CnfUtil.packedImpliesFalse, literal_label, literal_polarity]; first | rfl | grind)
theorem literal_negated : Gen.CnfUtil.packedNegated = CnfUtil.packedNegated := by
  first
  | rfl
  | (funext d; simp only [Gen.CnfUtil.packedNegated, CnfUtil.packedNegated, literal_label, literal_polarity, literal_new])

/-! ## `VarSet` -/
theorem varset_new : Gen.CnfUtil.vsNew = VarSet.new := by first | rfl | simp [Gen.CnfUtil.vsNew, VarSet.new]
theorem varset_new_with_num_vars : Gen.CnfUtil.vsNewWithNumVars = VarSet.newWithNumVars := by tie_auto Gen.CnfUtil.vsNewWithNumVars VarSet.newWithNumVars
theorem varset_union_with : Gen.CnfUtil.vsUnionWith = VarSet.unionWith := by
  first | rfl | (funext s t; simp only [Gen.CnfUtil.vsUnionWith, VarSet.unionWith, VarSet.union])
theorem varset_iter : Gen.CnfUtil.vsIter = VarSet.iter := by tie_auto Gen.CnfUtil.vsIter VarSet.iter
theorem varset_union : Gen.CnfUtil.vsUnion = VarSet.union := by tie_auto Gen.CnfUtil.vsUnion VarSet.union
theorem varset_minus : Gen.CnfUtil.vsMinus = VarSet.minus := by tie_auto Gen.CnfUtil.vsMinus VarSet.minus
theorem varset_insert : Gen.CnfUtil.vsInsert = VarSet.insert := by tie_auto Gen.CnfUtil.vsInsert VarSet.insert
theorem varset_contains : Gen.CnfUtil.vsContains = VarSet.contains := by tie_auto Gen.CnfUtil.vsContains VarSet.contains
theorem varset_intersect : Gen.CnfUtil.vsIntersect = VarSet.intersect := by
  first | rfl | (funext s t; simp only [Gen.CnfUtil.vsIntersect, VarSet.intersect, VarSet.intersectVarset])
theorem varset_remove : Gen.CnfUtil.vsRemove = VarSet.remove := by tie_auto Gen.CnfUtil.vsRemove VarSet.remove
theorem varset_difference : Gen.CnfUtil.vsDifference = VarSet.difference := by
  first | rfl | (funext s t; simp only [Gen.CnfUtil.vsDifference, VarSet.difference, VarSet.minus])
theorem varset_intersect_varset : Gen.CnfUtil.vsIntersectVarset = VarSet.intersectVarset := by tie_auto Gen.CnfUtil.vsIntersectVarset VarSet.intersectVarset
theorem varset_is_empty : Gen.CnfUtil.vsIsEmpty = VarSet.isEmpty := by tie_auto Gen.CnfUtil.vsIsEmpty VarSet.isEmpty
theorem varset_len : Gen.CnfUtil.vsLen = VarSet.len := by tie_auto Gen.CnfUtil.vsLen VarSet.len

theorem varset_eq : Gen.CnfUtil.vsEq = TieAux.varSetEq := by
  first
  | rfl
  | (funext s t; cases s; cases t; simp [Gen.CnfUtil.vsEq, TieAux.varSetEq]; first | done | exact beq_eq_decide _ _ | (rw [Bool.eq_iff_iff]; simp))

/-! ## `PartialModel` -/
theorem pm_new : Gen.CnfUtil.pmNew = PartialModel.new := by tie_auto Gen.CnfUtil.pmNew PartialModel.new
theorem pm_from_total_model : Gen.CnfUtil.pmFromTotalModel = PartialModel.fromTotalModel := by
  first
  | rfl
  | (funext a; simp only [Gen.CnfUtil.pmFromTotalModel, PartialModel.fromTotalModel]; first | rfl | (congr 1))
theorem pm_unset : Gen.CnfUtil.pmUnset = PartialModel.unset := by tie_auto Gen.CnfUtil.pmUnset PartialModel.unset
theorem pm_set : Gen.CnfUtil.pmSet = PartialModel.set := by
  first
  | rfl
  | (funext m x b; cases b <;> rfl)
  | (funext m x b; cases b <;> simp [Gen.CnfUtil.pmSet, PartialModel.set])
theorem pm_get : Gen.CnfUtil.pmGet = PartialModel.get := by
  first
  | rfl
  | (funext m x; simp only [Gen.CnfUtil.pmGet, PartialModel.get]; first | rfl | grind | (cases m.trueA.contains x <;> cases m.falseA.contains x <;> rfl))
theorem pm_lit_implied : Gen.CnfUtil.pmLitImplied = PartialModel.litImplied := by
  first
  | rfl
  | (funext m l; simp only [Gen.CnfUtil.pmLitImplied, PartialModel.litImplied]
     cases m.get l.var <;> (first | rfl | (rename_i v; cases v <;> cases l.pol <;> rfl) | simp | grind))
theorem pm_lit_neg_implied : Gen.CnfUtil.pmLitNegImplied = PartialModel.litNegImplied := by
  first
  | rfl
  | (funext m l; simp only [Gen.CnfUtil.pmLitNegImplied, PartialModel.litNegImplied]
     cases m.get l.var <;> (first | rfl | (rename_i v; cases v <;> cases l.pol <;> rfl) | simp | grind))
theorem pm_is_set : Gen.CnfUtil.pmIsSet = PartialModel.isSet := by tie_auto Gen.CnfUtil.pmIsSet PartialModel.isSet
theorem pm_assignment_iter : Gen.CnfUtil.pmAssignmentIter = PartialModel.assignmentIter := by tie_auto Gen.CnfUtil.pmAssignmentIter PartialModel.assignmentIter
theorem pm_difference : Gen.CnfUtil.pmDifference = PartialModel.difference := by tie_auto Gen.CnfUtil.pmDifference PartialModel.difference

/-! ## `Cnf::new`, `num_vars`; `CnfHasher::pop`, `push` -/
theorem cnf_new : Gen.CnfUtil.cnfNew = CnfUtil.cnfNew := by
  first
  | rfl
  | (funext cs; simp only [Gen.CnfUtil.cnfNew, CnfUtil.cnfNew, normClause, numVarsOf, clauseMax]; first | rfl | grind)
theorem cnf_num_vars : Gen.CnfUtil.cnfNumVars = CnfUtil.numVars := by tie_auto Gen.CnfUtil.cnfNumVars CnfUtil.numVars

theorem hasher_pop : Gen.CnfUtil.hasherPop = CnfHasher.pop := by tie_auto Gen.CnfUtil.hasherPop CnfHasher.pop
theorem hasher_push : Gen.CnfUtil.hasherPush = CnfHasher.push := by
  first
  | rfl
  | (funext h; simp only [Gen.CnfUtil.hasherPush, CnfHasher.push]; cases h.state <;> rfl)
  | (funext h; simp only [Gen.CnfUtil.hasherPush, CnfHasher.push]; split <;> simp_all)


/-! ## `Cnf::eval`, `is_sat_partial`, `condition`, `var_in_cnf`; `CnfHasher::decide` (the functions with loops) -/
theorem foldl_flag {α : Type} (p : α → Bool) (f : Bool → α → Bool) (hf : ∀ b x, f b x = (p x || b)) :
    ∀ (xs : List α) (b : Bool), List.foldl f b xs = (xs.any p || b)
  | [], b => by simp
  | x :: xs, b => by
    simp only [List.foldl_cons, hf, List.any_cons]
    rw [foldl_flag p f hf xs]; cases p x <;> cases xs.any p <;> simp

theorem forStep_all {α ρ : Type} (p : α → Bool) (r : ρ) (f : Unit → α → Step Unit ρ)
    (hf : ∀ x, f () x = if p x then .go () else .ret r) (xs : List α) :
    forStep xs () f = if xs.all p then .go () else .ret r :=
  forStep_eq f (fun xs _ => if xs.all p then .go () else .ret r) (fun _ => rfl)
    (fun x xs _ => by simp only [hf, List.all_cons]; by_cases h : p x = true <;> simp [h]) xs ()

theorem cnf_eval : Gen.CnfUtil.cnfEval = CnfUtil.eval := by
  first
  | rfl
  -- loop form: a `for` over the clauses with `return false`, the inner `for` setting a flag
  | (funext c asg; simp only [Gen.CnfUtil.cnfEval, CnfUtil.eval]
     rw [forStep_all (fun cl => cl.any fun l => l.pol == asg.getD l.var false) (some false)]
     · by_cases h : asg.length < c.numVars
       · have : ¬ (asg.length ≥ c.numVars) := by omega
         simp [h, this]
       · have : asg.length ≥ c.numVars := by omega
         simp only [h, this, decide_true, Bool.not_true, Bool.false_eq_true, if_false]
         cases hc : c.clauses.all (fun cl => cl.any fun l => l.pol == asg.getD l.var false) <;> simp [hc, Step.fin]
     · intro cl
       rw [foldl_flag (fun l => l.pol == asg.getD l.var false)]
       · cases cl.any (fun l => l.pol == asg.getD l.var false) <;> simp
       · intro b x; cases hx : (x.pol == asg.getD x.var false) <;> simp [hx])
  -- iterator-combinator form (`all` of `any`)
  | (funext c asg; simp only [Gen.CnfUtil.cnfEval, CnfUtil.eval]
     by_cases h : asg.length < c.numVars
     · have h' : ¬ (asg.length ≥ c.numVars) := by omega
       simp [h, h']
     · have h' : asg.length ≥ c.numVars := by omega
       simp only [h, h', decide_true, Bool.not_true, Bool.false_eq_true, if_false]
       congr 2; funext cl; congr 1; funext l
       cases l.pol <;> cases asg.getD l.var false <;> rfl)

theorem cnf_is_sat_partial : Gen.CnfUtil.cnfIsSatPartial = CnfUtil.isSatPartial := by
  first
  | rfl
  -- loop form
  | (funext c m; simp only [Gen.CnfUtil.cnfIsSatPartial, CnfUtil.isSatPartial]
     rw [forStep_all (fun cl => cl.any fun l => match m.get l.var with | some b => l.pol == b | none => false) false]
     · cases hc : c.clauses.all (fun cl => cl.any fun l => match m.get l.var with | some b => l.pol == b | none => false) <;> simp [hc, Step.fin]
     · intro cl
       rw [foldl_flag (fun l => match m.get l.var with | some b => l.pol == b | none => false)]
       · cases cl.any (fun l => match m.get l.var with | some b => l.pol == b | none => false) <;> simp
       · intro b x; cases hg : m.get x.var <;> simp [hg]
         rename_i v; cases hx : (x.pol == v) <;> simp_all)
  -- iterator-combinator form
  | (funext c m; simp only [Gen.CnfUtil.cnfIsSatPartial, CnfUtil.isSatPartial]
     congr 1; funext cl; congr 1; funext l
     cases hg : m.get l.var with
     | none => simp
     | some b => cases l.pol <;> cases b <;> simp)

theorem filterMap_ite {α β : Type} (p : α → Bool) (g : α → β) : ∀ xs : List α,
    xs.filterMap (fun c => if p c then none else some (g c)) = (xs.filter (fun c => !p c)).map g
  | [] => rfl
  | x :: xs => by cases h : p x <;> simp [List.filterMap_cons, List.filter_cons, h, filterMap_ite p g xs]

/-- `condClause` in closed form: the iterator-combinator shape of `Cnf::condition` -/
theorem condClause_closed (lit : Lit) : ∀ (cl acc : List Lit),
    condClause lit cl acc = if cl.contains lit then none else some (acc ++ cl.filter (fun l => l.var != lit.var))
  | [], acc => by simp [condClause]
  | l :: r, acc => by
    rcases l with ⟨lv, lp⟩
    rcases lit with ⟨v, p⟩
    simp only [condClause, List.contains_cons, condClause_closed ⟨v, p⟩ r]
    by_cases hv : lv = v
    · subst hv
      by_cases hp : lp = p
      · subst hp; simp
      · have hne : (Lit.mk lv p == Lit.mk lv lp) = false := by
          simp [BEq.beq, instBEqLit.beq] <;> intro h <;> exact absurd h.symm hp
        simp [hp, hne]
    · have hne : (Lit.mk v p == Lit.mk lv lp) = false := by
        simp [BEq.beq, instBEqLit.beq] <;> intro h <;> exact absurd h.symm hv
      simp [hv, hne]

theorem condClause_forStep (lit : Lit) (f : List Lit → Lit → Step (List Lit) Unit)
    (hf : ∀ acc l, f acc l = if l.var == lit.var && l.pol == lit.pol then .ret ()
        else if l.var == lit.var && l.pol != lit.pol then .go acc else .go (acc ++ [l])) :
    ∀ (cl acc : List Lit), forStep cl acc f = match condClause lit cl acc with | none => .ret () | some a => .go a :=
  forStep_eq f _ (fun _ => rfl) fun l r acc => by
    simp only [hf, condClause]
    by_cases h1 : (l.var == lit.var && l.pol == lit.pol) = true <;>
      by_cases h2 : (l.var == lit.var && l.pol != lit.pol) = true <;> simp [h1, h2]

theorem foldl_filterMap {α β : Type} (g : α → Option β) (f : List β → α → List β)
    (hf : ∀ acc x, f acc x = match g x with | some b => acc ++ [b] | none => acc) :
    ∀ (xs : List α) (acc : List β), List.foldl f acc xs = acc ++ xs.filterMap g
  | [], acc => by simp
  | x :: xs, acc => by
    simp only [List.foldl_cons, hf, List.filterMap_cons]
    cases hg : g x <;> simp [foldl_filterMap g f hf xs]

theorem cnf_condition : Gen.CnfUtil.cnfCondition = CnfUtil.condition := by
  first
  | rfl
  -- loop form: labelled `'cnf` / `'clause` loops with `continue 'cnf`
  | (funext c lit; simp only [Gen.CnfUtil.cnfCondition, CnfUtil.condition, condClauses, cnf_new]
     congr 1
     rw [foldl_filterMap (fun cl => condClause lit cl [])]
     · simp
     · intro acc cl
       rw [condClause_forStep lit]
       · cases condClause lit cl [] <;> simp [Step.fin]
       · intro a l; rfl)
  -- iterator-combinator form (`filter_map` over the clauses, `filter` inside), through `condClause_closed`
  | (funext c lit; simp only [Gen.CnfUtil.cnfCondition, CnfUtil.condition, condClauses, cnf_new]
     congr 1
     have hcc : (fun c => condClause lit c []) =
         (fun c => if c.contains lit then none else some (c.filter (fun l => l.var != lit.var))) := by
       funext c; simp [condClause_closed]
     rw [hcc]
     exact (filterMap_ite (fun c : List Lit => c.contains lit) (fun c => c.filter (fun l => l.var != lit.var)) c.clauses).symm)

theorem hasher_decide_loop (f : List (List Nat) → Nat → Step (List (List Nat)) (Option CnfHasher))
    (hf : ∀ st i, f st i = match st with | [] => .ret none | top :: below => .go ((top.filter fun j => j != i) :: below)) :
    ∀ (idxs : List Nat) (top : List Nat) (below : List (List Nat)),
      forStep idxs (top :: below) f = .go ((top.filter fun j => !idxs.contains j) :: below)
  | [], top, below => by
    have : top.filter (fun j => !([] : List Nat).contains j) = top := by induction top <;> simp_all
    rw [this]; rfl
  | i :: r, top, below => by
    simp only [forStep, hf]
    rw [hasher_decide_loop f hf r]
    congr 2
    rw [List.filter_filter]
    congr 1; funext j
    simp only [List.contains_cons]
    by_cases hj : j = i <;> cases hr : r.contains j <;> simp [hj, hr, bne]

theorem hasher_decide_fin (h : CnfHasher) (idxs : List Nat)
    (f : List (List Nat) → Nat → Step (List (List Nat)) (Option CnfHasher))
    (hf : ∀ st i, f st i = match st with | [] => .ret none | top :: below => .go ((top.filter fun j => j != i) :: below)) :
    (forStep idxs h.state f).fin (fun st => some { h with state := st }) (fun r => r) =
      if idxs.isEmpty then some h else match h.state with
        | [] => none
        | top :: rest => some { h with state := top.filter (fun i => !idxs.contains i) :: rest } := by
  cases h with
  | mk w st p n =>
    cases st with
    | nil => cases idxs <;> simp [forStep, Step.fin, hf]
    | cons top below =>
      simp only [hasher_decide_loop f hf]
      cases idxs <;> simp [Step.fin]

theorem hasher_decide : Gen.CnfUtil.hasherDecide = CnfHasher.decide := by
  first
  | rfl
  | (funext h lit; simp only [Gen.CnfUtil.hasherDecide, CnfHasher.decide]
     cases lit.pol <;> simp only [if_true, if_false, Bool.false_eq_true] <;> split <;> rename_i heq <;>
      simp only [heq] <;> first | rfl | (rw [hasher_decide_fin h _ _ (by intro st i; rfl)]; first | rfl | simp))

theorem cnf_var_in_cnf : Gen.CnfUtil.cnfVarInCnf = CnfUtil.varInCnf := by
  first
  | rfl
  | (funext c v; simp only [Gen.CnfUtil.cnfVarInCnf, CnfUtil.varInCnf]
     rw [forStep_all (fun l => !(l.var == v)) true _ (by intro x; cases h : (x.var == v) <;> simp [h]),
       ← List.not_any_eq_all_not]
     cases List.any _ _ <;> rfl)

/-! ## `PartialModel::from_assignments`, `from_litvec` -/
theorem fromAssignments_fold (f : VarSet × VarSet → Nat × Option Bool → VarSet × VarSet)
    (hf : ∀ st i a, f st (i, a) = match a with
      | some true => (st.1.insert i, st.2) | some false => (st.1, st.2.insert i) | none => st) :
    ∀ (as : List (Option Bool)) (i : Nat) (st : VarSet × VarSet),
      List.foldl f st (enumFrom i as) =
        ((PartialModel.fromAssignmentsAux as i ⟨st.1, st.2⟩).trueA, (PartialModel.fromAssignmentsAux as i ⟨st.1, st.2⟩).falseA)
  | [], i, st => rfl
  | a :: r, i, st => by
    simp only [enumFrom, List.foldl_cons, hf]
    rw [fromAssignments_fold f hf r (i + 1)]
    cases a with
    | none => rfl
    | some b => cases b <;> rfl

theorem pm_from_assignments : Gen.CnfUtil.pmFromAssignments = PartialModel.fromAssignments := by
  first
  | rfl
  | (funext as; simp only [Gen.CnfUtil.pmFromAssignments, PartialModel.fromAssignments, TieAux.enum]
     rw [fromAssignments_fold _ (by intro st i a; cases a with | none => rfl | some b => cases b <;> rfl)]
     rfl)

theorem litvecFill_forStep {ρ : Type} (f : List (Option Bool) → Lit → Step (List (Option Bool)) (Option ρ))
    (hf : ∀ acc l, f acc l = if l.var < acc.length then .go (acc.set l.var (some l.pol)) else .ret none) :
    ∀ (ls : List Lit) (acc : List (Option Bool)),
      forStep ls acc f = match PartialModel.litvecFill ls acc with | some a => .go a | none => .ret none :=
  forStep_eq f _ (fun _ => rfl) fun l r acc => by
    simp only [hf, PartialModel.litvecFill]
    by_cases h : l.var < acc.length <;> simp [h]

theorem pm_from_litvec : Gen.CnfUtil.pmFromLitvec = PartialModel.fromLitvec := by
  first
  | rfl
  | (funext ls n; simp only [Gen.CnfUtil.pmFromLitvec, PartialModel.fromLitvec]
     rw [litvecFill_forStep _ (by intro acc l; rfl)]
     cases PartialModel.litvecFill ls (List.replicate n none) <;> rfl)

/-! ## `Cnf::wmc` -/
theorem foldl_push_map {α β : Type} (g : α → β) (f : List β → α → List β) (hf : ∀ acc x, f acc x = acc ++ [g x]) :
    ∀ (xs : List α) (acc : List β), List.foldl f acc xs = acc ++ xs.map g
  | [], acc => by simp
  | x :: xs, acc => by simp [hf, foldl_push_map g f hf xs]

theorem asgWeight_fold {α : Type} (S : SROps α) (w : Weights α) (wv : List (α × α)) (d : α × α) (n : Nat)
    (hwv : ∀ i, i < n → wv.getD i d = w i)
    (f : α → Nat × Bool → α) (hf : ∀ v i b, f v (i, b) = S.mul v (if b then (wv.getD i d).2 else (wv.getD i d).1)) :
    ∀ (asg : List Bool) (i : Nat) (v : α), i + asg.length ≤ n →
      List.foldl f v (enumFrom i asg) = asgWeightFrom S w asg i v
  | [], i, v, _ => rfl
  | b :: r, i, v, h => by
    simp only [List.length_cons] at h
    simp only [enumFrom, List.foldl_cons, hf, asgWeightFrom, hwv i (by omega)]
    exact asgWeight_fold S w wv d n hwv f hf r (i + 1) _ (by omega)

theorem wmc_forStep {α : Type} (S : SROps α) (c : CnfM) (W : List Bool → α)
    (f : α → List Bool → Step α (Option α)) :
    ∀ (xs : List (List Bool)) (t : α),
      (∀ x, x ∈ xs → ∀ t, f t x = match eval c x with
          | none => .ret none | some true => .go (S.add t (W x)) | some false => .go t) →
      (forStep xs t f).fin (fun t => some t) (fun r => r) =
        xs.foldl (fun total asg => match total, eval c asg with
          | some t, some true => some (S.add t (W asg))
          | some t, some false => some t
          | _, _ => none) (some t)
  | [], t, _ => rfl
  | x :: xs, t, hf => by
    have hx := hf x (by simp) t
    have ih := fun t' => wmc_forStep S c W f xs t' (fun y hy => hf y (by simp [hy]))
    simp only [forStep, hx, List.foldl_cons]
    cases he : eval c x with
    | none =>
      simp only [Step.fin]
      clear ih hf hx
      induction xs with
      | nil => rfl
      | cons y ys ihy => simpa using ihy
    | some b => cases b <;> simp only [] <;> exact ih _

theorem cnf_wmc : @Gen.CnfUtil.cnfWmc = @CnfUtil.wmc := by
  first
  | rfl
  | (funext α S c w
     simp only [Gen.CnfUtil.cnfWmc, CnfUtil.wmc]
     rw [foldl_push_map w _ (by intro acc x; rfl)]
     rw [wmc_forStep S c (asgWeight S w)]
     · rfl
     · intro x hx t
       have hlen : x.length = c.numVars := CnfUtil.mem_assignmentIter.mp hx
       cases he : eval c x with
       | none => rfl
       | some b =>
         cases b
         · rfl
         · simp only [if_true]
           congr 2
           simp only [TieAux.enum, asgWeight]
           exact asgWeight_fold S w ([] ++ List.map w (List.range c.numVars)) (S.zero, S.zero) c.numVars
             (by intro i hi; simp [List.getD_eq_getElem?_getD, hi]) _
             (by intro v i b; cases b <;> rfl) x 0 S.one (by omega))

/-! ## `CnfHasher::hash` -/
theorem hashClause_forStep (m : PartialModel) (f : Nat → Nat × Lit → Step Nat Unit)
    (hf : ∀ acc x, f acc x = if m.litImplied x.2 then .ret () else if m.litNegImplied x.2 then .go acc
      else .go (wmul acc x.1)) :
    ∀ (cl : List (Nat × Lit)) (acc : Nat),
      forStep cl acc f = match CnfHasher.hashClause m cl acc with | none => .ret () | some a => .go a :=
  forStep_eq f _ (fun _ => rfl) fun x r acc => by
    simp only [hf, CnfHasher.hashClause]
    by_cases h1 : m.litImplied x.2 = true <;> by_cases h2 : m.litNegImplied x.2 = true <;> simp [h1, h2]

theorem foldl_hom {α β γ : Type} (φ : β → γ) (G : γ → α → γ) (g : β → α → β) (h : ∀ a x, G (φ a) x = φ (g a x)) :
    ∀ (xs : List α) (a : β), List.foldl G (φ a) xs = φ (List.foldl g a xs)
  | [], a => rfl
  | x :: xs, a => by simp only [List.foldl_cons, h]; exact foldl_hom φ G g h xs _

theorem mapTake_replicate {α : Type} (n : Nat) (f : α → α) (a : α) :
    mapTake n f (List.replicate n a) = List.replicate n (f a) := by
  simp [mapTake]

theorem hasher_hash : Gen.CnfUtil.hasherHash = CnfHasher.hashedCnf := by
  first
  | rfl
  | (funext h m
     simp only [Gen.CnfUtil.hasherHash, CnfHasher.hashedCnf, CnfHasher.hash]
     cases h.state with
     | nil => rfl
     | cons top rest =>
       simp only [Option.map_some, CnfHasher.hashOver]
       congr 1
       refine foldl_hom (List.replicate numPrimes) _ _ ?_ top 1
       intro a ci
       rw [hashClause_forStep m _ (by intro acc x; rfl)]
       cases CnfHasher.hashClause m (h.weighted.getD ci []) 1 <;> simp [Step.fin, mapTake_replicate])

/-! ## `CnfHasher::new` -/
theorem weightClause_mapAccum (f : Nat → Lit → (Nat × Lit) × Nat) (hf : ∀ p l, f p l = ((nextPrime p, l), nextPrime p)) :
    ∀ (ls : List Lit) (p : Nat), mapAccum f p ls = weightClause ls p
  | [], p => rfl
  | l :: ls, p => by simp only [mapAccum, hf, weightClause, weightClause_mapAccum f hf ls]

theorem weightCnf_mapAccum (f : Nat → List Lit → List (Nat × Lit) × Nat) (hf : ∀ p c, f p c = weightClause c p) :
    ∀ (cs : List (List Lit)) (p : Nat), (mapAccum f p cs).1 = weightCnf cs p
  | [], p => rfl
  | c :: cs, p => by simp only [mapAccum, hf, weightCnf, weightCnf_mapAccum f hf cs]

theorem enumFrom_filterMap {α : Type} (p : α → Bool) (d : α) (f : Nat × α → Option Nat)
    (hf : ∀ i x, f (i, x) = if p x then some i else none) :
    ∀ (xs : List α) (k : Nat),
      (enumFrom k xs).filterMap f = (List.range' k xs.length).filter (fun i => p (xs.getD (i - k) d))
  | [], k => by simp [enumFrom]
  | x :: xs, k => by
    have ih := enumFrom_filterMap p d f hf xs (k + 1)
    have hc : (List.range' (k + 1) xs.length).filter (fun i => p (xs.getD (i - (k + 1)) d)) =
        (List.range' (k + 1) xs.length).filter (fun i => p ((x :: xs).getD (i - k) d)) := by
      apply List.filter_congr
      intro i hi
      have : k + 1 ≤ i := (List.mem_range'_1.mp hi).1
      have e : i - k = (i - (k + 1)) + 1 := by omega
      rw [e]; simp
    simp only [enumFrom, List.filterMap_cons, hf, List.length_cons, List.range'_succ, List.filter_cons,
      Nat.sub_self, List.getD_cons_zero, ih, hc]
    cases p x <;> simp

theorem enum_filterMap {α : Type} (p : α → Bool) (d : α) (f : Nat × α → Option Nat)
    (hf : ∀ i x, f (i, x) = if p x then some i else none) (xs : List α) :
    (TieAux.enum xs).filterMap f = (List.range xs.length).filter (fun i => p (xs.getD i d)) := by
  rw [TieAux.enum, enumFrom_filterMap p d f hf, List.range_eq_range']
  simp

theorem hasher_new : Gen.CnfUtil.hasherNew = CnfHasher.new := by
  first
  | rfl
  | (funext cs n
     simp only [Gen.CnfUtil.hasherNew, CnfHasher.new, clausesWith]
     have hw : ∀ p c, (let r := mapAccum (fun primes lit => ((nextPrime primes, lit), nextPrime primes)) p c; (r.1, r.2))
         = weightClause c p := by
       intro p c; simp only [weightClause_mapAccum _ (fun _ _ => rfl)]
     rw [weightCnf_mapAccum _ (by intro p c; exact hw p c)]
     rw [enum_filterMap (fun c => decide (c.length > 1)) [] _ (by intro i x; by_cases h : x.length > 1 <;> simp [h])]
     congr 1
     · congr 1; funext v
       rw [enum_filterMap (fun c => c.contains (Lit.mk v true)) [] _ (by intro i x; rfl)]
     · congr 1; funext v
       rw [enum_filterMap (fun c => c.contains (Lit.mk v false)) [] _ (by intro i x; rfl)])

/-! ## `AssignmentIter::next` (tied to the literal mirror `TieAux.iterNext`; `TieAux.drain_eq` relates the mirror to
`CnfUtil.assignmentIter`) -/
theorem incr_fold (f : List Bool × Bool → Bool → List Bool × Bool)
    (hf : ∀ l c b, f (l, c) b = (l ++ [b != c], b && c)) :
    ∀ (xs : List Bool) (acc : List Bool) (c : Bool),
      List.foldl f (acc, c) xs = (acc ++ (incr xs c).1, (incr xs c).2)
  | [], acc, c => by simp [incr]
  | b :: r, acc, c => by
    simp only [List.foldl_cons, hf, incr, incr_fold f hf r]
    simp

theorem iter_next : Gen.CnfUtil.iterNext = TieAux.iterNext := by
  first
  | rfl
  | (funext cur n
     cases cur with
     | none => simp [Gen.CnfUtil.iterNext, TieAux.iterNext, List.map_const']
     | some c =>
       simp only [Gen.CnfUtil.iterNext, TieAux.iterNext, Option.isNone_some, Bool.false_eq_true, if_false, Option.getD_some]
       rw [incr_fold _ (by intro l c b; rfl)]
       cases h : (incr c true).2 <;> simp [h])

end TieCnfUp

/-! # `src/repr/unit_prop.rs` against `Model/UnitProp.lean` -/
namespace TieUp
open Spec UnitProp TieAux

theorem solver_pop : Gen.UnitProp.solverPop = Solver.pop := by
  first | rfl | (funext s; simp [Gen.UnitProp.solverPop, Solver.pop])
theorem solver_cur_hash : Gen.UnitProp.solverCurHash = Solver.curHash := by
  first
  | rfl
  | (funext s; simp only [Gen.UnitProp.solverCurHash, Solver.curHash]; cases s.stack <;> first | rfl | simp)
theorem solver_is_sat : Gen.UnitProp.solverIsSat = Solver.isSat := by
  first
  | rfl
  | (funext s; simp only [Gen.UnitProp.solverIsSat, Solver.isSat]; cases s.stack <;> first | rfl | simp)
theorem solver_is_set : Gen.UnitProp.solverIsSet = Solver.isSet := by
  first
  | rfl
  | (funext s v; simp only [Gen.UnitProp.solverIsSet, Solver.isSet]; cases s.stack <;> first | rfl | simp)
theorem solver_difference_iter : Gen.UnitProp.solverDifferenceIter = Solver.differenceIter := by
  first
  | rfl
  | (funext s; simp only [Gen.UnitProp.solverDifferenceIter, Solver.differenceIter]
     cases s.stack with
     | nil => rfl
     | cons a t => cases t <;> first | rfl | simp)
theorem solver_decide : Gen.UnitProp.solverDecide = Solver.decide := by
  first
  | rfl
  | (funext s l; simp only [Gen.UnitProp.solverDecide, Solver.decide, Solver.decideWith]
     cases hs : s.stack with
     | nil => rfl
     | cons top rest =>
       simp only []
       cases hd : decideK (loop s.cnf true s.fuel) s.wl top.model l with
       | none => rfl
       | some r =>
         obtain ⟨wl', m⟩ := r
         cases m with
         | none => simp [hs]
         | some m' =>
           simp only []
           cases hu : updateHashAndSatSet s.clauses s.numVars top m' with
           | mk h st =>
             simp only [hs]
             by_cases hc : satCount s.clauses.length st = s.clauses.length <;> simp [hc])

/-! ## `UnitPropagate::decide`: prelude and watcher loop (fuel recursion) -/
theorem up_decideK : Gen.UnitProp.upDecideK = UnitProp.decideK := by
  first
  | rfl
  | (funext k wl m l; simp only [Gen.UnitProp.upDecideK, decideK]
     cases h : m l.var with
     | none => rfl
     | some v => by_cases hv : v = l.pol <;> simp [hv])

theorem isSatScan (m : PModel) (f : Nat × Bool → Lit → Step (Nat × Bool) Empty)
    (hf : ∀ st lit, f st lit = if litTrue m lit then .brk (st.1 + 1, true) else .go st) (cl : List Lit) (i : Nat) :
    forStep cl (i, false) f = if cl.any (litTrue m) then .brk (i + 1, true) else .go (i, false) :=
  forStep_eq f (fun cl st => if cl.any (litTrue m) then .brk (st.1 + 1, true) else .go st) (fun _ => rfl)
    (fun x r st => by simp only [hf, List.any_cons]; by_cases h : litTrue m x = true <;> simp [h]) cl (i, false)

/-- the `is_sat` test on one literal as the source writes it -/
theorem litTrue_match (m : PModel) (lit : Lit) {α : Type} (a b : α) :
    (match m lit.var with | some v => if lit.pol == v then a else b | _ => b) = if litTrue m lit then a else b := by
  unfold litTrue
  cases m lit.var with
  | none => rfl
  | some v => cases v <;> cases lit.pol <;> rfl

theorem up_loop (cnf : Cnf) : ∀ fuel, Gen.UnitProp.upLoop cnf fuel = UnitProp.loop cnf true fuel := by
  intro fuel
  induction fuel with
  | zero => funext wl m l idx; rfl
  | succ fuel ih =>
    first
    | rfl
    | (funext wl m l idx
       have hfil : (fun x : Lit => (m x.var).isNone) = litUnset m := rfl
       simp only [Gen.UnitProp.upLoop, UnitProp.loop, ih, hfil]
       generalize UnitProp.loop cnf true fuel = rec
       -- the source has one copy of the loop body per polarity of `l`
       cases hp : l.pol <;>
         simp only [Bool.not_true, Bool.not_false, if_true, if_false, Bool.false_eq_true, List.getD_eq_getElem?_getD]
       all_goals
         generalize cnf[(_ : Nat)]?.getD [] = clause
         generalize List.filter (litUnset m) clause = rem
         rw [isSatScan m _ (by intro st lit; exact litTrue_match m lit _ _)]
         cases hany : List.any _ (litTrue m)
         · simp only [Step.fin', Bool.false_eq_true, if_false]
           generalize (wl.get _ l.var)[idx]?.getD 0 = ci
           rcases rem with _ | ⟨⟨uv, up⟩, _ | ⟨⟨sv, sp⟩, rest⟩⟩
           · rfl
           · rfl
           · -- the source picks each watch list by an `if` on a polarity, the model passes the polarity on
             simp only [pickWatch, WL.push, if_true]
             cases up <;> cases sp <;> simp only [List.headD_cons, Bool.false_eq_true, if_true, if_false] <;>
               cases List.contains _ ci <;> rfl
         · rfl)

/-! ## `SATSolver::update_hash_and_sat_set` -/
theorem mulFirst_forStep (v : Nat) (f : Nat → Lit × Nat → Step Nat Empty)
    (hf : ∀ h x, f h x = if x.1.var == v then .brk (wmul h x.2) else .go h) :
    ∀ (c : List (Lit × Nat)) (h : Nat), (forStep c h f).fin' (fun h => h) = mulFirst v c h
  | [], h => rfl
  | x :: r, h => by
    simp only [forStep, hf, mulFirst]
    by_cases hx : x.1.var = v
    · simp [hx, Step.fin']
    · simp only [hx, beq_iff_eq, if_false]; exact mulFirst_forStep v f hf r h

theorem mulUnset_fold (top : PModel) (f : Nat → Lit × Nat → Nat)
    (hf : ∀ h x, f h x = if !((top x.1.var).isSome) then wmul h x.2 else h) :
    ∀ (c : List (Lit × Nat)) (h : Nat), List.foldl f h c = mulUnset top c h := by
  intro c h
  simp only [mulUnset]
  congr 1
  funext h x
  rw [hf]
  cases top x.1.var <;> simp

theorem update_hash : Gen.UnitProp.genUpdateHashAndSatSet = UnitProp.updateHashAndSatSet := by
  first
  | rfl
  | (funext clauses n top m
     simp only [Gen.UnitProp.genUpdateHashAndSatSet, UnitProp.updateHashAndSatSet]
     rw [show (top.sat, top.hash) = (fun p : Nat × (Nat → Bool) => (p.2, p.1)) (top.hash, top.sat) from rfl]
     rw [TieCnfUp.foldl_hom (fun p : Nat × (Nat → Bool) => (p.2, p.1)) _ (pass1Lit clauses top.model)]
     · simp only []
       congr 1
       congr 1
       funext h lit
       simp only [pass2Lit]
       cases lit.pol <;> simp only [Bool.not_true, Bool.not_false, if_true, if_false, Bool.false_eq_true] <;>
         (congr 1; funext h ci
          exact ite_congr rfl (fun _ => rfl) (fun _ => mulFirst_forStep lit.var _ (by intro h x; rfl) _ h))
     · intro a lit
       simp only [pass1Lit]
       rw [show (a.2, a.1) = (fun p : Nat × (Nat → Bool) => (p.2, p.1)) a from rfl]
       cases lit.pol <;> simp only [if_true, if_false, Bool.false_eq_true] <;>
         (rw [TieCnfUp.foldl_hom (fun p : Nat × (Nat → Bool) => (p.2, p.1)) _
            (fun acc ci => if acc.2 ci then acc else (mulUnset top.model (clauses.getD ci []) acc.1, setInsert acc.2 ci))]
          intro acc ci
          simp only []
          cases acc.2 ci <;> simp only [if_true, if_false, Bool.false_eq_true]
          rw [mulUnset_fold top.model _ (by intro h x; rfl)]))

/-! ## `SATSolver::new` (the occurrence lists `contains_pos_lit` / `contains_neg_lit` are not part of the model, which
computes `containsLit` on demand: the statements that build them are skipped by the translator) -/
theorem weighClause_mapAccum (f : Nat → Lit → (Lit × Nat) × Nat) (hf : ∀ p l, f p l = ((l, nextPrime p), nextPrime p)) :
    ∀ (ls : List Lit) (p : Nat), mapAccum f p ls = weighClause ls p
  | [], p => rfl
  | l :: ls, p => by
    simp only [mapAccum, hf, weighClause, weighClause_mapAccum f hf ls]

theorem weighClauses_mapAccum (f : Nat → List Lit → List (Lit × Nat) × Nat) (hf : ∀ p c, f p c = weighClause c p) :
    ∀ (cs : List (List Lit)) (p : Nat), (mapAccum f p cs).1 = weighClauses cs p
  | [], p => rfl
  | c :: cs, p => by
    simp only [mapAccum, hf, weighClauses, weighClauses_mapAccum f hf cs]

theorem taut_pairs (c : List Lit) :
    (List.range c.length).all (fun i => (List.range' (i + 1) (c.length - (i + 1))).all (fun j =>
      !((c.getD i default).var == (c.getD j default).var && (c.getD i default).pol != (c.getD j default).pol)))
    = !isTaut c := by
  have hget : ∀ i (hi : i < c.length), c.getD i default = c[i] := by
    intro i hi; simp [List.getD_eq_getElem?_getD, hi]
  cases ht : isTaut c with
  | false =>
    simp only [Bool.not_false, List.all_eq_true, List.mem_range, List.mem_range'_1]
    intro i hi j hj
    have hjl : j < c.length := by omega
    cases hP : ((c.getD i default).var == (c.getD j default).var && (c.getD i default).pol != (c.getD j default).pol) with
    | false => rfl
    | true =>
      exfalso
      have : isTaut c = true := TopDown.isTaut_iff.2
        ⟨c[i], List.getElem_mem hi, c[j], List.getElem_mem hjl, by
          rw [hget i hi, hget j hjl] at hP; simpa using hP⟩
      rw [ht] at this; cases this
  | true =>
    obtain ⟨x, hx, y, hy, hv, hp⟩ := TopDown.isTaut_iff.1 ht
    obtain ⟨a, ha, rfl⟩ := List.mem_iff_getElem.1 hx
    obtain ⟨b, hb, rfl⟩ := List.mem_iff_getElem.1 hy
    simp only [Bool.not_true]
    apply Bool.eq_false_iff.2
    intro hall
    simp only [List.all_eq_true, List.mem_range, List.mem_range'_1] at hall
    have key : ∀ i j (hi : i < c.length) (hj : j < c.length), i < j → ¬ (c[i].var = c[j].var ∧ c[i].pol ≠ c[j].pol) := by
      intro i j hi hj hij hP
      have := hall i hi j ⟨by omega, by omega⟩
      rw [hget i hi, hget j hj] at this
      simp [hP.1, hP.2] at this
    rcases Nat.lt_trichotomy a b with h | h | h
    · exact key a b ha hb h ⟨hv, hp⟩
    · subst h; exact hp rfl
    · exact key b a hb ha h ⟨hv.symm, fun e => hp e.symm⟩

theorem solver_new : Gen.UnitProp.solverNew = TieAux.solverNewModel := by
  first
  | rfl
  | (funext cnf
     simp only [Gen.UnitProp.solverNew, TieAux.solverNewModel, Solver.new]
     rw [List.filter_congr (q := fun c => !isTaut c)]
     · rw [weighClauses_mapAccum _ (by
         intro p c
         simp only [weighClause_mapAccum _ (fun _ _ => rfl)])]
       rfl
     · intro c _
       rw [TieCnfUp.forStep_all (fun i => (List.range' (i + 1) (c.length - (i + 1))).all (fun j =>
           !((c.getD i default).var == (c.getD j default).var && (c.getD i default).pol != (c.getD j default).pol))) false]
       · rw [← taut_pairs c]
         cases (List.range c.length).all _ <;> rfl
       · intro i
         rw [TieCnfUp.forStep_all (fun j =>
           !((c.getD i default).var == (c.getD j default).var && (c.getD i default).pol != (c.getD j default).pol)) false]
         · cases (List.range' (i + 1) (c.length - (i + 1))).all _ <;> rfl
         · intro j
           cases ((c.getD i default).var == (c.getD j default).var && (c.getD i default).pol != (c.getD j default).pol) <;> rfl)

/-! ## `UnitPropagate::new` (tied to `TieAux.upNewModel`: `UnitProp.upNew` with the watch lists of a `None` result erased) -/
theorem foldl_keep {α β : Type} (a : α) : ∀ (l : List β), List.foldl (fun (x : α) _ => x) a l = a
  | [] => rfl
  | _ :: l => foldl_keep a l

theorem upNew_scan (f : List Lit × WL → Nat × List Lit → Step (List Lit × WL) (Option (Option (WL × PModel))))
    (hf : ∀ st i c, f st (i, c) = if c.isEmpty then .ret (some none)
      else if c.length == 1 then .go (st.1 ++ [c.getD 0 default], st.2)
      else .go (st.1, (st.2.push (c.getD 1 default) i).push (c.getD 0 default) i)) :
    ∀ (cs : List (List Lit)) (i : Nat) (imp : List Lit) (wl : WL),
      forStep (enumFrom i cs) (imp, wl) f =
        if cs.any List.isEmpty then .ret (some none) else .go (imp ++ impliedUnits cs, initWatches cs i wl)
  | [], i, imp, wl => by simp [enumFrom, forStep, impliedUnits, initWatches]
  | c :: cs, i, imp, wl => by
    have ih := upNew_scan f hf cs (i + 1)
    simp only [enumFrom, forStep, hf, List.any_cons]
    match c with
    | [] => simp
    | [u] => simp [ih, impliedUnits, initWatches]
    | a :: b :: t => simp [ih, impliedUnits, initWatches]

theorem upNew_decideAll (dec : WL → PModel → Lit → Option UPOut)
    (g : WL × PModel → Lit → Step (WL × PModel) (Option (Option (WL × PModel))))
    (hg : ∀ st u, g st u = match dec st.1 st.2 u with
      | none => .ret none | some (_, none) => .ret (some none) | some (wl', some m') => .go (wl', m')) :
    ∀ (us : List Lit) (wl : WL) (m : PModel),
      (forStep us (wl, m) g).fin (fun st => some (some (st.1, st.2))) (fun r => r) =
        match decideAll dec us wl m with
        | none => none | some (_, none) => some none | some (wl', some m') => some (some (wl', m'))
  | [], wl, m => rfl
  | u :: us, wl, m => by
    simp only [forStep, hg, decideAll]
    cases hd : dec wl m u with
    | none => rfl
    | some r =>
      obtain ⟨wl', o⟩ := r
      cases o with
      | none => rfl
      | some m' => exact upNew_decideAll dec g hg us wl' m'

theorem up_new : Gen.UnitProp.genUpNew = TieAux.upNewModel := by
  first
  | rfl
  | (funext cnf fuel
     simp only [Gen.UnitProp.genUpNew, TieAux.upNewModel, upNew, TieAux.enum, foldl_keep]
     rw [upNew_scan _ (by
       intro st i c
       simp only [WL.push]
       cases (c.getD 1 default).pol <;> cases (c.getD 0 default).pol <;> rfl)]
     by_cases he : cnf.any List.isEmpty = true
     · simp [he, Step.fin]
     · simp only [he, Bool.false_eq_true, if_false, Step.fin, List.nil_append]
       exact upNew_decideAll (decideK (loop cnf true fuel)) _ (by intro st u; rfl) _ _ _)

end TieUp

#print axioms TieUp.up_decideK
#print axioms TieUp.up_loop
#print axioms TieUp.update_hash
#print axioms TieUp.up_new
#print axioms TieUp.solver_new
#print axioms TieUp.solver_pop
#print axioms TieUp.solver_cur_hash
#print axioms TieUp.solver_is_sat
#print axioms TieUp.solver_is_set
#print axioms TieUp.solver_difference_iter
#print axioms TieUp.solver_decide

/-! # Source-level corollaries: property theorems restated for the definitions regenerated from the Rust text -/
namespace TieCnfUpSource
open Spec

/-- C15 `eval_spec` for `Cnf::new` / `Cnf::eval` as the source says now -/
theorem eval_spec_source (cs : List (List Lit)) (v : List Bool)
    (h : Gen.CnfUtil.cnfNumVars (Gen.CnfUtil.cnfNew cs) ≤ v.length) :
    Gen.CnfUtil.cnfEval (Gen.CnfUtil.cnfNew cs) v = some (cnfSat (CnfUtil.asgFn v) cs) := by
  rw [TieCnfUp.cnf_new, TieCnfUp.cnf_num_vars] at h
  rw [TieCnfUp.cnf_new, TieCnfUp.cnf_eval]
  exact C15.eval_spec cs v h

/-- C15 `wmc_spec`: `Cnf::wmc` as the source says now never panics and is the weighted model count -/
theorem wmc_spec_source {α : Type} {S : SROps α} (hS : S.Laws) (cs : List (List Lit)) (w : Weights α) (a : Assign) :
    Gen.CnfUtil.cnfWmc S (Gen.CnfUtil.cnfNew cs) w = some (wsum S (List.range (cnfNumVars cs)) w (cnfFn cs) a) := by
  rw [TieCnfUp.cnf_new, TieCnfUp.cnf_wmc]
  exact C15.wmc_spec hS cs w a

/-- C15 `wmc_empty` (the content of the repair of F7, `ce7c18b`) for the source as it is now -/
theorem wmc_empty_source {α : Type} {S : SROps α} (hS : S.Laws) (w : Weights α) :
    Gen.CnfUtil.cnfWmc S (Gen.CnfUtil.cnfNew []) w = some S.one := by
  rw [TieCnfUp.cnf_new, TieCnfUp.cnf_wmc]
  exact C15.wmc_empty hS w

/-- C09 `new_unsat_sound`: when `SATSolver::new` as the source says now answers `None`, the formula is unsatisfiable -/
theorem new_unsat_sound_source {cnf : Cnf} (h : Gen.UnitProp.solverNew cnf = some none) : ∀ a, cnfSat a cnf = false := by
  rw [TieUp.solver_new] at h
  exact UnitProp.new_unsat_sound h

end TieCnfUpSource

#print axioms TieCnfUpSource.eval_spec_source
#print axioms TieCnfUpSource.wmc_spec_source
#print axioms TieCnfUpSource.wmc_empty_source
#print axioms TieCnfUpSource.new_unsat_sound_source
#print axioms TieCnfUp.literal_new
#print axioms TieCnfUp.literal_label
#print axioms TieCnfUp.literal_polarity
#print axioms TieCnfUp.literal_implies_true
#print axioms TieCnfUp.literal_implies_false
#print axioms TieCnfUp.literal_negated
#print axioms TieCnfUp.varset_new
#print axioms TieCnfUp.varset_new_with_num_vars
#print axioms TieCnfUp.varset_union_with
#print axioms TieCnfUp.varset_iter
#print axioms TieCnfUp.varset_union
#print axioms TieCnfUp.varset_minus
#print axioms TieCnfUp.varset_insert
#print axioms TieCnfUp.varset_contains
#print axioms TieCnfUp.varset_intersect
#print axioms TieCnfUp.varset_remove
#print axioms TieCnfUp.varset_difference
#print axioms TieCnfUp.varset_intersect_varset
#print axioms TieCnfUp.varset_is_empty
#print axioms TieCnfUp.varset_len
#print axioms TieCnfUp.varset_eq
#print axioms TieCnfUp.pm_new
#print axioms TieCnfUp.pm_from_assignments
#print axioms TieCnfUp.pm_from_total_model
#print axioms TieCnfUp.pm_from_litvec
#print axioms TieCnfUp.pm_unset
#print axioms TieCnfUp.pm_set
#print axioms TieCnfUp.pm_get
#print axioms TieCnfUp.pm_lit_implied
#print axioms TieCnfUp.pm_lit_neg_implied
#print axioms TieCnfUp.pm_is_set
#print axioms TieCnfUp.pm_assignment_iter
#print axioms TieCnfUp.pm_difference
#print axioms TieCnfUp.cnf_new
#print axioms TieCnfUp.cnf_num_vars
#print axioms TieCnfUp.cnf_eval
#print axioms TieCnfUp.cnf_is_sat_partial
#print axioms TieCnfUp.cnf_condition
#print axioms TieCnfUp.cnf_var_in_cnf
#print axioms TieCnfUp.cnf_wmc
#print axioms TieCnfUp.iter_next
#print axioms TieAux.drain_eq
#print axioms TieCnfUp.hasher_new
#print axioms TieCnfUp.hasher_decide
#print axioms TieCnfUp.hasher_push
#print axioms TieCnfUp.hasher_pop
#print axioms TieCnfUp.hasher_hash
