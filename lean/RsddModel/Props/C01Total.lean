import RsddModel.Model.BddBuilder
import RsddModel.Model.BddCaches
import RsddModel.Lemmas.BddTotal
import RsddModel.Props.C01
/-!
# C01, totality — the BDD builder terminates and accepts exactly the valid programs

`C01.lean` proves *partial* correctness: **if** `run` returns `some st` then `st` refines the
specification.  This file adds the missing half.

* `Valid n ops` : a decidable predicate on programs — every operand index is inside the pool at
  the time of the call and every variable label is inside the order at the time of the call.
  These are exactly the conditions under which the Rust does not panic, and exactly the
  programs the Boolean-function specification accepts (`valid_iff_spec`);
* `run_total` : for every lawful cache, every injective level map and every
  `fuel ≥ fuelBound (n + numNewVars ops)` (a function of the number of variables only,
  `fuelBound N = N + 1`, tight), a valid program returns `some`;
* `run_total_correct` : combined with `run_refines`, total correctness for valid programs;
* `run_isSome_iff_valid` : with that much fuel the model returns iff the program is valid, i.e.
  with enough fuel the ONLY `none`s of the model are rejected calls — never exhaustion;
* `run_fuel_mono` : the final state does not depend on the amount of fuel once it suffices.
-/
namespace Bdd
open Spec

/-! ## valid programs -/

/-- the number of variables a call adds to the order -/
def Op.fresh : Op → Nat
  | .newVar _ => 1
  | _ => 0

/-- the call is not rejected by a builder with `nv` variables and `len` diagrams handed out:
indices inside the pool, labels inside the order -/
def opValid (nv len : Nat) : Op → Bool
  | .const _ => true
  | .var x _ => decide (x < nv)
  | .newVar _ => true
  | .neg i => decide (i < len)
  | .and i j | .or i j | .xor i j | .iff i j => decide (i < len) && decide (j < len)
  | .ite i j k => decide (i < len) && decide (j < len) && decide (k < len)
  | .cond i x _ => decide (x < nv) && decide (i < len)
  | .condModel i m => m.all (fun (x, _) => decide (x < nv)) && decide (i < len)
  | .exist i x => decide (x < nv) && decide (i < len)
  | .compose i x j => decide (x < nv) && decide (i < len) && decide (j < len)
  | .andLst is | .orLst is => is.all (fun i => decide (i < len))

/-- every call of the program is valid at the time it is made (each call hands out one diagram,
`newVar` extends the order by one variable) -/
def validFrom : Nat → Nat → List Op → Bool
  | _, _, [] => true
  | nv, len, op :: ops => opValid nv len op && validFrom (nv + op.fresh) (len + 1) ops

/-- a program for a builder created with `n` variables and an empty pool is valid -/
def Valid (n : Nat) (ops : List Op) : Prop := validFrom n 0 ops = true

instance (n : Nat) (ops : List Op) : Decidable (Valid n ops) := by unfold Valid; infer_instance

/-- the number of `newVar` calls of a program -/
def numNewVars : List Op → Nat
  | [] => 0
  | op :: ops => op.fresh + numNewVars ops

/-! ## one call -/

/-- the invariant of the totality argument: the cache and the pool only hold well formed
diagrams over the first `M` variables (`M` = the final size of the order) -/
def TInv (C : CacheImpl) (lvl : Nat → Nat) (M : Nat) (st : St C) : Prop :=
  CacheGood C lvl M st.cache ∧ ∀ p ∈ st.pool, Good lvl M p

theorem get_of_lt {pool : List Ptr} {i : Nat} (h : i < pool.length) :
    ∃ p, pool[i]? = some p ∧ p ∈ pool :=
  ⟨pool[i], List.getElem?_eq_getElem h, List.getElem_mem h⟩

theorem getAll_of_all {pool : List Ptr} : ∀ {is : List Nat},
    is.all (fun i => decide (i < pool.length)) = true →
    ∃ ps, getAll pool is = some ps ∧ ∀ p ∈ ps, p ∈ pool
  | [], _ => ⟨[], rfl, fun p hp => by cases hp⟩
  | i :: is, h => by
    simp only [List.all_cons, Bool.and_eq_true, decide_eq_true_eq] at h
    obtain ⟨p, hp, hmem⟩ := get_of_lt h.1
    obtain ⟨ps, hps, hall⟩ := getAll_of_all h.2
    refine ⟨p :: ps, by simp only [getAll, hp, hps], ?_⟩
    intro q hq
    rcases List.mem_cons.1 hq with e | e
    · subst e; exact hmem
    · exact hall q e

/-- what one accepted call achieves -/
def StepTotal (C : CacheImpl) (lvl : Nat → Nat) (M fuel : Nat) (st : St C) (op : Op) : Prop :=
  ∃ st', step C lvl fuel st op = some st' ∧ TInv C lvl M st' ∧
    st'.numVars = st.numVars + op.fresh ∧ st'.pool.length = st.pool.length + 1

theorem tinv_push {C : CacheImpl} {lvl : Nat → Nat} {M : Nat} {st : St C} {s' : C.σ} {n' : Nat}
    {r : Ptr} (hs : CacheGood C lvl M s') (hpool : ∀ p ∈ st.pool, Good lvl M p)
    (hr : Good lvl M r) : TInv C lvl M ⟨s', n', st.pool ++ [r]⟩ := by
  refine ⟨hs, ?_⟩
  intro p hp
  rcases List.mem_append.1 hp with h | h
  · exact hpool p h
  · simp only [List.mem_singleton] at h; subst h; exact hr

/-- a call whose result is computed by the apply machinery -/
theorem stepTotal_of_post {C : CacheImpl} {lvl : Nat → Nat} {M fuel : Nat} {st : St C} {op : Op}
    {res : Option (C.σ × Ptr)} (hfresh : op.fresh = 0)
    (hstep : step C lvl fuel st op =
      res.map fun (s, r) => { st with cache := s, pool := st.pool ++ [r] })
    (hpool : ∀ p ∈ st.pool, Good lvl M p) (hpost : Post C lvl M res) :
    StepTotal C lvl M fuel st op := by
  obtain ⟨s', r, rfl, hs', hr⟩ := hpost
  refine ⟨_, hstep, tinv_push hs' hpool hr, by simp [hfresh], by simp⟩

/-- a call that does not touch the cache -/
theorem stepTotal_pure {C : CacheImpl} {lvl : Nat → Nat} {M fuel : Nat} {st : St C} {op : Op}
    (n' : Nat) (r : Ptr) (hn : n' = st.numVars + op.fresh)
    (hstep : step C lvl fuel st op = some ⟨st.cache, n', st.pool ++ [r]⟩)
    (hinv : TInv C lvl M st) (hr : Good lvl M r) : StepTotal C lvl M fuel st op :=
  ⟨_, hstep, tinv_push hinv.1 hinv.2 hr, hn, by simp⟩

/-- **one call is total**: a valid call on a state satisfying the invariant returns, keeps the
invariant, hands out exactly one diagram, and extends the order by `op.fresh` variables -/
theorem step_total (C : CacheImpl) (lvl : Nat → Nat) (inj : ∀ x y, lvl x = lvl y → x = y)
    {M fuel : Nat} (st : St C) (op : Op) (hinv : TInv C lvl M st)
    (hv : opValid st.numVars st.pool.length op = true) (hM : st.numVars + op.fresh ≤ M)
    (hb : fuelBound M ≤ fuel) : StepTotal C lvl M fuel st op := by
  obtain ⟨hs, hpool⟩ := hinv
  cases op <;> simp only [opValid, Bool.and_eq_true, decide_eq_true_eq] at hv
  case const b =>
    refine stepTotal_pure st.numVars (if b then .tru else .fls) rfl rfl ⟨hs, hpool⟩ ?_
    cases b
    · exact good_fls lvl M
    · exact good_tru lvl M
  case var x pol =>
    exact stepTotal_pure st.numVars (mkVar x pol) rfl (by simp only [step, hv, if_true]) ⟨hs, hpool⟩
      (good_mkVar lvl pol (by simp only [Op.fresh] at hM; omega))
  case newVar pol =>
    exact stepTotal_pure (st.numVars + 1) (mkVar st.numVars pol) rfl rfl ⟨hs, hpool⟩
      (good_mkVar lvl pol (by simp only [Op.fresh] at hM; omega))
  case neg i =>
    obtain ⟨p, hp, hmem⟩ := get_of_lt hv
    exact stepTotal_pure st.numVars p.neg rfl (by simp only [step, hp, Option.map_some]) ⟨hs, hpool⟩
      (hpool p hmem).neg
  case and i j =>
    obtain ⟨p, hp, hmp⟩ := get_of_lt hv.1
    obtain ⟨q, hq, hmq⟩ := get_of_lt hv.2
    exact stepTotal_of_post rfl (by simp only [step, hp, hq]) hpool
      (bAnd_total_N C lvl inj hs (hpool p hmp) (hpool q hmq) hb)
  case or i j =>
    obtain ⟨p, hp, hmp⟩ := get_of_lt hv.1
    obtain ⟨q, hq, hmq⟩ := get_of_lt hv.2
    exact stepTotal_of_post rfl (by simp only [step, hp, hq]) hpool
      (bOr_total_N C lvl inj hs (hpool p hmp) (hpool q hmq) hb)
  case xor i j =>
    obtain ⟨p, hp, hmp⟩ := get_of_lt hv.1
    obtain ⟨q, hq, hmq⟩ := get_of_lt hv.2
    exact stepTotal_of_post rfl (by simp only [step, hp, hq]) hpool
      (bXor_total_N C lvl inj hs (hpool p hmp) (hpool q hmq) hb)
  case iff i j =>
    obtain ⟨p, hp, hmp⟩ := get_of_lt hv.1
    obtain ⟨q, hq, hmq⟩ := get_of_lt hv.2
    exact stepTotal_of_post rfl (by simp only [step, hp, hq]) hpool
      (bIff_total_N C lvl inj hs (hpool p hmp) (hpool q hmq) hb)
  case ite i j k =>
    obtain ⟨p, hp, hmp⟩ := get_of_lt hv.1.1
    obtain ⟨q, hq, hmq⟩ := get_of_lt hv.1.2
    obtain ⟨r0, hr0, hmr⟩ := get_of_lt hv.2
    exact stepTotal_of_post rfl (by simp only [step, hp, hq, hr0]) hpool
      (ite_total_N C lvl inj hs (hpool p hmp) (hpool q hmq) (hpool r0 hmr) hb)
  case cond i x b =>
    obtain ⟨p, hp, hmp⟩ := get_of_lt hv.2
    exact stepTotal_pure st.numVars (condition lvl p x b) rfl
      (by simp only [step, hv.1, if_true, hp, Option.map_some]) ⟨hs, hpool⟩
      (good_condition lvl x b (hpool p hmp))
  case condModel i m =>
    obtain ⟨p, hp, hmp⟩ := get_of_lt hv.2
    exact stepTotal_pure st.numVars (condModel lvl p m) rfl
      (by simp only [step, hv.1, if_true, hp, Option.map_some]) ⟨hs, hpool⟩
      (good_condModel lvl m (hpool p hmp))
  case exist i x =>
    obtain ⟨p, hp, hmp⟩ := get_of_lt hv.2
    exact stepTotal_of_post rfl (by simp only [step, hv.1, if_true, hp]) hpool
      (bExists_total_N C lvl inj x hs (hpool p hmp) hb)
  case compose i x j =>
    obtain ⟨p, hp, hmp⟩ := get_of_lt hv.1.2
    obtain ⟨q, hq, hmq⟩ := get_of_lt hv.2
    exact stepTotal_of_post rfl (by simp only [step, hv.1.1, if_true, hp, hq]) hpool
      (bCompose_total_N C lvl inj (x := x) (by simp only [Op.fresh] at hM; omega) hs (hpool p hmp)
        (hpool q hmq) hb)
  case andLst is =>
    obtain ⟨ps, hps, hall⟩ := getAll_of_all hv
    exact stepTotal_of_post rfl (by simp only [step, hps]) hpool
      (bAndLst_total_N C lvl inj ps hs (good_tru lvl M) (fun p hp => hpool p (hall p hp)) hb)
  case orLst is =>
    obtain ⟨ps, hps, hall⟩ := getAll_of_all hv
    exact stepTotal_of_post rfl (by simp only [step, hps]) hpool
      (bOrLst_total_N C lvl inj ps hs (good_fls lvl M) (fun p hp => hpool p (hall p hp)) hb)

/-! ## any number of calls -/

/-- totality from any state satisfying the invariant; `M` bounds the final size of the order -/
theorem run_total_gen (C : CacheImpl) (lvl : Nat → Nat) (inj : ∀ x y, lvl x = lvl y → x = y)
    {M fuel : Nat} (hb : fuelBound M ≤ fuel) : ∀ (ops : List Op) (st : St C), TInv C lvl M st →
    validFrom st.numVars st.pool.length ops = true → st.numVars + numNewVars ops ≤ M →
    ∃ st', run C lvl fuel st ops = some st' ∧ TInv C lvl M st'
  | [], st, hinv, _, _ => ⟨st, rfl, hinv⟩
  | op :: ops, st, hinv, hv, hM => by
    simp only [validFrom, Bool.and_eq_true] at hv
    simp only [numNewVars] at hM
    obtain ⟨st1, h1, hinv1, hn1, hl1⟩ :=
      step_total C lvl inj st op hinv hv.1 (by omega) hb
    obtain ⟨st', h2, hinv'⟩ := run_total_gen C lvl inj hb ops st1 hinv1
      (by rw [hn1, hl1]; exact hv.2) (by rw [hn1]; omega)
    exact ⟨st', by simp only [run, h1, h2], hinv'⟩

/-- **C01, totality.**  For every lawful apply cache `C`, every injective level map `lvl`, every
valid program `ops` for a builder created with `n` variables, and every amount of fuel that is at
least `fuelBound` of the final number of variables (`n + numNewVars ops + 1`), the model
returns: no call is rejected and the recursion of `ite` never runs out of fuel. -/
theorem run_total (C : CacheImpl) (lvl : Nat → Nat) (inj : ∀ x y, lvl x = lvl y → x = y)
    (n fuel : Nat) (ops : List Op) (hv : Valid n ops)
    (hb : fuelBound (n + numNewVars ops) ≤ fuel) :
    ∃ st, run C lvl fuel (St.init C n) ops = some st := by
  obtain ⟨st, h, _⟩ := run_total_gen C lvl inj hb ops (St.init C n)
    ⟨cacheGood_empty C lvl _, fun _ hp => nomatch hp⟩ hv (Nat.le_refl _)
  exact ⟨st, h⟩

/-- **C01, total correctness for valid programs**: the model returns a state, the specification
accepts the program, diagram `i` of the final pool denotes Boolean function `i` of the
specification's pool, and the builder invariant holds at the end. -/
theorem run_total_correct (C : CacheImpl) (lvl : Nat → Nat) (inj : ∀ x y, lvl x = lvl y → x = y)
    (n fuel : Nat) (ops : List Op) (hv : Valid n ops)
    (hb : fuelBound (n + numNewVars ops) ≤ fuel) :
    ∃ st sp, run C lvl fuel (St.init C n) ops = some st ∧ specRun (n, []) ops = some sp ∧
      Rel st sp ∧ Inv C lvl st := by
  obtain ⟨st, h⟩ := run_total C lvl inj n fuel ops hv hb
  obtain ⟨sp, h1, h2, h3⟩ := run_refines C lvl inj fuel n ops st h
  exact ⟨st, sp, h, h1, h2, h3⟩

/-! ## `Valid` is exactly the domain of the specification -/

theorem getAllFn_isSome {pool : List BoolFn} : ∀ (is : List Nat),
    (getAllFn pool is).isSome = is.all (fun i => decide (i < pool.length))
  | [] => rfl
  | i :: is => by
    have ih := getAllFn_isSome (pool := pool) is
    simp only [getAllFn, List.all_cons]
    by_cases hi : i < pool.length
    · rw [List.getElem?_eq_getElem hi]
      cases hr : getAllFn pool is with
      | none => rw [hr] at ih; simp [← ih]
      | some ps => rw [hr] at ih; simp [← ih, hi]
    · rw [List.getElem?_eq_none (by omega)]
      simp [hi]

/-- `e` accepts exactly when `v` holds, and then yields `n` variables and one more function -/
def Accepts (fs : List BoolFn) (n : Nat) (v : Bool) (e : Option (Nat × List BoolFn)) : Prop :=
  (v = true → ∃ f, e = some (n, fs ++ [f])) ∧ (v = false → e = none)

section
variable {fs : List BoolFn} {n : Nat}

theorem accepts_some (f : BoolFn) : Accepts fs n true (some (n, fs ++ [f])) :=
  ⟨fun _ => ⟨f, rfl⟩, nofun⟩

theorem accepts_if {c : Prop} [Decidable c] {v e} (h : Accepts fs n v e) :
    Accepts fs n (decide c && v) (if c then e else none) := by
  by_cases hc : c
  · rw [if_pos hc, decide_eq_true hc, Bool.true_and]; exact h
  · rw [if_neg hc, decide_eq_false hc, Bool.false_and]; exact ⟨nofun, fun _ => rfl⟩

theorem accepts_if_bool {b : Bool} {v e} (h : Accepts fs n v e) :
    Accepts fs n (b && v) (if b = true then e else none) := by
  cases b
  · exact ⟨nofun, fun _ => rfl⟩
  · exact h

theorem accepts_get {i : Nat} (g : BoolFn → BoolFn) :
    Accepts fs n (decide (i < fs.length)) ((fs[i]?).map fun f => (n, fs ++ [g f])) := by
  by_cases hi : i < fs.length
  · rw [List.getElem?_eq_getElem hi, decide_eq_true hi]; exact accepts_some _
  · rw [List.getElem?_eq_none (Nat.le_of_not_lt hi), decide_eq_false hi]; exact ⟨nofun, fun _ => rfl⟩

theorem accepts_get3 {i j k : Nat} (g : BoolFn → BoolFn → BoolFn → BoolFn) :
    Accepts fs n (decide (i < fs.length) && decide (j < fs.length) && decide (k < fs.length))
      (match fs[i]?, fs[j]?, fs[k]? with
        | some f, some f', some f'' => some (n, fs ++ [g f f' f'']) | _, _, _ => none) := by
  by_cases hi : i < fs.length <;> by_cases hj : j < fs.length <;> by_cases hk : k < fs.length <;>
    simp [Accepts, hi, hj, hk]

theorem accepts_getAll {is : List Nat} (g : List BoolFn → BoolFn) :
    Accepts fs n (is.all fun i => decide (i < fs.length))
      ((getAllFn fs is).map fun l => (n, fs ++ [g l])) := by
  rw [← getAllFn_isSome]
  cases getAllFn fs is with
  | none => exact ⟨nofun, fun _ => rfl⟩
  | some l => exact accepts_some _

theorem accepts_get2 {i j : Nat} (g : BoolFn → BoolFn → BoolFn) :
    Accepts fs n (decide (i < fs.length) && decide (j < fs.length))
      (match fs[i]?, fs[j]? with
        | some f, some f' => some (n, fs ++ [g f f']) | _, _ => none) := by
  by_cases hi : i < fs.length <;> by_cases hj : j < fs.length <;> simp [Accepts, hi, hj]

end

/-- the specification accepts a call iff the call is valid; an accepted call appends one
function and adds `op.fresh` variables -/
theorem specStep_valid (sp : Nat × List BoolFn) (op : Op) :
    Accepts sp.2 (sp.1 + op.fresh) (opValid sp.1 sp.2.length op) (specStep sp op) := by
  cases op with
  | const b => exact accepts_some _
  | newVar pol => exact accepts_some _
  | neg i => exact accepts_get _
  | and i j => exact accepts_get2 _
  | cond i x b => exact accepts_if (accepts_get _)
  | exist i x => exact accepts_if (accepts_get _)
  | condModel i m => exact accepts_if_bool (accepts_get _)
  | compose i x j =>
    rw [opValid, Bool.and_assoc]
    exact accepts_if (accepts_get2 _)
  | var x pol =>
    rw [opValid, ← Bool.and_true (decide _)]
    exact accepts_if (accepts_some _)
  | or i j => exact accepts_get2 _
  | xor i j => exact accepts_get2 _
  | iff i j => exact accepts_get2 _
  | ite i j k => exact accepts_get3 _
  | andLst is => exact accepts_getAll _
  | orLst is => exact accepts_getAll _
theorem validFrom_iff_spec : ∀ (ops : List Op) (sp : Nat × List BoolFn),
    validFrom sp.1 sp.2.length ops = true ↔ (specRun sp ops).isSome = true
  | [], sp => by simp [validFrom, specRun]
  | op :: ops, sp => by
    obtain ⟨h1, h2⟩ := specStep_valid sp op
    simp only [validFrom, Bool.and_eq_true, specRun]
    cases hv : opValid sp.1 sp.2.length op with
    | false => simp [h2 hv]
    | true =>
      obtain ⟨f, hf⟩ := h1 hv
      have ih := validFrom_iff_spec ops (sp.1 + op.fresh, sp.2 ++ [f])
      simp only [List.length_append, List.length_singleton] at ih
      simp only [hf, true_and]
      exact ih

/-- **`Valid` is exactly the domain of the specification**: the Boolean-function specification
accepts a program iff every call of it is valid -/
theorem valid_iff_spec (n : Nat) (ops : List Op) :
    Valid n ops ↔ (specRun (n, []) ops).isSome = true :=
  validFrom_iff_spec ops (n, [])

/-- **with enough fuel the model returns iff the program is valid**: the only `none`s left are
rejected calls (where the Rust panics), never fuel exhaustion -/
theorem run_isSome_iff_valid (C : CacheImpl) (lvl : Nat → Nat) (inj : ∀ x y, lvl x = lvl y → x = y)
    (n fuel : Nat) (ops : List Op) (hb : fuelBound (n + numNewVars ops) ≤ fuel) :
    (run C lvl fuel (St.init C n) ops).isSome = true ↔ Valid n ops := by
  constructor
  · intro h
    cases hr : run C lvl fuel (St.init C n) ops with
    | none => rw [hr] at h; cases h
    | some st =>
      obtain ⟨sp, h1, _⟩ := run_refines C lvl inj fuel n ops st hr
      exact (valid_iff_spec n ops).2 (by rw [h1]; rfl)
  · intro hv
    obtain ⟨st, h⟩ := run_total C lvl inj n fuel ops hv hb
    rw [h]; rfl

/-! ## the result does not depend on the fuel -/

section mono
open Option (Le)
variable {C : CacheImpl} {lvl : Nat → Nat} {fuel fuel' : Nat} (hle : fuel ≤ fuel')
include hle

theorem bOr_fuel_mono (s : C.σ) (f g : Ptr) : Le (bOr C lvl fuel s f g) (bOr C lvl fuel' s f g) := by
  intro y hr
  unfold bOr bAnd at hr ⊢
  split at hr
  · rename_i h1; rw [(ite_fuel_le hle _ _ _ _).of_some h1]; exact hr
  · cases hr

theorem bCompose_fuel_mono (s : C.σ) (f : Ptr) (x : Nat) (g : Ptr) :
    Le (bCompose C lvl fuel s f x g) (bCompose C lvl fuel' s f x g) :=
  Le.pair (ite_fuel_le hle _ _ _ _) fun _ _ => Le.pair (ite_fuel_le hle _ _ _ _) fun _ _ =>
    bOr_fuel_mono hle _ _ _

theorem bAndLst_fuel_mono : ∀ (ps : List Ptr) (s : C.σ) (acc : Ptr),
    Le (bAndLst C lvl fuel s acc ps) (bAndLst C lvl fuel' s acc ps)
  | [], _, _ => Le.refl _
  | _ :: ps, _, _ => Le.pair (ite_fuel_le hle _ _ _ _) fun _ _ => bAndLst_fuel_mono ps _ _

theorem bOrLst_fuel_mono : ∀ (ps : List Ptr) (s : C.σ) (acc : Ptr),
    Le (bOrLst C lvl fuel s acc ps) (bOrLst C lvl fuel' s acc ps)
  | [], _, _ => Le.refl _
  | _ :: ps, _, _ => Le.pair (bOr_fuel_mono hle _ _ _) fun _ _ => bOrLst_fuel_mono ps _ _

theorem step_fuel_mono (st : St C) (op : Op) : Le (step C lvl fuel st op) (step C lvl fuel' st op) := by
  cases op with
  | const b | var x pol | newVar pol | neg i | cond i x b | condModel i m => exact Le.refl _
  | and i j | xor i j | iff i j | ite i j k =>
    simp only [step]; split
    · exact Le.map _ (ite_fuel_le hle _ _ _ _)
    · exact Le.refl _
  | or i j =>
    simp only [step]; split
    · exact Le.map _ (bOr_fuel_mono hle _ _ _)
    · exact Le.refl _
  | exist i x =>
    simp only [step]; refine Le.ite ?_ (Le.refl _); split
    · exact Le.map _ (bOr_fuel_mono hle _ _ _)
    · exact Le.refl _
  | compose i x j =>
    simp only [step]; refine Le.ite ?_ (Le.refl _); split
    · exact Le.map _ (bCompose_fuel_mono hle _ _ _ _)
    · exact Le.refl _
  | andLst is =>
    simp only [step]; split
    · exact Le.map _ (bAndLst_fuel_mono hle _ _ _)
    · exact Le.refl _
  | orLst is =>
    simp only [step]; split
    · exact Le.map _ (bOrLst_fuel_mono hle _ _ _)
    · exact Le.refl _

/-- **fuel monotonicity of whole runs**: more fuel never changes the final state -/
theorem run_fuel_mono : ∀ (ops : List Op) (st : St C),
    Le (run C lvl fuel st ops) (run C lvl fuel' st ops)
  | [], _ => Le.refl _
  | op :: ops, st => by
    intro y hr
    rw [run] at hr ⊢
    split at hr
    · cases hr
    · rename_i h1
      rw [(step_fuel_mono hle st op).of_some h1]
      exact run_fuel_mono ops _ y hr

end mono

/-- the state a valid program produces is THE SAME for every sufficient amount of fuel: the
fuel is a proof device, not a parameter of the computed function -/
theorem run_fuel_irrelevant (C : CacheImpl) (lvl : Nat → Nat) (inj : ∀ x y, lvl x = lvl y → x = y)
    (n : Nat) (ops : List Op) (hv : Valid n ops) :
    ∃ st, ∀ fuel, fuelBound (n + numNewVars ops) ≤ fuel →
      run C lvl fuel (St.init C n) ops = some st := by
  obtain ⟨st, h⟩ := run_total C lvl inj n _ ops hv (Nat.le_refl _)
  exact ⟨st, fun fuel hb => (run_fuel_mono hb ops _).of_some h⟩

/-! ## non-vacuity -/
section demo

/-- the program of `C01.lean` (every operation of the language, incl. `ite`, `exists`,
`compose`, conditioning, the list operations and a run-time `newVar`) is valid … -/
example : Valid 3 demoProg := by decide

/-- … its bound is `(3 + 1) + 1 = 5` … -/
example : fuelBound (3 + numNewVars demoProg) = 5 := by decide

/-- … and with exactly that much fuel the model really returns the expected pool -/
example : (run AllCache id 5 (St.init AllCache 3) demoProg).map (·.pool) = some demoPool := by
  decide +kernel

/-- the instance of `run_total_correct`, for every fuel from the bound on -/
example (fuel : Nat) (hb : 5 ≤ fuel) :
    ∃ st sp, run AllCache id fuel (St.init AllCache 3) demoProg = some st ∧
      specRun (3, []) demoProg = some sp ∧ Rel st sp ∧ Inv AllCache id st :=
  run_total_correct AllCache id (fun _ _ e => e) 3 fuel demoProg (by decide) hb

/-- invalid programs are rejected by `Valid` (and by the model, see `C01.lean`): a label outside
the order, an index outside the pool, a `compose` on a variable that is not there yet -/
example : ¬ Valid 3 [.var 3 true] := by decide
example : ¬ Valid 3 [.var 0 true, .and 0 1] := by decide
example : ¬ Valid 1 [.var 0 true, .compose 0 1 0, .newVar true] := by decide
example : Valid 1 [.var 0 true, .newVar true, .compose 0 1 1] := by decide

/-- the bound is tight: over `N = 3` variables, `(x0 ⊕ x1 ⊕ x2) ⊕ (x0 ⊕ x1)` needs `N + 1 = 4` units of fuel (one
per variable and one for the terminal case at the leaves); `N` units are not enough -/
example : fuelBound (3 + numNewVars
    [.var 0 true, .var 1 true, .var 2 true, .xor 0 1, .xor 3 2, .iff 4 4, .xor 4 3]) = 4 := by decide
example : (run AllCache id 4 (St.init AllCache 3)
    [.var 0 true, .var 1 true, .var 2 true, .xor 0 1, .xor 3 2, .iff 4 4, .xor 4 3]).isSome = true := by
  decide +kernel
example : run AllCache id 3 (St.init AllCache 3)
    [.var 0 true, .var 1 true, .var 2 true, .xor 0 1, .xor 3 2, .iff 4 4, .xor 4 3] = none := by decide +kernel

end demo

#print axioms step_total
#print axioms run_total
#print axioms run_total_correct
#print axioms valid_iff_spec
#print axioms run_isSome_iff_valid
#print axioms run_fuel_mono
#print axioms run_fuel_irrelevant
end Bdd
