import RsddModel.Lemmas.SddTotal
import RsddModel.Props.C03
/-!
# C03, totality — the SDD builder terminates and does not fail

`Props/C03.lean` is partial correctness ("every *returned* SDD evaluates …"); the model's `none`
stands for "the recursion ran out of fuel" or "the Rust panics" (`low()` on a non-binary node in
`and_cartesian`, a non-literal prime in a right-linear `and_indep`, `unique_or` of an empty vector).
This file closes the gap:

* the fuel of `Sdd.and` bounds the recursion **depth**; the termination measure is the height of
  the smallest sub-vtree containing both operands, because every recursive call — the products of
  primes and of subs in `and_cartesian` / `and_sub_desc` / `and_prime_desc`, *and* the `or`s that
  `compress` issues on the primes it merges — is on pointers sitting in the left child or in the
  right child of the vtree node the call works at.  So `vt.height + 1` units of fuel suffice, with
  and without compression (`fuelBound`; the bound is attained: see the examples at the end);
* on operands satisfying the positional invariant `Pos` (primes in the left child, subs in the
  right child, no decision node at a right-linear vtree node) no panic case is reached;
* `Pos` (and C03's `WF`) is kept by every operation, so a program whose operand indices are in
  range and whose variables are leaves of the vtree (`Valid`) runs to completion from the fresh
  builder: `run_total`; with `run_refines`: total correctness, `run_total_correct`.

`WF` alone does not give totality (`wf_not_enough`): a `WF` decision node at a right-linear vtree
node makes `and_cartesian` call `low()` on it.  Such a pointer is never produced by the builder
(`run_total_correct` hands out only `Pos` pointers), so this is a statement about the invariant,
not a defect.

Also: the fuel is only a proof device — results are monotone in the fuel (`and_fuel_mono`,
`run_fuel_mono`), hence independent of it above the bound (`run_fuel_indep`), and `Valid` is
exactly the set of accepted programs (`run_isSome_iff`).

The traversal of `and` and `condition` is in `Lemmas/SddTotal.lean`; the derived operations and
the programs are proved here.
-/
namespace Sdd
open Spec

/-- the invariant under which the single operations are total: C03's `WF` and the positional
`Pos` (`Lemmas/SddTotal.lean`) -/
abbrev WFT (vt : VTree) (p : Ptr) : Prop := TP vt p

/-- a program is valid for a vtree: every operand index points at an earlier result and every
variable introduced by `var` / substituted by `compose` is a leaf of the vtree -/
def Valid (vt : VTree) (ops : List Op) : Prop := validFrom vt 0 ops = true

instance (vt : VTree) (ops : List Op) : Decidable (Valid vt ops) := by
  unfold Valid; infer_instance

/-- fuel that suffices for every valid program over `vt`: recursion depth `≤ height + 1` -/
def fuelBound (vt : VTree) (_ops : List Op) : Nat := vt.height + 1

section
variable (A : CacheImpl (Ptr × Ptr)) (I : CacheImpl (Ptr × Ptr × Ptr)) (cfg : Config)

/-! ## the single operations -/

/-- **`and` terminates and does not fail**, local form: if both operands lie (by vtree index) in
an occurrence `s` of a sub-vtree, `s.height + 1` units of fuel suffice — for every lawful apply
cache satisfying the invariant, compression on and off.  The result is again well formed, the
cache invariant is kept, and the result is the conjunction. -/
theorem and_total_local (fuel : Nat) (s : VTree) (o : Nat) (hs : cfg.vt.At 0 s o)
    (hf : s.height + 1 ≤ fuel) {st : A.σ} {a b : Ptr} (hst : AppInvT A cfg.vt st)
    (wa : WFT cfg.vt a) (wb : WFT cfg.vt b) (ra : InR cfg.vt o (o + s.size) a)
    (rb : InR cfg.vt o (o + s.size) b) :
    ∃ st' r, and A cfg.vt cfg.compress fuel st a b = some (st', r) ∧ AppInvT A cfg.vt st' ∧
      WFT cfg.vt r ∧ InR cfg.vt o (o + s.size) r ∧
      ∀ asg, r.eval asg = (a.eval asg && b.eval asg) := by
  obtain ⟨st', r, h1, h2, h3, h4, h5⟩ :=
    and_T A cfg.vt cfg.compress fuel s o hs hf st a b hst wa wb ra rb
  exact ⟨st', r, h1, h2, h3, h4 s o hs ra rb, h5⟩

/-- `and`: total correctness -/
theorem and_total_correct (fuel : Nat) (hf : cfg.vt.height + 1 ≤ fuel) {st : A.σ} {a b : Ptr}
    (hst : AppInvT A cfg.vt st) (wa : WFT cfg.vt a) (wb : WFT cfg.vt b) :
    ∃ st' r, bAnd A cfg fuel st a b = some (st', r) ∧ AppInvT A cfg.vt st' ∧ WFT cfg.vt r ∧
      den r = fAnd (den a) (den b) := by
  obtain ⟨st', r, h1, h2, h3, _, h5⟩ := and_T A cfg.vt cfg.compress fuel cfg.vt 0 (VTree.At_refl ..) hf
    st a b hst wa wb (InR_root wa.1) (InR_root wb.1)
  exact ⟨st', r, h1, h2, h3, funext h5⟩

/-- **`and` is total** -/
theorem bAnd_total (fuel : Nat) (hf : cfg.vt.height + 1 ≤ fuel) {st : A.σ} {a b : Ptr}
    (hst : AppInvT A cfg.vt st) (wa : WFT cfg.vt a) (wb : WFT cfg.vt b) :
    (bAnd A cfg fuel st a b).isSome = true := by
  obtain ⟨st', r, h, _⟩ := and_total_correct A cfg fuel hf hst wa wb
  rw [h]; rfl

/-- **`or`** -/
theorem or_total_correct (fuel : Nat) (hf : cfg.vt.height + 1 ≤ fuel) {st : A.σ} {a b : Ptr}
    (hst : AppInvT A cfg.vt st) (wa : WFT cfg.vt a) (wb : WFT cfg.vt b) :
    ∃ st' r, bOr A cfg fuel st a b = some (st', r) ∧ AppInvT A cfg.vt st' ∧ WFT cfg.vt r ∧
      den r = fOr (den a) (den b) := by
  obtain ⟨⟨st', r⟩, h1, h2, h3, h4⟩ := (orF_w (bAnd_R A cfg fuel hf cfg.vt 0 (VTree.At_refl ..))
    (fun _ => TR.neg) (fun _ _ _ h => h) st a b hst ⟨wa, InR_root wa.1⟩ ⟨wb, InR_root wb.1⟩).total
  exact ⟨st', r, h1, h2, h3.1, funext h4⟩

/-- **`condition`** -/
theorem condition_total_correct (fuel : Nat) (hf : cfg.vt.height + 1 ≤ fuel) {st : A.σ} {f : Ptr}
    (x : Nat) (v : Bool) (hst : AppInvT A cfg.vt st) (wf : WFT cfg.vt f) :
    ∃ st' r, bCond A cfg fuel st f x v = some (st', r) ∧ AppInvT A cfg.vt st' ∧ WFT cfg.vt r ∧
      den r = fCond (den f) x v := by
  obtain ⟨⟨st', r⟩, h1, h2, h3, h4⟩ :=
    (condition_T (P := AppInvT A cfg.vt) (P0 := AppInv A cfg.vt) (fun _ h => h.1)
      (bAnd_ok A cfg fuel) (bAnd_R A cfg fuel hf) cfg.compress x v fuel cfg.vt 0
      (VTree.At_refl ..) hf st f hst ⟨wf, InR_root wf.1⟩).total
  exact ⟨st', r, h1, h2, h3.1, funext h4⟩

/-- **`ite`** -/
theorem ite_total_correct (fuel : Nat) (hf : cfg.vt.height + 1 ≤ fuel) {s : A.σ × I.σ}
    {f g h : Ptr} (hA : AppInvT A cfg.vt s.1) (hI : IteInvT I cfg.vt s.2)
    (wf : WFT cfg.vt f) (wg : WFT cfg.vt g) (wh : WFT cfg.vt h) :
    ∃ s' r, bIte A I cfg fuel s f g h = some (s', r) ∧ AppInvT A cfg.vt s'.1 ∧
      IteInvT I cfg.vt s'.2 ∧ WFT cfg.vt r ∧ den r = fIte (den f) (den g) (den h) := by
  have main : ∀ key : Ite, (∀ p, key ≠ .const p) →
      ∃ s' r, (match iteCacheGet I s.2 key with
        | some v => some (s, v)
        | none =>
          match bAnd A cfg fuel s.1 f g with
          | none => none
          | some (a1, fg) =>
            match bAnd A cfg fuel a1 f.neg h with
            | none => none
            | some (a2, nfh) =>
              match bOr A cfg fuel a2 fg nfh with
              | none => none
              | some (a3, r) => some ((a3, iteCacheInsert I s.2 key r), r)) = some (s', r) ∧
        AppInvT A cfg.vt s'.1 ∧ (∀ k r, I.get s'.2 k = some r → Pos cfg.vt r) ∧ Pos cfg.vt r := by
    intro key hnc
    cases hget : iteCacheGet I s.2 key with
    | some v =>
      exact ⟨s, v, rfl, hA, hI.2, iteCacheGet_of (Q := Pos cfg.vt) (fun _ => Pos_neg) hI.2 hnc hget⟩
    | none =>
      obtain ⟨a1, fg, h1, hA1, tfg, _⟩ := and_total_correct A cfg fuel hf hA wf wg
      obtain ⟨a2, nfh, h2, hA2, tnfh, _⟩ := and_total_correct A cfg fuel hf hA1 (TP_neg wf) wh
      obtain ⟨a3, r, h3, hA3, tr, _⟩ := or_total_correct A cfg fuel hf hA2 tfg tnfh
      exact ⟨(a3, iteCacheInsert I s.2 key r), r, by simp only [h1, h2, h3], hA3,
        iteCacheInsert_of (Q := Pos cfg.vt) (fun _ => Pos_neg) hI.2 tr.2, tr.2⟩
  have pos : ∃ s' r, bIte A I cfg fuel s f g h = some (s', r) ∧ AppInvT A cfg.vt s'.1 ∧
      (∀ k r, I.get s'.2 k = some r → Pos cfg.vt r) ∧ Pos cfg.vt r := by
    simp only [bIte]
    generalize hk : Ite.new (primeOrd cfg.vt) f g h = key
    cases key with
    | const p =>
      exact ⟨s, p, rfl, hA, hI.2,
        iteNew_const_of (Q := Pos cfg.vt) (fun _ => Pos_neg) trivial trivial wf.2 wg.2 wh.2 hk⟩
    | choice f' g' h' => exact main _ nofun
    | complChoice f' g' h' => exact main _ nofun
  obtain ⟨s', r, heq, h1, h2, h3⟩ := pos
  obtain ⟨a1, a2, a3, a4⟩ := bIte_ok A I cfg fuel hA.1 hI.1 wf.1 wg.1 wh.1 heq
  exact ⟨s', r, heq, h1, ⟨a2, h2⟩, ⟨a3, h3⟩, funext a4⟩

/-- **`iff`** -/
theorem iff_total_correct (fuel : Nat) (hf : cfg.vt.height + 1 ≤ fuel) {s : A.σ × I.σ}
    {f g : Ptr} (hA : AppInvT A cfg.vt s.1) (hI : IteInvT I cfg.vt s.2)
    (wf : WFT cfg.vt f) (wg : WFT cfg.vt g) :
    ∃ s' r, bIff A I cfg fuel s f g = some (s', r) ∧ AppInvT A cfg.vt s'.1 ∧
      IteInvT I cfg.vt s'.2 ∧ WFT cfg.vt r ∧ den r = fIff (den f) (den g) := by
  obtain ⟨s', r, h1, h2, h3, h4, _⟩ := ite_total_correct A I cfg fuel hf hA hI wf wg (TP_neg wg)
  have h1' : bIff A I cfg fuel s f g = some (s', r) := h1
  exact ⟨s', r, h1', h2, h3, h4, funext (bIff_ok A I cfg fuel hA.1 hI.1 wf.1 wg.1 h1').2.2.2⟩

/-- **`xor`** -/
theorem xor_total_correct (fuel : Nat) (hf : cfg.vt.height + 1 ≤ fuel) {s : A.σ × I.σ}
    {f g : Ptr} (hA : AppInvT A cfg.vt s.1) (hI : IteInvT I cfg.vt s.2)
    (wf : WFT cfg.vt f) (wg : WFT cfg.vt g) :
    ∃ s' r, bXor A I cfg fuel s f g = some (s', r) ∧ AppInvT A cfg.vt s'.1 ∧
      IteInvT I cfg.vt s'.2 ∧ WFT cfg.vt r ∧ den r = fXor (den f) (den g) := by
  obtain ⟨s', r, h1, h2, h3, h4, _⟩ := ite_total_correct A I cfg fuel hf hA hI wf (TP_neg wg) wg
  have h1' : bXor A I cfg fuel s f g = some (s', r) := h1
  exact ⟨s', r, h1', h2, h3, h4, funext (bXor_ok A I cfg fuel hA.1 hI.1 wf.1 wg.1 h1').2.2.2⟩

/-- **`exists`** -/
theorem exists_total_correct (fuel : Nat) (hf : cfg.vt.height + 1 ≤ fuel) {st : A.σ} {f : Ptr}
    (x : Nat) (hst : AppInvT A cfg.vt st) (wf : WFT cfg.vt f) :
    ∃ st' r, bExists A cfg fuel st f x = some (st', r) ∧ AppInvT A cfg.vt st' ∧ WFT cfg.vt r ∧
      den r = fExists (den f) x := by
  obtain ⟨s1, v1, h1, hP1, t1, _⟩ := condition_total_correct A cfg fuel hf x true hst wf
  obtain ⟨s2, v2, h2, hP2, t2, _⟩ := condition_total_correct A cfg fuel hf x false hP1 wf
  obtain ⟨s3, r, h3, hP3, t3, _⟩ := or_total_correct A cfg fuel hf hP2 t1 t2
  have heq : bExists A cfg fuel st f x = some (s3, r) := by simp only [bExists, h1, h2, h3]
  exact ⟨s3, r, heq, hP3, t3, funext (bExists_ok A cfg fuel hst.1 wf.1 heq).2.2⟩

/-- **`compose`** -/
theorem compose_total_correct (fuel : Nat) (hf : cfg.vt.height + 1 ≤ fuel) {s : A.σ × I.σ}
    {f g : Ptr} {x : Nat} (hA : AppInvT A cfg.vt s.1) (hI : IteInvT I cfg.vt s.2)
    (hx : cfg.vt.hasVar x = true) (wf : WFT cfg.vt f) (wg : WFT cfg.vt g) :
    ∃ s' r, bCompose A I cfg fuel s f x g = some (s', r) ∧ AppInvT A cfg.vt s'.1 ∧
      IteInvT I cfg.vt s'.2 ∧ WFT cfg.vt r ∧ den r = fCompose (den f) x (den g) := by
  have tx : TP cfg.vt (.lit x true) := ⟨by simpa [WF] using hx, by simpa [Pos] using hx⟩
  obtain ⟨s1, i, h1, hA1, hI1, ti, _⟩ := iff_total_correct A I cfg fuel hf hA hI tx wg
  obtain ⟨a2, c, h2, hA2, tc, _⟩ := and_total_correct A cfg fuel hf hA1 ti wf
  obtain ⟨a3, r, h3, hA3, tr, _⟩ := exists_total_correct A cfg fuel hf x hA2 tc
  have heq : bCompose A I cfg fuel s f x g = some ((a3, s1.2), r) := by
    simp only [bCompose, h1, h2, h3]
  exact ⟨_, r, heq, hA3, hI1, tr, funext (bCompose_ok A I cfg fuel hA.1 hI.1 hx wf.1 wg.1 heq).2.2.2⟩

/-! ## programs -/

/-- one valid call returns, keeps the invariant and appends exactly one diagram -/
theorem step_total (fuel : Nat) (hf : cfg.vt.height + 1 ≤ fuel) (st : St A I) (op : Op)
    (hinv : InvT A I cfg st) (hv : op.valid cfg.vt st.pool.length = true) :
    ∃ st', step A I cfg fuel st op = some st' ∧ InvT A I cfg st' ∧
      st'.pool.length = st.pool.length + 1 := by
  obtain ⟨hA, hI, hpool⟩ := hinv
  cases op with
  | const b =>
    refine ⟨_, rfl, invT_push hA hI ?_ hpool⟩
    cases b
    · exact TP_fls _
    · exact TP_tru _
  | var x pol =>
    simp only [Op.valid] at hv
    refine ⟨_, by simp only [step, hv, if_true], invT_push (r := .lit x pol) hA hI ?_ hpool⟩
    exact ⟨by simpa [WF] using hv, by simpa [Pos] using hv⟩
  | neg i =>
    simp only [Op.valid, decide_eq_true_eq] at hv
    obtain ⟨p, hp, tp⟩ := pool_get hpool hv
    exact ⟨_, by simp only [step, hp, Option.map_some], invT_push hA hI (TP_neg tp) hpool⟩
  | and i j =>
    simp only [Op.valid, Bool.and_eq_true, decide_eq_true_eq] at hv
    obtain ⟨p, hp, tp⟩ := pool_get hpool hv.1
    obtain ⟨q, hq, tq⟩ := pool_get hpool hv.2
    obtain ⟨s', r, h1, h2, h3, _⟩ := and_total_correct A cfg fuel hf hA tp tq
    exact ⟨_, by simp only [step, hp, hq, h1, Option.map_some], invT_push h2 hI h3 hpool⟩
  | or i j =>
    simp only [Op.valid, Bool.and_eq_true, decide_eq_true_eq] at hv
    obtain ⟨p, hp, tp⟩ := pool_get hpool hv.1
    obtain ⟨q, hq, tq⟩ := pool_get hpool hv.2
    obtain ⟨s', r, h1, h2, h3, _⟩ := or_total_correct A cfg fuel hf hA tp tq
    exact ⟨_, by simp only [step, hp, hq, h1, Option.map_some], invT_push h2 hI h3 hpool⟩
  | xor i j =>
    simp only [Op.valid, Bool.and_eq_true, decide_eq_true_eq] at hv
    obtain ⟨p, hp, tp⟩ := pool_get hpool hv.1
    obtain ⟨q, hq, tq⟩ := pool_get hpool hv.2
    obtain ⟨s', r, h1, h2, h3, h4, _⟩ := xor_total_correct A I cfg fuel hf (s := (st.app, st.ite)) hA hI tp tq
    exact ⟨_, by simp only [step, hp, hq, h1, Option.map_some], invT_push h2 h3 h4 hpool⟩
  | iff i j =>
    simp only [Op.valid, Bool.and_eq_true, decide_eq_true_eq] at hv
    obtain ⟨p, hp, tp⟩ := pool_get hpool hv.1
    obtain ⟨q, hq, tq⟩ := pool_get hpool hv.2
    obtain ⟨s', r, h1, h2, h3, h4, _⟩ := iff_total_correct A I cfg fuel hf (s := (st.app, st.ite)) hA hI tp tq
    exact ⟨_, by simp only [step, hp, hq, h1, Option.map_some], invT_push h2 h3 h4 hpool⟩
  | ite i j k =>
    simp only [Op.valid, Bool.and_eq_true, decide_eq_true_eq] at hv
    obtain ⟨p, hp, tp⟩ := pool_get hpool hv.1.1
    obtain ⟨q, hq, tq⟩ := pool_get hpool hv.1.2
    obtain ⟨r0, hr0, tr0⟩ := pool_get hpool hv.2
    obtain ⟨s', r, h1, h2, h3, h4, _⟩ := ite_total_correct A I cfg fuel hf (s := (st.app, st.ite)) hA hI tp tq tr0
    exact ⟨_, by simp only [step, hp, hq, hr0, h1, Option.map_some], invT_push h2 h3 h4 hpool⟩
  | cond i x b =>
    simp only [Op.valid, decide_eq_true_eq] at hv
    obtain ⟨p, hp, tp⟩ := pool_get hpool hv
    obtain ⟨s', r, h1, h2, h3, _⟩ := condition_total_correct A cfg fuel hf x b hA tp
    exact ⟨_, by simp only [step, hp, h1, Option.map_some], invT_push h2 hI h3 hpool⟩
  | exist i x =>
    simp only [Op.valid, decide_eq_true_eq] at hv
    obtain ⟨p, hp, tp⟩ := pool_get hpool hv
    obtain ⟨s', r, h1, h2, h3, _⟩ := exists_total_correct A cfg fuel hf x hA tp
    exact ⟨_, by simp only [step, hp, h1, Option.map_some], invT_push h2 hI h3 hpool⟩
  | compose i x j =>
    simp only [Op.valid, Bool.and_eq_true, decide_eq_true_eq] at hv
    obtain ⟨p, hp, tp⟩ := pool_get hpool hv.1.2
    obtain ⟨q, hq, tq⟩ := pool_get hpool hv.2
    obtain ⟨s', r, h1, h2, h3, h4, _⟩ :=
      compose_total_correct A I cfg fuel hf (s := (st.app, st.ite)) (x := x) hA hI hv.1.1 tp tq
    exact ⟨_, by simp only [step, hv.1.1, if_true, hp, hq, h1, Option.map_some],
      invT_push h2 h3 h4 hpool⟩

variable {A I cfg} in
theorem runFrom_T {fuel : Nat} (hf : cfg.vt.height + 1 ≤ fuel) :
    ∀ (ops : List Op) (st : St A I), InvT A I cfg st →
      validFrom cfg.vt st.pool.length ops = true →
      ∃ st', runFrom A I cfg fuel st ops = some st' ∧ InvT A I cfg st' ∧
        st'.pool.length = st.pool.length + ops.length
  | [], st, hinv, _ => ⟨st, rfl, hinv, rfl⟩
  | op :: ops, st, hinv, hv => by
    simp only [validFrom, Bool.and_eq_true] at hv
    obtain ⟨st1, h1, hinv1, hlen⟩ := step_total A I cfg fuel hf st op hinv hv.1
    obtain ⟨st', h2, hinv', hlen'⟩ := runFrom_T hf ops st1 hinv1 (by rw [hlen]; exact hv.2)
    refine ⟨st', by simp only [runFrom, h1, h2], hinv', ?_⟩
    rw [hlen', hlen, List.length_cons]; omega

/-- **C03, totality.**  For every lawful apply cache and ite cache, every vtree, both compression
settings, every valid program and every fuel `≥ fuelBound`: the run from the fresh builder
returns, with one diagram per operation. -/
theorem run_total (fuel : Nat) (ops : List Op) (hv : Valid cfg.vt ops)
    (hf : fuelBound cfg.vt ops ≤ fuel) :
    ∃ st, runFrom A I cfg fuel (St.init A I) ops = some st ∧ st.pool.length = ops.length ∧
      InvT A I cfg st := by
  obtain ⟨st, h1, h2, h3⟩ := runFrom_T hf ops (St.init A I) (invT_init A I cfg) hv
  exact ⟨st, h1, by simpa [St.init] using h3, h2⟩

/-- **C03, total correctness** (`run_total` + `run_refines`): a valid program is accepted by
the specification, the builder returns, diagram `i` of the final pool denotes Boolean function `i`
of the specification's pool, and all invariants hold at the end. -/
theorem run_total_correct (fuel : Nat) (ops : List Op) (hv : Valid cfg.vt ops)
    (hf : fuelBound cfg.vt ops ≤ fuel) :
    ∃ st sp, runFrom A I cfg fuel (St.init A I) ops = some st ∧ specRun cfg.vt [] ops = some sp ∧
      sp = st.pool.map den ∧ st.pool.length = ops.length ∧ Inv A I cfg st ∧ InvT A I cfg st := by
  obtain ⟨st, h1, h2, h3⟩ := run_total A I cfg fuel ops hv hf
  obtain ⟨sp, h4, h5, h6⟩ := run_refines A I cfg fuel ops st h1
  exact ⟨st, sp, h1, h4, h5, h2, h6, h3⟩

end

/-- the top-level `Sdd.run` of the driver (list-backed caches) returns on every valid program -/
theorem run_isSome (cfg : Config) (fuel : Nat) (ops : List Op) (hv : Valid cfg.vt ops)
    (hf : fuelBound cfg.vt ops ≤ fuel) : (run cfg fuel ops).isSome = true := by
  obtain ⟨st, h, _⟩ := run_total (ListCache _) (ListCache _) cfg fuel ops hv hf
  simp [run, h]

/-- total correctness of `Sdd.run`: the pool exists, has one entry per operation, is entry by
entry the specification's pool, and consists of well formed, positional diagrams -/
theorem run_total_sound (cfg : Config) (fuel : Nat) (ops : List Op) (hv : Valid cfg.vt ops)
    (hf : fuelBound cfg.vt ops ≤ fuel) :
    ∃ pool, run cfg fuel ops = some pool ∧ pool.length = ops.length ∧
      specRun cfg.vt [] ops = some (pool.map den) ∧ ∀ p ∈ pool, WFT cfg.vt p := by
  obtain ⟨st, sp, h1, h2, h3, h4, _, h6⟩ :=
    run_total_correct (ListCache _) (ListCache _) cfg fuel ops hv hf
  exact ⟨st.pool, by simp [run, h1], h4, by rw [h2, h3], h6.2.2⟩

/-! ## the fuel is a proof device: monotonicity, independence, exactness of `Valid` -/

section
variable (A : CacheImpl (Ptr × Ptr)) (I : CacheImpl (Ptr × Ptr × Ptr)) (cfg : Config)

/-- **fuel monotonicity of `and`**: a result returned with `m` units of fuel is returned with any
`n ≥ m` (no hypothesis on the operands or on the cache) -/
theorem and_fuel_mono {m n : Nat} (h : m ≤ n) {st : A.σ} {a b : Ptr} {r : A.σ × Ptr}
    (hr : bAnd A cfg m st a b = some r) : bAnd A cfg n st a b = some r :=
  (bAnd_mono A cfg h st a b).of_some hr

/-- **fuel monotonicity of programs** (every state, every program) -/
theorem run_fuel_mono {m n : Nat} (h : m ≤ n) (ops : List Op) (st st' : St A I)
    (hr : runFrom A I cfg m st ops = some st') : runFrom A I cfg n st ops = some st' :=
  (runFrom_mono A I cfg h ops st).of_some hr

/-- **the result does not depend on the fuel**: on a valid program every fuel `≥ fuelBound`
yields the state that `fuelBound` yields -/
theorem run_fuel_indep (fuel : Nat) (ops : List Op) (hv : Valid cfg.vt ops)
    (hf : fuelBound cfg.vt ops ≤ fuel) :
    runFrom A I cfg fuel (St.init A I) ops =
      runFrom A I cfg (fuelBound cfg.vt ops) (St.init A I) ops := by
  obtain ⟨st, h, _⟩ := run_total A I cfg (fuelBound cfg.vt ops) ops hv (Nat.le_refl _)
  rw [h, run_fuel_mono A I cfg hf ops _ _ h]

variable {A I cfg}

/-- a run that returns (from a state satisfying C03's invariant) ran a valid program: `Valid` is
exactly the set of programs the builder accepts -/
theorem runFrom_valid (fuel : Nat) : ∀ (ops : List Op) (st st' : St A I), Inv A I cfg st →
    runFrom A I cfg fuel st ops = some st' → validFrom cfg.vt st.pool.length ops = true
  | [], _, _, _, _ => rfl
  | op :: ops, st, st', hinv, h => by
    simp only [runFrom] at h
    cases h1 : step A I cfg fuel st op with
    | none => simp [h1] at h
    | some st1 =>
      simp only [h1] at h
      obtain ⟨r, hpool, _, hinv1⟩ := step_core fuel st st1 op hinv h1
      have hlen : st1.pool.length = st.pool.length + 1 := by rw [hpool]; simp
      have := runFrom_valid fuel ops st1 st' hinv1 h
      rw [hlen] at this
      simp only [validFrom, Bool.and_eq_true]
      exact ⟨step_valid fuel st st1 op h1, this⟩

end

/-- **acceptance = validity**: with enough fuel `Sdd.run` returns exactly on the valid programs -/
theorem run_isSome_iff (cfg : Config) (fuel : Nat) (ops : List Op)
    (hf : fuelBound cfg.vt ops ≤ fuel) : (run cfg fuel ops).isSome = true ↔ Valid cfg.vt ops := by
  constructor
  · intro h
    simp only [run, Option.isSome_map] at h
    obtain ⟨st, hst⟩ := Option.isSome_iff_exists.1 h
    exact runFrom_valid fuel ops _ st (inv_init _ _ cfg) hst
  · exact fun hv => run_isSome cfg fuel ops hv hf

/-- `Sdd.run` does not depend on the fuel once it is `≥ fuelBound` -/
theorem run_fuel_indep' (cfg : Config) (fuel : Nat) (ops : List Op) (hv : Valid cfg.vt ops)
    (hf : fuelBound cfg.vt ops ≤ fuel) : run cfg fuel ops = run cfg (fuelBound cfg.vt ops) ops := by
  simp only [run, run_fuel_indep (ListCache _) (ListCache _) cfg fuel ops hv hf]

/-! ## `WF` alone is not enough -/

/-- On the right-linear vtree `(0 (1 2))` the pointers `x0 ∧ x1` (binary node at the root) and
`[(⊤, x2)]` (a decision node at the root) are both well formed for C03's `WF`, yet their
conjunction fails for every fuel: `and_cartesian` takes the BDD shortcut because the first operand
is binary and the vtree node is right-linear, and calls `low()` on the decision node
(`builder.rs`, `and_cartesian`: `self.and(a.low(), b.low())`).  The second pointer violates `Pos`
(no decision node at a right-linear vtree node), which every pointer handed out by the builder
satisfies (`run_total_sound`). -/
theorem wf_not_enough :
    WF vtR (.bdd false 0 1 .fls (.lit 1 true)) ∧ WF vtR (.dec false 1 [(.tru, .lit 2 true)]) ∧
      ∀ fuel cmpr, bAnd (ListCache _) ⟨vtR, cmpr⟩ fuel []
        (.bdd false 0 1 .fls (.lit 1 true)) (.dec false 1 [(.tru, .lit 2 true)]) = none := by
  have hint : Internal vtR 1 := ⟨.leaf 0, .node (.leaf 1) (.leaf 2), by decide⟩
  have hleft : ∀ w, vtR.leftLeaf? 1 = some w → w = 0 := by
    intro w hw
    have : vtR.leftLeaf? 1 = some 0 := by decide
    rw [this] at hw; cases hw; rfl
  refine ⟨⟨by decide, hint, hleft, WF_fls _, by simp [WF]; decide⟩, ?_, ?_⟩
  · rw [WF_dec]
    refine ⟨hint, fun a => by simp [cnt_cons], ?_⟩
    intro e he
    simp only [List.mem_singleton] at he
    subst he
    exact ⟨WF_tru _, by simp [WF]; decide, DepW_tru _⟩
  · intro fuel cmpr
    cases fuel with
    | zero => rfl
    | succ n => cases cmpr <;> rfl

/-! ## non-vacuity: concrete vtrees and programs -/
section demo

example : Valid vtR progR := by decide
example : Valid vtB progB := by decide
example : fuelBound vtR progR = 3 ∧ fuelBound vtB progB = 3 := by decide

/-- programs with an out-of-range operand or a foreign variable are not valid -/
example : ¬ Valid vtR [.var 3 true] := by decide
example : ¬ Valid vtR [.var 0 true, .and 0 1] := by decide

/-- the bound is attained: with `fuelBound` units of fuel both programs run, with one unit less
they do not (both compression settings) -/
example : (run ⟨vtB, true⟩ (fuelBound vtB progB) progB).isSome = true := by decide +kernel
example : (run ⟨vtB, false⟩ (fuelBound vtB progB) progB).isSome = true := by decide +kernel
example : (run ⟨vtB, true⟩ (fuelBound vtB progB - 1) progB).isSome = false := by decide +kernel
example : (run ⟨vtB, false⟩ (fuelBound vtB progB - 1) progB).isSome = false := by decide +kernel
example : (run ⟨vtR, true⟩ (fuelBound vtR progR) progR).isSome = true := by decide +kernel
example : (run ⟨vtR, true⟩ (fuelBound vtR progR - 1) progR).isSome = false := by decide +kernel

/-- instance of `run_total_sound`: no computation needed to know that `progB` runs with any fuel
`≥ 3`, e.g. a million -/
example : ∃ pool, run ⟨vtB, true⟩ 1000000 progB = some pool ∧ pool.length = 13 ∧
    specRun vtB [] progB = some (pool.map den) ∧ ∀ p ∈ pool, WFT vtB p :=
  run_total_sound ⟨vtB, true⟩ 1000000 progB (by decide) (by decide)

/-- instance of `and_total_correct`: the hypotheses on operands and cache are met by literals and
the empty cache -/
example : ∃ st' r, bAnd (ListCache _) ⟨vtB, true⟩ 3 [] (.lit 0 true) (.lit 2 false) = some (st', r) ∧
    AppInvT (ListCache _) vtB st' ∧ WFT vtB r ∧
    den r = fAnd (den (.lit 0 true)) (den (.lit 2 false)) :=
  and_total_correct (ListCache _) ⟨vtB, true⟩ 3 (by decide) (appInvT_empty _ _)
    ⟨by show vtB.hasVar 0 = true; decide, by show vtB.hasVar 0 = true; decide⟩
    ⟨by show vtB.hasVar 2 = true; decide, by show vtB.hasVar 2 = true; decide⟩

end demo

#print axioms and_total_local
#print axioms bAnd_total
#print axioms and_total_correct
#print axioms or_total_correct
#print axioms condition_total_correct
#print axioms ite_total_correct
#print axioms iff_total_correct
#print axioms xor_total_correct
#print axioms exists_total_correct
#print axioms compose_total_correct
#print axioms step_total
#print axioms run_total
#print axioms run_total_correct
#print axioms run_isSome
#print axioms run_total_sound
#print axioms wf_not_enough
#print axioms and_fuel_mono
#print axioms run_fuel_mono
#print axioms run_fuel_indep
#print axioms runFrom_valid
#print axioms run_isSome_iff
#print axioms run_fuel_indep'
end Sdd
