import RsddModel.Props.TieSddCore
import RsddModel.Props.C03
import RsddModel.Props.C04
/-!
# Source-level corollaries for the SDD builder core

The theorems of C03 (operations compute the function they name) and C04 (results are well formed:
trimmed, compressed, sorted, complement-normalised) restated for the definitions REGENERATED from the
Rust text (`Gen.SddCore.r…`, tools/gen_sddcore.py): each one rewrites with a tie theorem of
`Props/TieSddCore.lean` and applies the existing theorem about the hand-written model.  When the Rust
changes, the tie theorem stops checking and with it the corollary: "the source as it reads NOW has the
property".  The file also builds when a function is in alias (UNTRANSLATED) mode.
-/
namespace TieSddCoreSource
open Sdd Spec TieSddCoreAux Gen.SddCore TieSddCore

/-! ## C03: per-function semantics -/

/-- `unique_bdd` as the source reads denotes `if label then high else low` -/
theorem uniqueBdd_eval_source (l : Nat) (lo hi : Ptr) (idx : Nat) (a : Assign) :
    (rUniqueBdd l lo hi idx).eval a = (if a l then hi.eval a else lo.eval a) := by
  rw [uniqueBdd_tie]; exact uniqueBdd_eval l lo hi idx a

/-- `unique_or` as the source reads returns a well formed pointer denoting `⋁ prime ∧ sub` -/
theorem uniqueOr_ok_source {vt : VTree} {es : List Elem} {table : Nat} {r : Ptr}
    (hok : ElemsOK vt (vt.leftLeaf? table) es) (hpart : Partition es) (hint : Internal vt table)
    (h : rUniqueOr es table = some r) : WF vt r ∧ ∀ a, r.eval a = evalElems a es := by
  have h' : uniqueOr es table = some r := by rw [← uniqueOr_tie]; exact h
  exact uniqueOr_ok hok hpart hint h'

/-- `canonicalize_base_case` as the source reads never panics and a trimmed result denotes the element list -/
theorem canonBase_ok_source {vt : VTree} {ow} {es : List Elem} {r : Ptr}
    (hok : ElemsOK vt ow es) (hpart : Partition es) (h : rCanonBase? es = some (some r)) :
    WF vt r ∧ ∀ a, r.eval a = evalElems a es := by
  have h' : canonBase? es = some r := by
    have := congrFun canonBase_tie es
    rw [this] at h; exact Option.some.inj h
  exact canonBase_ok hok hpart h'

/-- `canonicalize` as the source reads (compression on or off) denotes the element list and keeps the invariant -/
theorem canonicalize_ok_source {σ : Type} {P : σ → Prop} {vt : VTree} {andF : AndF σ}
    (hand : AndOK P vt andF) {cmpr : Bool} {st : σ} {l : List Elem}
    {table : Nat} {st' : σ} {r : Ptr} (hP : P st) (hl : ElemsOK vt (vt.leftLeaf? table) l)
    (hpart : Partition l) (hint : Internal vt table)
    (h : rCanonicalize cmpr andF st l table = some (st', r)) :
    P st' ∧ WF vt r ∧ ∀ a, r.eval a = evalElems a l := by
  have h' : canonicalize cmpr andF st l table = some (st', r) := by rw [← canonicalize_tie]; exact h
  exact canonicalize_ok hand hP hl hpart hint h'

/-! ## C03: the operations -/

section
variable (A : CacheImpl (Ptr × Ptr)) (I : CacheImpl (Ptr × Ptr × Ptr)) (cfg : Config)

/-- one unfolding of `and` as the source reads preserves "computes the conjunction" for any correct recursive call -/
theorem andBody_ok_source {andF : AndF A.σ} (hand : AndOK (AppInv A cfg.vt) cfg.vt andF) :
    AndOK (AppInv A cfg.vt) cfg.vt (rAndBody A cfg.vt cfg.compress andF) := by
  rw [andBody_tie]; exact andBody_ok hand

/-- `and` as the source reads (recursive calls with `fuel`) returns a well formed SDD denoting the conjunction -/
theorem and_correct_source (fuel : Nat) {st st' : A.σ} {a b r : Ptr} (hst : AppInv A cfg.vt st)
    (wa : WF cfg.vt a) (wb : WF cfg.vt b)
    (h : rAndBody A cfg.vt cfg.compress (Sdd.and A cfg.vt cfg.compress fuel) st a b = some (st', r)) :
    AppInv A cfg.vt st' ∧ WF cfg.vt r ∧ ∀ asg, r.eval asg = (a.eval asg && b.eval asg) := by
  have h' : Sdd.and A cfg.vt cfg.compress (fuel + 1) st a b = some (st', r) := by
    rw [and_source]; exact h
  exact and_correct A cfg (fuel + 1) hst wa wb h'

/-- `or` (De Morgan default of the trait) as the source reads denotes the disjunction -/
theorem or_correct_source (fuel : Nat) {st st' : A.σ} {a b r : Ptr} (hst : AppInv A cfg.vt st)
    (wa : WF cfg.vt a) (wb : WF cfg.vt b) (h : rOr_ (bAnd A cfg fuel) st a b = some (st', r)) :
    AppInv A cfg.vt st' ∧ WF cfg.vt r ∧ ∀ asg, r.eval asg = (a.eval asg || b.eval asg) := by
  have h' : bOr A cfg fuel st a b = some (st', r) := by rw [or_source]; exact h
  exact or_correct A cfg fuel hst wa wb h'

/-- `condition` as the source reads (recursive calls with fuel `n`) denotes `f | x = v` -/
theorem condition_correct_source (n : Nat) {st st' : A.σ} {f r : Ptr} {x : Nat} {v : Bool}
    (hst : AppInv A cfg.vt st) (wf : WF cfg.vt f)
    (h : rCondition cfg.compress (bAnd A cfg (n + 1))
          (fun st f _ _ => Sdd.condition cfg.compress (bAnd A cfg (n + 1)) x v n st f) st f x v = some (st', r)) :
    AppInv A cfg.vt st' ∧ WF cfg.vt r ∧ den r = fCond (den f) x v := by
  have h' : bCond A cfg (n + 1) st f x v = some (st', r) := by
    simp only [bCond]; rw [condition_source]; exact h
  exact condition_correct A cfg (n + 1) hst wf h'

/-- `ite` as the source reads (standard triple, ite cache, three applies) denotes if-then-else -/
theorem ite_correct_source (fuel : Nat) {s s' : A.σ × I.σ} {f g h r : Ptr}
    (hA : AppInv A cfg.vt s.1) (hI : IteInv I cfg.vt s.2)
    (wf : WF cfg.vt f) (wg : WF cfg.vt g) (wh : WF cfg.vt h)
    (hr : rIte A I cfg.vt (bAnd A cfg fuel) s f g h = some (s', r)) :
    AppInv A cfg.vt s'.1 ∧ IteInv I cfg.vt s'.2 ∧ WF cfg.vt r ∧ den r = fIte (den f) (den g) (den h) := by
  have h' : bIte A I cfg fuel s f g h = some (s', r) := by rw [ite_source]; exact hr
  exact ite_correct A I cfg fuel hA hI wf wg wh h'

/-- `exists` as the source reads denotes existential quantification -/
theorem exists_correct_source (fuel : Nat) {st st' : A.σ} {f r : Ptr} {x : Nat}
    (hst : AppInv A cfg.vt st) (wf : WF cfg.vt f)
    (h : rExists_ (bAnd A cfg fuel) (fun st f x v => bCond A cfg fuel st f x v) st f x = some (st', r)) :
    AppInv A cfg.vt st' ∧ WF cfg.vt r ∧ den r = fExists (den f) x := by
  have h' : bExists A cfg fuel st f x = some (st', r) := by rw [exists_source]; exact h
  exact exists_correct A cfg fuel hst wf h'

/-- `compose` (trait default) as the source reads denotes substitution of `g` for `x` -/
theorem compose_correct_source (fuel : Nat) {s s' : A.σ × I.σ} {f g r : Ptr} {x : Nat}
    (hA : AppInv A cfg.vt s.1) (hI : IteInv I cfg.vt s.2) (hx : cfg.vt.hasVar x = true)
    (wf : WF cfg.vt f) (wg : WF cfg.vt g)
    (hr : rCompose A I (bAnd A cfg fuel) (bIff A I cfg fuel) (bExists A cfg fuel) s f x g = some (s', r)) :
    AppInv A cfg.vt s'.1 ∧ IteInv I cfg.vt s'.2 ∧ WF cfg.vt r ∧ den r = fCompose (den f) x (den g) := by
  have h' : bCompose A I cfg fuel s f x g = some (s', r) := by rw [compose_source]; exact hr
  exact compose_correct A I cfg fuel hA hI hx wf wg h'

end

/-! ## C04: results are in normal form (trimmed, compressed, sorted, complement-normalised) -/

/-- `unique_bdd` as the source reads returns a pointer in normal form -/
theorem uniqueBdd_wfs_source {vt : VTree} {l i : Nat} {lo hi : Ptr} (hint : Internal vt i)
    (hl : l ∈ vt.leftVars i) (wlo : WFs vt lo) (whi : WFs vt hi)
    (vlo : ∀ v ∈ lo.vars, v ∈ vt.rightVars i) (vhi : ∀ v ∈ hi.vars, v ∈ vt.rightVars i) :
    WFs vt (rUniqueBdd l lo hi i) ∧
      ∀ v ∈ (rUniqueBdd l lo hi i).vars, v = l ∨ v ∈ lo.vars ∨ v ∈ hi.vars := by
  rw [uniqueBdd_tie]; exact uniqueBdd_wfs hint hl wlo whi vlo vhi

/-- `unique_or` as the source reads returns a sorted, complement-normalised pointer in normal form -/
theorem uniqueOr_wfs_source {vt : VTree} (hnd : vt.leaves.Nodup) {es : List Elem} {i : Nat} {r : Ptr}
    (hint : Internal vt i) (hpart : Partition es) (hok : ∀ e ∈ es, ElemOKs vt i e)
    (hsubs : (es.map (·.2)).Nodup) (hbase : canonBase? es = none)
    (h : rUniqueOr es i = some r) : WFs vt r ∧ ∀ v ∈ r.vars, v ∈ varsElems es := by
  have h' : uniqueOr es i = some r := by rw [← uniqueOr_tie]; exact h
  exact uniqueOr_wfs hnd hint hpart hok hsubs hbase h'

/-- a trimming case of `canonicalize_base_case` as the source reads returns a pointer in normal form -/
theorem canonBase_wfs_source {vt : VTree} {i : Nat} {es : List Elem} {r : Ptr} (hpart : Partition es)
    (hok : ∀ e ∈ es, ElemOKs vt i e) (h : rCanonBase? es = some (some r)) :
    WFs vt r ∧ ∀ v ∈ r.vars, v ∈ varsElems es := by
  have h' : canonBase? es = some r := by
    have := congrFun canonBase_tie es
    rw [this] at h; exact Option.some.inj h
  exact canonBase_wfs hpart hok h'

/-- with compression on, `canonicalize` as the source reads returns a pointer in normal form -/
theorem canonicalize_wfs_source {σ : Type} {P P0 : σ → Prop} {vt : VTree} {andF : AndF σ} {i : Nat}
    (hP0 : ∀ st, P st → P0 st) (hnd : vt.leaves.Nodup)
    (hand : AndOK P0 vt andF) (hands : AndOKs P vt andF)
    {st : σ} {l : List Elem} {st' : σ} {r : Ptr} (hP : P st) (hint : Internal vt i)
    (hpart : Partition l) (hok : ∀ e ∈ l, ElemOKs vt i e)
    (h : rCanonicalize true andF st l i = some (st', r)) :
    P st' ∧ WFs vt r ∧ ∀ v ∈ r.vars, v ∈ varsElems l := by
  have h' : canonicalize true andF st l i = some (st', r) := by rw [← canonicalize_tie]; exact h
  exact canonicalize_wfs hnd hands hP hint hpart hok h'

/-- `and_indep` as the source reads returns a pointer in normal form -/
theorem andIndep_s_source {vt : VTree} (hnd : vt.leaves.Nodup) {a b res : Ptr} {k : Nat}
    (wa : WFs vt a) (wb : WFs vt b)
    (hint : Internal vt k) (ha : ∀ v ∈ a.vars, v ∈ vt.leftVars k)
    (hb : ∀ v ∈ b.vars, v ∈ vt.rightVars k)
    (na1 : a ≠ .tru) (na2 : a ≠ .fls) (nb1 : b ≠ .tru) (nb2 : b ≠ .fls)
    (h : rAndIndep vt a b k = some res) :
    WFs vt res ∧ ∀ v ∈ res.vars, v ∈ a.vars ∨ v ∈ b.vars := by
  have h' : andIndep vt a b k = some res := by rw [← andIndep_tie]; exact h
  exact andIndep_s hnd wa wb hint ha hb na1 na2 nb1 nb2 h'

section
variable (A : CacheImpl (Ptr × Ptr)) (I : CacheImpl (Ptr × Ptr × Ptr)) (cfg : Config)
  (hc : cfg.compress = true) (hnd : cfg.vt.leaves.Nodup) (fuel : Nat)
include hc hnd

/-- one unfolding of `and` as the source reads keeps results in normal form (compression on) -/
theorem andBody_s_source {andF : AndF A.σ} (hand : AndOK (AppInv A cfg.vt) cfg.vt andF)
    (hands : AndOKs (AppInv2 A cfg.vt) cfg.vt andF) :
    AndOKs (AppInv2 A cfg.vt) cfg.vt (rAndBody A cfg.vt true andF) := by
  rw [andBody_tie]; exact andBody_s hnd hand hands

/-- `or` as the source reads returns a pointer in normal form -/
theorem or_s_source {st a b st' r} (hP : AppInv2 A cfg.vt st) (wa : WFs cfg.vt a) (wb : WFs cfg.vt b)
    (h : rOr_ (bAnd A cfg fuel) st a b = some (st', r)) : AppInv2 A cfg.vt st' ∧ WFs cfg.vt r := by
  have h' : bOr A cfg fuel st a b = some (st', r) := by rw [or_source]; exact h
  exact bOr_s A cfg hc hnd fuel hP wa wb h'

/-- `ite` as the source reads returns a pointer in normal form -/
theorem ite_s_source {s s' : A.σ × I.σ} {f g h r : Ptr}
    (hA : AppInv2 A cfg.vt s.1) (hI : IteInvS I cfg.vt s.2)
    (wf : WFs cfg.vt f) (wg : WFs cfg.vt g) (wh : WFs cfg.vt h)
    (hr : rIte A I cfg.vt (bAnd A cfg fuel) s f g h = some (s', r)) :
    AppInv2 A cfg.vt s'.1 ∧ IteInvS I cfg.vt s'.2 ∧ WFs cfg.vt r := by
  have h' : bIte A I cfg fuel s f g h = some (s', r) := by rw [ite_source]; exact hr
  exact bIte_s A I cfg hc hnd fuel hA hI wf wg wh h'

/-- `exists` as the source reads returns a pointer in normal form -/
theorem exists_s_source {st st' : A.σ} {f r : Ptr} {x : Nat} (hP : AppInv2 A cfg.vt st)
    (wf : WFs cfg.vt f)
    (h : rExists_ (bAnd A cfg fuel) (fun st f x v => bCond A cfg fuel st f x v) st f x = some (st', r)) :
    AppInv2 A cfg.vt st' ∧ WFs cfg.vt r := by
  have h' : bExists A cfg fuel st f x = some (st', r) := by rw [exists_source]; exact h
  exact bExists_s A cfg hc hnd fuel hP wf h'

/-- `compose` as the source reads returns a pointer in normal form -/
theorem compose_s_source {s s' : A.σ × I.σ} {f g r : Ptr} {x : Nat}
    (hA : AppInv2 A cfg.vt s.1) (hI : IteInvS I cfg.vt s.2) (hx : cfg.vt.hasVar x = true)
    (wf : WFs cfg.vt f) (wg : WFs cfg.vt g)
    (hr : rCompose A I (bAnd A cfg fuel) (bIff A I cfg fuel) (bExists A cfg fuel) s f x g = some (s', r)) :
    AppInv2 A cfg.vt s'.1 ∧ IteInvS I cfg.vt s'.2 ∧ WFs cfg.vt r := by
  have h' : bCompose A I cfg fuel s f x g = some (s', r) := by rw [compose_source]; exact hr
  exact bCompose_s A I cfg hc hnd fuel hA hI hx wf wg h'

end
/-! ## `compress` (in-place index loops) -/

/-- `compress` as the source reads keeps the invariant, the partition and the denotation of the element list -/
theorem compress_ok_source {σ : Type} {P : σ → Prop} {vt : VTree} {andF : AndF σ} {ow}
    (hand : AndOK P vt andF) {wf : Nat} {st : σ} {l : List Elem} {st' : σ} {out : List Elem}
    (hwf : l.length ≤ wf) (hP : P st) (hl : ElemsOK vt ow l) (hpart : Partition l)
    (h : rCompress wf andF st l = some (st', out)) :
    P st' ∧ ElemsOK vt ow out ∧ Partition out ∧ ∀ a, evalElems a out = evalElems a l := by
  have h' : compress andF st l = some (st', out) := by rw [← compress_source wf andF st l hwf]; exact h
  exact compress_ok hand hP hl hpart h'

/-- after `compress` as the source reads the subs are pairwise distinct (the node is compressed) -/
theorem compress_distinct_source {σ : Type} {P : σ → Prop} {vt : VTree} {andF : AndF σ} {i : Nat}
    (hnd : vt.leaves.Nodup) (hand : AndOKs P vt andF) {wf : Nat} {st : σ} {l : List Elem} {st' : σ}
    {out : List Elem} (hwf : l.length ≤ wf) (hP : P st) (hok : ∀ e ∈ l, ElemOKs vt i e)
    (h : rCompress wf andF st l = some (st', out)) :
    P st' ∧ (∀ e ∈ out, ElemOKs vt i e) ∧ (out.map (·.2)).Nodup := by
  have h' : compressOuter andF l.length st l = some (st', out) := by
    have := compress_source wf andF st l hwf
    rw [this] at h; exact h
  obtain ⟨h1, h2, h3, _⟩ := compress_oks hnd hand hP hok h'
  exact ⟨h1, h2, h3⟩

end TieSddCoreSource

#print axioms TieSddCoreSource.uniqueBdd_eval_source
#print axioms TieSddCoreSource.uniqueOr_ok_source
#print axioms TieSddCoreSource.canonBase_ok_source
#print axioms TieSddCoreSource.canonicalize_ok_source
#print axioms TieSddCoreSource.andBody_ok_source
#print axioms TieSddCoreSource.and_correct_source
#print axioms TieSddCoreSource.or_correct_source
#print axioms TieSddCoreSource.condition_correct_source
#print axioms TieSddCoreSource.ite_correct_source
#print axioms TieSddCoreSource.exists_correct_source
#print axioms TieSddCoreSource.compose_correct_source
#print axioms TieSddCoreSource.uniqueBdd_wfs_source
#print axioms TieSddCoreSource.uniqueOr_wfs_source
#print axioms TieSddCoreSource.canonBase_wfs_source
#print axioms TieSddCoreSource.canonicalize_wfs_source
#print axioms TieSddCoreSource.andIndep_s_source
#print axioms TieSddCoreSource.andBody_s_source
#print axioms TieSddCoreSource.or_s_source
#print axioms TieSddCoreSource.ite_s_source
#print axioms TieSddCoreSource.exists_s_source
#print axioms TieSddCoreSource.compose_s_source
#print axioms TieSddCoreSource.compress_ok_source
#print axioms TieSddCoreSource.compress_distinct_source
