import RsddModel.Model.GenSddQ
import RsddModel.Model.Sdd
import RsddModel.Model.SddWmc
import RsddModel.Model.ScratchSdd
import RsddModel.Model.SddSemantic
import RsddModel.Lemmas.TieSddQAux
/-!
# Tie to the source text (translator route): queries on SDD pointers, the semantic SDD builder

`RsddModel/Model/GenSddQ.lean` is rewritten from `src/repr/sdd.rs`, `src/repr/sdd/{binary_sdd,sdd_or}.rs`,
`src/builder/sdd/semantic.rs`, `src/repr/ddnnf.rs` on every run (tools/gen_sddq.py).  Each theorem states
that the regenerated definition IS the hand-written model definition (or the literal mirror of
`Lemmas/TieSddQAux.lean`, which is related to the model there).  The `first | rfl | …` cascades accept
harmless re-arrangements of the Rust; a changed operand, a swapped branch, a dropped negation, a skipped
child does not check.
-/
set_option linter.unusedSimpArgs false
set_option linter.unusedVariables false
set_option linter.unusedSectionVars false
namespace TieSddQ
open Sdd

theorem neg_tie : Gen.SddQ.neg = Ptr.neg := by
  first
  | rfl
  | (funext p; rcases p with _ | _ | ⟨v, b⟩ | ⟨c, l, i, lo, hi⟩ | ⟨c, i, es⟩ <;> (try cases c) <;> (try cases b) <;> rfl)

theorem isNeg_tie : Gen.SddQ.isNeg = Ptr.isNeg := by
  first
  | rfl
  | (funext p; rcases p with _ | _ | ⟨v, b⟩ | ⟨c, l, i, lo, hi⟩ | ⟨c, i, es⟩ <;> (try cases c) <;> (try cases b) <;> rfl)

theorem low_tie : Gen.SddQ.low = Ptr.low? := by
  first
  | rfl
  | (funext p; rcases p with _ | _ | ⟨v, b⟩ | ⟨c, l, i, lo, hi⟩ | ⟨c, i, es⟩ <;> (try cases c) <;>
      first | rfl | (simp [Gen.SddQ.low, Ptr.low?, neg_tie]; done))

theorem isTrue_tie : Gen.SddQ.isTrue = Ptr.isTrue := by
  first
  | rfl
  | (funext p; rcases p with _ | _ | ⟨v, b⟩ | ⟨c, l, i, lo, hi⟩ | ⟨c, i, es⟩ <;> (try cases c) <;> (try cases b) <;> rfl)

theorem isFalse_tie : Gen.SddQ.isFalse = Ptr.isFalse := by
  first
  | rfl
  | (funext p; rcases p with _ | _ | ⟨v, b⟩ | ⟨c, l, i, lo, hi⟩ | ⟨c, i, es⟩ <;> (try cases c) <;> (try cases b) <;> rfl)

theorem isNegVar_tie : Gen.SddQ.isNegVar = Ptr.isNegVar := by
  first
  | rfl
  | (funext p; rcases p with _ | _ | ⟨v, b⟩ | ⟨c, l, i, lo, hi⟩ | ⟨c, i, es⟩ <;> (try cases c) <;> (try cases b) <;> rfl)

theorem isBdd_tie : Gen.SddQ.isBdd = Ptr.isBdd := by
  first
  | rfl
  | (funext p; rcases p with _ | _ | ⟨v, b⟩ | ⟨c, l, i, lo, hi⟩ | ⟨c, i, es⟩ <;> (try cases c) <;> (try cases b) <;> rfl)

theorem high_tie : Gen.SddQ.high = Ptr.high? := by
  first
  | rfl
  | (funext p; rcases p with _ | _ | ⟨v, b⟩ | ⟨c, l, i, lo, hi⟩ | ⟨c, i, es⟩ <;> (try cases c) <;>
      first | rfl | (simp [Gen.SddQ.high, Ptr.high?, neg_tie]; done))

section S
open Scratch ScratchSdd
variable {Tag : Type} [DecidableEq Tag] {U : Tag → Type}

theorem orClearLoop_eq (rc : SRef → Scr U → Scr U) (es : List (SRef × SRef)) (σ : Scr U) :
    Gen.SddQ.orClearLoop rc es σ = (es.flatMap fun e => [e.1, e.2]).foldl (fun σ k => rc k σ) σ := by
  induction es generalizing σ with
  | nil => rfl
  | cons e es ih => simp only [Gen.SddQ.orClearLoop, List.flatMap_cons, List.foldl_append, List.foldl_cons, List.foldl_nil, ih]

theorem clearS_tie : Gen.SddQ.clearS (U := U) = ScratchSdd.clearS (U := U) := by
  first
  | rfl
  | (funext s r σ
     induction s generalizing r σ with
     | nil => rfl
     | cons n rest ih =>
       have ih' : Gen.SddQ.clearS (U := U) rest = ScratchSdd.clearS rest := by funext r σ; exact ih r σ
       unfold Gen.SddQ.clearS ScratchSdd.clearS
       rw [ih']
       cases r.idx? with
       | none => rfl
       | some i =>
         by_cases h : i = rest.length
         · simp only [if_pos h]
           cases n
           · rfl
           · exact orClearLoop_eq _ _ _
         · simp only [if_neg h])
  | (funext s r σ
     induction s generalizing r σ with
     | nil => rfl
     | cons n rest ih =>
       have ih' : Gen.SddQ.clearS (U := U) rest = ScratchSdd.clearS rest := by funext r σ; exact ih r σ
       simp only [Gen.SddQ.clearS, ScratchSdd.clearS, ih']
       cases r.idx? with
       | none => rfl
       | some i =>
         simp only []
         split
         · cases n <;>
             simp [Gen.SddQ.bddClear, Gen.SddQ.orClear, orClearLoop_eq, SNode.kids]
         · rfl)

theorem foldProbe_tie {V : Type} : @Gen.SddQ.foldProbe V = @Scratch.probeFold V := by
  first
  | rfl
  | (funext neg x
     rcases x with _ | ⟨_ | _, _ | _⟩ <;> cases neg <;> rfl)

theorem foldLoop_tie {V : Type} : Gen.SddQ.foldLoop (U := U) (V := V) = ScratchSdd.foldElems (U := U) (V := V) := by
  first
  | rfl
  | (funext A rc neg es acc σ
     induction es generalizing acc σ with
     | nil => rfl
     | cons e es ih => simp only [Gen.SddQ.foldLoop, ScratchSdd.foldElems, ih])
  | (funext A rc neg
     cases neg <;>
       (funext es acc σ
        induction es generalizing acc σ with
        | nil => rfl
        | cons e es ih => simp [Gen.SddQ.foldLoop, ScratchSdd.foldElems, ih]))

theorem foldDagS_tie : Gen.SddQ.foldDagS (U := U) = ScratchSdd.foldDagS (U := U) := by
  first
  | rfl
  | (funext t A s r σ
     induction s generalizing r σ with
     | nil => cases r <;> rfl
     | cons n rest ih =>
       have ih' : Gen.SddQ.foldDagS t A rest = ScratchSdd.foldDagS t A rest := by funext r σ; exact ih r σ
       simp only [Gen.SddQ.foldDagS, ScratchSdd.foldDagS, ih', foldProbe_tie, foldLoop_tie]
       cases hr : r.idx? with
       | none => cases r <;> first | rfl | simp [SRef.idx?] at hr
       | some i =>
         simp only []
         split
         · first
           | (cases Scratch.probeFold r.isNeg ((σ i).asPair t) with
              | hit v => rfl
              | miss cached => cases r.isNeg <;> simp [Scratch.storeFold])
           | (cases n <;> cases Scratch.probeFold r.isNeg ((σ i).asPair t) with
              | hit v => rfl
              | miss cached => cases r.isNeg <;> simp [Scratch.storeFold])
         · rfl)

theorem countLoop_eq (rc : SRef → Scr U → Nat × Scr U) (es : List (SRef × SRef)) (c : Nat) (σ : Scr U) :
    Gen.SddQ.countLoop rc es c σ =
      es.foldl (fun (acc : Nat × Scr U) e =>
        let a := rc e.2 acc.2
        let b := rc e.1 a.2
        (acc.1 + a.1 + b.1 + 1, b.2)) (c, σ) := by
  induction es generalizing c σ with
  | nil => rfl
  | cons e es ih =>
    first
    | (simp only [Gen.SddQ.countLoop, List.foldl_cons, ih]; done)
    | (simp only [Gen.SddQ.countLoop, List.foldl_cons, ih]; congr 2; omega)

theorem countHS_tie : Gen.SddQ.countHS (U := U) = ScratchSdd.countHS (U := U) := by
  first
  | rfl
  | (funext s r σ
     induction s generalizing r σ with
     | nil => rfl
     | cons n rest ih =>
       have ih' : Gen.SddQ.countHS (U := U) rest = ScratchSdd.countHS rest := by funext r σ; exact ih r σ
       unfold Gen.SddQ.countHS ScratchSdd.countHS
       rw [ih']
       cases r.idx? with
       | none => rfl
       | some i =>
         by_cases h : i = rest.length
         · -- the source tests the memo inside each node kind, the model before looking at the kind
           simp only [if_pos h]
           cases (σ i).asCount <;> cases n <;> first | rfl | (simp only [countLoop_eq]; rfl)
         · simp only [if_neg h])
  | (funext s r σ
     induction s generalizing r σ with
     | nil => rfl
     | cons n rest ih =>
       have ih' : Gen.SddQ.countHS (U := U) rest = ScratchSdd.countHS rest := by funext r σ; exact ih r σ
       simp only [Gen.SddQ.countHS, ScratchSdd.countHS, ih']
       cases r.idx? with
       | none => rfl
       | some i =>
         simp only []
         split
         · cases hc : (σ i).asCount <;> cases n <;> simp [countLoop_eq]
         · rfl)

theorem foldS_tie : Gen.SddQ.foldS (U := U) = ScratchSdd.foldS (U := U) := by
  first
  | rfl
  | (funext t A s r σ; simp only [Gen.SddQ.foldS, ScratchSdd.foldS, foldDagS_tie, clearS_tie]; done)

theorem countNodesS_tie : Gen.SddQ.countNodesS (U := U) = ScratchSdd.countNodesS (U := U) := by
  first
  | rfl
  | (funext s r σ; simp only [Gen.SddQ.countNodesS, ScratchSdd.countNodesS, countHS_tie, clearS_tie]; done)

theorem wmcSAlg_tie {α : Type} : Gen.SddQ.wmcSAlg (α := α) = ScratchSdd.wmcSAlg := by
  first
  | rfl
  | (funext S w; simp [Gen.SddQ.wmcSAlg, ScratchSdd.wmcSAlg]; done)
  | (funext S w; simp only [Gen.SddQ.wmcSAlg, ScratchSdd.wmcSAlg, SAlg.mk.injEq]
     refine ⟨?_, ?_, ?_, ?_, ?_⟩ <;> first | rfl | (funext a b; cases b <;> rfl) | (funext a b; simp; done))

end S

/-! ## the `semantic_hash` cache (`Sdd.cachedHash`) -/
section H

theorem orSumLoop_tie : Gen.SddQ.orSumLoop = Sdd.cachedElemsWith := by
  first
  | rfl
  | (funext P f es c
     induction es generalizing c with
     | nil => rfl
     | cons e es ih =>
       obtain ⟨p, s⟩ := e
       simp only [Gen.SddQ.orSumLoop, Gen.SddQ.andSemHash, Sdd.cachedElemsWith, ih])

theorem bddCached_tie (P : Nat) (w : Spec.Weights Nat) (f : Ref → HashCache → Nat × HashCache)
    (l idx : Nat) (lo hi : Ref) (i : Nat) (c : HashCache) :
    Gen.SddQ.bddCached P w f l lo hi i c = Sdd.cachedNodeWith P w f (.bdd l idx lo hi) i c := by
  first
  | rfl
  | (simp only [Gen.SddQ.bddCached, Gen.SddQ.bddSemHash, Sdd.cachedNodeWith]; cases c i <;> rfl)
  | (simp only [Gen.SddQ.bddCached, Gen.SddQ.bddSemHash, Sdd.cachedNodeWith]; cases c i <;> simp; done)

theorem orCached_tie (P : Nat) (w : Spec.Weights Nat) (f : Ref → HashCache → Nat × HashCache)
    (idx : Nat) (es : List (Ref × Ref)) (i : Nat) (c : HashCache) :
    Gen.SddQ.orCached P f es i c = Sdd.cachedNodeWith P w f (.dec idx es) i c := by
  first
  | rfl
  | (simp only [Gen.SddQ.orCached, Gen.SddQ.orSemHash, orSumLoop_tie, Sdd.cachedNodeWith]; cases c i <;> rfl)
  | (simp only [Gen.SddQ.orCached, Gen.SddQ.orSemHash, orSumLoop_tie, Sdd.cachedNodeWith]; cases c i <;> simp; done)

theorem cachedHash_tie : Gen.SddQ.cachedHash = Sdd.cachedHash := by
  first
  | rfl
  | (funext P w s r c
     induction s generalizing r c with
     | nil => cases r <;> rfl
     | cons n rest ih =>
       have ih' : Gen.SddQ.cachedHash P w rest = Sdd.cachedHash P w rest := by funext r c; exact ih r c
       cases r with
       | reg i =>
         simp only [Gen.SddQ.cachedHash, Sdd.cachedHash, ih']
         split
         · cases n <;> simp only [bddCached_tie P w _ _ 0, orCached_tie P w _ 0] <;> first | rfl | (rename_i idx _ _; simp [Sdd.cachedNodeWith]; done) | (rename_i idx _; simp [Sdd.cachedNodeWith]; done)
         · rfl
       | compl i =>
         simp only [Gen.SddQ.cachedHash, Sdd.cachedHash, ih']
         split
         · cases n <;> simp only [bddCached_tie P w _ _ 0, orCached_tie P w _ 0] <;> first | rfl | (simp [Sdd.cachedNodeWith]; done)
         · rfl
       | _ => rfl)

theorem statsLoop_tie : Gen.SddQ.statsLoop = SddSemAux.statsLoop := by
  first
  | rfl
  | (funext P w s rs seen k c
     induction rs generalizing seen k c with
     | nil => rfl
     | cons r rs ih => simp only [Gen.SddQ.statsLoop, SddSemAux.statsLoop, cachedHash_tie, ih])
  | (funext P w s rs seen k c
     induction rs generalizing seen k c with
     | nil => rfl
     | cons r rs ih =>
       simp only [Gen.SddQ.statsLoop, SddSemAux.statsLoop, cachedHash_tie, ih]
       split <;> simp_all)

/-- `stats` = the collision count of the loop, and the memo it leaves is that of hashing every node with the
builder's own prime and weights (`Sdd.cachedHashes`) -/
theorem statsCollisions_tie : Gen.SddQ.statsCollisions
    = fun P w s roots c => ((SddSemAux.statsLoop P w s roots [] 0 c).2.1, (SddSemAux.statsLoop P w s roots [] 0 c).2.2) := by
  first
  | rfl
  | (funext P w s roots c; simp only [Gen.SddQ.statsCollisions, statsLoop_tie]; done)

theorem stats_memo (P : Nat) (w : Spec.Weights Nat) (s : Store) (roots : List Ref) (c : HashCache) :
    (Gen.SddQ.statsCollisions P w s roots c).2 = (cachedHashes P w s roots c).2 := by
  rw [statsCollisions_tie]; exact SddSemAux.statsLoop_cache P w s roots [] 0 c

end H

/-! ## the order on pointers (`Ptr.cmp`): derive(Ord) on `SddPtr` / `SddAnd`, `BinarySDD::cmp`, `SddOr::cmp` -/
section Cmp

theorem rank_tie : Gen.SddQ.rank = Ptr.rank := by
  first
  | rfl
  | (funext p; rcases p with _ | _ | ⟨v, b⟩ | ⟨c, l, i, lo, hi⟩ | ⟨c, i, es⟩ <;> (try cases c) <;> (try cases b) <;> rfl)

/-- two binary nodes under the same variant are compared by `BinarySDD::cmp` -/
theorem bddCmp_tie (c : Bool) (l i : Nat) (lo hi : Ptr) (l' i' : Nat) (lo' hi' : Ptr) :
    Ptr.cmp (.bdd c l i lo hi) (.bdd c l' i' lo' hi') = Gen.SddQ.bddCmp Ptr.cmp l i lo hi l' i' lo' hi' := by
  first
  | (rw [Ptr.cmp, if_pos rfl]; unfold Gen.SddQ.bddCmp
     -- lexicographic: only an `Equal` looks at the next field
     cases compare l l' <;> first | rfl | (cases compare i i' <;> first | rfl |
       (cases Ptr.cmp lo lo' <;> first | rfl | (cases Ptr.cmp hi hi' <;> rfl))))
  | (simp only [Ptr.cmp, if_true, Gen.SddQ.bddCmp]; done)
  | (simp only [Ptr.cmp, if_true, Gen.SddQ.bddCmp]; rfl)
  | (simp only [Ptr.cmp, if_true, Gen.SddQ.bddCmp]
     cases compare l l' <;> cases compare i i' <;> cases Ptr.cmp lo lo' <;> cases Ptr.cmp hi hi' <;> rfl)

/-- two decision nodes under the same variant are compared by `SddOr::cmp` -/
theorem orCmp_tie (c : Bool) (i : Nat) (es : List (Ptr × Ptr)) (i' : Nat) (es' : List (Ptr × Ptr)) :
    Ptr.cmp (.dec c i es) (.dec c i' es') = Gen.SddQ.orCmp cmpElems i es i' es' := by
  first
  | (rw [Ptr.cmp, if_pos rfl]; unfold Gen.SddQ.orCmp
     cases compare i i' <;> first | rfl | (cases cmpElems es es' <;> rfl))
  | (simp only [Ptr.cmp, if_true, Gen.SddQ.orCmp]; done)
  | (simp only [Ptr.cmp, if_true, Gen.SddQ.orCmp]; rfl)
  | (simp only [Ptr.cmp, if_true, Gen.SddQ.orCmp]
     cases compare i i' <;> cases cmpElems es es' <;> rfl)

/-- the element vectors are compared lexicographically, an element by its fields in declaration order -/
theorem andCmp_tie (e e' : Ptr × Ptr) (r r' : List (Ptr × Ptr)) :
    cmpElems (e :: r) (e' :: r') = (Gen.SddQ.andCmp Ptr.cmp e e').then (cmpElems r r') := by
  obtain ⟨p, s⟩ := e
  obtain ⟨p', s'⟩ := e'
  first
  | (simp only [cmpElems, Gen.SddQ.andCmp]; done)
  | (simp only [cmpElems, Gen.SddQ.andCmp]; rfl)
  | (simp only [cmpElems, Gen.SddQ.andCmp]
     cases Ptr.cmp p p' <;> cases Ptr.cmp s s' <;> cases cmpElems r r' <;> rfl)

/-- different variants are compared by their position in the `enum` -/
theorem rank_cmp_tie (c c' : Bool) (l i : Nat) (lo hi : Ptr) (l' i' : Nat) (lo' hi' : Ptr) (h : c ≠ c') :
    Ptr.cmp (.bdd c l i lo hi) (.bdd c' l' i' lo' hi')
      = compare (Gen.SddQ.rank (.bdd c l i lo hi)) (Gen.SddQ.rank (.bdd c' l' i' lo' hi')) := by
  rw [rank_tie]; simp only [Ptr.cmp, h, if_false]

end Cmp

/-! ## the semantic builder (`SddSem`, through the two-table mirror `SddSemAux`) -/
section B
open SddSem SddSemAux

theorem andKey_tie : Gen.SddQ.andKey = fun π e => appKey π e.1 e.2 := by
  first
  | rfl
  | (funext π e; simp [Gen.SddQ.andKey, appKey]; done)

theorem getSharedSddPtr_tie :
    Gen.SddQ.getSharedSddPtr = fun bdd sdd x hash => shared2 ⟨bdd, sdd, []⟩ x hash := by
  first
  | rfl
  | (funext bdd sdd x hash
     unfold Gen.SddQ.getSharedSddPtr shared2
     cases getByHash bdd hash <;> first | rfl | (cases getByHash sdd hash <;> rfl))
  | (funext bdd sdd x hash
     simp only [Gen.SddQ.getSharedSddPtr, shared2]
     repeat' split
     all_goals first | rfl | omega | (simp_all; done) | (simp_all; omega))

theorem checkCachedHashAndNeg_tie :
    Gen.SddQ.checkCachedHashAndNeg = fun π bdd sdd x => checkNeg π ⟨bdd, sdd, []⟩ x := by
  first
  | rfl
  | (funext π bdd sdd x
     simp only [Gen.SddQ.checkCachedHashAndNeg, checkNeg, getSharedSddPtr_tie]
     cases shared2 ⟨bdd, sdd, []⟩ x x <;>
       first | rfl | (cases shared2 ⟨bdd, sdd, []⟩ (π.negH x) (π.negH x) <;> rfl))
  | (funext π bdd sdd x
     simp only [Gen.SddQ.checkCachedHashAndNeg, checkNeg, getSharedSddPtr_tie]
     repeat' split
     all_goals first | rfl | omega | (simp_all; done) | (simp_all; omega))

private theorem checkNeg_app (π : Params) (bdd sdd app : List (Nat × Ptr)) (x : Nat) :
    checkNeg π ⟨bdd, sdd, []⟩ x = checkNeg π ⟨bdd, sdd, app⟩ x := rfl

theorem getOrInsertBdd_tie : Gen.SddQ.getOrInsertBdd = SddSemAux.getOrInsertBdd := by
  first
  | rfl
  | (funext π st node
     obtain ⟨bdd, sdd, app⟩ := st
     simp only [Gen.SddQ.getOrInsertBdd, SddSemAux.getOrInsertBdd, checkCachedHashAndNeg_tie, checkNeg_app π bdd sdd app]
     cases checkNeg π ⟨bdd, sdd, app⟩ (π.h node) <;> rfl)

theorem getOrInsertSdd_tie : Gen.SddQ.getOrInsertSdd = SddSemAux.getOrInsertSdd := by
  first
  | rfl
  | (funext π st node
     obtain ⟨bdd, sdd, app⟩ := st
     simp only [Gen.SddQ.getOrInsertSdd, SddSemAux.getOrInsertSdd, checkCachedHashAndNeg_tie, checkNeg_app π bdd sdd app]
     cases checkNeg π ⟨bdd, sdd, app⟩ (π.h node) <;> rfl)

theorem appCacheGet_tie : Gen.SddQ.appCacheGet = fun π app e => appGetRaw π app e.1 e.2 := by
  first
  | rfl
  | (funext π app e
     simp only [Gen.SddQ.appCacheGet, appGetRaw, andKey_tie]
     repeat' split
     all_goals first | rfl | omega | (simp_all; done) | (simp_all; omega))

theorem appCacheInsert_tie : Gen.SddQ.appCacheInsert = fun π app e r => appInsertRaw π app e.1 e.2 r := by
  first
  | rfl
  | (funext π app e r
     simp only [Gen.SddQ.appCacheInsert, appInsertRaw, andKey_tie]
     repeat' split
     all_goals first | rfl | omega | (simp_all; done) | (simp_all; omega))

theorem sddEq_tie : Gen.SddQ.sddEq = eqRaw := by
  first
  | rfl
  | (funext π a b; simp [Gen.SddQ.sddEq, eqRaw]; done)
  | (funext π a b; simp only [Gen.SddQ.sddEq, eqRaw]; exact Bool.beq_comm; done)

/-- end to end: the regenerated `get_or_insert_bdd` / `get_or_insert_sdd` refine the model's `getOrInsert` -/
theorem getOrInsert_source (π : Params) {s2 : St2} {s : SddSem.St} (h : Rel s2 s) (node : Ptr) (isBdd : Bool) :
    let r2 := if isBdd then Gen.SddQ.getOrInsertBdd π s2 node else Gen.SddQ.getOrInsertSdd π s2 node
    ∃ s', getOrInsert π s node = guardJ π (equivB π.vt r2.2 node) (s', r2.2) ∧ Rel r2.1 s' := by
  rw [getOrInsertBdd_tie, getOrInsertSdd_tie]
  exact getOrInsert_refines π h node isBdd

/-- `sdd_eq`, `app_cache_get`, `app_cache_insert` of the model are the regenerated ones plus the detector -/
theorem eqJ_source (π : Params) (a b : Ptr) :
    eqJ π a b = guardJ π (Gen.SddQ.sddEq π a b == equivB π.vt a b) (Gen.SddQ.sddEq π a b) := by
  rw [sddEq_tie]; exact eqJ_raw π a b

theorem appGet_source (π : Params) (st : SddSem.St) (a b : Ptr) :
    appGet π st a b =
      (match Gen.SddQ.appCacheGet π st.app (a, b) with
       | none => some none
       | some x => guardJ π (equivAndB π.vt x a b) (some x)) := by
  rw [appCacheGet_tie]; exact appGet_raw π st a b

theorem appInsert_source (π : Params) (st : SddSem.St) (a b r : Ptr) :
    appInsert π st a b r = ⟨st.tbl, Gen.SddQ.appCacheInsert π st.app (a, b) r⟩ := by
  rw [appCacheInsert_tie]; exact appInsert_raw π st a b r

end B
end TieSddQ

#print axioms TieSddQ.neg_tie
#print axioms TieSddQ.isNeg_tie
#print axioms TieSddQ.low_tie
#print axioms TieSddQ.isTrue_tie
#print axioms TieSddQ.isFalse_tie
#print axioms TieSddQ.isNegVar_tie
#print axioms TieSddQ.isBdd_tie
#print axioms TieSddQ.high_tie
#print axioms TieSddQ.orClearLoop_eq
#print axioms TieSddQ.clearS_tie
#print axioms TieSddQ.foldProbe_tie
#print axioms TieSddQ.foldLoop_tie
#print axioms TieSddQ.foldDagS_tie
#print axioms TieSddQ.countLoop_eq
#print axioms TieSddQ.countHS_tie
#print axioms TieSddQ.foldS_tie
#print axioms TieSddQ.countNodesS_tie
#print axioms TieSddQ.wmcSAlg_tie
#print axioms TieSddQ.orSumLoop_tie
#print axioms TieSddQ.bddCached_tie
#print axioms TieSddQ.orCached_tie
#print axioms TieSddQ.cachedHash_tie
#print axioms TieSddQ.statsLoop_tie
#print axioms TieSddQ.statsCollisions_tie
#print axioms TieSddQ.stats_memo
#print axioms TieSddQ.rank_tie
#print axioms TieSddQ.bddCmp_tie
#print axioms TieSddQ.orCmp_tie
#print axioms TieSddQ.andCmp_tie
#print axioms TieSddQ.rank_cmp_tie
#print axioms TieSddQ.andKey_tie
#print axioms TieSddQ.getSharedSddPtr_tie
#print axioms TieSddQ.checkCachedHashAndNeg_tie
#print axioms TieSddQ.getOrInsertBdd_tie
#print axioms TieSddQ.getOrInsertSdd_tie
#print axioms TieSddQ.appCacheGet_tie
#print axioms TieSddQ.appCacheInsert_tie
#print axioms TieSddQ.sddEq_tie
#print axioms TieSddQ.getOrInsert_source
#print axioms TieSddQ.eqJ_source
#print axioms TieSddQ.appGet_source
#print axioms TieSddQ.appInsert_source
