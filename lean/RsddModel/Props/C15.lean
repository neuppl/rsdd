import RsddModel.Lemmas.CnfHasher
/-!
# C15 — the CNF-side utilities agree with their set-theoretic definitions

Model: `Model/CnfUtil.lean` (mirror of `src/repr/cnf.rs`, `model.rs`, `var_label.rs`).
Lemmas: `Lemmas/CnfUtil.lean`, `Lemmas/CnfBook.lean`, `Lemmas/CnfHasher.lean`.

Quantifier of every theorem: all clause lists `cs : List (List Lit)` (the empty list, empty
clauses, repeated and complementary literals included), all literals / partial models / vectors,
all `decide`/`push`/`pop`/`hash` histories of the hasher.

* `new_sem`, `sort_is_stable_sort`, `numVars_spec` — `Cnf::new`;
* `eval_spec`, `eval_panics_iff`, `eval_index_in_range` — `Cnf::eval`;
* `isSatPartial_spec`, `isSatPartial_sound`, `isSatPartial_complete`, and the documented
  counter-example for clauses with complementary literals;
* `condition_sem`, `condition_clauses` — `Cnf::condition`; `varInCnf_spec` — `Cnf::var_in_cnf`;
* `assignmentIter_enumerates`, `wmc_spec`, `wmc_empty`, `wmcOrig_wrong` — `AssignmentIter`, `Cnf::wmc`;
* `hash_formula`, `hash_formula_run`, `hasher_eq_if`, `hasher_eq_only_if`,
  `hasher_eq_only_if_syntactic`, `hash_order_irrelevant`, `literal_primes`, `reach_nonvacuous` —
  `CnfHasher`;
  documented examples: the purely syntactic reading of "the residuals coincide" is not what the
  code implements; a `decide` that contradicts the model breaks the formula; `pop` of the last
  level makes `hash`/`push` panic; `2^128` is exceeded from the 27th literal occurrence on;
* `literal_pack_roundtrip`, `literal_pack_breaks`, partial-model and variable-set algebra.
-/
namespace C15
open Spec CnfUtil

/-! ## `Cnf::new` -/

/-- **normalisation keeps the formula**: the function, the number of clauses, the literal set
of every clause and emptiness of every clause are unchanged -/
theorem new_sem (cs : List (List Lit)) :
    (∀ a, cnfSat a (cnfNew cs).clauses = cnfSat a cs) ∧
    (cnfNew cs).clauses.length = cs.length ∧
    (∀ i l, l ∈ (cnfNew cs).clauses.getD i [] ↔ l ∈ cs.getD i []) ∧
    (∀ i, (cnfNew cs).clauses.getD i [] = [] ↔ cs.getD i [] = []) := by
  refine ⟨fun a => cnfSat_map_normClause a cs, by simp, fun i l => ?_, fun i => ?_⟩
  · rw [cnfNew_clauses, getD_map_nil normClause rfl]; exact mem_normClause
  · rw [cnfNew_clauses, getD_map_nil normClause rfl]; exact normClause_eq_nil

/-- the empty formula and the empty clause are preserved literally -/
theorem new_empty : (cnfNew []).clauses = [] ∧ (cnfNew [[]]).clauses = [[]] := ⟨rfl, rfl⟩

/-- the model's clause normalisation is `dedup` after a *stable sort by label*: the sorted list
is ordered by label, is a permutation, and keeps the relative order of literals with the same
label (these three properties determine the result of a stable sort) -/
theorem sort_is_stable_sort (c : List Lit) :
    normClause c = dedupAdj (sortByLabel c) ∧
    (sortByLabel c).Pairwise (fun a b => a.var ≤ b.var) ∧
    (sortByLabel c).Perm c ∧
    ∀ v, (sortByLabel c).filter (fun x => x.var == v) = c.filter (fun x => x.var == v) :=
  ⟨rfl, sortByLabel_sorted c, sortByLabel_perm c, fun v => sortByLabel_stable v c⟩

/-- `dedup` only removes *adjacent* repetitions, and the stable sort does not bring `x` and a
second `x` together when `¬x` stands between them: the normal form may keep duplicates -/
example : (cnfNew [[⟨0, true⟩, ⟨0, false⟩, ⟨0, true⟩]]).clauses = [[⟨0, true⟩, ⟨0, false⟩, ⟨0, true⟩]] := by
  decide +kernel

/-- **`num_vars`** is the specification's (largest label + 1, zero without literals): it is the
least strict upper bound of the labels -/
theorem numVars_spec (cs : List (List Lit)) :
    (cnfNew cs).numVars = cnfNumVars cs ∧
    ∀ n, (cnfNew cs).numVars ≤ n ↔ ∀ c ∈ cs, ∀ l ∈ c, l.var < n := by
  have h : (cnfNew cs).numVars = numVarsOf cs := by rw [cnfNew_numVars, numVarsOf_map_normClause]
  exact ⟨by rw [h, numVarsOf_eq_spec], fun n => by rw [h]; exact numVarsOf_le_iff cs n⟩

example : (cnfNew []).numVars = 0 ∧ (cnfNew [[], []]).numVars = 0 ∧
    (cnfNew [[⟨4, false⟩], [⟨1, true⟩]]).numVars = 5 := by decide +kernel

/-! ## `Cnf::eval` -/

/-- **`eval`** on a long enough vector is the specification's satisfaction relation on the
vector's assignment function -/
theorem eval_spec (cs : List (List Lit)) (v : List Bool) (h : (cnfNew cs).numVars ≤ v.length) :
    eval (cnfNew cs) v = some (cnfSat (asgFn v) cs) := by
  rw [eval_eq _ v h, cnfNew_clauses, cnfSat_map_normClause]

/-- it panics (the `assert!`) exactly on vectors shorter than `num_vars` -/
theorem eval_panics_iff (cs : List (List Lit)) (v : List Bool) :
    eval (cnfNew cs) v = none ↔ v.length < (cnfNew cs).numVars := eval_none_iff _ v

/-- and the slice indexing never panics once the `assert!` passed -/
theorem eval_index_in_range (cs : List (List Lit)) (v : List Bool) :
    evalStrict (cnfNew cs) v = eval (cnfNew cs) v := by
  simp only [evalStrict, eval]
  split
  · rfl
  · rename_i hlen
    apply evalStrict_cnfLoop
    intro c hc l hl
    have := (numVarsOf_le_iff (cnfNew cs).clauses (cnfNew cs).numVars).mp (Nat.le_refl _) c hc l hl
    omega

example : eval (cnfNew [[⟨0, true⟩, ⟨1, false⟩], []]) [true, true] = some false ∧
    eval (cnfNew [[⟨0, true⟩, ⟨1, false⟩]]) [true] = none ∧
    eval (cnfNew []) [] = some true := by decide +kernel

/-! ## `Cnf::is_sat_partial` -/

/-- **`is_sat_partial`**: every clause contains a literal that the partial model makes true
(a clause whose literals are all unset or false fails the test; so does the empty clause) -/
theorem isSatPartial_spec (cs : List (List Lit)) (m : PartialModel) :
    isSatPartial (cnfNew cs) m = cs.all fun cl => cl.any (litTrue m.toSpec) := by
  rw [isSatPartial_eq, cnfNew_clauses, List.all_map]
  apply List.all_congr rfl; intro cl
  exact any_congr_mem fun _ => mem_normClause

/-- hence every total extension of the partial model satisfies the formula -/
theorem isSatPartial_sound (cs : List (List Lit)) (m : PartialModel)
    (h : isSatPartial (cnfNew cs) m = true) (a : Assign) (ha : Extends a m.toSpec) :
    cnfSat a cs = true := by
  rw [isSatPartial_spec] at h
  simp only [List.all_eq_true, List.any_eq_true] at h
  simp only [cnfSat, clauseSat, List.all_eq_true, List.any_eq_true]
  intro c hc
  obtain ⟨l, hl, ht⟩ := h c hc
  exact ⟨l, hl, litSat_of_litTrue ha ht⟩

/-- and conversely, "the partial model implies the CNF" (the doc comment) gives `true` when no
clause contains a literal together with its negation -/
theorem isSatPartial_complete (cs : List (List Lit)) (m : PartialModel)
    (hnc : ∀ c ∈ cs, NoCompl c) (h : ∀ a, Extends a m.toSpec → cnfSat a cs = true) :
    isSatPartial (cnfNew cs) m = true := by
  rw [isSatPartial_spec, List.all_eq_true]
  intro c hc
  apply Classical.byContradiction
  intro hnot
  -- the extension that falsifies every unset literal of `c`
  let a : Assign := fun x => (m.toSpec x).getD (!decide ((⟨x, true⟩ : Lit) ∈ c))
  have hext : Extends a m.toSpec := fun x b hx => by
    show (m.toSpec x).getD _ = b
    rw [hx]; rfl
  have hsat := h a hext
  rw [cnfSat, List.all_eq_true] at hsat
  obtain ⟨l, hl, hls⟩ := List.any_eq_true.mp (hsat c hc)
  refine hnot (List.any_eq_true.mpr ⟨l, hl, ?_⟩)
  have hav : a l.var = (m.toSpec l.var).getD (!decide ((⟨l.var, true⟩ : Lit) ∈ c)) := rfl
  rw [litSat, beq_iff_eq, hav] at hls
  rw [litTrue, beq_iff_eq]
  cases hm : m.toSpec l.var with
  | some b => rw [hm] at hls; rw [← hls]; rfl
  | none =>
    -- `l` is unset, so the extension made it false
    rw [hm] at hls
    cases l with | mk v p =>
    cases p
    · have : (⟨v, true⟩ : Lit) ∉ c := hnc c hc _ hl
      simp [this] at hls
    · simp [hl] at hls

/-- with a tautological clause the doc comment and the code part ways: `x0 ∨ ¬x0` is implied by
the empty partial model, `is_sat_partial` answers `false` -/
example : isSatPartial (cnfNew [[⟨0, true⟩, ⟨0, false⟩]]) (PartialModel.new 1) = false ∧
    ∀ a, cnfSat a [[⟨0, true⟩, ⟨0, false⟩]] = true := by
  refine ⟨by decide +kernel, fun a => ?_⟩
  simp only [cnfSat, clauseSat, litSat, List.all_cons, List.any_cons, List.all_nil, List.any_nil]
  cases a 0 <;> rfl

/-! ## `Cnf::condition` -/

/-- **`condition`** denotes the cofactor -/
theorem condition_sem (cs : List (List Lit)) (lit : Lit) (a : Assign) :
    cnfSat a (condition (cnfNew cs) lit).clauses = fCond (cnfFn cs) lit.var lit.pol a := by
  rw [condition, cnfNew_clauses, cnfSat_map_normClause, cnfSat_condClauses, cnfNew_clauses,
    cnfSat_map_normClause]
  rfl

/-- its clause list: clauses containing the literal disappear, the other clauses lose every
literal over the variable (a clause made only of the negated literal becomes the empty clause),
and the result is normalised again — `num_vars` is recomputed from what is left -/
theorem condition_clauses (c : CnfM) (lit : Lit) :
    (condition c lit).clauses =
      ((c.clauses.filter fun cl => !cl.contains lit).map
        fun cl => normClause (cl.filter fun l => !(l.var == lit.var))) ∧
    (condition c lit).numVars = numVarsOf (condition c lit).clauses := by
  refine ⟨?_, rfl⟩
  rw [condition, cnfNew_clauses, condClauses_eq, List.map_map]
  rfl

/-- a clause with both polarities of the variable is dropped (it contains the literal); the
unit clause of the negated literal becomes the empty clause (`test_cond`) -/
example : (condition (cnfNew [[⟨0, false⟩, ⟨0, true⟩, ⟨1, true⟩]]) ⟨0, true⟩).clauses = [] ∧
    (condition (cnfNew [[⟨0, false⟩]]) ⟨0, true⟩).clauses = [[]] ∧
    (condition (cnfNew [[⟨0, false⟩]]) ⟨0, true⟩).numVars = 0 := by decide +kernel

/-- `var_in_cnf`: some clause contains a literal over the variable -/
theorem varInCnf_spec (c : CnfM) (v : Nat) :
    varInCnf c v = true ↔ ∃ cl ∈ c.clauses, ∃ l ∈ cl, l.var = v := by
  simp only [varInCnf, List.any_eq_true, List.mem_flatten, beq_iff_eq]
  exact ⟨fun ⟨l, ⟨cl, hcl, hl⟩, hv⟩ => ⟨cl, hcl, l, hl, hv⟩,
    fun ⟨cl, hcl, l, hl, hv⟩ => ⟨l, ⟨cl, hcl, hl⟩, hv⟩⟩

/-! ## `AssignmentIter` and `Cnf::wmc` -/

/-- **`AssignmentIter::new(n)`** yields the `n`-bit vectors of `0, 1, …, 2^n - 1` in this order,
index 0 least significant (entry `x` of vector `i` is bit `x` of `i`); these are exactly the
vectors of length `n`, each once; for `n = 0` the single empty vector -/
theorem assignmentIter_enumerates (n : Nat) :
    assignmentIter n = (List.range (2 ^ n)).map (bits n) ∧
    (∀ i x, x < n → (bits n i).getD x false = assignOfNat i x) ∧
    (assignmentIter n).length = 2 ^ n ∧
    (∀ v, v ∈ assignmentIter n ↔ v.length = n) ∧
    (assignmentIter n).Nodup :=
  ⟨assignmentIter_eq n, fun i x h => bits_getD n i x h, assignmentIter_length n,
   fun _ => mem_assignmentIter, assignmentIter_nodup n⟩

example : assignmentIter 0 = [[]] ∧
    assignmentIter 2 = [[false, false], [true, false], [false, true], [true, true]] := by decide +kernel

/-- **`Cnf::wmc`** (as repaired) never panics and is the weighted sum of the formula's function
over the variables `0 .. num_vars - 1`, in every commutative semiring -/
theorem wmc_spec {α : Type} {S : SROps α} (hS : S.Laws) (cs : List (List Lit)) (w : Weights α)
    (a : Assign) :
    wmc S (cnfNew cs) w = some (wsum S (List.range (cnfNumVars cs)) w (cnfFn cs) a) := by
  have hn := (numVars_spec cs).1
  show (assignmentIter _).foldl (wmcStep S _ w) (some S.zero) = _
  rw [wmc_fold hS _ w _ _ (fun v hv => by rw [mem_assignmentIter.mp hv]; exact Nat.le_refl _),
    Bdd.sr_zero_add hS, assignmentIter_eq, List.map_map, hn, List.range_eq_range' (n := cnfNumVars cs),
    ← sum_bits hS w (cnfNumVars cs) 0 (cnfFn cs) a]
  congr 1
  apply sumList_map_congr
  intro j _
  simp only [Function.comp, wterm, asgWeight_eq hS, cnfFn, cnfNew_clauses, cnfSat_map_normClause]
  have : cnfSat (asgFn (bits (cnfNumVars cs) j)) cs = cnfSat (ovr a 0 (bits (cnfNumVars cs) j)) cs := by
    apply cnfSat_congr_vars
    intro c hc l hl
    have hlt : l.var < cnfNumVars cs := hn ▸ ((numVars_spec cs).2 _).mp (Nat.le_refl _) c hc l hl
    rw [asgFn, ← ovr_add _ a 0 l.var (by rw [bits_length]; exact hlt), Nat.zero_add]
  rw [this]
  rfl

/-- the empty formula over zero variables counts one -/
theorem wmc_empty {α : Type} {S : SROps α} (hS : S.Laws) (w : Weights α) :
    wmc S (cnfNew []) w = some S.one := by
  rw [wmc_spec hS [] w (fun _ => false)]; rfl

/-- a formula over zero variables that contains the empty clause counts zero -/
theorem wmc_empty_clause {α : Type} {S : SROps α} (hS : S.Laws) (w : Weights α) :
    wmc S (cnfNew [[]]) w = some S.zero := by
  rw [wmc_spec hS [[]] w (fun _ => false)]; rfl

/-- **the original `wmc`** broke out of the loop on the empty assignment vector: the empty
formula over zero variables counted zero (in every semiring) -/
theorem wmcOrig_wrong {α : Type} (S : SROps α) (w : Weights α) :
    wmcOrig S (cnfNew []) w = some S.zero := rfl

example : wmcOrig natOps (cnfNew []) (fun _ => (1, 1)) = some 0 ∧
    wmc natOps (cnfNew []) (fun _ => (1, 1)) = some 1 := by decide +kernel

/-- for at least one variable the guard was dead code: the two loops agree -/
example : wmcOrig natOps (cnfNew [[⟨0, true⟩, ⟨1, false⟩]]) (fun _ => (1, 1)) = some 3 ∧
    wmc natOps (cnfNew [[⟨0, true⟩, ⟨1, false⟩]]) (fun _ => (1, 1)) = some 3 := by decide +kernel

/-! ## `CnfHasher` -/

/-- literal occurrence number `k` (counting through the clauses in order) carries the `k`-th
prime; the primes are pairwise different primes -/
theorem literal_primes (cs : List (List Lit)) :
    allW (weightCnf cs 1) = firstPrimes (cs.map List.length).sum ∧
    (allW (weightCnf cs 1)).Pairwise (· < ·) ∧
    (∀ x ∈ allW (weightCnf cs 1), CnfUtil.Prime x) ∧
    (weightCnf cs 1).map (fun wcl => wcl.map Prod.snd) = cs :=
  ⟨allW_weightCnf cs 1, (weightCnf_spec cs 1).1,
   fun x hx => isPrimeB_prime ((weightCnf_spec cs 1).2 x hx).2, weightCnf_shape cs 1⟩

example : firstPrimes 6 = [2, 3, 5, 7, 11, 13] := by
  simp [firstPrimes, primesFrom, nextPrime_1, nextPrime_2, nextPrime_3, nextPrime_5, nextPrime_7,
    nextPrime_11]

/-- **the hash formula.**  In every state reachable from `CnfHasher::new(cs, nv)` by
`decide`/`push`/`pop` (the user keeping a partial model in lock step, a `decide` never
contradicting it), `hash` under the current model is the product modulo `2^128` of the primes of
the literal occurrences `(i, j)` such that: clause `i` has more than one literal, no literal of
clause `i` is true under the model, and literal `j` of clause `i` is unassigned
(`activeWeights`).  Clauses with fewer than two literals never contribute; a clause whose
literals are all false contributes the factor 1, as a satisfied clause does. -/
theorem hash_formula {cs : List (List Lit)} {nv : Nat} {d : HDriver} (h : Reach cs nv d)
    {m : PartialModel} {r : List PartialModel} (hm : d.models = m :: r) :
    d.hash = some (lprod (activeWeights cs m) % M128) :=
  hash_of_inv (inv_of_reach h) hm

/-- the same for command lists -/
theorem hash_formula_run (cs : List (List Lit)) (nv : Nat) (cmds : List HCmd) (d : HDriver)
    (hok : okRun (HDriver.init cs nv) cmds) (hrun : (HDriver.init cs nv).run cmds = some d)
    {m : PartialModel} {r : List PartialModel} (hm : d.models = m :: r) :
    d.hash = some (lprod (activeWeights cs m) % M128) :=
  hash_formula (reach_run cmds _ d Reach.init hok hrun) hm

/-- the hasher stored in a `Cnf` is `CnfHasher::new` on the normalised clauses -/
theorem cnf_hasher_init (cs : List (List Lit)) :
    ({ h := (cnfNew cs).hasher, models := [PartialModel.new (cnfNew cs).numVars] } : HDriver) =
      HDriver.init (cnfNew cs).clauses (cnfNew cs).numVars := rfl

/-- the iteration order of the `HashSet` of clause indices is irrelevant -/
theorem hash_order_irrelevant (wc : List (List (Nat × Lit))) (m : PartialModel)
    {idxs idxs' : List Nat} (h : idxs.Perm idxs') :
    CnfHasher.hashOver wc m idxs = CnfHasher.hashOver wc m idxs' := by
  rw [hashOver_eq, hashOver_eq, lprod_perm (h.map _)]

/-- **if.**  Two partial assignments with the same positional residual (the same clause
positions are unsatisfied clauses of more than one literal, and each restricts to the same
unassigned literal occurrences) get the same hash, whatever histories reached them.  (No
hypothesis about falsified clauses is needed for this direction.) -/
theorem hasher_eq_if {cs : List (List Lit)} {nv : Nat} {d1 d2 : HDriver}
    (h1 : Reach cs nv d1) (h2 : Reach cs nv d2)
    {m1 m2 : PartialModel} {r1 r2 : List PartialModel}
    (hm1 : d1.models = m1 :: r1) (hm2 : d2.models = m2 :: r2)
    (hres : residualOcc cs m1.toSpec = residualOcc cs m2.toSpec) :
    d1.hash = d2.hash := by
  rw [hash_formula h1 hm1, hash_formula h2 hm2, activeWeights_of_residualOcc cs m1 m2 hres]

/-- **only if**, under the explicit bound "the product of all literal primes is below `2^128`"
(then `wrapping_mul` never wraps) and for assignments that falsify no clause of more than one
literal: equal hashes force equal positional residuals. -/
theorem hasher_eq_only_if {cs : List (List Lit)} {nv : Nat} {d1 d2 : HDriver}
    (h1 : Reach cs nv d1) (h2 : Reach cs nv d2)
    {m1 m2 : PartialModel} {r1 r2 : List PartialModel}
    (hm1 : d1.models = m1 :: r1) (hm2 : d2.models = m2 :: r2)
    (hbound : lprod (allW (weightCnf cs 1)) < M128)
    (hf1 : NoFalsifiedNonUnit cs m1.toSpec) (hf2 : NoFalsifiedNonUnit cs m2.toSpec)
    (heq : d1.hash = d2.hash) :
    residualOcc cs m1.toSpec = residualOcc cs m2.toSpec := by
  rw [hash_formula h1 hm1, hash_formula h2 hm2, Option.some.injEq] at heq
  exact residualOcc_of_hash_eq cs m1 m2 hbound hf1 hf2 heq

/-- in particular the syntactic residual formulas (`Spec.residual`) of the clauses of more than
one literal coincide -/
theorem hasher_eq_only_if_syntactic {cs : List (List Lit)} {nv : Nat} {d1 d2 : HDriver}
    (h1 : Reach cs nv d1) (h2 : Reach cs nv d2)
    {m1 m2 : PartialModel} {r1 r2 : List PartialModel}
    (hm1 : d1.models = m1 :: r1) (hm2 : d2.models = m2 :: r2)
    (hbound : lprod (allW (weightCnf cs 1)) < M128)
    (hf1 : NoFalsifiedNonUnit cs m1.toSpec) (hf2 : NoFalsifiedNonUnit cs m2.toSpec)
    (heq : d1.hash = d2.hash) :
    residual (cs.filter fun c => decide (c.length > 1)) m1.toSpec =
      residual (cs.filter fun c => decide (c.length > 1)) m2.toSpec :=
  residual_of_residualOcc cs _ _ (hasher_eq_only_if h1 h2 hm1 hm2 hbound hf1 hf2 heq)

/-- non-vacuity of the reachability hypothesis: from every reachable state with a current
model, `push` is defined, `decide` of an in-range label is defined, and deciding a literal whose
variable is unset leads to a reachable state again (for *every* clause list) -/
theorem reach_nonvacuous {cs : List (List Lit)} {nv : Nat} {d : HDriver} (hr : Reach cs nv d)
    {m : PartialModel} {r : List PartialModel} (hm : d.models = m :: r) (l : Lit)
    (hl : l.var < nv) (hu : m.get l.var = none) :
    (∃ d', d.step (.decide l) = some d' ∧ d'.models = m.set l.var l.pol :: r ∧ Reach cs nv d') ∧
    (∃ d', d.step .push = some d' ∧ d'.models = m :: m :: r ∧ Reach cs nv d') := by
  obtain ⟨d1, hs1, hm1⟩ := step_decide_defined hr hm l hl
  obtain ⟨d2, hs2, hm2⟩ := step_push_defined hr hm
  refine ⟨⟨d1, hs1, hm1, Reach.step hr hs1 ?_⟩, ⟨d2, hs2, hm2, Reach.step hr hs2 ?_⟩⟩
  · intro l' e m' r' hm'
    cases e
    rw [hm] at hm'
    cases hm'
    rw [hu]; exact fun h => nomatch h
  · intro l' e; cases e

/-! ### documented examples for the hasher -/

/-- the formula `(x0 ∨ x2) ∧ (x1 ∨ x2)` with its primes -/
theorem ex_weights :
    weightCnf (clausesOfPairs [[(0, true), (2, true)], [(1, true), (2, true)]]) 1 =
      [[(2, ⟨0, true⟩), (3, ⟨2, true⟩)], [(5, ⟨1, true⟩), (7, ⟨2, true⟩)]] := by
  simp [clausesOfPairs, litOfPair, weightCnf, weightClause, nextPrime_1, nextPrime_2, nextPrime_3,
    nextPrime_5]

/-- **the purely syntactic reading is not what the code implements.**  For
`(x0 ∨ x2) ∧ (x1 ∨ x2)` the assignments `{x0 = F, x1 = T}` and `{x0 = T, x1 = F}` falsify no
clause and leave the same residual formula `(x2)`, yet hash to 3 and 7: the primes belong to
literal *occurrences*.  (A cache miss, never a wrong hit.) -/
example :
    hasherRun [[(0, true), (2, true)], [(1, true), (2, true)]] 3
      [.decide ⟨0, false⟩, .decide ⟨1, true⟩] = [some 105, some 3] ∧
    hasherRun [[(0, true), (2, true)], [(1, true), (2, true)]] 3
      [.decide ⟨0, true⟩, .decide ⟨1, false⟩] = [some 35, some 7] ∧
    residual (clausesOfPairs [[(0, true), (2, true)], [(1, true), (2, true)]])
        (PModel.empty.set 0 false |>.set 1 true) = [[⟨2, true⟩]] ∧
    residual (clausesOfPairs [[(0, true), (2, true)], [(1, true), (2, true)]])
        (PModel.empty.set 0 true |>.set 1 false) = [[⟨2, true⟩]] := by
  simp only [hasherRun, HDriver.init, CnfHasher.new, ex_weights]; decide +kernel

/-- non-vacuity of `hasher_eq_if` / `hasher_eq_only_if`: the doc-comment example
(`(a ∨ b) ∧ (¬a ∨ c)` under `a = T` hashes to 7), the same state reached through
`push`/`decide`/`pop`, and the bound for this formula -/
theorem ex_weights_doc :
    weightCnf (clausesOfPairs [[(0, true), (1, true)], [(0, false), (2, true)]]) 1 =
      [[(2, ⟨0, true⟩), (3, ⟨1, true⟩)], [(5, ⟨0, false⟩), (7, ⟨2, true⟩)]] := by
  simp [clausesOfPairs, litOfPair, weightCnf, weightClause, nextPrime_1, nextPrime_2, nextPrime_3,
    nextPrime_5]

example :
    hasherRun [[(0, true), (1, true)], [(0, false), (2, true)]] 3
      [.hash, .decide ⟨0, true⟩, .push, .decide ⟨2, false⟩, .pop] =
      [some 210, some 7, some 7, some 1, some 7] ∧
    lprod (allW (weightCnf (clausesOfPairs [[(0, true), (1, true)], [(0, false), (2, true)]]) 1))
      < M128 := by
  simp only [hasherRun, HDriver.init, CnfHasher.new, ex_weights_doc]; decide +kernel

/-- a falsified clause contributes 1 like a satisfied one — the reason for the hypothesis
`NoFalsifiedNonUnit`: `{a = T, c = F}` (falsifies `¬a ∨ c`) and `{a = T, c = T}` hash alike -/
example :
    hasherRun [[(0, true), (1, true)], [(0, false), (2, true)]] 3
      [.decide ⟨0, true⟩, .decide ⟨2, false⟩] = [some 7, some 1] ∧
    hasherRun [[(0, true), (1, true)], [(0, false), (2, true)]] 3
      [.decide ⟨0, true⟩, .decide ⟨2, true⟩] = [some 7, some 1] := by
  simp only [hasherRun, HDriver.init, CnfHasher.new, ex_weights_doc]; decide +kernel

/-- a `decide` that contradicts the current model (without `pop`) leaves the formula: after
`decide a; decide ¬a` both clauses were struck off, the hash is 1, whereas the model `{a = F}`
has residual `(b)` with prime 3 -/
example :
    hasherRun [[(0, true), (1, true)], [(0, false), (2, true)]] 3
      [.decide ⟨0, true⟩, .decide ⟨0, false⟩] = [some 7, some 1] ∧
    hasherRun [[(0, true), (1, true)], [(0, false), (2, true)]] 3
      [.decide ⟨0, false⟩] = [some 3] := by
  simp only [hasherRun, HDriver.init, CnfHasher.new, ex_weights_doc]; decide +kernel

/-- `pop` of the last level empties the stack: `hash` and `push` panic afterwards
(`last().unwrap()`), a further `pop` is a no-op, and `decide` panics only if the decided
literal occurs in some clause; a label `≥ num_vars` makes `decide` panic at once -/
example :
    hasherRun [[(0, true), (1, true)], [(0, false), (2, true)]] 3 [.pop, .pop, .push] =
      [none, none, none] ∧
    hasherRun [[(0, true), (1, true)], [(0, false), (2, true)]] 3 [.decide ⟨3, true⟩] = [none] := by
  simp only [hasherRun, HDriver.init, CnfHasher.new, ex_weights_doc]; decide +kernel

/-- the bound of `hasher_eq_only_if` holds for at most 26 literal occurrences: the product of
the first 26 primes is below `2^128`, that of the first 27 is not -/
example : lprod [2, 3, 5, 7, 11, 13, 17, 19, 23, 29, 31, 37, 41, 43, 47, 53, 59, 61, 67, 71, 73,
      79, 83, 89, 97, 101] < M128 ∧
    ¬ lprod [2, 3, 5, 7, 11, 13, 17, 19, 23, 29, 31, 37, 41, 43, 47, 53, 59, 61, 67, 71, 73,
      79, 83, 89, 97, 101, 103] < M128 := by decide +kernel

/-! ## `Literal` packing -/

/-- **pack/unpack round trip** for labels below `2^63`: the word is `label + 2^63·polarity`,
`label()`/`polarity()` give the components back, `negated()` flips the polarity bit -/
theorem literal_pack_roundtrip (l : Lit) (h : l.var < 2 ^ 63) :
    packLit l = l.var + (if l.pol then 2 ^ 63 else 0) ∧
    unpackLit (packLit l) = l ∧
    packedNegated (packLit l) = packLit (litNegated l) :=
  ⟨packNew_eq _ _ h, CnfUtil.literal_pack_roundtrip l h, packedNegated_eq l h⟩

/-- hence packing is injective there, and the word-level `implies_true`/`implies_false` are
equality with the literal / with its negation -/
theorem literal_pack_injective (l l' : Lit) (h : l.var < 2 ^ 63) (h' : l'.var < 2 ^ 63) :
    (packLit l = packLit l' → l = l') ∧
    (packedImpliesTrue (packLit l) (packLit l') = true ↔ l = l') ∧
    (packedImpliesFalse (packLit l) (packLit l') = true ↔ l = l'.neg) := by
  refine ⟨packLit_injective l l' h h', ?_, ?_⟩
  · rw [packedImpliesTrue_eq l l' h h']; exact litImpliesTrue_iff l l'
  · rw [packedImpliesFalse_eq l l' h h']; exact litImpliesFalse_iff l l'

/-- at `2^63` the label is silently truncated to its low 63 bits (the `assert!` in
`VarLabel::new` is commented out): different labels share a word -/
theorem literal_pack_breaks :
    packLit ⟨2 ^ 63, false⟩ = packLit ⟨0, false⟩ ∧
    unpackLit (packLit ⟨2 ^ 63 + 5, true⟩) = ⟨5, true⟩ := by decide

/-! ## `PartialModel` -/

/-- **partial-model algebra**: `get` after `set`/`unset`/`new`/`from_assignments` -/
theorem partialModel_get (m : PartialModel) (x y : Nat) (b : Bool) (n : Nat)
    (as : List (Option Bool)) :
    (m.set x b).get y = (if y = x then some b else m.get y) ∧
    (m.unset x).get y = (if y = x then none else m.get y) ∧
    (PartialModel.new n).get y = none ∧
    (PartialModel.fromAssignments as).get y = as.getD y none ∧
    m.isSet y = (m.get y).isSome ∧
    (∀ l : Lit, m.litImplied l = litTrue m.toSpec l ∧ m.litNegImplied l = litFalse m.toSpec l) :=
  ⟨PartialModel.get_set m x b y, PartialModel.get_unset m x y, PartialModel.get_new n y,
   PartialModel.get_fromAssignments as y, PartialModel.isSet_eq m y,
   fun l => ⟨litImplied_eq m l, litNegImplied_eq m l⟩⟩

/-- `from_litvec` panics exactly on an out-of-range label; otherwise the last literal over a
variable wins -/
theorem partialModel_fromLitvec (lits : List Lit) (n : Nat) :
    (PartialModel.fromLitvec lits n = none ↔ ∃ l ∈ lits, n ≤ l.var) ∧
    ∀ m, PartialModel.fromLitvec lits n = some m →
      ∀ y, m.get y = (lits.reverse.find? (fun l => l.var == y)).map (·.pol) :=
  ⟨PartialModel.fromLitvec_none_iff lits n, fun _ h y => PartialModel.get_fromLitvec h y⟩

/-- `assignment_iter`: false literals by ascending label, then true literals by ascending label;
exactly the assigned literals, each once.  `difference`: the same order; exactly the literals
assigned by the first model and not assigned alike by the second.  (For models built by
`new`/`set`/`unset`: well-formed and the two sets disjoint.) -/
theorem partialModel_iter {m o : PartialModel} (hw : m.WF) (hm : m.Disjoint) (ho : o.Disjoint) :
    m.assignmentIter =
      m.falseA.iter.map (fun x => (⟨x, false⟩ : Lit)) ++ m.trueA.iter.map (fun x => ⟨x, true⟩) ∧
    m.falseA.iter.Pairwise (· < ·) ∧ m.trueA.iter.Pairwise (· < ·) ∧
    (∀ l, l ∈ m.assignmentIter ↔ m.get l.var = some l.pol) ∧
    m.assignmentIter.Nodup ∧
    (∀ l, l ∈ m.difference o ↔ m.get l.var = some l.pol ∧ o.get l.var ≠ some l.pol) :=
  ⟨rfl, hw.2, hw.1, PartialModel.mem_assignmentIter hm, PartialModel.assignmentIter_nodup hw,
   PartialModel.mem_difference hm ho⟩

/-- the invariants are kept by the constructors and updates -/
theorem partialModel_invariants (m : PartialModel) (hw : m.WF) (hd : m.Disjoint) (x n : Nat)
    (b : Bool) :
    (PartialModel.new n).WF ∧ (PartialModel.new n).Disjoint ∧
    (m.set x b).WF ∧ (m.set x b).Disjoint ∧ (m.unset x).WF ∧ (m.unset x).Disjoint :=
  ⟨PartialModel.wf_new n, PartialModel.disjoint_new n, PartialModel.wf_set hw x b,
   PartialModel.disjoint_set hd x b, PartialModel.wf_unset hw x, PartialModel.disjoint_unset hd x⟩

example : (PartialModel.fromAssignments [some true, none, some false, some false]).assignmentIter =
    [⟨2, false⟩, ⟨3, false⟩, ⟨0, true⟩] := by decide +kernel

/-! ## `VarSet` -/

/-- **variable-set algebra**: every operation is the set-theoretic one on the member sets and
keeps the representation invariant (strictly ascending member list) -/
theorem varSet_algebra (s t : VarSet) (hs : s.WF) (v x : Nat) :
    ((s.insert v).Mem x ↔ x = v ∨ s.Mem x) ∧ (s.insert v).WF ∧
    ((s.remove v).Mem x ↔ s.Mem x ∧ x ≠ v) ∧ (s.remove v).WF ∧
    (s.contains x = true ↔ s.Mem x) ∧
    ((s.union t).Mem x ↔ s.Mem x ∨ t.Mem x) ∧ (s.union t).WF ∧
    ((s.minus t).Mem x ↔ s.Mem x ∧ ¬ t.Mem x) ∧ (s.minus t).WF ∧
    ((s.intersectVarset t).Mem x ↔ s.Mem x ∧ t.Mem x) ∧ (s.intersectVarset t).WF ∧
    (x ∈ s.difference t ↔ s.Mem x ∧ ¬ t.Mem x) ∧ (s.difference t).Pairwise (· < ·) ∧
    (x ∈ s.intersect t ↔ s.Mem x ∧ t.Mem x) ∧ (s.intersect t).Pairwise (· < ·) ∧
    (¬ VarSet.new.Mem x) ∧ VarSet.new.WF :=
  ⟨VarSet.mem_insert s v x, VarSet.wf_insert hs v, VarSet.mem_remove s v x, VarSet.wf_remove hs v,
   VarSet.contains_iff s x, VarSet.mem_union s t x, VarSet.wf_union hs t, VarSet.mem_minus s t x,
   VarSet.wf_minus hs t, VarSet.mem_intersectVarset s t x, VarSet.wf_intersectVarset hs t,
   VarSet.mem_difference s t x, VarSet.difference_sorted hs t, VarSet.mem_intersect s t x,
   VarSet.intersect_sorted hs t, VarSet.not_mem_new x, VarSet.wf_new⟩

/-- `iter` is the strictly ascending, duplicate-free list of all members; `len` is its length
(the cardinality); `is_empty` means no member; equality of sets is extensional (as `BitSet`'s) -/
theorem varSet_iter_len (s t : VarSet) (hs : s.WF) (ht : t.WF) :
    (∀ x, x ∈ s.iter ↔ s.Mem x) ∧ s.iter.Pairwise (· < ·) ∧ s.iter.Nodup ∧
    s.len = s.iter.length ∧
    (s.isEmpty = true ↔ ∀ x, ¬ s.Mem x) ∧ (s.isEmpty = true ↔ s.len = 0) ∧
    ((∀ x, s.Mem x ↔ t.Mem x) → s = t) :=
  ⟨fun x => VarSet.mem_iter s x, VarSet.iter_sorted hs, VarSet.iter_nodup hs, VarSet.len_eq s,
   VarSet.isEmpty_iff s, VarSet.isEmpty_iff_len s, VarSet.ext hs ht⟩

example : ((VarSet.ofList [3, 1, 2, 3]).union (VarSet.ofList [2, 5])).iter = [1, 2, 3, 5] ∧
    ((VarSet.ofList [3, 1, 2, 3]).minus (VarSet.ofList [2, 5])).iter = [1, 3] ∧
    (VarSet.ofList [3, 1, 2, 3]).intersect (VarSet.ofList [2, 5]) = [2] ∧
    (VarSet.ofList [3, 1, 2, 3]).len = 3 := by decide +kernel

/-! ## axioms -/

#print axioms new_sem
#print axioms new_empty
#print axioms sort_is_stable_sort
#print axioms numVars_spec
#print axioms eval_spec
#print axioms eval_panics_iff
#print axioms eval_index_in_range
#print axioms isSatPartial_spec
#print axioms isSatPartial_sound
#print axioms isSatPartial_complete
#print axioms condition_sem
#print axioms condition_clauses
#print axioms varInCnf_spec
#print axioms assignmentIter_enumerates
#print axioms wmc_spec
#print axioms wmc_empty
#print axioms wmc_empty_clause
#print axioms wmcOrig_wrong
#print axioms literal_primes
#print axioms hash_formula
#print axioms hash_formula_run
#print axioms cnf_hasher_init
#print axioms hash_order_irrelevant
#print axioms hasher_eq_if
#print axioms hasher_eq_only_if
#print axioms hasher_eq_only_if_syntactic
#print axioms reach_nonvacuous
#print axioms ex_weights
#print axioms ex_weights_doc
#print axioms literal_pack_roundtrip
#print axioms literal_pack_injective
#print axioms literal_pack_breaks
#print axioms partialModel_get
#print axioms partialModel_fromLitvec
#print axioms partialModel_iter
#print axioms partialModel_invariants
#print axioms varSet_algebra
#print axioms varSet_iter_len

end C15
