import RsddModel.Model.Cli
import RsddModel.Props.C05Bdd
import RsddModel.Props.C08
import RsddModel.Props.C17
/-!
# C19 — command-line tools

The tools are compositions; so are their theorems: text → expression (C17 `fromSexpr_sem`),
compile (C05 `compileExpr_correct`), smooth and count (C08 `smooth_wmc`, `smooth_count`),
serialise (C17 `serBdd_sem`).  If any link changes shape this file stops compiling.
-/
namespace C19
open Cli Spec Bdd Spec.Text Ser

theorem toCompileExpr_sem (e : Ser.LogicalExpr) (a : Assign) :
    Compile.exprSem (toCompileExpr e) a = e.eval a := by
  induction e with
  | lit v p => cases p <;> simp [toCompileExpr, Compile.exprSem, Ser.LogicalExpr.eval, fVar]
  | not e ih => simp [toCompileExpr, Compile.exprSem, Ser.LogicalExpr.eval, fNot, ih]
  | and l r ihl ihr => simp [toCompileExpr, Compile.exprSem, Ser.LogicalExpr.eval, fAnd, ihl, ihr]
  | or l r ihl ihr => simp [toCompileExpr, Compile.exprSem, Ser.LogicalExpr.eval, fOr, ihl, ihr]
  | iff l r ihl ihr => simp [toCompileExpr, Compile.exprSem, Ser.LogicalExpr.eval, fIff, ihl, ihr]
  | xor l r ihl ihr =>
    simp only [toCompileExpr, Compile.exprSem, Ser.LogicalExpr.eval, fXor, ihl, ihr]
    cases l.eval a <;> cases r.eval a <;> rfl
  | ite g t e ihg iht ihe => simp [toCompileExpr, Compile.exprSem, Ser.LogicalExpr.eval, fIte, iteB, ihg, iht, ihe]

/-- an ordered diagram whose variables all sit below level `m` -/
theorem ordBetween_of_above {lvl : Nat → Nat} {m : Nat} :
    ∀ {p : Ptr} {k : Nat}, p.above lvl k → (∀ v ∈ p.vars, lvl v < m) → p.ordBetween lvl k m
  | .tru, _, _, _ => trivial
  | .fls, _, _, _ => trivial
  | .node c v lo hi, k, ⟨h1, h2, h3⟩, hv => by
    refine ⟨h1, hv v (by simp [Ptr.vars]), ?_, ?_⟩
    · exact ordBetween_of_above h2 (fun u hu => hv u (by simp [Ptr.vars, hu]))
    · exact ordBetween_of_above h3 (fun u hu => hv u (by simp [Ptr.vars, hu]))

/-- a tool of the form `(compile …).map g` that returns has compiled a diagram -/
theorem compiled_of_map {β : Type} {C : CacheImpl} {lvl : Nat → Nat} {fuel : Nat}
    {le : Ser.LogicalExpr} {g : C.σ × Ptr → β} {y : β}
    (h : (Compile.compileExpr (Bdd.ops C lvl fuel) C.empty (toCompileExpr le)).map g = some y) :
    ∃ s' d, Compile.compileExpr (Bdd.ops C lvl fuel) C.empty (toCompileExpr le) = some (s', d) ∧
      g (s', d) = y := by
  obtain ⟨⟨s', d⟩, hc, hy⟩ := Option.map_eq_some_iff.1 h
  exact ⟨s', d, hc, hy⟩

/-- the diagram compiled from an indexed expression is ordered and reduced and denotes it (C05) -/
theorem compiled_sem (C : CacheImpl) (lvl : Nat → Nat) (inj : ∀ x y, lvl x = lvl y → x = y)
    (fuel : Nat) (le : Ser.LogicalExpr) {s' : C.σ} {d : Ptr}
    (hc : Compile.compileExpr (Bdd.ops C lvl fuel) C.empty (toCompileExpr le) = some (s', d)) :
    WF lvl d ∧ ∀ a, d.eval a = le.eval a := by
  obtain ⟨_, hwf, hsem⟩ := Bdd.compileExpr_correct C lvl inj fuel _ (cinv_empty C lvl) hc
  exact ⟨hwf, fun a => by rw [hsem a, toCompileExpr_sem]⟩

/-- smoothing and counting a diagram that denotes `f` and has all its variables below level `n` (C08) -/
theorem wmc_of_den {α : Type} {S : SROps α} (hS : S.Laws) (w : Weights α) {lvl varAt : Nat → Nat}
    {n : Nat} {d : Ptr} {f : BoolFn} (hwf : WF lvl d) (hd : ∀ b, d.eval b = f b)
    (hinv : ∀ i, i < n → lvl (varAt i) = i) (hv : ∀ v ∈ d.vars, varAt (lvl v) = v)
    (hlt : ∀ v ∈ d.vars, lvl v < n) (a : Assign) :
    wmc S w (smooth lvl varAt d n) = wsumList S (levelVars varAt 0 n) w f a ∧
    wmc S w (smooth lvl varAt d n) = wsum S (levelVars varAt 0 n) w f a := by
  obtain ⟨h1, h2, _⟩ := C08.smooth_wmc hS w hinv hv (ordBetween_of_above hwf.1 hlt) a
  exact (funext hd : (fun b => d.eval b) = f) ▸ ⟨h1, h2⟩

/-- **the model-counting tool, single-count mode**: for every formula text without constants,
every configured order (injective level map with inverse `varAt` on the first `n` levels, all
variables of the diagram below level `n`), every weight table and every commutative semiring, the
printed weighted count is the brute-force weighted sum of the formula *as written in the text*
over the `n` variables, and with unit weights over the naturals it is the number of models. -/
theorem cli_wmc_spec {α : Type} (C : CacheImpl) (lvl : Nat → Nat) (inj : ∀ x y, lvl x = lvl y → x = y)
    (fuel : Nat) (t : SExp) (e : LogicalSExpr) (le : Ser.LogicalExpr)
    (ht : LogicalSExpr.ofSExp t = some e) (hle : fromSexpr e = some le)
    {S : SROps α} (hS : S.Laws) (w : Weights α) (varAt : Nat → Nat) (n : Nat) (r : α)
    (hrun : singleWmc C lvl varAt fuel S w n le = some r)
    (hinv : ∀ i, i < n → lvl (varAt i) = i) :
    ∃ d : Ptr,
      (∀ a, evalSExp (nameAssign t a) t = some (d.eval a)) ∧ WF lvl d ∧
      ((∀ v ∈ d.vars, varAt (lvl v) = v) → (∀ v ∈ d.vars, lvl v < n) →
        ∀ a, r = wsumList S (levelVars varAt 0 n) w (fun b => le.eval b) a ∧
             r = wsum S (levelVars varAt 0 n) w (fun b => le.eval b) a) := by
  obtain ⟨s', d, hc, rfl⟩ := compiled_of_map hrun
  obtain ⟨hwf, hd⟩ := compiled_sem C lvl inj fuel le hc
  exact ⟨d, fun a => hd a ▸ C17.fromSexpr_sem t e le ht hle a, hwf,
    fun hv hlt => wmc_of_den hS w hwf hd hinv hv hlt⟩

/-- **the formula-to-BDD tool**: the emitted node table, read naively with complement flags,
denotes the formula as written in the text under the lexicographic variable numbering -/
theorem cli_formula_to_bdd_spec (C : CacheImpl) (lvl : Nat → Nat) (inj : ∀ x y, lvl x = lvl y → x = y)
    (fuel : Nat) (t : SExp) (e : LogicalSExpr) (le : Ser.LogicalExpr)
    (ht : LogicalSExpr.ofSExp t = some e) (hle : fromSexpr e = some le) (tbl : BddTable)
    (hrun : formulaToBdd C lvl fuel le = some tbl) :
    ∃ root, tbl.roots = [root] ∧
      ∀ a, evalSExp (nameAssign t a) t = some (evalBddTable tbl root a) := by
  obtain ⟨s', d, hc, rfl⟩ := compiled_of_map hrun
  obtain ⟨root, hr, he⟩ := C17.serBdd_sem d
  refine ⟨root, hr, fun a => ?_⟩
  rw [he]
  exact ((compiled_sem C lvl inj fuel le hc).2 a ▸ C17.fromSexpr_sem t e le ht hle a :
    _ = some (d.eval a))

/-- **the CNF-to-BDD tool**: parsing (C17), compiling the dtree plan (C05) and serialising (C17)
compose: the emitted table denotes the CNF of the text under label = number − 1 -/
theorem cli_cnf_to_bdd_spec (C : CacheImpl) (lvl : Nat → Nat) (inj : ∀ x y, lvl x = lvl y → x = y)
    (fuel : Nat) (text : String) (c0 : Cnf) (hparse : parseDimacs text = some c0)
    (tree : Compile.DTree) (hleaves : tree.clauses.Perm (cnfNew c0))
    {s' : C.σ} {d : Ptr}
    (hcomp : Compile.compilePlan (Bdd.ops C lvl fuel) C.empty (Compile.Plan.fromDtree tree) = some (s', d)) :
    ∃ root, (serBdd d).roots = [root] ∧
      ∀ a, evalBddTable (serBdd d) root a = cnfSat a c0 := by
  obtain ⟨_, _, hsem⟩ := Bdd.compilePlan_correct C lvl inj fuel (Compile.Plan.fromDtree tree) (cinv_empty C lvl) hcomp
  obtain ⟨root, hr, he⟩ := C17.serBdd_sem d
  refine ⟨root, hr, fun a => ?_⟩
  rw [he]
  show d.eval a = cnfSat a c0
  rw [hsem a, Bdd.planFromDtree_sem]
  rw [show cnfFn tree.clauses a = cnfFn (cnfNew c0) a from Compile.cnfSat_perm a hleaves]
  exact ((C17.fromDimacs_sem text).2 c0 hparse a)

end C19

#print axioms C19.toCompileExpr_sem
#print axioms C19.ordBetween_of_above
#print axioms C19.cli_wmc_spec
#print axioms C19.cli_formula_to_bdd_spec
#print axioms C19.cli_cnf_to_bdd_spec
