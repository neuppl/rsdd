import RsddModel.Lemmas.UnitPropSolver
import RsddModel.Lemmas.UnitPropTotal
/-!
# C09 — unit propagation and the SAT-state stack (`src/repr/unit_prop.rs`)

Model: `RsddModel/Model/UnitProp.lean` (differentially tested against the real `SATSolver`,
including the watch lists). Quantifier: every clause list × every history of `decide`/`pop`
(`Reach`), any depth, any order, any polarity.

Fuel: the recursive propagator runs on explicit fuel and the theorems are stated as "if the call
returns …"; `new_total` and `history_decide_total` show that with the fuel `Solver.new` installs
the calls always return (on clause lists in `Cnf::new` normal form), so nothing is vacuous.

Summary of what is proved here (all about the mirrored model):

* `decide_sound`, `new_sound`, `history_sound` — every assigned variable is entailed.
* `unsat_sound`, `new_unsat_sound`, `history_unsat_sound` — UNSAT only if no model extends.
* `fixpoint`, `history_fixpoint`, `history_fixpoint_cnfNew` — no clause falsified or unit when
  UNSAT is not reported. For clause lists in `Cnf::new` normal form (`CnfNormal`), which is what
  `Cnf::new` produces (`cnfNew_normal`), including `x ∨ ¬x ∨ x`.
* `pop_restores` — stack discipline; the watch lists are *not* restored (`pop_keeps_watches`).
* `satflag_exact`, `decide_result_sat_iff`.
* `hash_formula`, `hash_path_independent`, and the conditional `hash_injective_partial`.
* `decideOrig_misses_unit` — the unrepaired watch replacement (finding F4) misses a unit.
-/
namespace UnitProp
open Spec

/-! ## soundness -/

/-- **Every literal assigned by `decide` is entailed** by the CNF, the previous partial model and
the decided literal. -/
theorem decide_sound {cnf : Cnf} {fuel : Nat} {wl wl' : WL} {m m' : PModel} {l : Lit}
    (hv : WatchValid cnf wl) (h : decide cnf fuel wl m l = some (wl', some m')) :
    ∀ x b, m' x = some b →
      ∀ a, Extends a m → litSat a l = true → cnfSat a cnf = true → litSat a ⟨x, b⟩ = true := by
  intro x b hx a he hl ha
  obtain ⟨m'', e, he'⟩ := (decide_rel h).sound hv a ha he hl
  cases e
  have := he' x b hx
  simpa [litSat] using this

/-- in `Spec` vocabulary, for a fresh decision -/
theorem decide_sound_entails {cnf : Cnf} {fuel : Nat} {wl wl' : WL} {m m' : PModel} {l : Lit}
    (hv : WatchValid cnf wl) (h : decide cnf fuel wl m l = some (wl', some m')) :
    ∀ x b, m' x = some b → Entails cnf (m.set l.var l.pol) ⟨x, b⟩ := by
  intro x b hx a he ha
  have hl : litSat a l = true := by
    have := he l.var l.pol (pset_same _ _ _)
    simp [litSat, this]
  by_cases hm : m l.var = none
  · refine decide_sound hv h x b hx a ?_ hl ha
    intro y v hy
    by_cases e : y = l.var
    · rw [e, hm] at hy; cases hy
    · exact he y v (by rw [pset_other _ _ e]; exact hy)
  · -- `l` already assigned: the result is the old model and agrees with the decision
    have hd := decide_rel h
    cases hd with
    | same hs =>
      by_cases e : x = l.var
      · subst e
        rw [hs] at hx; cases hx
        exact hl
      · have := he x b (by rw [pset_other _ _ e]; exact hx)
        simp [litSat, this]
    | fresh hn _ => exact absurd hn hm

/-- **`UnitPropagate::new` only assigns entailed literals.** -/
theorem new_sound {cnf : Cnf} {fuel : Nat} {wl : WL} {m : PModel}
    (h : upNew cnf true fuel = some (wl, some m)) :
    ∀ x b, m x = some b → Entails cnf PModel.empty ⟨x, b⟩ := by
  intro x b hx a _ ha
  rcases upNew_cases h with ⟨_, e⟩ | ⟨_, hda⟩
  · cases e
  · obtain ⟨m'', e, he'⟩ := hda.sound_new a ha
    cases e
    have := he' x b hx
    simpa [litSat] using this

/-- **After any history, every assigned variable's value is entailed by the CNF together with the
decisions on the stack.** -/
theorem history_sound {cnf : Cnf} {s : Solver} {ds : List Lit} (h : Reach cnf s ds)
    {top : SatState} {rest : List SatState} (hst : s.stack = top :: rest) :
    ∀ x b, top.model x = some b → EntailsFrom cnf ds ⟨x, b⟩ := by
  exact (reach_level h hst).entailed

/-! ## UNSAT is only reported when no model extends the decisions -/

theorem unsat_sound {cnf : Cnf} {fuel : Nat} {wl wl' : WL} {m : PModel} {l : Lit}
    (hv : WatchValid cnf wl) (h : decide cnf fuel wl m l = some (wl', none)) :
    ∀ a, Extends a m → litSat a l = true → cnfSat a cnf = false := by
  intro a he hl
  cases ha : cnfSat a cnf with
  | false => rfl
  | true =>
    obtain ⟨m'', e, _⟩ := (decide_rel h).sound hv a ha he hl
    cases e

/-- **After any history, a `decide` reports UNSAT only if no total assignment satisfies the CNF
together with the decisions on the stack and the new decision.** -/
theorem history_unsat_sound {cnf : Cnf} {s s' : Solver} {ds : List Lit} {l : Lit}
    (h : Reach cnf s ds) (hd : s.decide l = .ok s' .unsat) : UnsatFrom cnf (l :: ds) := by
  obtain ⟨hI, rfl⟩ := reach_inv h
  exact hI.unsat_sound hd

/-! ## the fixpoint clause -/

/-- **Propagator level.** If the watch lists have the two-watch structure and satisfy the watch
invariant for `m`, unit clauses are true in `m` and there is no empty clause, then after a
`decide` that does not report UNSAT no clause is falsified and no clause is unit. -/
theorem fixpoint {cnf : Cnf} (hN : CnfNormal cnf) {fuel : Nat} {wl wl' : WL} {m m' : PModel} {l : Lit}
    (h2 : TwoWatch cnf wl) (hok : WatchOK cnf wl m) (hu : UnitsTrue cnf m)
    (hne : cnf.any List.isEmpty = false)
    (h : decide cnf fuel wl m l = some (wl', some m')) : IsFixpoint cnf m' := by
  have hd := decide_rel h
  exact fixpoint_of_watch (hd.twoWatch hN h2) (hd.watchOK _ hok) (unitsTrue_mono hd.ext.1 hu) hne

/-- the invariants needed by `fixpoint` hold again after the call, for the new model and every
model below the old one — so the argument can be iterated over decide, pop and aborted decides -/
theorem watch_invariants_preserved {cnf : Cnf} (hN : CnfNormal cnf) {fuel : Nat} {wl wl' : WL}
    {m : PModel} {l : Lit} {r : Option PModel} (h2 : TwoWatch cnf wl)
    (h : decide cnf fuel wl m l = some (wl', r)) :
    TwoWatch cnf wl'
    ∧ (∀ mj, PExt mj m → WatchOK cnf wl mj → WatchOK cnf wl' mj)
    ∧ (∀ m', r = some m' → WatchOK cnf wl m → WatchOK cnf wl' m') := by
  have hd := decide_rel h
  refine ⟨hd.twoWatch hN h2, fun mj hle hok => WatchOK.lower hd.newWatches hle hok, ?_⟩
  intro m' e hok
  subst e
  exact hd.watchOK _ hok

/-- **After any history on a CNF in `Cnf::new` normal form, the top model is a fixpoint of unit
propagation: no clause is falsified and no clause has exactly one unassigned literal left.** -/
theorem history_fixpoint {cnf : Cnf} (hN : CnfNormal cnf) {s : Solver} {ds : List Lit}
    (h : Reach cnf s ds) {top : SatState} {rest : List SatState} (hst : s.stack = top :: rest) :
    IsFixpoint cnf top.model := by
  obtain ⟨hI, rfl⟩ := reach_inv h
  exact hI.fixpoint hN hst

/-- The watch invariant of a solver state, inductive across `decide` (successful or aborted by
UNSAT, which leaves the lists partially updated) and `pop`:
every clause of length ≥ 2 is in exactly two watch lists, those of two different literals of the
clause, no list repeats an entry, nothing else is watched (`TwoWatch`); and for the model of
*every* state on the stack, a clause watching a false literal has a true literal (`WatchOK`).
The quantification over all stack levels is what makes it survive backtracking although `pop`
does not restore the watch lists. -/
def WatchInv (s : Solver) : Prop :=
  TwoWatch s.cnf s.wl ∧ ∀ st, st ∈ s.stack → WatchOK s.cnf s.wl st.model

theorem history_watchInv {cnf : Cnf} (hN : CnfNormal cnf) {s : Solver} {ds : List Lit}
    (h : Reach cnf s ds) : WatchInv s := by
  obtain ⟨hI, rfl⟩ := reach_inv h
  exact ⟨hI.two hN, hI.watch⟩

/-- the same for what the real constructor is given: `SATSolver::new(Cnf::new(clauses))`, for
every raw clause list (duplicate and complementary literals included) -/
theorem history_fixpoint_cnfNew (raw : Cnf) {s : Solver} {ds : List Lit}
    (h : Reach (cnfNew raw) s ds) {top : SatState} {rest : List SatState} (hst : s.stack = top :: rest) :
    IsFixpoint (cnfNew raw) top.model :=
  history_fixpoint (cnfNew_normal raw) h hst

/-! ## popping restores the state before the matching decision -/

/-- successful execution of a command list in which the stack never gets shorter than `d` -/
inductive StepsAbove (d : Nat) : Solver → List Cmd → Solver → Prop
  | nil {s} : StepsAbove d s [] s
  | decide {s s' s'' v p r cs} : s.decide ⟨v, p⟩ = .ok s' r → StepsAbove d s' cs s'' →
      StepsAbove d s (.decide v p :: cs) s''
  | pop {s s'' cs} : d < s.depth → StepsAbove d s.pop cs s'' → StepsAbove d s (.pop :: cs) s''

/-- the `d` oldest states of the stack -/
def bottom (d : Nat) (s : Solver) : List SatState := s.stack.drop (s.depth - d)

theorem decide_stack {s s' : Solver} {l : Lit} {r : DecisionResult} (h : s.decide l = .ok s' r) :
    s'.stack = s.stack ∨ ∃ st, s'.stack = st :: s.stack := by
  obtain ⟨top, rest, _, wl', r', _, hcase⟩ := decide_cases h
  rcases hcase with ⟨_, _, rfl⟩ | ⟨m', _, rfl, _⟩
  · exact .inl rfl
  · exact .inr ⟨_, rfl⟩

theorem drop_length_sub_cons {α : Type} (a : α) {l : List α} {d : Nat} (h : d ≤ l.length) :
    (a :: l).drop ((a :: l).length - d) = l.drop (l.length - d) := by
  rw [List.length_cons, Nat.succ_sub h, List.drop_succ_cons]

theorem bottom_push {d : Nat} {s s' : Solver} {st : SatState} (e : s'.stack = st :: s.stack)
    (h : d ≤ s.depth) : bottom d s' = bottom d s := by
  unfold bottom Solver.depth; rw [e]; exact drop_length_sub_cons st h

theorem bottom_pop {d : Nat} {s : Solver} (h : d < s.depth) : bottom d s.pop = bottom d s := by
  unfold bottom Solver.depth Solver.pop
  unfold Solver.depth at h
  cases hs : s.stack with
  | nil => rw [hs] at h; cases h
  | cons a t => rw [hs] at h; exact (drop_length_sub_cons a (Nat.le_of_lt_succ h)).symm

theorem StepsAbove.bottom {d : Nat} {s s' : Solver} {cs : List Cmd} (h : StepsAbove d s cs s') :
    d ≤ s.depth → bottom d s' = bottom d s ∧ d ≤ s'.depth
      ∧ s'.cnf = s.cnf ∧ s'.numVars = s.numVars ∧ s'.clauses = s.clauses := by
  induction h with
  | nil => intro h; exact ⟨rfl, h, rfl, rfl, rfl⟩
  | @decide s s1 s2 v p r cs hd _ ih =>
    intro hle
    have hst := decide_static hd
    -- the stack is unchanged (UNSAT) or one longer
    have hbot : UnitProp.bottom d s1 = UnitProp.bottom d s ∧ d ≤ s1.depth := by
      rcases decide_stack hd with e | ⟨st, e⟩
      · unfold UnitProp.bottom Solver.depth; rw [e]; exact ⟨rfl, hle⟩
      · refine ⟨bottom_push e hle, ?_⟩
        unfold Solver.depth; rw [e]; exact Nat.le_succ_of_le hle
    obtain ⟨i1, i2, i3, i4, i5⟩ := ih hbot.2
    exact ⟨i1.trans hbot.1, i2, i3.trans hst.1, i4.trans hst.2.1, i5.trans hst.2.2.1⟩
  | @pop s s2 cs hlt _ ih =>
    intro _
    have hdep : d ≤ s.pop.depth := by
      unfold Solver.depth Solver.pop; rw [List.length_tail]; exact Nat.le_sub_one_of_lt hlt
    obtain ⟨i1, i2, i3, i4, i5⟩ := ih hdep
    exact ⟨i1.trans (bottom_pop hlt), i2, i3, i4, i5⟩

/-- **Popping restores exactly the state that held before the matching decision.** Whatever
happens between a successful `decide l` and its matching `pop` (further decides — successful or
UNSAT — and pops, as long as the pops in between match decisions made in between), the stack
of states (models, hashes, satisfied sets; hence every observable: `is_set`, `cur_hash`, `is_sat`,
`difference_iter`, depth) is the one before `decide l`. The watch lists are *not* restored, see
`pop_keeps_watches`. -/
theorem pop_restores {s s1 s2 : Solver} {l : Lit} {r : DecisionResult} {cs : List Cmd}
    (hd : s.decide l = .ok s1 r) (hr : r ≠ .unsat)
    (hrun : StepsAbove s1.depth s1 cs s2) (hbal : s2.depth = s1.depth) :
    s2.pop.stack = s.stack ∧ s2.pop.cnf = s.cnf ∧ s2.pop.numVars = s.numVars
      ∧ s2.pop.clauses = s.clauses := by
  obtain ⟨h1, _, h3, h4, h5⟩ := hrun.bottom (Nat.le_refl _)
  have hst := decide_static hd
  have hs1 : s1.stack.tail = s.stack := by
    obtain ⟨top, rest, _, wl', r', _, hcase⟩ := decide_cases hd
    rcases hcase with ⟨_, h2, _⟩ | ⟨m', _, rfl, _⟩
    · exact absurd h2 hr
    · rfl
  unfold bottom at h1
  rw [hbal] at h1
  simp only [Nat.sub_self, List.drop_zero] at h1
  refine ⟨?_, h3.trans hst.1, h4.trans hst.2.1, h5.trans hst.2.2.1⟩
  show s2.stack.tail = s.stack
  rw [h1, hs1]

/-- all observables are functions of the stack and of fields that never change -/
theorem observables_eq {s s' : Solver} (h1 : s'.stack = s.stack) (h2 : s'.numVars = s.numVars)
    (h3 : s'.clauses = s.clauses) :
    s'.isSat = s.isSat ∧ s'.curHash = s.curHash ∧ s'.depth = s.depth ∧ s'.modelList = s.modelList
      ∧ s'.differenceIter = s.differenceIter ∧ ∀ v, s'.isSet v = s.isSet v := by
  unfold Solver.isSat Solver.curHash Solver.depth Solver.modelList Solver.differenceIter Solver.isSet
  rw [h1, h2, h3]
  exact ⟨rfl, rfl, rfl, rfl, rfl, fun _ => rfl⟩

theorem pop_keeps_watches (s : Solver) : s.pop.wl = s.wl := rfl

/-! ## the satisfied flag -/

/-- **The satisfied flag is raised exactly when every non-tautological clause contains a true
literal** (in the model of the top state), after any history. -/
theorem satflag_exact {cnf : Cnf} {s : Solver} {ds : List Lit} (h : Reach cnf s ds)
    {top : SatState} {rest : List SatState} (hst : s.stack = top :: rest) :
    s.isSat = some true ↔ ∀ c, c ∈ cnf → isTaut c = false → c.any (litTrue top.model) = true := by
  obtain ⟨hI, rfl⟩ := reach_inv h
  exact hI.isSat_iff hst

/-- the stored set of satisfied clauses is exactly the set of (normalised) clauses with a true
literal -/
theorem satset_exact {cnf : Cnf} {s : Solver} {ds : List Lit} (h : Reach cnf s ds)
    {top : SatState} {rest : List SatState} (hst : s.stack = top :: rest) :
    ∀ i, top.sat i = (s.clauses.getD i []).any (fun lw => litTrue top.model lw.1) := by
  exact (reach_level h hst).sat

/-! ## the hash -/

/-- **The stored hash is the product, modulo `2^128`, of the primes of all literal occurrences
removed so far** — all literals of clauses with a true literal, and the false literals of the other
clauses. It is a function of the current model only. -/
theorem hash_formula {cnf : Cnf} {s : Solver} {ds : List Lit} (h : Reach cnf s ds)
    {top : SatState} {rest : List SatState} (hst : s.stack = top :: rest) :
    s.curHash = some (hashOf (weighClauses (normClauses cnf) 1) top.model % 2 ^ 128) := by
  obtain ⟨hI, rfl⟩ := reach_inv h
  exact hI.curHash hst

/-- **Path independence**: two states of solvers for the same CNF, reached by any two histories,
have the same hash if their models agree — the order of decisions does not matter. -/
theorem hash_path_independent {cnf : Cnf} {s s' : Solver} {ds ds' : List Lit}
    (h : Reach cnf s ds) (h' : Reach cnf s' ds')
    {top top' : SatState} {rest rest' : List SatState}
    (hst : s.stack = top :: rest) (hst' : s'.stack = top' :: rest')
    (hm : top.model = top'.model) : s.curHash = s'.curHash := by
  rw [hash_formula h hst, hash_formula h' hst', hm]

/-- the weights are the first primes, pairwise different -/
theorem solver_weights_ok {cnf : Cnf} {s : Solver} {ds : List Lit} (h : Reach cnf s ds) :
    WeightsOK s.clauses := by
  rw [(reach_inv h).1.clauses]; exact weighClauses_ok _ _

/-- **Conditional injectivity of the hash** (`_partial`: the property states it without the
bound, but the code multiplies with `wrapping_mul`). IF the product of the primes of all literal
occurrences of the normalised clauses is below `2^128`, THEN two states reached by any two
histories on the same CNF (in `Cnf::new` normal form) that have equal hashes have identical
residual formulas (clauses without a true literal, restricted to their non-false literals). -/
theorem hash_injective_partial {cnf : Cnf} (hN : CnfNormal cnf) {s s' : Solver} {ds ds' : List Lit}
    (h : Reach cnf s ds) (h' : Reach cnf s' ds')
    (hnowrap : totalWeight (weighClauses (normClauses cnf) 1) < 2 ^ 128)
    {top top' : SatState} {rest rest' : List SatState}
    (hst : s.stack = top :: rest) (hst' : s'.stack = top' :: rest')
    (heq : s.curHash = s'.curHash) :
    residual (normClauses cnf) top.model = residual (normClauses cnf) top'.model := by
  rw [hash_formula h hst, hash_formula h' hst'] at heq
  have := hash_inj_of_nowrap (weighClauses_ok _ _) hnowrap (reach_noFalsified hN h hst)
    (reach_noFalsified hN h' hst') (Option.some.inj heq)
  unfold wresidual at this
  rwa [(weighClauses_spec _ _).1] at this

/-! ## the unrepaired watch replacement misses a unit (finding F4) -/

/-- the witness: clause `¬x0 ∨ ¬x1 ∨ x2`; decide `x0 = ⊤`, then `x2 = ⊥`; report the value of
`x1` afterwards (`none` if unset or if anything else went wrong) -/
def f4Run (repaired : Bool) : Option (Option Bool) :=
  let cnf : Cnf := [[⟨0, false⟩, ⟨1, false⟩, ⟨2, true⟩]]
  match upNew cnf repaired 100 with
  | some (wl0, some m0) =>
    match decideK (loop cnf repaired 100) wl0 m0 ⟨0, true⟩ with
    | some (wl1, some m1) =>
      match decideK (loop cnf repaired 100) wl1 m1 ⟨2, false⟩ with
      | some (_, some m2) => some (m2 1)
      | _ => none
    | _ => none
  | _ => none

/-- with the original selection (by the polarity of the new assignment) the unit `¬x1` is missed:
the propagator answers "not UNSAT" and leaves `x1` unassigned; the repaired code sets `x1 = ⊥` -/
theorem decideOrig_misses_unit : f4Run false = some none ∧ f4Run true = some (some false) := by
  decide

/-! ## the executable history runner only visits reachable states -/

/-- a command list is a valid history from `s` with `k` open decisions: pops match decisions,
decided variables are in range -/
def ValidFrom : Solver → Nat → List Cmd → Prop
  | _, _, [] => True
  | s, k, .pop :: cs => 0 < k ∧ ValidFrom s.pop (k - 1) cs
  | s, k, .decide v p :: cs => v < s.numVars ∧
      match s.decide ⟨v, p⟩ with
      | .ok s' .unsat => ValidFrom s' k cs
      | .ok s' _ => ValidFrom s' (k + 1) cs
      | .error => True

/-- every observation `runCmds` (hence `runHistoryOn`/`runHistory`, the functions diffed against
the real `SATSolver`) emits on a valid history is the observation of a `Reach`able state, and is
never `error` -/
theorem runCmds_reach {cnf : Cnf} (hN : CnfNormal cnf) : ∀ (cmds : List Cmd) (s : Solver) (ds : List Lit),
    Reach cnf s ds → ValidFrom s ds.length cmds →
    ∀ o, o ∈ runCmds true s cmds →
      ∃ s' ds' tag, Reach cnf s' ds' ∧ tag ≠ ObsRes.error ∧ o = observe tag s'
  | [], _, _, _, _, o, ho => by simp [runCmds] at ho
  | .pop :: cs, s, ds, hR, hV, o, ho => by
    obtain ⟨hk, hV'⟩ := hV
    have hdep : s.depth = ds.length + 2 := (reach_inv hR).1.stack.length
    cases ds with
    | nil => simp at hk
    | cons d ds' =>
      have hR' : Reach cnf s.pop ds' := .pop hR
      unfold runCmds at ho
      rw [if_neg (by rw [hdep]; simp)] at ho
      rcases List.mem_cons.mp ho with rfl | ho
      · exact ⟨s.pop, ds', .popped, hR', by simp, rfl⟩
      · exact runCmds_reach hN cs s.pop ds' hR' (by simpa using hV') o ho
  | .decide v p :: cs, s, ds, hR, hV, o, ho => by
    obtain ⟨hv, hV'⟩ := hV
    obtain ⟨s', r, hd⟩ := history_decide_total hN hR ⟨v, p⟩
    unfold runCmds at ho
    rw [if_neg (by omega)] at ho
    have hd' : s.decideWith true ⟨v, p⟩ = .ok s' r := hd
    rw [hd'] at ho
    rw [hd] at hV'
    simp only [] at ho
    by_cases hr : r = .unsat
    · subst hr
      have hR' : Reach cnf s' ds := .decideUnsat hR hv hd
      rcases List.mem_cons.mp ho with rfl | ho
      · exact ⟨s', ds, .unsat, hR', by simp, rfl⟩
      · exact runCmds_reach hN cs s' ds hR' hV' o ho
    · have hR' : Reach cnf s' (⟨v, p⟩ :: ds) := .decide hR hv hd hr
      have hV'' : ValidFrom s' (ds.length + 1) cs := by
        cases r with
        | unsat => exact absurd rfl hr
        | sat => exact hV'
        | unknown => exact hV'
      rcases List.mem_cons.mp ho with rfl | ho
      · refine ⟨s', _, _, hR', ?_, rfl⟩
        cases r <;> simp at hr ⊢
      · exact runCmds_reach hN cs s' _ hR' hV'' o ho

/-! ## non-vacuity -/

/-- `(¬x0 ∨ ¬x1 ∨ x2) ∧ (¬x2 ∨ x3) ∧ (x1 ∨ ¬x1 ∨ x1 ∨ x3)`, through `Cnf::new` -/
def exCnf : Cnf :=
  cnfNew [[⟨2, true⟩, ⟨0, false⟩, ⟨1, false⟩], [⟨2, false⟩, ⟨3, true⟩],
          [⟨1, true⟩, ⟨3, true⟩, ⟨1, false⟩, ⟨1, true⟩]]

def dummySolver : Solver := ⟨[], 0, 0, WL.empty, [], []⟩

def exS0 : Solver := match Solver.new exCnf with | some (some s) => s | _ => dummySolver

def stepSolver (o : StepOut) : Solver := match o with | .ok s _ => s | .error => dummySolver
def stepOkWith (o : StepOut) (p : DecisionResult → Bool) : Bool := match o with | .ok _ r => p r | .error => false

/-- after `decide x0 = ⊤` -/
def exS1 : Solver := stepSolver (exS0.decide ⟨0, true⟩)
/-- after `decide x2 = ⊥` on top: propagates `x1 = ⊥` -/
def exS2 : Solver := stepSolver (exS1.decide ⟨2, false⟩)

theorem exS0_new : Solver.new exCnf = some (some exS0) := by
  have h : ((Solver.new exCnf).bind id).isSome = true := by decide +kernel
  unfold exS0
  cases h' : Solver.new exCnf with
  | none => rw [h'] at h; cases h
  | some o =>
    cases o with
    | none => rw [h'] at h; cases h
    | some s => rfl

theorem step_ok {s : Solver} {l : Lit} (h : stepOkWith (s.decide l) (fun r => r != .unsat) = true) :
    ∃ r, s.decide l = .ok (stepSolver (s.decide l)) r ∧ r ≠ .unsat := by
  cases hd : s.decide l with
  | error => rw [hd] at h; cases h
  | ok s' r =>
    rw [hd] at h
    refine ⟨r, rfl, ?_⟩
    intro e; subst e; cases h

/-- the run on the example, evaluated once: both decisions succeed; hashes, flags and the final
model -/
theorem ex_run :
    stepOkWith (exS0.decide ⟨0, true⟩) (fun r => r != .unsat) = true
    ∧ stepOkWith (exS1.decide ⟨2, false⟩) (fun r => r != .unsat) = true
    ∧ exS1.curHash = some 2 ∧ exS1.isSat = some false
    ∧ exS2.curHash = some (2 * 3 * 5 * 7 * 11) ∧ exS2.isSat = some true
    ∧ exS2.modelList = [some true, some false, some false, none] := by decide +kernel

theorem exS1_step : ∃ r, exS0.decide ⟨0, true⟩ = .ok exS1 r ∧ r ≠ .unsat := step_ok ex_run.1
theorem exS2_step : ∃ r, exS1.decide ⟨2, false⟩ = .ok exS2 r ∧ r ≠ .unsat := step_ok ex_run.2.1

/-- the history type is inhabited beyond construction: two nested decisions, then their pops -/
theorem ex_reach : Reach exCnf exS2 [⟨2, false⟩, ⟨0, true⟩] ∧ Reach exCnf exS2.pop.pop [] := by
  obtain ⟨r1, h1, hr1⟩ := exS1_step
  obtain ⟨r2, h2, hr2⟩ := exS2_step
  have R0 : Reach exCnf exS0 [] := .init exS0_new
  have R1 : Reach exCnf exS1 [⟨0, true⟩] := .decide R0 (by rw [reach_numVars R0]; decide) h1 hr1
  have R2 : Reach exCnf exS2 [⟨2, false⟩, ⟨0, true⟩] :=
    .decide R1 (by rw [reach_numVars R1]; decide) h2 hr2
  exact ⟨R2, .pop (.pop R2)⟩

/-- the clause list above is in normal form, contains a tautology with a repeated literal, and
the no-wrap hypothesis of `hash_injective_partial` holds for it -/
example : CnfNormal exCnf := cnfNew_normal _
example : exCnf = [[⟨0, false⟩, ⟨1, false⟩, ⟨2, true⟩], [⟨2, false⟩, ⟨3, true⟩],
    [⟨1, true⟩, ⟨1, false⟩, ⟨1, true⟩, ⟨3, true⟩]] := by decide +kernel
example : totalWeight (weighClauses (normClauses exCnf) 1) < 2 ^ 128 := by decide +kernel

/-- what the model computes on the example: propagation; the hash `2` (the false literal `¬x0` of
the unsatisfied clause 0), then `2·3·5·7·11` (all literals of both non-tautological clauses, now
satisfied); the satisfied flag -/
example : exS2.modelList = [some true, some false, some false, none] := ex_run.2.2.2.2.2.2
example : exS1.curHash = some 2 ∧ exS2.curHash = some (2 * 3 * 5 * 7 * 11) :=
  ⟨ex_run.2.2.1, ex_run.2.2.2.2.1⟩
example : exS2.isSat = some true ∧ exS1.isSat = some false :=
  ⟨ex_run.2.2.2.2.2.1, ex_run.2.2.2.1⟩

/-- an UNSAT answer exists too (`x0 = ⊤, x1 = ⊤, x2 = ⊥` contradicts clause 0), and it pushes
nothing -/
example : stepOkWith ((stepSolver (exS1.decide ⟨1, true⟩)).decide ⟨2, false⟩) (fun r => r == .unsat) = true := by
  decide +kernel

/-- **the watch lists are not restored by `pop`**: after `decide x0 = ⊤; pop` the stack is the
one after construction, the watch lists are not -/
example : exS1.pop.stack.length = exS0.stack.length
    ∧ exS1.pop.wl.toLists 4 ≠ exS0.wl.toLists 4 := by decide +kernel

/-- the hypotheses of `pop_restores` are satisfiable with a non-trivial run in between -/
example : ∃ cs s2, StepsAbove exS1.depth exS1 cs s2 ∧ s2.depth = exS1.depth ∧ cs ≠ [] := by
  obtain ⟨r2, h2, _⟩ := exS2_step
  exact ⟨[.decide 2 false, .pop], exS2.pop, .decide h2 (.pop (by decide +kernel) .nil),
    by decide +kernel, List.cons_ne_nil _ _⟩

/-- the Spec-level closure agrees on the example -/
example : (match upClosure 10 exCnf (PModel.empty.set 0 true |>.set 2 false) with
    | .fixpoint m => (List.range 4).map m | _ => []) = [some true, some false, some false, none] := by
  decide +kernel

/-! ## axioms -/

#print axioms reach_inv
#print axioms decide_sound
#print axioms decide_sound_entails
#print axioms new_sound
#print axioms history_sound
#print axioms history_decisions_hold
#print axioms unsat_sound
#print axioms new_unsat_sound
#print axioms history_unsat_sound
#print axioms unsat_keeps_stack
#print axioms fixpoint
#print axioms watch_invariants_preserved
#print axioms history_fixpoint
#print axioms history_watchInv
#print axioms history_fixpoint_cnfNew
#print axioms new_total_normal
#print axioms history_decide_total
#print axioms pop_restores
#print axioms runCmds_reach
#print axioms observables_eq
#print axioms pop_keeps_watches
#print axioms satflag_exact
#print axioms satset_exact
#print axioms decide_result_sat_iff
#print axioms hash_formula
#print axioms hash_path_independent
#print axioms solver_weights_ok
#print axioms hash_injective_partial
#print axioms decideOrig_misses_unit
#print axioms exS0_new
#print axioms ex_reach
#print axioms Spec.upClosure_fixpoint

end UnitProp
