import RsddModel.Lemmas.SddCompile
import RsddModel.Props.C03
import RsddModel.Props.C04
/-!
# C05 (SDD half) — bottom-up compilation with the SDD builder yields a diagram whose models are
exactly the satisfying assignments of the input

Property theorems only.  The work is in `Lemmas/BddCompile` (the compile functions are correct
for ANY record of builder operations meeting `Compile.OpsSpec`), `Lemmas/SddCompile` (the SDD
builder model meets that specification: `sddSpec`, from the C03 theorems of `Lemmas/SddSem`; the
SDD-specific `compile_cnf` is the generic one at `Sdd.ops`) and, for the canonicity extras,
`Lemmas/SddWF`, `Lemmas/SddWFRun`, `Props/C04`.

Every theorem is partial correctness (`… = some (s', r) → …`) and holds for EVERY lawful apply
cache `A` and ite cache `I`, EVERY vtree `vt` whose leaves contain the variables of the input
(leaf labels need not even be distinct for the semantic statements — distinctness is only used
for canonicity), BOTH compression settings `cmpr`, EVERY fuel, from ANY builder state satisfying
the invariant `CInv` (both caches sound and holding well formed results; the fresh builder
satisfies it, `cinv_empty`), and the invariant is re-established, so compilations can be chained
with any other builder calls.

* `sdd_compileCnf_correct` — `compile_cnf`, for EVERY permutation `cs'` of the clause list `cs`
  (the comparator given to `sort_by` is not a total order; nothing is assumed about the
  permutation): the result is well formed and its models are the satisfying assignments of `cs`.
  No hypothesis on the shape of `cs`: the empty formula, empty clauses, unit clauses, clauses with
  repeated and with complementary literals are covered.  `sdd_compileCnf_models` spells the
  semantics out; `sdd_compileCnf_empty`, `sdd_compileCnf_empty_clause` are the two early returns
  (they hold unconditionally, as equations); `sdd_compileCnf_sorted_correct` is the instance for
  the permutation of the current `std`; `sdd_compileCnf_raw_correct` starts from the clause list
  BEFORE the `Cnf::new` normalisation; `sdd_compileCnf_fresh` starts from the fresh builder.
* `sdd_compileExpr_correct`, `sdd_compilePlan_correct` — `compile_logical_expr`, `compile_plan`.
* `sdd_compileDtree_correct` — the plan `from_dtree` builds denotes the conjunction of the leaf
  clauses (`Compile.planFromDtree_sem`), so compiling it gives the models of that CNF.
* canonicity extras (compression on, distinct leaf labels; invariant `CInvS`):
  `sdd_compileCnf_wfs` (the result is compressed, trimmed and in pointer normal form),
  `sdd_compileCnf_perm_irrelevant` (the clause permutation, the caches and the fuel do not change
  the diagram), `sdd_compileDtree_eq_compileCnf` (the plan of a dtree and `compile_cnf` return
  the same diagram).
* `Sdd.compileCnf_total` (in `Lemmas/SddCompile`): the extra recursion bound of the model and the
  modelled `lit_vec[0]` panic are never the reason for `none`.
-/
namespace Sdd
open Spec Compile

section props
variable (A : CacheImpl (Ptr × Ptr)) (I : CacheImpl (Ptr × Ptr × Ptr)) (vt : VTree) (cmpr : Bool)
  (fuel : Nat)

/-! ## `compile_cnf` -/

/-- **C05, CNF, SDD builder**: for every permutation `cs'` of the clauses that `sort_by` may
produce, every vtree containing the variables of the CNF, both compression settings, every lawful
cache pair and every fuel -/
theorem sdd_compileCnf_correct {cs cs' : Cnf} (hperm : List.Perm cs cs') {s s' : A.σ × I.σ}
    {r : Ptr} (hinv : CInv A I vt s) (hvars : ∀ c ∈ cs, ∀ l ∈ c, l.var ∈ vt.leaves)
    (h : compileCnf A I ⟨vt, cmpr⟩ fuel s cs' = some (s', r)) :
    CInv A I vt s' ∧ WF vt r ∧ ∀ a, r.eval a = cnfSat a cs :=
  compileCnf_sem A I ⟨vt, cmpr⟩ fuel hperm hinv hvars h

/-- the semantics spelled out: `a` is a model of the diagram iff every clause has a literal that
`a` makes true (an empty clause has none, the empty formula has no clause) -/
theorem sdd_compileCnf_models {cs cs' : Cnf} (hperm : List.Perm cs cs') {s s' : A.σ × I.σ}
    {r : Ptr} (hinv : CInv A I vt s) (hvars : ∀ c ∈ cs, ∀ l ∈ c, l.var ∈ vt.leaves)
    (h : compileCnf A I ⟨vt, cmpr⟩ fuel s cs' = some (s', r)) (a : Assign) :
    r.eval a = true ↔ ∀ c ∈ cs, ∃ l ∈ c, a l.var = l.pol := by
  rw [(sdd_compileCnf_correct A I vt cmpr fuel hperm hinv hvars h).2.2 a]
  simp [cnfSat, clauseSat, litSat]

/-- the same statement as an equation of Boolean functions (`den` of C03, `cnfFn` of the spec) -/
theorem sdd_compileCnf_den {cs cs' : Cnf} (hperm : List.Perm cs cs') {s s' : A.σ × I.σ}
    {r : Ptr} (hinv : CInv A I vt s) (hvars : ∀ c ∈ cs, ∀ l ∈ c, l.var ∈ vt.leaves)
    (h : compileCnf A I ⟨vt, cmpr⟩ fuel s cs' = some (s', r)) : den r = cnfFn cs :=
  funext (sdd_compileCnf_correct A I vt cmpr fuel hperm hinv hvars h).2.2

/-- **the empty formula** compiles to `true`, in every state, with the state unchanged (no
hypothesis at all) -/
theorem sdd_compileCnf_empty (s : A.σ × I.σ) :
    compileCnf A I ⟨vt, cmpr⟩ fuel s [] = some (s, .tru) ∧ ∀ a, Ptr.tru.eval a = cnfSat a [] :=
  ⟨rfl, fun a => by simp [cnfSat]⟩

/-- **a CNF containing an empty clause** compiles to `false`, in every state, with the state
unchanged (no hypothesis on the other clauses: their variables may even lie outside the vtree) -/
theorem sdd_compileCnf_empty_clause (s : A.σ × I.σ) {cs : Cnf} (he : [] ∈ cs) :
    compileCnf A I ⟨vt, cmpr⟩ fuel s cs = some (s, .fls) ∧ ∀ a, Ptr.fls.eval a = cnfSat a cs := by
  have hne : cs.isEmpty = false := by cases cs with
    | nil => cases he
    | cons _ _ => rfl
  have hany : cs.any List.isEmpty = true := List.any_eq_true.2 ⟨[], he, rfl⟩
  refine ⟨?_, fun a => ?_⟩
  · simp [compileCnf, compileCnfA, hne, hany, withIte]
  · have : cnfSat a cs = false := by
      apply Bool.eq_false_iff.2
      intro hall
      have := List.all_eq_true.1 hall [] he
      simp [clauseSat] at this
    rw [this]; exact eval_fls a

/-- with the permutation the current `std` produces (stable sort by the vtree index of the last
literal) -/
theorem sdd_compileCnf_sorted_correct {cs : Cnf} {s s' : A.σ × I.σ} {r : Ptr}
    (hinv : CInv A I vt s) (hvars : ∀ c ∈ cs, ∀ l ∈ c, l.var ∈ vt.leaves)
    (h : compileCnf A I ⟨vt, cmpr⟩ fuel s (sortClausesSdd vt cs) = some (s', r)) :
    CInv A I vt s' ∧ WF vt r ∧ ∀ a, r.eval a = cnfSat a cs :=
  sdd_compileCnf_correct A I vt cmpr fuel (sortClausesSdd_perm vt cs) hinv hvars h

/-- from the clause list handed to `Cnf::new` (per-clause stable sort by label and `dedup`) -/
theorem sdd_compileCnf_raw_correct {raw : List Clause} {cs' : Cnf}
    (hperm : List.Perm (cnfNew raw) cs') {s s' : A.σ × I.σ} {r : Ptr} (hinv : CInv A I vt s)
    (hvars : ∀ c ∈ cnfNew raw, ∀ l ∈ c, l.var ∈ vt.leaves)
    (h : compileCnf A I ⟨vt, cmpr⟩ fuel s cs' = some (s', r)) :
    CInv A I vt s' ∧ WF vt r ∧ ∀ a, r.eval a = cnfSat a raw := by
  obtain ⟨h1, h2, h3⟩ := sdd_compileCnf_correct A I vt cmpr fuel hperm hinv hvars h
  exact ⟨h1, h2, fun a => by rw [h3 a, Bdd.cnfSat_cnfNew]⟩

/-- from the fresh builder (empty caches) -/
theorem sdd_compileCnf_fresh {cs cs' : Cnf} (hperm : List.Perm cs cs') {s' : A.σ × I.σ} {r : Ptr}
    (hvars : ∀ c ∈ cs, ∀ l ∈ c, l.var ∈ vt.leaves)
    (h : compileCnf A I ⟨vt, cmpr⟩ fuel (A.empty, I.empty) cs' = some (s', r)) :
    WF vt r ∧ ∀ a, r.eval a = cnfSat a cs :=
  (sdd_compileCnf_correct A I vt cmpr fuel hperm (cinv_empty A I vt) hvars h).2

/-- `compile_cnf` never touches the ite cache -/
theorem sdd_compileCnf_ite_untouched {cs : Cnf} {s s' : A.σ × I.σ} {r : Ptr}
    (h : compileCnf A I ⟨vt, cmpr⟩ fuel s cs = some (s', r)) : s'.2 = s.2 :=
  compileCnf_ite A I _ fuel h

/-- the mirror of the SDD-specific `compile_cnf` is the generic `compile_cnf` of
`Model/BddCompile` at the SDD operations -/
theorem sdd_compileCnf_eq_generic (s : A.σ × I.σ) (cs : Cnf) :
    compileCnf A I ⟨vt, cmpr⟩ fuel s cs = Compile.compileCnf (ops A I ⟨vt, cmpr⟩ fuel) s cs :=
  compileCnf_eq_generic A I _ fuel s cs

/-! ## logical expressions and plans -/

/-- **C05, logical expressions, SDD builder** -/
theorem sdd_compileExpr_correct (e : LogicalExpr) {s s' : A.σ × I.σ} {r : Ptr}
    (hinv : CInv A I vt s) (hvars : e.AllVars (· ∈ vt.leaves))
    (h : compileExpr (ops A I ⟨vt, cmpr⟩ fuel) s e = some (s', r)) :
    CInv A I vt s' ∧ WF vt r ∧ ∀ a, r.eval a = exprSem e a :=
  (compileExpr_ok (sddSpec A I ⟨vt, cmpr⟩ fuel) e hinv hvars).out_den h

/-- **C05, plans, SDD builder** -/
theorem sdd_compilePlan_correct (p : Plan) {s s' : A.σ × I.σ} {r : Ptr}
    (hinv : CInv A I vt s) (hvars : p.AllVars (· ∈ vt.leaves))
    (h : compilePlan (ops A I ⟨vt, cmpr⟩ fuel) s p = some (s', r)) :
    CInv A I vt s' ∧ WF vt r ∧ ∀ a, r.eval a = planSem p a :=
  (compilePlan_ok (sddSpec A I ⟨vt, cmpr⟩ fuel) p hinv hvars).out_den h

/-- **C05, plan of a dtree, SDD builder**: the plan `from_dtree` builds denotes the conjunction
of the dtree's leaf clauses (`planFromDtree_sem`, for ANY dtree), so the models of the compiled
diagram are the satisfying assignments of the CNF formed by the leaves -/
theorem sdd_compileDtree_correct (t : DTree) {s s' : A.σ × I.σ} {r : Ptr}
    (hinv : CInv A I vt s) (hvars : ∀ c ∈ t.clauses, ∀ l ∈ c, l.var ∈ vt.leaves)
    (h : compilePlan (ops A I ⟨vt, cmpr⟩ fuel) s (Plan.fromDtree t) = some (s', r)) :
    CInv A I vt s' ∧ WF vt r ∧ ∀ a, r.eval a = cnfSat a t.clauses := by
  obtain ⟨h1, h2, h3⟩ := sdd_compilePlan_correct A I vt cmpr fuel _ hinv
    (allVars_fromDtree _ t hvars) h
  exact ⟨h1, h2, fun a => by rw [h3 a, planFromDtree_sem]; rfl⟩

end props

/-! ## extras: with compression on and distinct leaf labels the results are canonical -/

section canonical
variable (A : CacheImpl (Ptr × Ptr)) (I : CacheImpl (Ptr × Ptr × Ptr))

/-- the structural builder-state invariant of C04 on the pair of cache states -/
def CInvS (vt : VTree) (s : A.σ × I.σ) : Prop :=
  AppInv2 A vt s.1 ∧ IteInv I vt s.2 ∧ IteInvS I vt s.2

theorem cinvS_empty (vt : VTree) : CInvS A I vt (A.empty, I.empty) :=
  ⟨appInv2_empty A vt, iteInv_empty I vt, fun k r h => by rw [I.empty_get] at h; cases h⟩

theorem CInvS.cinv {vt : VTree} {s : A.σ × I.σ} (h : CInvS A I vt s) : CInv A I vt s :=
  ⟨h.1.1, h.2.1⟩

variable (cfg : Config) (hc : cfg.compress = true) (hnd : cfg.vt.leaves.Nodup) (fuel : Nat)

/-- the compressing SDD builder meets the specification of the compile functions also with the
structural predicate `WFs` (compressed, trimmed, pointer normal form) on pointers -/
def sddSpecS : OpsSpec (ops A I cfg fuel) where
  Inv := CInvS A I cfg.vt
  Good := WFs cfg.vt
  VarOk := fun v => v ∈ cfg.vt.leaves
  den := fun p a => p.eval a
  tru_ok := ⟨WFs_tru _, funext fun a => eval_tru a⟩
  fls_ok := ⟨WFs_fls _, funext fun a => eval_fls a⟩
  var_ok := fun x pol hx =>
    ⟨by simpa [ops, WFs] using hx, funext fun a => by simp [ops, fVar, eval_lit]⟩
  neg_ok := fun ⟨hp, e⟩ => ⟨WFs_neg hp, e ▸ funext fun a => by simp [ops, fNot]⟩
  and_ok := fun hi ⟨hp, rfl⟩ ⟨hq, rfl⟩ => .intro fun h => by
    obtain ⟨h1, h2⟩ := withIte_some h
    obtain ⟨ha, wr, _, er⟩ := bAnd_s A cfg hc hnd fuel _ _ _ _ _ hi.1 hp hq h1
    exact ⟨⟨ha, h2 ▸ hi.2.1, h2 ▸ hi.2.2⟩, wr, funext fun a => er a⟩
  or_ok := fun hi ⟨hp, rfl⟩ ⟨hq, rfl⟩ => .intro fun h => by
    obtain ⟨h1, h2⟩ := withIte_some h
    obtain ⟨ha, wr⟩ := bOr_s A cfg hc hnd fuel hi.1 hp hq h1
    obtain ⟨_, _, er⟩ := bOr_ok A cfg fuel hi.1.1 (WFs_WF _ hp) (WFs_WF _ hq) h1
    exact ⟨⟨ha, h2 ▸ hi.2.1, h2 ▸ hi.2.2⟩, wr, funext fun a => er a⟩
  iff_ok := fun hi ⟨hp, rfl⟩ ⟨hq, rfl⟩ => .intro fun h => by
    obtain ⟨_, hi', _, er⟩ := bIff_ok A I cfg fuel hi.1.1 hi.2.1 (WFs_WF _ hp) (WFs_WF _ hq) h
    obtain ⟨ha, hs, wr⟩ := bIte_s A I cfg hc hnd fuel hi.1 hi.2.2 hp hq (WFs_neg hq) h
    exact ⟨⟨ha, hi', hs⟩, wr, funext fun a => er a⟩
  xor_ok := fun hi ⟨hp, rfl⟩ ⟨hq, rfl⟩ => .intro fun h => by
    obtain ⟨_, hi', _, er⟩ := bXor_ok A I cfg fuel hi.1.1 hi.2.1 (WFs_WF _ hp) (WFs_WF _ hq) h
    obtain ⟨ha, hs, wr⟩ := bIte_s A I cfg hc hnd fuel hi.1 hi.2.2 hp (WFs_neg hq) hq h
    exact ⟨⟨ha, hi', hs⟩, wr, funext fun a => er a⟩
  ite_ok := fun hi ⟨hf, rfl⟩ ⟨hg, rfl⟩ ⟨hh, rfl⟩ => .intro fun h => by
    obtain ⟨_, hi', _, er⟩ := bIte_ok A I cfg fuel hi.1.1 hi.2.1 (WFs_WF _ hf) (WFs_WF _ hg)
      (WFs_WF _ hh) h
    obtain ⟨ha, hs, wr⟩ := bIte_s A I cfg hc hnd fuel hi.1 hi.2.2 hf hg hh h
    exact ⟨⟨ha, hi', hs⟩, wr, funext fun a => er a⟩

end canonical

section canonical
variable (A : CacheImpl (Ptr × Ptr)) (I : CacheImpl (Ptr × Ptr × Ptr)) (vt : VTree)
  (hnd : vt.leaves.Nodup) (fuel : Nat)
include hnd

/-- with compression on, `compile_cnf` returns a compressed, trimmed SDD in pointer normal form
(for every clause permutation) -/
theorem sdd_compileCnf_wfs {cs cs' : Cnf} (hperm : List.Perm cs cs') {s s' : A.σ × I.σ} {r : Ptr}
    (hinv : CInvS A I vt s) (hvars : ∀ c ∈ cs, ∀ l ∈ c, l.var ∈ vt.leaves)
    (h : compileCnf A I ⟨vt, true⟩ fuel s cs' = some (s', r)) :
    CInvS A I vt s' ∧ WFs vt r ∧ ∀ a, r.eval a = cnfSat a cs := by
  rw [compileCnf_eq_generic] at h
  exact (compileCnf_ok (sddSpecS A I ⟨vt, true⟩ rfl hnd fuel) hperm hinv hvars).out_den h

/-- the same for plans, in particular plans of dtrees -/
theorem sdd_compilePlan_wfs (p : Plan) {s s' : A.σ × I.σ} {r : Ptr} (hinv : CInvS A I vt s)
    (hvars : p.AllVars (· ∈ vt.leaves))
    (h : compilePlan (ops A I ⟨vt, true⟩ fuel) s p = some (s', r)) :
    CInvS A I vt s' ∧ WFs vt r ∧ ∀ a, r.eval a = planSem p a :=
  (compilePlan_ok (sddSpecS A I ⟨vt, true⟩ rfl hnd fuel) p hinv hvars).out_den h

/-- and for logical expressions -/
theorem sdd_compileExpr_wfs (e : LogicalExpr) {s s' : A.σ × I.σ} {r : Ptr} (hinv : CInvS A I vt s)
    (hvars : e.AllVars (· ∈ vt.leaves))
    (h : compileExpr (ops A I ⟨vt, true⟩ fuel) s e = some (s', r)) :
    CInvS A I vt s' ∧ WFs vt r ∧ ∀ a, r.eval a = exprSem e a :=
  (compileExpr_ok (sddSpecS A I ⟨vt, true⟩ rfl hnd fuel) e hinv hvars).out_den h

end canonical

/-- with compression on and distinct leaf labels, the clause permutation — and the caches, the
fuel, the starting state — do not change the diagram `compile_cnf` returns -/
theorem sdd_compileCnf_perm_irrelevant (A₁ A₂ : CacheImpl (Ptr × Ptr))
    (I₁ I₂ : CacheImpl (Ptr × Ptr × Ptr)) (vt : VTree) (hnd : vt.leaves.Nodup) (fuel₁ fuel₂ : Nat)
    {cs cs₁ cs₂ : Cnf} (p₁ : List.Perm cs cs₁) (p₂ : List.Perm cs cs₂)
    {s₁ s₁' : A₁.σ × I₁.σ} {s₂ s₂' : A₂.σ × I₂.σ} {r₁ r₂ : Ptr}
    (i₁ : CInvS A₁ I₁ vt s₁) (i₂ : CInvS A₂ I₂ vt s₂)
    (hvars : ∀ c ∈ cs, ∀ l ∈ c, l.var ∈ vt.leaves)
    (h₁ : compileCnf A₁ I₁ ⟨vt, true⟩ fuel₁ s₁ cs₁ = some (s₁', r₁))
    (h₂ : compileCnf A₂ I₂ ⟨vt, true⟩ fuel₂ s₂ cs₂ = some (s₂', r₂)) : r₁ = r₂ := by
  obtain ⟨_, w₁, e₁⟩ := sdd_compileCnf_wfs A₁ I₁ vt hnd fuel₁ p₁ i₁ hvars h₁
  obtain ⟨_, w₂, e₂⟩ := sdd_compileCnf_wfs A₂ I₂ vt hnd fuel₂ p₂ i₂ hvars h₂
  exact (sdd_canon hnd w₁ w₂).1 fun a => by rw [e₁ a, e₂ a]

/-- hence, once the dtree's leaves are the clauses of `cs` up to order, compiling the plan of the
dtree and `compile_cnf` return the same diagram -/
theorem sdd_compileDtree_eq_compileCnf (A₁ A₂ : CacheImpl (Ptr × Ptr))
    (I₁ I₂ : CacheImpl (Ptr × Ptr × Ptr)) (vt : VTree) (hnd : vt.leaves.Nodup) (fuel₁ fuel₂ : Nat)
    (t : DTree) {cs cs' : Cnf} (hleaves : List.Perm t.clauses cs) (hperm : List.Perm cs cs')
    {s₁ s₁' : A₁.σ × I₁.σ} {s₂ s₂' : A₂.σ × I₂.σ} {r₁ r₂ : Ptr}
    (i₁ : CInvS A₁ I₁ vt s₁) (i₂ : CInvS A₂ I₂ vt s₂)
    (hvars : ∀ c ∈ cs, ∀ l ∈ c, l.var ∈ vt.leaves)
    (h₁ : compilePlan (ops A₁ I₁ ⟨vt, true⟩ fuel₁) s₁ (Plan.fromDtree t) = some (s₁', r₁))
    (h₂ : compileCnf A₂ I₂ ⟨vt, true⟩ fuel₂ s₂ cs' = some (s₂', r₂)) : r₁ = r₂ := by
  have hvt : ∀ c ∈ t.clauses, ∀ l ∈ c, l.var ∈ vt.leaves :=
    fun c hc => hvars c (hleaves.mem_iff.1 hc)
  obtain ⟨_, w₁, e₁⟩ := sdd_compilePlan_wfs A₁ I₁ vt hnd fuel₁ _ i₁ (allVars_fromDtree _ t hvt) h₁
  obtain ⟨_, w₂, e₂⟩ := sdd_compileCnf_wfs A₂ I₂ vt hnd fuel₂ hperm i₂ hvars h₂
  exact (sdd_canon hnd w₁ w₂).1 fun a => by
    rw [e₁ a, e₂ a, planFromDtree_sem]
    exact cnfSat_perm a hleaves

/-! ## non-vacuity: the model returns on real inputs, edge cases included -/
section demo
open Ptr

private def L (v : Nat) (p : Bool) : Lit := ⟨v, p⟩

/-- the empty formula is `true`; a formula with an empty clause is `false` (balanced vtree
`((0 1) (2 3))` and right-linear vtree `(0 (1 2))` of C03, both compression settings) -/
example : runCompileCnf vtB true [] 20 = some tru := by decide
example : runCompileCnf vtR false [] 20 = some tru := by decide
example : runCompileCnf vtB true [[L 0 true, L 1 false], [], [L 2 true]] 20 = some fls := by decide
example : runCompileCnf vtB false [[L 7 true], []] 20 = some fls := by decide
/-- unit clauses; a repeated literal; complementary literals (a tautological clause) -/
example : runCompileCnf vtB true [[L 0 true]] 20 = some (lit 0 true) := by decide +kernel
example : runCompileCnf vtB true [[L 1 true, L 1 false, L 1 true]] 20 = some tru := by
  decide +kernel
example : runCompileCnf vtB true [[L 1 true, L 1 true], [L 0 true]] 20
    = some (bdd false 0 1 fls (lit 1 true)) := by decide +kernel
/-- contradictory units -/
example : runCompileCnf vtB true [[L 0 true], [L 0 false]] 20 = some fls := by decide +kernel

/-- a five-clause CNF over four variables with a repeated literal and a tautological clause:
`(x0 ∨ ¬x1) ∧ (x1 ∨ x2 ∨ x2) ∧ (¬x2 ∨ ¬x0 ∨ x0) ∧ (x1 ∨ x3) ∧ (¬x3 ∨ x2)` -/
def demoCnfS : Cnf :=
  [[L 0 true, L 1 false], [L 1 true, L 2 true, L 2 true], [L 2 false, L 0 false, L 0 true],
   [L 1 true, L 3 true], [L 3 false, L 2 true]]

/-- the `std` permutation really permutes (keys: vtree indices `0,2,4,6` of `x0..x3`) -/
example : sortClausesSdd vtB demoCnfS
    = [[L 2 false, L 0 false, L 0 true], [L 0 true, L 1 false], [L 1 true, L 2 true, L 2 true],
       [L 3 false, L 2 true], [L 1 true, L 3 true]] := by decide

theorem runCompileCnf_demoCnfS : runCompileCnf vtB true demoCnfS 30 = some (dec false 3
    [(bdd false 0 1 fls (lit 1 true), bdd false 2 5 (lit 3 false) tru),
     (bdd true 0 1 (lit 1 false) tru, fls),
     (lit 1 false, bdd false 2 5 fls (lit 3 true))]) := by decide +kernel

/-- it returns, on both vtrees and with both compression settings, and the truth table of the
result over `x0..x3` is the truth table of the CNF -/
example : (runCompileCnf vtB true demoCnfS 30).map (fun r => truthTable 4 (den r))
    = some (truthTable 4 (cnfFn demoCnfS)) := by rw [runCompileCnf_demoCnfS]; decide +kernel
example : (runCompileCnf vtB false demoCnfS 30).map (fun r => truthTable 4 (den r))
    = some (truthTable 4 (cnfFn demoCnfS)) := by decide +kernel
example : (runCompileCnf (.rightLinear [0, 1, 2, 3]) true demoCnfS 30).map
    (fun r => truthTable 4 (den r)) = some (truthTable 4 (cnfFn demoCnfS)) := by decide +kernel

/-- with compression the clause permutation does not change the diagram -/
example : runCompileCnfPermuted vtB true demoCnfS.reverse 30 = runCompileCnf vtB true demoCnfS 30 := by
  rw [runCompileCnf_demoCnfS]; decide +kernel

/-- an expression with every constructor: `ite x0 (x1 ⊕ ¬x2) (x1 ⇔ ¬(x3 ∧ (x0 ∨ x2)))` -/
def demoExprS : LogicalExpr :=
  .ite (.lit 0 true) (.xor (.lit 1 true) (.lit 2 false))
    (.iff (.lit 1 true) (.not (.and (.lit 3 true) (.or (.lit 0 true) (.lit 2 true)))))

theorem runCompileExpr_demoExprS : runCompileExpr vtB false demoExprS 30 = some (dec false 3
    [(bdd false 0 1 fls (lit 1 true), lit 2 true),
     (bdd true 0 1 tru (lit 1 true), lit 2 false),
     (bdd true 0 1 (lit 1 false) tru, bdd true 2 5 fls (lit 3 true)),
     (bdd true 0 1 (lit 1 true) tru, bdd false 2 5 fls (lit 3 true))]) := by decide +kernel

example : (runCompileExpr vtB true demoExprS 30).map (fun r => truthTable 4 (den r))
    = some (truthTable 4 (exprSem demoExprS)) := by decide +kernel
example : (runCompileExpr vtB false demoExprS 30).map (fun r => truthTable 4 (den r))
    = some (truthTable 4 (exprSem demoExprS)) := by rw [runCompileExpr_demoExprS]; decide +kernel

/-- a dtree with a three-literal, a unit and a two-literal leaf; adding an empty leaf gives
`false` -/
def demoDtreeS : DTree :=
  .node (.node (.leaf [L 0 true, L 1 false, L 2 true]) (.leaf [L 1 true]))
    (.leaf [L 2 false, L 3 true])

theorem runCompileDtree_demoDtreeS : runCompileDtree vtB true demoDtreeS 30 = some (dec false 3
    [(bdd false 0 1 fls (lit 1 true), bdd false 2 5 tru (lit 3 true)),
     (bdd true 0 1 (lit 1 false) tru, bdd false 2 5 fls (lit 3 true)),
     (lit 1 false, fls)]) := by decide +kernel

example : runCompileDtree vtB true demoDtreeS 30 = runCompileCnf vtB true demoDtreeS.clauses 30 := by
  rw [runCompileDtree_demoDtreeS]; decide +kernel
example : (runCompileDtree vtB true demoDtreeS 30).isSome = true := by
  rw [runCompileDtree_demoDtreeS]; rfl
example : runCompileDtree vtB true (.node demoDtreeS (.leaf [])) 30 = some fls := by decide +kernel

/-- a label outside the vtree is outside the statement (the Rust reads a foreign slot of
`vtree_index` or panics); the hypotheses of the theorems exclude it -/
example : ¬ (∀ c ∈ [[L 7 true]], ∀ l ∈ c, l.var ∈ vtB.leaves) := by decide

/-- the hypotheses of `sdd_compileCnf_correct` are met: list caches, fresh builder, the balanced
vtree, compression on, the `std` permutation -/
example : ∃ r, runCompileCnf vtB true demoCnfS 30 = some r ∧ WF vtB r ∧
    ∀ a, r.eval a = cnfSat a demoCnfS := by
  obtain ⟨⟨s', r⟩, h, rfl⟩ := Option.map_eq_some_iff.1 runCompileCnf_demoCnfS
  exact ⟨_, runCompileCnf_demoCnfS,
    (sdd_compileCnf_sorted_correct LA LI vtB true 30 (cinv_empty _ _ _) (by decide) h).2⟩

/-- the hypotheses of `sdd_compileExpr_correct` are met (compression off) -/
example : ∃ r, runCompileExpr vtB false demoExprS 30 = some r ∧ WF vtB r ∧
    ∀ a, r.eval a = exprSem demoExprS a := by
  obtain ⟨⟨s', r⟩, h, rfl⟩ := Option.map_eq_some_iff.1 runCompileExpr_demoExprS
  exact ⟨_, runCompileExpr_demoExprS, (sdd_compileExpr_correct LA LI vtB false 30 demoExprS
    (cinv_empty _ _ _) (by simp only [demoExprS, LogicalExpr.AllVars]; decide) h).2⟩

/-- the hypotheses of `sdd_compileDtree_correct` (hence of `sdd_compilePlan_correct`) are met -/
example : ∃ r, runCompileDtree vtB true demoDtreeS 30 = some r ∧ WF vtB r ∧
    ∀ a, r.eval a = cnfSat a demoDtreeS.clauses := by
  have hrun := runCompileDtree_demoDtreeS
  unfold runCompileDtree runCompilePlan at hrun
  obtain ⟨⟨s', r⟩, h, rfl⟩ := Option.map_eq_some_iff.1 hrun
  exact ⟨_, runCompileDtree_demoDtreeS,
    (sdd_compileDtree_correct LA LI vtB true 30 demoDtreeS (cinv_empty _ _ _) (by decide) h).2⟩

/-- the hypotheses of the canonicity extras are met: the leaf labels of `vtB` are distinct -/
example : ∃ r, runCompileCnf vtB true demoCnfS 30 = some r ∧ WFs vtB r := by
  obtain ⟨⟨s', r⟩, h, rfl⟩ := Option.map_eq_some_iff.1 runCompileCnf_demoCnfS
  exact ⟨_, runCompileCnf_demoCnfS, (sdd_compileCnf_wfs LA LI vtB (by decide) 30
    (sortClausesSdd_perm vtB demoCnfS) (cinvS_empty _ _ _) (by decide) h).2.1⟩

end demo

#print axioms sdd_compileCnf_correct
#print axioms sdd_compileCnf_models
#print axioms sdd_compileCnf_den
#print axioms sdd_compileCnf_empty
#print axioms sdd_compileCnf_empty_clause
#print axioms sdd_compileCnf_sorted_correct
#print axioms sdd_compileCnf_raw_correct
#print axioms sdd_compileCnf_fresh
#print axioms sdd_compileCnf_ite_untouched
#print axioms sdd_compileCnf_eq_generic
#print axioms sdd_compileExpr_correct
#print axioms sdd_compilePlan_correct
#print axioms sdd_compileDtree_correct
#print axioms sdd_compileCnf_wfs
#print axioms sdd_compilePlan_wfs
#print axioms sdd_compileExpr_wfs
#print axioms sdd_compileCnf_perm_irrelevant
#print axioms sdd_compileDtree_eq_compileCnf
end Sdd
