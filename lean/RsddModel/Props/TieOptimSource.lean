import RsddModel.Props.TieOptim
import RsddModel.Props.C12
import RsddModel.Props.C13
/-!
# Source-level corollaries of C12 / C13 (translator route)

The key theorems of `Props/C12.lean` and `Props/C13.lean`, restated for the definitions
REGENERATED from the Rust text (`Model/GenOptim.lean`, rewritten by `tools/gen_optim.py` on every
run) and proved by rewriting with the tie theorems of `Props/TieOptim.lean` and `exact`-ing the
existing theorem.  They say: `marginal_map`, `meu`, `bb`, `FiniteField::mul` and the polynomial
`add` / `mul` *as the source says now* have the stated property.  When the source changes, the tie
theorem — and with it the corollary — stops checking.  (In alias mode, i.e. a function reported
UNTRANSLATED, the corollary is the model theorem itself.)
-/
namespace TieOptimSource
open Bdd Spec Sem Optim

/-! ## C12: marginal MAP, maximum expected utility, generic branch and bound -/

/-- `marginal_map` as the source says now returns the exhaustive maximum `mapSpec` with a model that assigns exactly the query variables and attains it -/
theorem marginalMap_opt_source {w : Weights Rat} {Q vars : List Nat} (hw : C12.ProbWeights w Q vars) {p : Ptr}
    (hp : p.free) (hnd : vars.Nodup) (hcov : ∀ v ∈ p.vars, v ∈ vars) {n : Nat} (hQ : ∀ x ∈ Q, x < n) :
    (Gen.Optim.marginalMap p Q n w).1 = mapSpec p.eval Q vars w ∧
    (∀ x, (Gen.Optim.marginalMap p Q n w).2.get x ≠ none ↔ x ∈ Q) ∧
    (Gen.Optim.marginalMap p Q n w).2.toAssign ∈ queryAssignments Q ∧
    mapValue p.eval Q (nonQuery vars Q) w (Gen.Optim.marginalMap p Q n w).2.toAssign = mapSpec p.eval Q vars w := by
  rw [TieOptim.marginal_map_tie]
  exact C12.marginalMap_opt hw hp hnd hcov hQ

/-- every value the oracle maximises over is below the value returned by `marginal_map` as the source says now -/
theorem marginalMap_ge_source {w : Weights Rat} {Q vars : List Nat} (hw : C12.ProbWeights w Q vars) {p : Ptr}
    (hp : p.free) (hnd : vars.Nodup) (hcov : ∀ v ∈ p.vars, v ∈ vars) {n : Nat} (hQ : ∀ x ∈ Q, x < n)
    (q : Assign) (hq : q ∈ queryAssignments Q) :
    mapValue p.eval Q (nonQuery vars Q) w q ≤ (Gen.Optim.marginalMap p Q n w).1 := by
  rw [TieOptim.marginal_map_tie]
  exact C12.marginalMap_ge hw hp hnd hcov hQ q hq

/-- `meu` as the source says now (utility-bearing variables ordered after all decision variables) returns the maximal expected utility with a model assigning exactly the decision variables that attains it -/
theorem meu_opt_source {w : Weights EU} {D order : List Nat} (hw : MeuWeights w D order) {p : Ptr}
    (hnd : order.Nodup) (hp : Robdd order p) {n : Nat} (hD : ∀ x ∈ D, x < n) :
    (Gen.Optim.meu p D n w).1.u = meuSpec p.eval D order w ∧
    (∀ x, (Gen.Optim.meu p D n w).2.get x ≠ none ↔ x ∈ D) ∧
    (Gen.Optim.meu p D n w).2.toAssign ∈ queryAssignments D ∧
    meuValue p.eval D order w (Gen.Optim.meu p D n w).2.toAssign = (Gen.Optim.meu p D n w).1 := by
  rw [TieOptim.meu_tie]
  exact C12.meu_opt hw hnd hp hD

/-- `eu_ub` as the source says now is a sound upper bound in both components -/
theorem meu_ub_sound_source {w : Weights EU} {D order : List Nat} (hw : MeuWeights w D order) {p : Ptr}
    (hp : p.free) {n : Nat} (bits : List Nat) (hbits : ∀ x ∈ bits, x < n ∧ x ∈ D) (m : PM)
    (hm : MeuInv n D m) (q : Assign) (hq : Consistent m bits q) :
    (Gen.Optim.euUb p (complete m bits q) [] w).p ≤ (Gen.Optim.euUb p m bits w).p ∧
    (Gen.Optim.euUb p (complete m bits q) [] w).u ≤ (Gen.Optim.euUb p m bits w).u := by
  rw [TieOptim.eu_ub_tie]
  exact C12.meu_ub_sound hw hp bits hbits m hm q hq

/-- `bb` as the source says now, for every lawful `BBSemiring`: the returned value is `T`-maximal over all query assignments and attained by the returned model, which assigns exactly `Q` -/
theorem bb_opt_source {α : Type} {B : BBOps α} {R T : α → α → Prop} (L : BBLaws B R) (C : ChooseLaws B R T)
    {w : Weights α} {Q order : List Nat} (hw : BbWeights B R w Q order) {p : Ptr} (hnd : order.Nodup)
    (hp : Robdd order p) {n : Nat} (hQ : ∀ x ∈ Q, x < n) :
    (∀ q ∈ queryAssignments Q, T (bbValue B.toSROps p.eval Q order w q) (Gen.Optim.bb B p Q n w).1) ∧
    (∀ x, (Gen.Optim.bb B p Q n w).2.get x ≠ none ↔ x ∈ Q) ∧
    (Gen.Optim.bb B p Q n w).2.toAssign ∈ queryAssignments Q ∧
    bbValue B.toSROps p.eval Q order w (Gen.Optim.bb B p Q n w).2.toAssign = (Gen.Optim.bb B p Q n w).1 := by
  rw [TieOptim.bb_tie]
  exact C12.bb_opt L C hw hnd hp hQ

/-- `bb` as the source says now at `RealSemiring` is marginal MAP -/
theorem bb_real_opt_source {w : Weights Rat} {Q vars : List Nat} (hw : C12.ProbWeights w Q vars) {p : Ptr}
    (hp : p.free) (hnd : vars.Nodup) (hcov : ∀ v ∈ p.vars, v ∈ vars) {n : Nat} (hQ : ∀ x ∈ Q, x < n) :
    (Gen.Optim.bb realBB p Q n w).1 = mapSpec p.eval Q vars w ∧
    (∀ x, (Gen.Optim.bb realBB p Q n w).2.get x ≠ none ↔ x ∈ Q) ∧
    (Gen.Optim.bb realBB p Q n w).2.toAssign ∈ queryAssignments Q ∧
    mapValue p.eval Q (nonQuery vars Q) w (Gen.Optim.bb realBB p Q n w).2.toAssign = mapSpec p.eval Q vars w := by
  rw [TieOptim.bb_tie]
  exact C12.bb_real_opt hw hp hnd hcov hQ

/-- `bb` as the source says now at `ExpectedUtility` is maximum expected utility -/
theorem bb_eu_opt_source {w : Weights EU} {D order : List Nat} (hw : MeuWeights w D order) {p : Ptr}
    (hnd : order.Nodup) (hp : Robdd order p) {n : Nat} (hD : ∀ x ∈ D, x < n) :
    (Gen.Optim.bb euBB p D n w).1.u = meuSpec p.eval D order w ∧
    (∀ x, (Gen.Optim.bb euBB p D n w).2.get x ≠ none ↔ x ∈ D) ∧
    (Gen.Optim.bb euBB p D n w).2.toAssign ∈ queryAssignments D ∧
    meuValue p.eval D order w (Gen.Optim.bb euBB p D n w).2.toAssign = (Gen.Optim.bb euBB p D n w).1 := by
  rw [TieOptim.bb_tie]
  exact C12.bb_eu_opt hw hnd hp hD

/-! ## C13: `FiniteField::mul` -/

/-- `FiniteField::mul` as the source says now is `a * b % P` on reduced operands for every `1 < P < 2^127`, and no `u128` operation of it overflows (the checked reading returns it) -/
theorem ff_mul_source {P a b : Nat} (ha : a < P) (hb : b < P) (h1 : 1 < P) (hP : P < 2 ^ 127) :
    Gen.OptimSem.ffMul P a b = a * b % P ∧ ffMulC P a b = some (Gen.OptimSem.ffMul P a b) ∧
    Gen.OptimSem.ffMul P a b < P := by
  rw [TieOptim.ff_mul_tie]
  exact ⟨ffMul_spec ha hb h1 hP, ffMulC_eq ha hb (Nat.le_of_lt hP),
    by rw [ffMul_spec ha hb h1 hP]; exact Nat.mod_lt _ (by omega)⟩

/-- hence for every exported prime: modular product, no overflow -/
theorem ff_mul_exported_source (exportedPrimes : List Nat) (h : C13.PrimesOk exportedPrimes) :
    ∀ P ∈ exportedPrimes, ∀ a b, a < P → b < P →
      Gen.OptimSem.ffMul P a b = a * b % P ∧ ffMulC P a b = some (Gen.OptimSem.ffMul P a b) := by
  rw [TieOptim.ff_mul_tie]
  intro P hP a b ha hb
  exact ⟨(C13.ff_modular exportedPrimes h P hP a b ha hb).2.1, (C13.ff_no_overflow exportedPrimes h P hP a b ha hb).2.1⟩

/-- the doubling loop as the source says now computes `(acc + a * b) % P` within its fuel -/
theorem ff_mul_loop_source (P fuel a b acc : Nat) (hb : b < 2 ^ fuel) (hacc : acc < P) :
    (Gen.OptimSem.ffMulLoop P fuel a b acc).2.2 = (acc + a * b) % P := by
  rw [TieOptim.ff_mul_loop_tie]
  exact ffMulLoop_spec P fuel a b acc hb hacc

/-! ## C13: `Polynomial` -/

/-- every constructor and operation of `Polynomial<C>` as the source says now yields a well-formed value -/
theorem poly_wf_source {α : Type} (S : SROps α) (maxCoeffs : Nat) (hM : 0 < maxCoeffs) :
    PolyWF S maxCoeffs (Gen.OptimSem.polyZero S maxCoeffs) ∧ PolyWF S maxCoeffs (Gen.OptimSem.polyOne S maxCoeffs) ∧
    (∀ p q, PolyWF S maxCoeffs (Gen.OptimSem.polyAdd S maxCoeffs p q)) ∧
    (∀ p q, PolyWF S maxCoeffs (Gen.OptimSem.polyMul S maxCoeffs p q)) := by
  rw [TieOptim.poly_zero_tie, TieOptim.poly_one_tie, TieOptim.poly_add_tie, TieOptim.poly_mul_tie]
  obtain ⟨h0, h1, _, ha, hm⟩ := C13.poly_wf S maxCoeffs hM
  exact ⟨h0, h1, ha, hm⟩

/-- the polynomial `zero` / `one` / `add` / `mul` as the source says now satisfy the commutative-semiring laws on well-formed values -/
theorem poly_semiring_source {α : Type} {S : SROps α} (hS : SROps.Laws S) (maxCoeffs : Nat) (hM : 0 < maxCoeffs)
    {p q r : Poly α} (hp : PolyWF S maxCoeffs p) (hq : PolyWF S maxCoeffs q) (hr : PolyWF S maxCoeffs r) :
    Gen.OptimSem.polyAdd S maxCoeffs (Gen.OptimSem.polyAdd S maxCoeffs p q) r =
      Gen.OptimSem.polyAdd S maxCoeffs p (Gen.OptimSem.polyAdd S maxCoeffs q r) ∧
    Gen.OptimSem.polyAdd S maxCoeffs p q = Gen.OptimSem.polyAdd S maxCoeffs q p ∧
    Gen.OptimSem.polyAdd S maxCoeffs p (Gen.OptimSem.polyZero S maxCoeffs) = p ∧
    Gen.OptimSem.polyMul S maxCoeffs (Gen.OptimSem.polyMul S maxCoeffs p q) r =
      Gen.OptimSem.polyMul S maxCoeffs p (Gen.OptimSem.polyMul S maxCoeffs q r) ∧
    Gen.OptimSem.polyMul S maxCoeffs p q = Gen.OptimSem.polyMul S maxCoeffs q p ∧
    Gen.OptimSem.polyMul S maxCoeffs p (Gen.OptimSem.polyOne S maxCoeffs) = p ∧
    Gen.OptimSem.polyMul S maxCoeffs p (Gen.OptimSem.polyZero S maxCoeffs) = Gen.OptimSem.polyZero S maxCoeffs ∧
    Gen.OptimSem.polyMul S maxCoeffs p (Gen.OptimSem.polyAdd S maxCoeffs q r) =
      Gen.OptimSem.polyAdd S maxCoeffs (Gen.OptimSem.polyMul S maxCoeffs p q) (Gen.OptimSem.polyMul S maxCoeffs p r) := by
  rw [TieOptim.poly_zero_tie, TieOptim.poly_one_tie, TieOptim.poly_add_tie, TieOptim.poly_mul_tie]
  have L := C13.poly_semiring hS maxCoeffs hM
  exact ⟨Subtype.mk.inj (L.add_assoc ⟨p, hp⟩ ⟨q, hq⟩ ⟨r, hr⟩),
    Subtype.mk.inj (L.add_comm ⟨p, hp⟩ ⟨q, hq⟩),
    Subtype.mk.inj (L.add_zero ⟨p, hp⟩),
    Subtype.mk.inj (L.mul_assoc ⟨p, hp⟩ ⟨q, hq⟩ ⟨r, hr⟩),
    Subtype.mk.inj (L.mul_comm ⟨p, hp⟩ ⟨q, hq⟩),
    Subtype.mk.inj (L.mul_one ⟨p, hp⟩),
    Subtype.mk.inj (L.mul_zero ⟨p, hp⟩),
    Subtype.mk.inj (L.left_distrib ⟨p, hp⟩ ⟨q, hq⟩ ⟨r, hr⟩)⟩

/-- truncation as the source says now is the quotient by `X^maxCoeffs`: entry `k < maxCoeffs` of the product is the convolution, beyond it zero; sums are coefficient-wise -/
theorem poly_mul_truncation_source {α : Type} {S : SROps α} (hS : SROps.Laws S) (maxCoeffs : Nat)
    {p q : Poly α} (hp : PolyWF S maxCoeffs p) (hq : PolyWF S maxCoeffs q) :
    (∀ k, k < maxCoeffs →
      (Gen.OptimSem.polyMul S maxCoeffs p q).coef S k = conv S (p.coef S) (q.coef S) k) ∧
    (∀ k, maxCoeffs ≤ k → (Gen.OptimSem.polyMul S maxCoeffs p q).coef S k = S.zero) ∧
    (∀ k, (Gen.OptimSem.polyAdd S maxCoeffs p q).coef S k = S.add (p.coef S k) (q.coef S k)) := by
  rw [TieOptim.poly_add_tie, TieOptim.poly_mul_tie]
  exact C13.poly_mul_truncation hS maxCoeffs hp hq

end TieOptimSource

#print axioms TieOptimSource.marginalMap_opt_source
#print axioms TieOptimSource.marginalMap_ge_source
#print axioms TieOptimSource.meu_opt_source
#print axioms TieOptimSource.meu_ub_sound_source
#print axioms TieOptimSource.bb_opt_source
#print axioms TieOptimSource.bb_real_opt_source
#print axioms TieOptimSource.bb_eu_opt_source
#print axioms TieOptimSource.ff_mul_source
#print axioms TieOptimSource.ff_mul_exported_source
#print axioms TieOptimSource.ff_mul_loop_source
#print axioms TieOptimSource.poly_wf_source
#print axioms TieOptimSource.poly_semiring_source
#print axioms TieOptimSource.poly_mul_truncation_source
