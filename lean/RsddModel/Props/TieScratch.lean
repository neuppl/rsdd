import RsddModel.Model.GenScratch
/-!
# Tie to the source text (translator route): the per-node scratch cells and the memoised traversals

`RsddModel/Model/GenScratch.lean` is rewritten by `tools/gen_scratch.py` from `src/repr/bdd.rs`, `src/repr/ddnnf.rs`
and the two builders on every run.  The theorems below state that the regenerated definitions ARE the definitions
of `Model/Scratch.lean` (`Scratch.*`, `Query.*`).  A recursive Rust function is generated as a step function
(its recursive calls are the first argument) plugged into `Scratch.Tr.knot`; by `knot_eq` its tie is two
non-recursive equations, the one for a node after a case on what the node's cell holds.

How a tie is proved here: `first | rfl | …`.  `rfl` closes the literally equal translations and the alias mode
(a function outside the translator's grammar is generated as an alias of the model, status `UNTRANSLATED`); the
next alternative unfolds the source as it stands; what is left goes to `tie_close`, whose later alternatives
absorb swapped independent `let`s, an explicit `return`, reordered `match` arms, an inverted `if`,
`let … else` and early returns.
The `census_*` ties say which scratch primitives a function calls directly; `bddOverrides_tie` that
`impl DDNNFPtr for BddPtr` overrides none of the default methods.
-/
set_option linter.unusedSectionVars false
set_option linter.unusedSimpArgs false
namespace TieScratch
open Scratch Scratch.Tr
section
variable {Tag : Type} [DecidableEq Tag] {U : Tag → Type}

theorem neg_tie (r : Ref) : Gen.Scr.neg r = Ref.neg r := by
  first | rfl | (cases r <;> simp [Gen.Scr.neg, Ref.neg]; done)
theorem isNeg_tie (r : Ref) : Gen.Scr.isNeg r = Ref.isNeg r := by
  first | rfl | (cases r <;> simp [Gen.Scr.isNeg, Ref.isNeg]; done)
theorem isConst_tie (r : Ref) : Gen.Scr.isConst r = Tr.isConst r := by
  first | rfl | (cases r <;> simp [Gen.Scr.isConst, Tr.isConst, Ref.idx?]; done)
theorem low_tie (pv : PV) : Gen.Scr.low pv = Tr.low pv := by
  first | rfl | (cases pv <;> simp [Gen.Scr.low, Tr.low, neg_tie]; done)
theorem high_tie (pv : PV) : Gen.Scr.high pv = Tr.high pv := by
  first | rfl | (cases pv <;> simp [Gen.Scr.high, Tr.high, neg_tie]; done)
theorem lowRaw_tie (pv : PV) : Gen.Scr.lowRaw pv = Tr.lowRaw pv := by
  first | rfl | (cases pv <;> simp [Gen.Scr.lowRaw, Tr.lowRaw, neg_tie]; done)
theorem highRaw_tie (pv : PV) : Gen.Scr.highRaw pv = Tr.highRaw pv := by
  first | rfl | (cases pv <;> simp [Gen.Scr.highRaw, Tr.highRaw, neg_tie]; done)
theorem isScratchCleared_tie (σ : Scr U) (pv : PV) : Gen.Scr.isScratchCleared σ pv = Tr.isScratchCleared σ pv := by
  first
  | rfl
  | (cases pv <;> simp [Gen.Scr.isScratchCleared, Tr.isScratchCleared, PV.ref, Ref.idx?]; done)
theorem scratch_tie {X : Type} (cast : Cell U → Option X) (σ : Scr U) (pv : PV) :
    Gen.Scr.scratch cast σ pv = Tr.scratch cast σ pv := by
  first
  | rfl
  | (cases pv <;> rfl)
  | (cases pv <;> simp [Gen.Scr.scratch, Tr.scratch, isScratchCleared_tie, Tr.isScratchCleared, PV.ref, Ref.idx?] <;>
      (first | done | (split <;> simp_all; done) | (cases (σ _).isSome <;> simp; done)))
theorem setScratch_tie {X : Type} (box : X → Cell U) (σ : Scr U) (pv : PV) (v : X) :
    Gen.Scr.setScratch box σ pv v = Tr.setScratch box σ pv v := by
  first
  | rfl
  | (cases pv <;> simp [Gen.Scr.setScratch, Tr.setScratch, PV.ref, Ref.idx?]; done)

/-- everything a traversal's step is unfolded with (a tactic of this file; `tie_unfold` in `TieCompileAux` is a simp set) -/
macro "tie_unfold" : tactic => `(tactic|
  simp [Gen.Scr.clearStep, Gen.Scr.bddFoldStep, Gen.Scr.foldStep, Gen.Scr.countStep,
    neg_tie, isNeg_tie, isConst_tie, low_tie, high_tie, lowRaw_tie, highRaw_tie, isScratchCleared_tie, scratch_tie,
    setScratch_tie, Tr.isConst, Tr.low, Tr.high, Tr.lowRaw, Tr.highRaw, Tr.isScratchCleared,
    scratch_reg, scratch_compl, castOK_asPair, castOK_asCount, castOK_asPtr, Tr.setScratch, Tr.theVar,
    PV.const, PV.node, PV.ref, Ref.idx?, Ref.isNeg, Ref.neg,
    Scratch.clearScratch, Scratch.foldDag, Scratch.bddFoldDag, Scratch.countH,
    Scratch.probeFold, Scratch.storeFold, Scratch.probeBdd, Scratch.Alg.ofF, Scratch.Alg.leaf, Scratch.bddAlg])

/-- closes the goals left after the cached pair has been case-split (this file's own `tie_close`): `rfl`, else
unfold everything and split the remaining `if`/`match`, simplifying before or after the split -/
macro "tie_close" : tactic => `(tactic|
  first
  | rfl
  | (tie_unfold <;> (repeat' split) <;> simp_all; done)
  | (tie_unfold <;> simp_all <;> (repeat' split) <;> simp_all; done))

theorem clearScratch_tie : Gen.Scr.clearScratch (U := U) = Scratch.clearScratch := by
  first
  | rfl
  | (unfold Gen.Scr.clearScratch
     apply knot_eq
     · intro r σ; cases r <;> tie_close
     · intro n rest r σ
       cases r
       · tie_close
       · tie_close
       all_goals
         simp only [Scratch.clearScratch, Ref.idx?]
         exact ite_congr rfl (fun _ => by tie_close) (fun _ => rfl))

theorem bddFoldDag_tie (t : Tag) (f : Nat → U t → U t → U t) (lowV highV : U t) :
    Gen.Scr.bddFoldDag t f lowV highV = Scratch.bddFoldDag t f lowV highV := by
  first
  | rfl
  | (unfold Gen.Scr.bddFoldDag
     apply knot_eq
     · intro r σ; cases r <;> tie_close
     · intro n rest r σ
       cases r
       · tie_close
       · tie_close
       all_goals
         simp only [Scratch.bddFoldDag, Ref.idx?]
         refine ite_congr rfl (fun _ => ?_) (fun _ => rfl)
         -- both sides look up the cell of the node's own index; then one case per content
         simp only [PV.node, Gen.Scr.bddFoldStep, scratch_tie, scratch_reg _ (castOK_asPair t), scratch_compl _ (castOK_asPair t)]
         generalize hc : (σ _).asPair t = c
         rcases c with _ | ⟨_ | a, _ | b⟩ <;> tie_close)

theorem bddFold_tie (t : Tag) (f : Nat → U t → U t → U t) (lowV highV : U t) (s : Store) (r : Ref) (σ : Scr U) :
    Gen.Scr.bddFold t f lowV highV s r σ = Scratch.bddFold t f lowV highV s r σ := by
  first
  | rfl
  | (simp [Gen.Scr.bddFold, Scratch.bddFold, bddFoldDag_tie, clearScratch_tie]; done)

theorem foldDag_tie (t : Tag) (f : DDNNF (U t) → U t) :
    Gen.Scr.foldDag t f = Scratch.foldDag t (Alg.ofF f) := by
  first
  | rfl
  | (unfold Gen.Scr.foldDag
     apply knot_eq
     · intro r σ; cases r <;> tie_close
     · intro n rest r σ
       cases r
       · tie_close
       · tie_close
       all_goals
         simp only [Scratch.foldDag, Ref.idx?]
         refine ite_congr rfl (fun _ => ?_) (fun _ => rfl)
         simp only [PV.node, Gen.Scr.foldStep, scratch_tie, scratch_reg _ (castOK_asPair t), scratch_compl _ (castOK_asPair t)]
         generalize hc : (σ _).asPair t = c
         rcases c with _ | ⟨_ | a, _ | b⟩ <;> tie_close)

theorem fold_tie (t : Tag) (f : DDNNF (U t) → U t) (s : Store) (r : Ref) (σ : Scr U) :
    Gen.Scr.fold t f s r σ = Scratch.fold t (Alg.ofF f) s r σ := by
  first
  | rfl
  | (simp [Gen.Scr.fold, Scratch.fold, foldDag_tie, clearScratch_tie]; done)

theorem countH_tie : Gen.Scr.countH (U := U) = Scratch.countH := by
  first
  | rfl
  | (unfold Gen.Scr.countH
     apply knot_eq
     · intro r σ; cases r <;> tie_close
     · intro n rest r σ
       cases r
       · tie_close
       · tie_close
       all_goals
         simp only [Scratch.countH, Ref.idx?]
         refine ite_congr rfl (fun _ => ?_) (fun _ => rfl)
         simp only [PV.node, Gen.Scr.countStep, scratch_tie, scratch_reg _ castOK_asCount, scratch_compl _ castOK_asCount]
         generalize hc : (σ.1 _).asCount = c
         rcases c with _ | a <;> tie_close)

theorem countNodes_tie (s : Store) (r : Ref) (σ : Scr U) :
    Gen.Scr.countNodes s r σ = Scratch.countNodes s r σ := by
  first
  | rfl
  | (simp [Gen.Scr.countNodes, Scratch.countNodes, countH_tie, clearScratch_tie]; done)

/-! ## `src/repr/ddnnf.rs` -/

theorem wmcF_tie {α : Type} (S : SROps α) (w : Spec.Weights α) (d : DDNNF α) :
    Gen.Scr.wmcF S w d = Scratch.wmcF S w d := by
  first
  | rfl
  | (cases d <;> rfl)
  | (cases d <;> simp [Gen.Scr.wmcF, Scratch.wmcF] <;> split <;> simp_all; done)

theorem unsmoothedWmcAlg_tie {α : Type} (S : SROps α) (w : Spec.Weights α) :
    Gen.Scr.unsmoothedWmcAlg S w = Scratch.wmcAlg S w := by
  first
  | rfl
  | (have h : Gen.Scr.wmcF S w = Scratch.wmcF S w := funext (wmcF_tie S w)
     simp only [Gen.Scr.unsmoothedWmcAlg, Scratch.wmcAlg, h]; done)

theorem unsmoothedWmc_tie (t : Tag) (S : SROps (U t)) (w : Spec.Weights (U t)) :
    Gen.Scr.unsmoothedWmc t S w = Query.wmc t S w := by
  first
  | rfl
  | (simp only [Gen.Scr.unsmoothedWmc, Query.wmc, unsmoothedWmcAlg_tie]; done)

theorem evaluateAlg_tie (inst : Spec.Assign) : Gen.Scr.evaluateAlg inst = Scratch.evalAlg inst := by
  first
  | rfl
  | (simp [Gen.Scr.evaluateAlg, Scratch.evalAlg, unsmoothedWmcAlg_tie]; done)

theorem evaluate_tie (t : Tag) (h : U t = Bool) (inst : Spec.Assign) :
    Gen.Scr.evaluate t h inst = Query.evaluate t h inst := by
  first
  | rfl
  | (simp only [Gen.Scr.evaluate, Query.evaluate, evaluateAlg_tie]; done)

theorem semanticHashAlg_tie (P : Nat) (w : Spec.Weights Nat) :
    Gen.Scr.semanticHashAlg P w = Scratch.wmcAlg (Sem.ffOps P) w := by
  first
  | rfl
  | (simp only [Gen.Scr.semanticHashAlg, unsmoothedWmcAlg_tie]; done)

theorem semanticHash_tie (t : Tag) (h : U t = Nat) (P : Nat) (w : Spec.Weights Nat) :
    Gen.Scr.semanticHash t h P w = Query.semanticHash t h P w := by
  first
  | rfl
  | (simp only [Gen.Scr.semanticHash, Query.semanticHash, semanticHashAlg_tie]; done)

/-- `impl DDNNFPtr for BddPtr` keeps the three default methods (no override bypasses `fold`) -/
theorem bddOverrides_tie : Gen.Scr.bddOverrides = [] := rfl

/-- the query constructor `.fold` of the model runs the regenerated `fold` -/
theorem runQuery_fold (st : St U) (r : Ref) (t : Tag) (f : DDNNF (U t) → U t) :
    runQuery st r (.fold t (Alg.ofF f)) =
      (.val t (Gen.Scr.fold t f st.store r st.scr).1, ⟨st.store, (Gen.Scr.fold t f st.store r st.scr).2⟩) := by
  simp only [runQuery, fold_tie]

/-! ## the builders' `condition` -/

theorem condition_tie (lt : Nat → Nat → Bool) (x : Nat) (b : Bool) (s : Store) (r : Ref) (σ : Scr U) :
    Gen.Scr.condition lt x b s r σ = Scratch.condition lt x b s r σ := by
  first
  | rfl
  | (simp [Gen.Scr.condition, Scratch.condition, clearScratch_tie]; done)

theorem dnnfCondition_tie (x : Nat) (b : Bool) (s : Store) (r : Ref) (σ : Scr U) :
    Gen.Scr.dnnfCondition x b s r σ = Scratch.dnnfCondition x b s r σ := by
  first
  | rfl
  | (simp [Gen.Scr.dnnfCondition, Scratch.dnnfCondition, clearScratch_tie]; done)

/-! ## census: which functions touch the scratch API directly
(the model: the optimisation queries only through `bdd_fold`; `cond_with_alloc`, smoothing and the
serialiser not at all; `condition_model` clears once; `DecisionNNFBuilder::cond_helper` only reads) -/

theorem census_marginal_map_eval_tie : Gen.Scr.census_marginal_map_eval = [] := rfl
theorem census_marginal_map_h_tie : Gen.Scr.census_marginal_map_h = [] := rfl
theorem census_marginal_map_tie : Gen.Scr.census_marginal_map = [] := rfl
theorem census_meu_h_tie : Gen.Scr.census_meu_h = [] := rfl
theorem census_meu_tie : Gen.Scr.census_meu = [] := rfl
theorem census_bb_ub_tie : Gen.Scr.census_bb_ub = [] := rfl
theorem census_bb_h_tie : Gen.Scr.census_bb_h = [] := rfl
theorem census_bb_tie : Gen.Scr.census_bb = [] := rfl
theorem census_cond_with_alloc_tie : Gen.Scr.census_cond_with_alloc = [] := rfl
theorem census_cond_helper_tie : Gen.Scr.census_cond_helper = [] := rfl
theorem census_cond_model_h_tie : Gen.Scr.census_cond_model_h = [] := rfl
theorem census_condition_model_tie : Gen.Scr.census_condition_model = ["clear_scratch"] := rfl
theorem census_smooth_helper_tie : Gen.Scr.census_smooth_helper = [] := rfl
theorem census_dnnf_cond_helper_tie : Gen.Scr.census_dnnf_cond_helper = ["scratch"] := rfl
theorem census_serialize_helper_tie : Gen.Scr.census_serialize_helper = [] := rfl
theorem census_from_bdd_tie : Gen.Scr.census_from_bdd = [] := rfl

end

/-! ## the regenerated traversals run: a diamond with a complemented and a regular edge to one node
(the C10 statements about them are in `Props/TieScratchSource.lean`) -/

-- a diamond: node 0 = (x1 ? T : F), node 1 = (x0 ? reg 0 : compl 0); fold twice, count, clear
def exStore : Store := Store.ofList [⟨1, .fls, .tru⟩, ⟨0, .compl 0, .reg 0⟩]
abbrev exU : Unit → Type := fun _ => Nat
example : (Gen.Scr.countNodes (U := exU) exStore (.reg 1) Scr.clear).1 = 2 := by decide
example : ((Gen.Scr.countNodes (U := exU) exStore (.reg 1) Scr.clear).2).occupied 2 = [false, false] := by decide
example : (Gen.Scr.bddFold (U := exU) () (fun _ l h => l + h) 0 1 exStore (.reg 1) Scr.clear).1 = 2 := by decide
example : ((Gen.Scr.foldDag (U := exU) () (Scratch.wmcF ⟨0, 1, (· + ·), (· * ·)⟩ (fun _ => (1, 1))) exStore (.reg 1) Scr.clear).2).occupied 2
    = [true, true] := by decide

#print axioms neg_tie
#print axioms isNeg_tie
#print axioms isConst_tie
#print axioms low_tie
#print axioms high_tie
#print axioms lowRaw_tie
#print axioms highRaw_tie
#print axioms isScratchCleared_tie
#print axioms scratch_tie
#print axioms setScratch_tie
#print axioms clearScratch_tie
#print axioms bddFoldDag_tie
#print axioms bddFold_tie
#print axioms foldDag_tie
#print axioms fold_tie
#print axioms countH_tie
#print axioms countNodes_tie
#print axioms wmcF_tie
#print axioms unsmoothedWmcAlg_tie
#print axioms unsmoothedWmc_tie
#print axioms evaluateAlg_tie
#print axioms evaluate_tie
#print axioms semanticHashAlg_tie
#print axioms semanticHash_tie
#print axioms bddOverrides_tie
#print axioms runQuery_fold
#print axioms condition_tie
#print axioms dnnfCondition_tie
#print axioms census_marginal_map_eval_tie
#print axioms census_marginal_map_h_tie
#print axioms census_marginal_map_tie
#print axioms census_meu_h_tie
#print axioms census_meu_tie
#print axioms census_bb_ub_tie
#print axioms census_bb_h_tie
#print axioms census_bb_tie
#print axioms census_cond_with_alloc_tie
#print axioms census_cond_helper_tie
#print axioms census_cond_model_h_tie
#print axioms census_condition_model_tie
#print axioms census_smooth_helper_tie
#print axioms census_dnnf_cond_helper_tie
#print axioms census_serialize_helper_tie
#print axioms census_from_bdd_tie
end TieScratch
