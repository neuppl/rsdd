import RsddModel.Lemmas.Smooth
/-!
# C08 — smoothing

"Smoothing a BDD over the first n variables of the builder's order returns a diagram that
denotes the same function and on which every root-to-terminal path tests each of those n
variables exactly once, in order.  Its weighted model count therefore equals the brute-force
weighted sum over models for arbitrary, non-normalised weights, and its unweighted count
equals the number of models."

`smooth lvl varAt p n` mirrors `RobddBuilder::smooth(bdd, num_vars)` with the repaired
`smooth_helper`; `lvl` = `VarOrder::get`, `varAt` = `VarOrder::var_at_level`.  The hypotheses
are those the Rust documents ("BDD is an ROBDD, variable ordering respects the builder's
order"): `p` is ordered by `lvl` with all levels `< n` (`Ptr.ordBetween lvl 0 n`), and
`varAt`/`lvl` are inverse on the first `n` levels and on the variables of `p`.  Reducedness
is not needed.  `smoothH_orig_wrong` records that the repository's helper violates every clause
but the first.
-/
namespace C08
open Spec Bdd
variable {α : Type} {S : SROps α}

/-- Clause 1: the smoothed diagram denotes the same function (no hypothesis at all). -/
theorem smooth_same_function (lvl varAt : Nat → Nat) (p : Ptr) (n : Nat) (a : Assign) :
    (smooth lvl varAt p n).eval a = p.eval a := smooth_eval lvl varAt p n a

/-- Clause 2: every root-to-terminal path of the smoothed diagram tests exactly the variables
at levels `0, 1, …, n-1`, each exactly once, in this order. -/
theorem smooth_paths_exact {lvl varAt : Nat → Nat} {n : Nat} {p : Ptr}
    (hinv : ∀ i, i < n → lvl (varAt i) = i) (hv : ∀ v ∈ p.vars, varAt (lvl v) = v)
    (hord : p.ordBetween lvl 0 n) :
    (∀ path ∈ (smooth lvl varAt p n).paths, path = (List.range n).map varAt) ∧
    ((List.range n).map varAt).Nodup := by
  have e : levelVars varAt 0 n = (List.range n).map varAt := by
    rw [levelVars_eq_range]; simp
  rw [← e]
  exact ⟨smooth_paths lvl varAt n 0 p (by simpa using hord) hv, levelVars_nodup hinv n 0 (by omega)⟩

/-- the same from an arbitrary level `cur` on, for the helper -/
theorem smoothH_paths_exact (lvl varAt : Nat → Nat) (n cur : Nat) (p : Ptr)
    (hord : p.ordBetween lvl cur (cur + n)) (hv : ∀ v ∈ p.vars, varAt (lvl v) = v) :
    ∀ path ∈ (smoothH lvl varAt n cur p).paths,
      path = (List.range n).map (fun i => varAt (cur + i)) := by
  rw [← levelVars_eq_range]; exact smooth_paths lvl varAt n cur p hord hv

/-- Clause 3: for arbitrary, non-normalised weights the count of the smoothed diagram is the
brute-force weighted sum over the models of `p` among the `2^n` assignments of the first `n`
variables (the recursive form needs no semiring law, the list form the commutative-semiring
laws). -/
theorem smooth_wmc (hS : S.Laws) (w : Weights α) {lvl varAt : Nat → Nat} {n : Nat} {p : Ptr}
    (hinv : ∀ i, i < n → lvl (varAt i) = i) (hv : ∀ v ∈ p.vars, varAt (lvl v) = v)
    (hord : p.ordBetween lvl 0 n) (a : Assign) :
    wmc S w (smooth lvl varAt p n) = wsumList S (levelVars varAt 0 n) w p.eval a ∧
    wmc S w (smooth lvl varAt p n) = wsum S (levelVars varAt 0 n) w p.eval a ∧
    (allAssignments (levelVars varAt 0 n) a).length = 2 ^ n := by
  have h := wmc_smooth S w hinv hv hord a
  refine ⟨h.trans (wsum_eq_wsumList hS w _ _ a (levelVars_nodup hinv n 0 (by omega))), h, ?_⟩
  rw [allAssignments_length]; simp [levelVars]

/-- Clause 3, the general principle: any diagram all of whose paths test exactly the
duplicate-free list `vars` counts the brute-force sum, arbitrary weights. -/
theorem smooth_diagram_wmc (hS : S.Laws) (w : Weights α) {vars : List Nat} {q : Ptr}
    (h : ∀ path ∈ q.paths, path = vars) (hnd : vars.Nodup) (a : Assign) :
    wmc S w q = wsumList S vars w q.eval a :=
  (wmc_allpaths S w h hnd a).trans (wsum_eq_wsumList hS w _ _ a hnd)

/-- Clause 4: the unweighted count (all weights one, natural numbers) of the smoothed diagram
is the number of models of `p` among the assignments of the first `n` variables. -/
theorem smooth_count {lvl varAt : Nat → Nat} {n : Nat} {p : Ptr}
    (hinv : ∀ i, i < n → lvl (varAt i) = i) (hv : ∀ v ∈ p.vars, varAt (lvl v) = v)
    (hord : p.ordBetween lvl 0 n) (a : Assign) :
    wmc countOps (fun _ => (1, 1)) (smooth lvl varAt p n) =
      (allAssignments (levelVars varAt 0 n) a).countP p.eval :=
  count_smooth hinv hv hord a

/-- The repository's `smooth_helper` (no level test) is wrong: on `x2`, identity order on three
variables, it yields the path `[2,1,2]` and, with weights `(2,3),(3,5),(4,7)`, the count 616
where the brute-force sum — and the repaired helper — give 280. -/
theorem smoothH_orig_wrong :
    let p := Ptr.node false 2 .fls .tru
    [2, 1, 2] ∈ (smoothHOrig id id 3 0 p).paths ∧
    wmc countOps wrongW (smoothHOrig id id 3 0 p) = 616 ∧
    wsum countOps [0, 1, 2] wrongW p.eval (fun _ => false) = 280 ∧
    wmc countOps wrongW (smooth id id p 3) = 280 := smoothOrig_wrong

/-! ## non-vacuity: `¬x2 ∨ x1`-like diagram under the order `2 < 0 < 1` -/

/-- order `2 < 0 < 1` -/
def exLvl : Nat → Nat := fun v => if v = 2 then 0 else if v = 0 then 1 else if v = 1 then 2 else v
def exVarAt : Nat → Nat := fun k => if k = 0 then 2 else if k = 1 then 0 else if k = 2 then 1 else k
/-- `ite(x2, ¬x1, ⊤)` with a complement edge; level 1 (variable 0) is skipped -/
def ex : Ptr := .node false 2 .tru (.node true 1 .fls .tru)

theorem ex_inv : ∀ i, i < 3 → exLvl (exVarAt i) = i := by decide
theorem ex_vars : ∀ v ∈ ex.vars, exVarAt (exLvl v) = v := by decide
theorem ex_ord : ex.ordBetween exLvl 0 3 := by simp [ex, Ptr.ordBetween, exLvl]

example : ∀ path ∈ (smooth exLvl exVarAt ex 3).paths, path = [2, 0, 1] :=
  (smooth_paths_exact ex_inv ex_vars ex_ord).1

example : wmc countOps wrongW (smooth exLvl exVarAt ex 3) =
    wsumList countOps [2, 0, 1] wrongW ex.eval (fun _ => false) :=
  (smooth_wmc countOps_laws wrongW ex_inv ex_vars ex_ord _).1

example : wmc countOps wrongW (smooth exLvl exVarAt ex 3) = 265 ∧
    wmc countOps wrongW ex = 25 ∧
    wmc countOps (fun _ => (1, 1)) (smooth exLvl exVarAt ex 3) = 6 := by decide

end C08

#print axioms C08.smooth_same_function
#print axioms C08.smooth_paths_exact
#print axioms C08.smoothH_paths_exact
#print axioms C08.smooth_wmc
#print axioms C08.smooth_diagram_wmc
#print axioms C08.smooth_count
#print axioms C08.smoothH_orig_wrong
