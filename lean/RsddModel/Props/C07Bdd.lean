import RsddModel.Lemmas.Wmc
/-!
# C07 (BDD / decision-DNNF part)

"For any diagram and any weights whose low and high weight sum to the semiring's one on every
variable, the weighted model count equals the semiring sum over all satisfying assignments of
the product of the chosen literal weights, independently of order, complement edges or node
sharing, and Boolean evaluation of an assignment agrees with the denoted function.  For a BDD
and arbitrary weights the count equals that sum taken only over the variables each
sub-function actually depends on."

Reading.  A diagram is a `Bdd.Ptr` tree with complement flags (`wmc` mirrors
`unsmoothed_wmc` through `BddPtr::fold`; the memo of the fold, i.e. node sharing, is the
subject of C10 — a tree-level statement holds for every sharing of that tree).  "Any diagram"
is every *free* one (`Ptr.free`: no variable decided twice on a path — all ROBDDs of all
orders and all decision-DNNF results; for a non-free diagram such as `ite(x, x, ⊥)` built by
hand the statement is false and the Rust builders never produce one).
-/
namespace C07Bdd
open Spec Bdd
variable {α : Type} {S : SROps α}

/-- Clause 1: normalised weights.  The count is the brute-force sum, over the explicit list of
the `2^|vars|` assignments of `vars`, of `[p holds] · ∏ chosen literal weights`, for every
duplicate-free `vars` that covers the diagram, whatever the base assignment. -/
theorem wmc_eq_bruteforce (hS : S.Laws) (w : Weights α) {p : Ptr} (hf : p.free) {vars : List Nat}
    (hnd : vars.Nodup) (hsub : ∀ v ∈ p.vars, v ∈ vars) (hw : Normalised S w vars) (a : Assign) :
    wmc S w p = wsumList S vars w p.eval a ∧
    wmc S w p = wsum S vars w p.eval a ∧
    (allAssignments vars a).length = 2 ^ vars.length :=
  ⟨(wmc_free hS w hf hsub hw a).trans (wsum_eq_wsumList hS w _ vars a hnd),
   wmc_free hS w hf hsub hw a, allAssignments_length vars a⟩

/-- Clause 1, "independently of order": the sum does not change when the variables are listed
in another order (so the diagram's order is irrelevant), and two free diagrams of the same
function built under different orders have the same count. -/
theorem wmc_order_independent (hS : S.Laws) (w : Weights α) {p q : Ptr} (hp : p.free) (hq : q.free)
    {vars vars' : List Nat} (hperm : vars.Perm vars') (hnd : vars.Nodup)
    (hsubp : ∀ v ∈ p.vars, v ∈ vars) (hsubq : ∀ v ∈ q.vars, v ∈ vars') (hw : Normalised S w vars)
    (heq : ∀ a, p.eval a = q.eval a) (a : Assign) :
    wsum S vars w p.eval a = wsum S vars' w p.eval a ∧ wmc S w p = wmc S w q := by
  refine ⟨wsum_perm hS w hperm _ a, ?_⟩
  have hw' : Normalised S w vars' := fun v hv => hw v (hperm.mem_iff.mpr hv)
  rw [wmc_free hS w hp hsubp hw a, wmc_free hS w hq hsubq hw' a,
    wsum_perm hS w hperm _ a]
  exact wsum_congr S w _ a heq

/-- Clause 1, "independently of complement edges": `Ptr.eval` interprets complement flags at
every depth, and the count of a complemented pointer is the sum for the negated function. -/
theorem wmc_complement (hS : S.Laws) (w : Weights α) {p : Ptr} (hf : p.free) {vars : List Nat}
    (hnd : vars.Nodup) (hsub : ∀ v ∈ p.vars, v ∈ vars) (hw : Normalised S w vars) (a : Assign) :
    wmc S w p.neg = wsum S vars w (fNot p.eval) a ∧ wmcAux S w p true = wmc S w p.neg :=
  ⟨wmc_neg_free hS w hf hsub hw a, wmcAux_true S w p⟩

/-- Clause 2: Boolean evaluation (`DDNNFPtr::evaluate`, a count in the Boolean semiring) agrees
with the denoted function — for every diagram. -/
theorem evaluate_agrees (p : Ptr) (a : Assign) : evaluate p a = p.eval a := evaluate_eq p a

/-- Clause 3: BDD, arbitrary weights (no normalisation, no semiring law).  For a reduced ordered
BDD over the order `order` the count is the sum taken only over the variables each
sub-function depends on (`Spec.pathCount`). -/
theorem wmc_arbitrary_weights (S : SROps α) (w : Weights α) {order : List Nat} {p : Ptr}
    (hnd : order.Nodup) (h : Robdd order p) (a : Assign) :
    wmc S w p = pathCount S w order p.eval a := wmc_reduced_ordered S w hnd h a

/-- Clause 3 for an order given by `VarOrder`'s level map -/
theorem wmc_arbitrary_weights_lvl (S : SROps α) (w : Weights α) {lvl varAt : Nat → Nat} {m : Nat}
    {p : Ptr} (hinv : ∀ i, i < m → lvl (varAt i) = i) (hv : ∀ v ∈ p.vars, varAt (lvl v) = v)
    (hord : p.ordBetween lvl 0 m) (hred : p.reducedN) (a : Assign) :
    wmc S w p = pathCount S w (levelVars varAt 0 m) p.eval a :=
  wmc_reduced_ordered_lvl S w hinv hv hord hred a

/-! ## non-vacuity -/

/-- the integers as a weight semiring -/
def intOps : SROps Int := ⟨0, 1, (· + ·), (· * ·)⟩
theorem intOps_laws : intOps.Laws where
  add_assoc := Int.add_assoc
  add_comm := Int.add_comm
  add_zero := Int.add_zero
  mul_assoc := Int.mul_assoc
  mul_comm := Int.mul_comm
  mul_one := Int.mul_one
  mul_zero := Int.mul_zero
  left_distrib := Int.mul_add

/-- `¬(x1 ∧ ¬x0)` under the order `1 < 0`, with a complemented root and a complemented edge -/
def ex : Ptr := .node true 1 .fls (.node true 0 .fls .tru)
/-- weights `(-1, 2)` and `(3, -2)`: normalised, not probabilities -/
def exW : Weights Int := fun v => if v = 0 then (-1, 2) else (3, -2)

example : wmc intOps exW ex = wsumList intOps [0, 1] exW ex.eval (fun _ => false) ∧
    wmc intOps exW ex = -1 :=
  ⟨(wmc_eq_bruteforce intOps_laws exW (p := ex) (by decide) (vars := [0, 1]) (by decide)
      (by decide) (by unfold Normalised; decide) _).1, by decide⟩

example : evaluate ex (fun v => v == 1) = false ∧ ex.eval (fun v => v == 1) = false ∧
    evaluate ex (fun _ => false) = true := by decide

/-- `x0 ∨ x1` as a reduced ordered BDD over the order `[0, 1]`, unnormalised weights -/
def exR : Ptr := .node false 0 (.node false 1 .fls .tru) .tru
theorem exR_robdd : Robdd [0, 1] exR :=
  .node (.node (.fls _) (.tru _) (by decide) rfl (by decide)) (.tru _) (by decide) rfl (by decide)

example : wmc intOps (fun _ => (2, 3)) exR = pathCount intOps (fun _ => (2, 3)) [0, 1] exR.eval (fun _ => false) ∧
    wmc intOps (fun _ => (2, 3)) exR = 9 :=
  ⟨wmc_arbitrary_weights intOps _ (by decide) exR_robdd _, by decide⟩

end C07Bdd

#print axioms C07Bdd.wmc_eq_bruteforce
#print axioms C07Bdd.wmc_order_independent
#print axioms C07Bdd.wmc_complement
#print axioms C07Bdd.evaluate_agrees
#print axioms C07Bdd.wmc_arbitrary_weights
#print axioms C07Bdd.wmc_arbitrary_weights_lvl
