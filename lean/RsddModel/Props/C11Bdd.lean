import RsddModel.Lemmas.Wmc
/-!
# C11 (first claims, BDD part) — the semantic hash is a function of the denoted function

"The semantic hash of a diagram is determined by the Boolean function it denotes: diagrams of
the same function, of any order or construction history, hash equally; a negation hashes to
one minus the hash."

The semantic hash of a BDD is its `wmc` in a finite field with weights `lo + hi = 1`
(`BddPtr::semantic_hash` = `unsmoothed_wmc` over `FiniteField<P>` with a
`WmcParams` map generated so that `low + high = 1`).  The statements are for every operations
record satisfying the commutative-semiring laws, hence for the field.  Diagrams are *free*
(`Ptr.free`, no variable tested twice on a path: every ROBDD of every order and every
decision-DNNF); the two diagrams of `same_function_same_hash` may be ordered differently,
reduced or not, with complement edges anywhere.
-/
namespace C11Bdd
open Spec Bdd
variable {α : Type} {S : SROps α}

/-- Clause 1: two free diagrams that denote the same Boolean function hash equally, whatever
their orders and shapes (weights normalised on the variables they mention). -/
theorem same_function_same_hash (hS : S.Laws) (w : Weights α) {p q : Ptr} (hp : p.free) (hq : q.free)
    (hw : ∀ v, v ∈ p.vars ∨ v ∈ q.vars → S.add (w v).1 (w v).2 = S.one)
    (heq : ∀ a, p.eval a = q.eval a) : wmc S w p = wmc S w q :=
  hash_denotational hS w hp hq hw heq

/-- Clause 1, explicit form: the hash *is* the weighted sum of the denoted function over any
duplicate-free variable list covering the diagram — an expression in which the diagram occurs
only through `p.eval`. -/
theorem hash_is_denotational (hS : S.Laws) (w : Weights α) {p : Ptr} (hf : p.free) {vars : List Nat}
    (hnd : vars.Nodup) (hsub : ∀ v ∈ p.vars, v ∈ vars) (hw : Normalised S w vars) (a : Assign) :
    wmc S w p = wsum S vars w p.eval a := wmc_free hS w hf hsub hw a

/-- Clause 2: hash + hash of the negation = one (every diagram, free or not). -/
theorem neg_hash_add (hS : S.Laws) (w : Weights α) (p : Ptr)
    (hw : ∀ v ∈ p.vars, S.add (w v).1 (w v).2 = S.one) :
    S.add (wmc S w p) (wmc S w p.neg) = S.one := hash_neg hS w p hw

/-- Clause 2 with the field's subtraction (any `sub` that cancels addition):
a negation hashes to one minus the hash. -/
theorem neg_hash (hS : S.Laws) (sub : α → α → α) (hsub : ∀ x y, sub (S.add x y) x = y)
    (w : Weights α) (p : Ptr) (hw : ∀ v ∈ p.vars, S.add (w v).1 (w v).2 = S.one) :
    wmc S w p.neg = sub S.one (wmc S w p) := hash_neg_sub hS sub hsub w p hw

/-! ## non-vacuity: the field with 5 elements -/

def f5 : SROps (Fin 5) := ⟨0, 1, (· + ·), (· * ·)⟩
theorem f5_laws : f5.Laws where
  add_assoc := by decide +kernel
  add_comm := by decide +kernel
  add_zero := Fin.add_zero
  mul_assoc := Fin.mul_assoc
  mul_comm := Fin.mul_comm
  mul_one := Fin.mul_one
  mul_zero := Fin.mul_zero
  left_distrib := by decide +kernel

/-- `lo + hi = 1 (mod 5)` on every variable -/
def exW : Weights (Fin 5) := fun v => if v = 0 then (2, 4) else (3, 3)

/-- `x0 ∧ x1` under the order `0 < 1` … -/
def exP : Ptr := .node false 0 .fls (.node false 1 .fls .tru)
/-- … and under the order `1 < 0`, built through De Morgan with complement edges -/
def exQ : Ptr := .node true 1 .tru (.node true 0 .fls .tru)

theorem exPQ (a : Assign) : exP.eval a = exQ.eval a := by
  simp only [exP, exQ, Ptr.eval]; cases a 0 <;> cases a 1 <;> rfl

example : wmc f5 exW exP = wmc f5 exW exQ :=
  same_function_same_hash f5_laws exW (by decide) (by decide)
    (by intro v _; simp only [exW]; split <;> decide) exPQ

example : wmc f5 exW exP = 2 ∧ wmc f5 exW exQ = 2 ∧ wmc f5 exW exP.neg = 4 ∧
    wmc f5 exW exP.neg = 1 - wmc f5 exW exP := by decide

example : wmc f5 exW exP.neg = 1 - wmc f5 exW exP :=
  neg_hash f5_laws (· - ·) (by decide) exW exP (by intro v _; simp only [exW]; split <;> decide)

end C11Bdd

#print axioms C11Bdd.same_function_same_hash
#print axioms C11Bdd.hash_is_denotational
#print axioms C11Bdd.neg_hash_add
#print axioms C11Bdd.neg_hash
