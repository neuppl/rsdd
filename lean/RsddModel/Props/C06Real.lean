import RsddModel.Lemmas.UpSolverSpec
import RsddModel.Props.C06
/-!
# C06, instantiated: the top-down compiler run on the mirrored REAL `SATSolver`

`Props/C06.lean` proves `compile_cnf_topdown` correct for every solver satisfying the contract
`SolverSpec` + `NewSpec` + `HashSound` + `FreeDecide` (`Lemmas/TopDownSolver.lean`) and shows the
contract satisfiable by the reference solver `NaiveSolver`.  `Lemmas/UpSolverSpec.lean` proves the
contract for `TopDown.UpSolver`, the executable model of `SATSolver`/`UnitPropagate` of
`src/repr/unit_prop.rs` (watched literals, prime-product hash, satisfied-clause set, state stack)
that the differential streams `up` and `td` compare with the implementation — the `td` stream
checks that `TopDown.compileTopdown UpSolver standardStore` reproduces the real compiler's
diagram node for node.  Here the two are put together.

Hypotheses of the final theorem, all explicit:
* the clause list is what `Cnf::new` stores (`cnfNew raw`, for every raw clause list; or any list
  in that normal form);
* the order maps the levels below `numVars` onto labels `< num_vars` and enumerates the variables
  of the clause list (every permutation of `0..num_vars-1` does: `compileTopdown_real_perm`);
* NO-WRAP: the product of the primes of all literal occurrences of the hashed clauses is below
  `2^128`.  The hash is computed with `wrapping_mul`; without this bound equal cache keys do not
  imply equal residual formulas, and the theorem is not claimed.

Conclusion: the returned diagram denotes the clause list on ALL assignments (tautological clauses
included), no path decides a variable twice, and it is the false constant iff the clause list is
unsatisfiable.
-/
namespace C06Real
open Spec Bdd TopDown

/-- **`compile_cnf_topdown` on the mirrored real solver, any clause list in `Cnf::new` normal
form, standard node store.** -/
theorem compileTopdown_real_normal (cnf : Cnf) (hN : UnitProp.CnfNormal cnf) (varAt : Nat → Nat)
    (numVars : Nat)
    (hvarAt : ∀ v, InCnf cnf v → ∃ i, i < numVars ∧ varAt i = v)
    (hrange : ∀ i, i < numVars → varAt i < cnfNumVars cnf)
    (hnowrap : UnitProp.totalWeight (UnitProp.weighClauses (UnitProp.normClauses cnf) 1) < 2 ^ 128) :
    (∀ a, (compileTopdown UpSolver standardStore varAt cnf numVars ()).1.eval a = cnfSat a cnf) ∧
    (compileTopdown UpSolver standardStore varAt cnf numVars ()).1.free ∧
    ((compileTopdown UpSolver standardStore varAt cnf numVars ()).1 = .fls ↔ ∀ a, cnfSat a cnf = false) := by
  simpa only [cnfSat_ntCnf] using C06.compileTopdown_correct (upSpec cnf hN) varAt (up_hashSound cnf hN hnowrap)
    (up_freeDecide cnf hN) cnf numVars (up_newSpec cnf hN numVars)
    (fun v hv => hvarAt v (InCnf_ntCnf hv)) hrange

/-- **C06 for the real propagator.**  For every raw clause list `raw`, with `cnf := Cnf::new(raw)`:
for every order that maps the levels `< numVars` to labels in range and enumerates the variables,
under the no-wrap hypothesis, the diagram returned by the mirrored `compile_cnf_topdown` on the
mirrored `SATSolver` denotes `cnf` on all assignments, is free (no variable twice on a path), and
is the false constant iff `cnf` is unsatisfiable. -/
theorem compileTopdown_real_correct (raw : Cnf) (varAt : Nat → Nat) (numVars : Nat)
    (hvarAt : ∀ v, InCnf (UnitProp.cnfNew raw) v → ∃ i, i < numVars ∧ varAt i = v)
    (hrange : ∀ i, i < numVars → varAt i < cnfNumVars (UnitProp.cnfNew raw))
    (hnowrap : UnitProp.totalWeight
      (UnitProp.weighClauses (UnitProp.normClauses (UnitProp.cnfNew raw)) 1) < 2 ^ 128) :
    let r := (compileTopdown UpSolver standardStore varAt (UnitProp.cnfNew raw) numVars ()).1
    (∀ a, r.eval a = cnfSat a (UnitProp.cnfNew raw)) ∧ r.free ∧
    (r = .fls ↔ ∀ a, cnfSat a (UnitProp.cnfNew raw) = false) :=
  compileTopdown_real_normal _ (UnitProp.cnfNew_normal raw) varAt numVars hvarAt hrange hnowrap

/-- `Cnf::new` does not change the models (it sorts each clause and removes adjacent repeats) -/
theorem cnfSat_cnfNew (a : Assign) (raw : Cnf) : cnfSat a (UnitProp.cnfNew raw) = cnfSat a raw := by
  unfold UnitProp.cnfNew
  simp only [cnfSat, List.all_map]
  congr 1
  funext c
  simp only [Function.comp, clauseSat]
  rw [Bool.eq_iff_iff, List.any_eq_true, List.any_eq_true]
  constructor
  · rintro ⟨x, hx, h⟩
    exact ⟨x, UnitProp.mem_isort.mp (UnitProp.mem_dedupAdj.mp hx), h⟩
  · rintro ⟨x, hx, h⟩
    exact ⟨x, UnitProp.mem_dedupAdj.mpr (UnitProp.mem_isort.mpr hx), h⟩

/-- the instance with the compiler's own parameters: `numVars = cnf.num_vars()` and an order that
is onto the labels in range (`var_at_level` of a `VarOrder` is a permutation of them); the
denotation is stated for the RAW clause list -/
theorem compileTopdown_real_perm (raw : Cnf) (varAt : Nat → Nat)
    (hrange : ∀ i, i < cnfNumVars (UnitProp.cnfNew raw) → varAt i < cnfNumVars (UnitProp.cnfNew raw))
    (honto : ∀ v, v < cnfNumVars (UnitProp.cnfNew raw) → ∃ i, i < cnfNumVars (UnitProp.cnfNew raw) ∧ varAt i = v)
    (hnowrap : UnitProp.totalWeight
      (UnitProp.weighClauses (UnitProp.normClauses (UnitProp.cnfNew raw)) 1) < 2 ^ 128) :
    let cnf := UnitProp.cnfNew raw
    let r := (compileTopdown UpSolver standardStore varAt cnf (cnfNumVars cnf) ()).1
    (∀ a, r.eval a = cnfSat a raw) ∧ r.free ∧ (r = .fls ↔ ∀ a, cnfSat a raw = false) := by
  simpa only [cnfSat_cnfNew] using compileTopdown_real_correct raw varAt (cnfNumVars (UnitProp.cnfNew raw))
    (fun v hv => honto v (lt_cnfNumVars hv)) hrange hnowrap

/-- the identity order -/
theorem compileTopdown_real_id (raw : Cnf)
    (hnowrap : UnitProp.totalWeight
      (UnitProp.weighClauses (UnitProp.normClauses (UnitProp.cnfNew raw)) 1) < 2 ^ 128) :
    let cnf := UnitProp.cnfNew raw
    let r := (compileTopdown UpSolver standardStore id cnf (cnfNumVars cnf) ()).1
    (∀ a, r.eval a = cnfSat a raw) ∧ r.free ∧ (r = .fls ↔ ∀ a, cnfSat a raw = false) :=
  compileTopdown_real_perm raw id (fun _ h => h) (fun v h => ⟨v, h, rfl⟩) hnowrap

/-- **the semantic node store — PARTIAL: under `CollisionFree`** (`H-coll`, see `Props/C06.lean`),
otherwise the same statement -/
theorem compileTopdown_real_semantic_partial (raw : Cnf) (varAt : Nat → Nat) (numVars : Nat)
    {H : Type} [DecidableEq H] (semHash : Ptr → H) (negH key : H → H) (hcf : CollisionFree semHash negH key)
    (hvarAt : ∀ v, InCnf (UnitProp.cnfNew raw) v → ∃ i, i < numVars ∧ varAt i = v)
    (hrange : ∀ i, i < numVars → varAt i < cnfNumVars (UnitProp.cnfNew raw))
    (hnowrap : UnitProp.totalWeight
      (UnitProp.weighClauses (UnitProp.normClauses (UnitProp.cnfNew raw)) 1) < 2 ^ 128) :
    let r := (compileTopdown UpSolver (semanticStore semHash negH key) varAt (UnitProp.cnfNew raw) numVars []).1
    (∀ a, r.eval a = cnfSat a (UnitProp.cnfNew raw)) ∧ r.free ∧
    (r = .fls ↔ ∀ a, cnfSat a (UnitProp.cnfNew raw) = false) := by
  have hN := UnitProp.cnfNew_normal raw
  simpa only [cnfSat_ntCnf] using C06.compileTopdown_correct_semantic_partial (upSpec _ hN) varAt semHash negH key hcf
    (up_hashSound _ hN hnowrap) (up_freeDecide _ hN) (UnitProp.cnfNew raw) numVars (up_newSpec _ hN numVars)
    (fun v hv => hvarAt v (InCnf_ntCnf hv)) hrange

/-! ## non-vacuity -/

private def p (v : Nat) : Lit := ⟨v, true⟩
private def n (v : Nat) : Lit := ⟨v, false⟩

/-- `(x4) ∧ (x1 ∨ x0 ∨ x0) ∧ (x2 ∨ x3) ∧ (x2 ∨ ¬x2 ∨ x0)`: a unit clause, a repeated literal, a
tautological clause, and a component `(x2 ∨ x3)` reached under `x0 = ⊤` and under `x0 = ⊥, x1 = ⊤` -/
def exRaw : Cnf := [[p 4], [p 1, p 0, p 0], [p 2, p 3], [p 2, n 2, p 0]]

/-- what `Cnf::new` stores -/
example : UnitProp.cnfNew exRaw = [[p 4], [p 0, p 1], [p 2, p 3], [p 0, p 2, n 2]] := by decide +kernel

/-- the hypotheses of `compileTopdown_real_id` hold: the hashed clauses carry the primes
`2, 3·5, 7·11` -/
theorem exRaw_nowrap :
    UnitProp.totalWeight (UnitProp.weighClauses (UnitProp.normClauses (UnitProp.cnfNew exRaw)) 1) < 2 ^ 128 := by
  decide +kernel

/-- the compiled diagram: the root chain for the unit `x4`, the decision on `x0`, the implied
literal `x1` in the low branch, and the shared component `(x2 ∨ x3)` -/
example : (compileTopdown UpSolver standardStore id (UnitProp.cnfNew exRaw) 5 ()).1 =
    .node false 4 .fls
      (.node false 0
        (.node false 1 .fls (.node false 2 (.node false 3 .fls .tru) .tru))
        (.node false 2 (.node false 3 .fls .tru) .tru)) := by decide +kernel

/-- the component-cache hit: after `x0 = ⊤` and after `x0 = ⊥` (which propagates `x1`) the models
differ, the hashes are equal (`2·3·5`: the unit clause and the satisfied clause `x0 ∨ x1`), and
the cache the compiler ends with has the keys `2` (root) and `30` (the component) -/
example :
    withUp (UnitProp.cnfNew exRaw) none (fun s =>
      let a := (UpSolver.decide s (p 0)).2
      let b := (UpSolver.decide s (n 0)).2
      some (a.modelList, b.modelList, a.curHash, b.curHash,
        (topdownH UpSolver standardStore id 5 0 s [] ()).2.2.1.map (fun e => (e.1 : Nat))))
    = some ([some true, none, none, none, some true], [some false, some true, none, none, some true],
        some 30, some 30, ([2, 30, 30] : List Nat)) := by decide +kernel

/-- and the theorem applies to it -/
example :
    let r := (compileTopdown UpSolver standardStore id (UnitProp.cnfNew exRaw) 5 ()).1
    (∀ a, r.eval a = cnfSat a exRaw) ∧ r.free ∧ (r = .fls ↔ ∀ a, cnfSat a exRaw = false) :=
  compileTopdown_real_id exRaw exRaw_nowrap

/-- an unsatisfiable clause list whose conflict is found by propagation during the search:
`(x0 ∨ x1) ∧ (x0 ∨ ¬x1) ∧ (¬x0 ∨ x1) ∧ (¬x0 ∨ ¬x1)` compiles to the false constant -/
example : (compileTopdown UpSolver standardStore id
    (UnitProp.cnfNew [[p 0, p 1], [p 0, n 1], [n 0, p 1], [n 0, n 1]]) 2 ()).1 = .fls := by decide +kernel

/-! ## axioms -/
#print axioms compileTopdown_real_normal
#print axioms compileTopdown_real_correct
#print axioms cnfSat_cnfNew
#print axioms compileTopdown_real_perm
#print axioms compileTopdown_real_id
#print axioms compileTopdown_real_semantic_partial
#print axioms exRaw_nowrap

end C06Real
