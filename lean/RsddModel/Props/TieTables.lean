import RsddModel.Model.GenTables
import RsddModel.Model.Lru
import RsddModel.Model.RobinHood
/-!
# Tie to the source text (translator route): the two hash tables

`RsddModel/Model/GenTables.lean` is rewritten by `tools/gen_tables.py` from `src/util/lru.rs` and
`src/backing_store/bump_table.rs` on every run (statement by statement; see the header of the
translator for the conventions and the trusted mapping).  The theorems below state that the
regenerated definitions ARE the hand-written model definitions `Lru.*` (Model/Lru.lean) and `RH.*`
(Model/RobinHood.lean) every other theorem is about.  They are static; when a statement, an
operand, a branch or a comparison of the source changes, the regenerated definition changes and
the corresponding theorem stops checking.

Shapes of the statements (where the generated and the model definition are not literally the
same function):
* `Lru::insert` and `Lru::grow` are mutually recursive in the Rust; the generated definitions
  take the partner as a parameter (`Gen.Lru.insert num den grow`, `Gen.Lru.grow insert`).
  `lru_insert` ties `needGrow`, `insertNoGrow` and `insert` at once; `lru_grow` is the model's
  `grow` (inner insertions = `insertNoGrow`); `lru_grow_rust` says that with the real partner the
  generated `grow` is `Lru.growRust`-shaped, which `Lru.growRust_eq_grow` (Lemmas/Lru.lean) proves
  equal to `Lru.grow` (see also `Lemmas/TieTablesAux.lean`).
* every Rust `loop` is the generated `<fn>_loop`, tied to the fuel recursion of the model by
  induction on the fuel (`rh_propagate_loop`, `rh_getOrInsertByHash_loop`, `rh_getByHash_loop`).
* the model's `probe`/`getOrInsert` return an extra flag "was a hit" that the Rust does not
  return: the tie is up to the projection `proj`; `Lemmas/TieTablesAux.lean` shows that the flag
  is determined by the tied part (`hits` was incremented).
* `get_or_insert_by_hash` is tied at `equality_by_hash = false`, the only value the model covers.

Each proof is a cascade `first | rfl | simp only [unfold] <;> tie_close | case analysis`.  `rfl` closes the
literally equal translations and the alias mode (a function outside the translator's grammar is generated
as an alias of the model, status `UNTRANSLATED`); the second alternative is the proof for the source as it
stands; the case analyses after it serve harmless re-arrangements of the source (commuted `==`, flipped
comparison, swapped `let`s, `is_none` with swapped branches, `continue` instead of `else`, `mem::swap`,
`Option::replace`, `filter`/`map` instead of `match`).  A generated `<fn>_loop` carries every local of its
function, so `rh_propagate_loop` (`itm`), `rh_getOrInsertByHash_loop` (`num`, `den`) and `rh_getByHash_loop`
(`extra`) have arguments the loop never reads.
-/
set_option linter.unusedSimpArgs false
set_option linter.unusedVariables false
namespace TieTables

/-- closing cascade of this file (the other tie files define their own under the same name): definitional
equality, congruence closure, then case analysis on every `if`/`match` of the goal -/
macro "tie_close" : tactic => `(tactic| first
  | rfl
  | grind
  | ((repeat' split) <;> simp_all <;> grind))

variable {K V : Type}

/-! ## `src/util/lru.rs` -/

theorem lru_powCap : Gen.Lru.powCap = Lru.powCap := by
  first
  | rfl
  | (funext v p; simp only [Gen.Lru.powCap, Lru.powCap] <;> tie_close)
  | (funext v p; simp [Gen.Lru.powCap, Lru.powCap, Nat.shiftLeft_eq] <;> tie_close)

theorem lru_new : @Gen.Lru.new K V = @Lru.new K V := by
  first
  | rfl
  | (funext cap; simp only [Gen.Lru.new, Lru.new] <;> tie_close)

/-- `Lru::insert` (growth test `needGrow`, the body `insertNoGrow`), for every `grow` it calls -/
theorem lru_insert (num den : Nat) (g : Lru.Tbl K V → Lru.Tbl K V) (t : Lru.Tbl K V) (k : K) (v : V)
    (h : Nat) :
    Gen.Lru.insert num den g t k v h
      = Lru.insertNoGrow (if Lru.needGrow num den t then g t else t) k v h := by
  first
  | rfl
  | (simp only [Gen.Lru.insert, Lru.insertNoGrow, Lru.needGrow, lru_powCap] <;> tie_close)
  -- a growth test that is not the model's after unfolding (other locals, flipped comparison): decide `needGrow` first
  | (simp only [Gen.Lru.insert, Lru.insertNoGrow, lru_powCap]
     by_cases hg : Lru.needGrow num den t = true
     all_goals (have hg' := hg; simp only [Lru.needGrow] at hg'; simp [hg, hg'])
     all_goals tie_close)
  -- the same with the product of the load-factor test commuted (`Nat.mul_comm`)
  | (simp only [Gen.Lru.insert, Lru.insertNoGrow, lru_powCap]
     by_cases hg : Lru.needGrow num den t = true
     all_goals (have hg' := hg; simp [Lru.needGrow, Nat.mul_comm] at hg'; simp [hg, hg', Nat.mul_comm])
     all_goals tie_close)

/-- `Lru::insert` with the model's `grow` is the model's `insert` -/
theorem lru_insert_model (num den : Nat) :
    Gen.Lru.insert (K := K) (V := V) num den Lru.grow = Lru.insert num den := by
  funext t k v h
  rw [lru_insert]
  rfl

/-- the body of `Lru::insert` after the growth test is `insertNoGrow` -/
theorem lru_insertNoGrow (num den : Nat) :
    Gen.Lru.insert (K := K) (V := V) num den id = Lru.insertNoGrow := by
  funext t k v h
  rw [lru_insert]
  simp

/-- `Lru::grow`, inner insertions by `insertNoGrow` (the model's reading) -/
theorem lru_grow : Gen.Lru.grow (K := K) (V := V) Lru.insertNoGrow = Lru.grow := by
  first
  | rfl
  | (funext t; simp only [Gen.Lru.grow, Lru.grow, lru_new] <;> tie_close)
  | (funext t; simp only [Gen.Lru.grow, Lru.grow, lru_new]; congr 1 <;> (try congr 1) <;>
      (try (funext acc e; cases e <;> simp)) <;> tie_close)

/-- `Lru::grow` for any inner insertion function: the fold of the Rust loop (`Lru.growRust`-shaped) -/
theorem lru_grow_rust (ins : Lru.Tbl K V → K → V → Nat → Lru.Tbl K V) (t : Lru.Tbl K V) :
    Gen.Lru.grow ins t =
      (let nt := t.tbl.foldl (fun (acc : Lru.Tbl K V) e =>
          match e with
          | some e => ins acc e.key e.val e.hash
          | none => acc) (Lru.new (t.cap + 1))
       ⟨nt.tbl, nt.cap, t.numFilled⟩) := by
  first
  | rfl
  | (simp only [Gen.Lru.grow, lru_new] <;> tie_close)
  | (simp only [Gen.Lru.grow, lru_new]; congr 1 <;> (try congr 1) <;>
      (try (funext acc e; cases e <;> simp)) <;> tie_close)

theorem lru_get [DecidableEq K] : @Gen.Lru.get K V _ = @Lru.get K V _ := by
  first
  | rfl
  | (funext t k h; simp only [Gen.Lru.get, Lru.get, lru_powCap] <;> tie_close)
  | (funext t k h; simp only [Gen.Lru.get, Lru.get, lru_powCap]
     cases hx : t.tbl.getD (Lru.powCap h t.cap) none <;> simp [hx, Option.filter, eq_comm] <;> tie_close)

/-! ## `src/backing_store/bump_table.rs` -/

/-- the `loop` of the free function `propagate` -/
theorem rh_propagate_loop (cap : Nat) (itm : RH.Slot) (fuel : Nat) (v : List RH.Slot) (s : RH.Slot)
    (pos : Nat) :
    Gen.RH.propagate_loop cap itm fuel v s pos = RH.propagate fuel v cap s pos := by
  induction fuel generalizing v s pos with
  | zero => first | rfl | (simp only [Gen.RH.propagate_loop, RH.propagate] <;> tie_close)
  | succ n ih =>
    first
    | (simp only [Gen.RH.propagate_loop, RH.propagate, RH.Slot.occ, ih] <;> tie_close)
    | (simp only [Gen.RH.propagate_loop, RH.propagate, RH.Slot.occ, ih]
       cases hp : (RH.sget v pos).ptr <;> simp [hp] <;> tie_close)

theorem rh_propagate : Gen.RH.propagate = RH.propagate := by
  funext fuel v cap itm pos
  first
  | (simp only [Gen.RH.propagate, rh_propagate_loop]; done)
  | (simp only [Gen.RH.propagate, rh_propagate_loop] <;> tie_close)

theorem rh_new : Gen.RH.new = RH.mk := by
  first
  | rfl
  | (simp only [Gen.RH.new, RH.mk, RH.Slot.empty] <;> tie_close)

theorem rh_verifWithCapacity : Gen.RH.verifWithCapacity = fun cap => RH.mk cap := by
  first
  | rfl
  | (funext cap; simp only [Gen.RH.verifWithCapacity, RH.mk, RH.Slot.empty] <;> tie_close)

theorem rh_grow (extra : Nat) (t : RH.Tbl) : Gen.RH.grow extra t = RH.grow t extra := by
  first
  | rfl
  | (simp only [Gen.RH.grow, RH.grow, rh_propagate, RH.Slot.occ, RH.Slot.empty] <;> tie_close)
  | (simp only [Gen.RH.grow, RH.grow, rh_propagate, RH.Slot.occ, RH.Slot.empty]; congr 1 <;>
      (try congr 1) <;> (try (funext acc e; cases hp : e.ptr <;> simp [hp])) <;> tie_close)

/-- the model's `probe` returns in addition a flag "was a hit", which the Rust does not return -/
def proj (r : RH.Tbl × Nat × Bool) : RH.Tbl × Nat := (r.1, r.2.1)

/-- the `loop` of `get_or_insert_by_hash` (with `equality_by_hash = false`) is `RH.probe` -/
theorem rh_getOrInsertByHash_loop (num den extra : Nat) (t : RH.Tbl) (hash key fuel pos psl : Nat) :
    Gen.RH.getOrInsertByHash_loop num den extra t hash key false fuel pos psl
      = proj (RH.probe t hash key (t.cap + 1 + extra) fuel pos psl) := by
  induction fuel generalizing pos psl with
  | zero => first | rfl | (simp only [Gen.RH.getOrInsertByHash_loop, RH.probe, proj] <;> tie_close)
  | succ n ih =>
    first
    | (simp only [Gen.RH.getOrInsertByHash_loop, RH.probe, RH.insertAt, rh_propagate, ih, proj] <;>
        tie_close)
    | (simp only [Gen.RH.getOrInsertByHash_loop, RH.probe, RH.insertAt, rh_propagate, ih, proj]
       cases hp : (RH.sget t.slots pos).ptr <;> simp [hp] <;> tie_close)

/-- `get_or_insert_by_hash(hash, elem, false)` is the model's `getOrInsert` -/
theorem rh_getOrInsertByHash (num den extra : Nat) (t : RH.Tbl) (hash key : Nat) :
    Gen.RH.getOrInsertByHash num den extra t hash key false
      = proj (RH.getOrInsert ⟨num, den⟩ t hash key extra) := by
  first
  | (simp only [Gen.RH.getOrInsertByHash, RH.getOrInsert, RH.getOrInsertWith, RH.needGrow,
      rh_getOrInsertByHash_loop, rh_grow] <;> tie_close)
  | (simp only [Gen.RH.getOrInsertByHash, RH.getOrInsert, RH.getOrInsertWith,
      rh_getOrInsertByHash_loop, rh_grow]
     by_cases hg : RH.needGrow ⟨num, den⟩ t = true
     all_goals (have hg' := hg; simp [RH.needGrow, Nat.mul_comm] at hg'; simp [hg, hg', Nat.mul_comm])
     all_goals tie_close)

/-- the `loop` of `get_by_hash` is `RH.probeHash` -/
theorem rh_getByHash_loop (extra : Nat) (t : RH.Tbl) (hash fuel pos psl : Nat) :
    Gen.RH.getByHash_loop extra t hash fuel pos psl = RH.probeHash t hash fuel pos psl := by
  induction fuel generalizing pos psl with
  | zero => first | rfl | (simp only [Gen.RH.getByHash_loop, RH.probeHash] <;> tie_close)
  | succ n ih =>
    first
    | (simp only [Gen.RH.getByHash_loop, RH.probeHash, RH.Slot.occ, ih] <;> tie_close)
    | (simp only [Gen.RH.getByHash_loop, RH.probeHash, RH.Slot.occ, ih]
       cases hp : (RH.sget t.slots pos).ptr <;> simp [hp] <;> tie_close)

theorem rh_getByHash (extra : Nat) (t : RH.Tbl) (hash : Nat) :
    Gen.RH.getByHash extra t hash = RH.getByHash t hash extra := by
  first
  | rfl
  | (simp only [Gen.RH.getByHash, RH.getByHash, rh_getByHash_loop] <;> tie_close)

end TieTables

#print axioms TieTables.lru_powCap
#print axioms TieTables.lru_new
#print axioms TieTables.lru_insert
#print axioms TieTables.lru_insert_model
#print axioms TieTables.lru_insertNoGrow
#print axioms TieTables.lru_grow
#print axioms TieTables.lru_grow_rust
#print axioms TieTables.lru_get
#print axioms TieTables.rh_propagate_loop
#print axioms TieTables.rh_propagate
#print axioms TieTables.rh_new
#print axioms TieTables.rh_verifWithCapacity
#print axioms TieTables.rh_grow
#print axioms TieTables.rh_getOrInsertByHash_loop
#print axioms TieTables.rh_getOrInsertByHash
#print axioms TieTables.rh_getByHash_loop
#print axioms TieTables.rh_getByHash
