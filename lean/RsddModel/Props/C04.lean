import RsddModel.Lemmas.SddWFRun
import RsddModel.Lemmas.SddLoops
import RsddModel.Props.C03
/-!
# C04 — every SDD returned by the compressing builder is well formed, hence canonical

* `WFs vt p` (`Lemmas/SddWF`): primes non-false, pairwise exclusive and exhaustive, over the
  variables of the left child of the node's vtree index; subs over the variables of the right
  child and pairwise distinct; not trimmable; plus the pointer normal form of this implementation
  (elements strictly sorted by prime with the derived `Ord`, complement bit normalised,
  two-literal-prime decisions stored as binary nodes);
* `partition_unique` : compressed partitions of a function w.r.t. a variable split are unique;
* `sdd_canon` : on a vtree with distinct leaf labels, `WFs a → WFs b → (a ≡ b ↔ a = b)`;
* `wfs_of_run` : every pool entry of a run with compression switched on satisfies `WFs`, for every
  lawful cache pair, every vtree with distinct leaf labels, every fuel, every program;
* `run_canonical` : hence two pool entries of such a run denote the same function iff they are the
  same pointer.
-/
namespace Sdd
open Spec

/-- structural ite-cache invariant -/
def IteInvS (I : CacheImpl (Ptr × Ptr × Ptr)) (vt : VTree) (s : I.σ) : Prop :=
  ∀ k r, I.get s k = some r → WFs vt r

section
variable (A : CacheImpl (Ptr × Ptr)) (I : CacheImpl (Ptr × Ptr × Ptr)) (cfg : Config)
  (hc : cfg.compress = true) (hnd : cfg.vt.leaves.Nodup) (fuel : Nat)
include hc hnd

theorem bAnd_s : AndOKs (AppInv2 A cfg.vt) cfg.vt (bAnd A cfg fuel) := by
  have := and_s A hnd fuel
  simpa [bAnd, hc] using this

theorem bCond_s {st f st' r} {x : Nat} {v : Bool} (hP : AppInv2 A cfg.vt st) (wf : WFs cfg.vt f)
    (h : bCond A cfg fuel st f x v = some (st', r)) : AppInv2 A cfg.vt st' ∧ WFs cfg.vt r := by
  simp only [bCond, hc] at h
  obtain ⟨h1, h2, _⟩ := condition_s (P0 := AppInv A cfg.vt) (fun _ h => h.1) hnd
    (bAnd_ok A cfg fuel) (bAnd_s A cfg hc hnd fuel) x v fuel _ _ _ _ hP wf h
  exact ⟨h1, h2⟩

/-- `and` and `condition` keep `WFs`; so do the derived operations and every call of the
operation language -/
theorem keeps_wfs : Keeps A cfg fuel (AppInv2 A cfg.vt) (WFs cfg.vt) where
  tru := WFs_tru _
  fls := WFs_fls _
  lit := fun _ _ hx => hasVar_iff.1 hx
  neg := fun _ => WFs_neg
  and := fun _ _ _ _ _ hP wa wb h =>
    have ⟨h1, h2, _⟩ := bAnd_s A cfg hc hnd fuel _ _ _ _ _ hP wa wb h
    ⟨h1, h2⟩
  cond := fun _ _ _ _ _ _ hP wf h => bCond_s A cfg hc hnd fuel hP wf h

theorem bOr_s {st a b st' r} (hP : AppInv2 A cfg.vt st) (wa : WFs cfg.vt a) (wb : WFs cfg.vt b)
    (h : bOr A cfg fuel st a b = some (st', r)) : AppInv2 A cfg.vt st' ∧ WFs cfg.vt r :=
  (keeps_wfs A cfg hc hnd fuel).or hP wa wb h

theorem bIte_s {s s' : A.σ × I.σ} {f g h r : Ptr}
    (hA : AppInv2 A cfg.vt s.1) (hI : IteInvS I cfg.vt s.2)
    (wf : WFs cfg.vt f) (wg : WFs cfg.vt g) (wh : WFs cfg.vt h)
    (hr : bIte A I cfg fuel s f g h = some (s', r)) :
    AppInv2 A cfg.vt s'.1 ∧ IteInvS I cfg.vt s'.2 ∧ WFs cfg.vt r :=
  (keeps_wfs A cfg hc hnd fuel).ite hA hI wf wg wh hr

theorem bExists_s {st st' : A.σ} {f r : Ptr} {x : Nat} (hP : AppInv2 A cfg.vt st)
    (wf : WFs cfg.vt f) (h : bExists A cfg fuel st f x = some (st', r)) :
    AppInv2 A cfg.vt st' ∧ WFs cfg.vt r :=
  (keeps_wfs A cfg hc hnd fuel).exists hP wf h

theorem bCompose_s {s s' : A.σ × I.σ} {f g r : Ptr} {x : Nat}
    (hA : AppInv2 A cfg.vt s.1) (hI : IteInvS I cfg.vt s.2) (hx : cfg.vt.hasVar x = true)
    (wf : WFs cfg.vt f) (wg : WFs cfg.vt g)
    (hr : bCompose A I cfg fuel s f x g = some (s', r)) :
    AppInv2 A cfg.vt s'.1 ∧ IteInvS I cfg.vt s'.2 ∧ WFs cfg.vt r :=
  (keeps_wfs A cfg hc hnd fuel).compose hA hI hx wf wg hr

/-- **C04, well-formedness.**  Every SDD in the pool of a run of the compressing builder (from
the fresh builder, any program, any lawful caches, any fuel, any vtree with distinct leaf labels)
is well formed: primes non-false, pairwise exclusive, exhaustive, over the left child's variables;
subs over the right child's variables and pairwise distinct; trimmed; in pointer normal form. -/
theorem wfs_of_run (ops : List Op) (st : St A I)
    (hrun : runFrom A I cfg fuel (St.init A I) ops = some st) : ∀ p ∈ st.pool, WFs cfg.vt p :=
  (keeps_wfs A cfg hc hnd fuel).run (appInv2_empty A cfg.vt) hrun

/-- **C04, canonicity of a run**: two diagrams handed out by one compressing builder denote the
same Boolean function iff they are the same pointer -/
theorem run_canonical (ops : List Op) (st : St A I)
    (hrun : runFrom A I cfg fuel (St.init A I) ops = some st) {p q : Ptr} (hp : p ∈ st.pool)
    (hq : q ∈ st.pool) : (∀ asg, p.eval asg = q.eval asg) ↔ p = q :=
  sdd_canon hnd (wfs_of_run A I cfg hc hnd fuel ops st hrun p hp)
    (wfs_of_run A I cfg hc hnd fuel ops st hrun q hq)

end

/-- the driver's `Sdd.run` with compression on -/
theorem run_wfs (vt : VTree) (hnd : vt.leaves.Nodup) (fuel : Nat) (ops : List Op) (pool : List Ptr)
    (h : run ⟨vt, true⟩ fuel ops = some pool) : ∀ p ∈ pool, WFs vt p := by
  simp only [run, Option.map_eq_some_iff] at h
  obtain ⟨st, hst, rfl⟩ := h
  exact wfs_of_run _ _ ⟨vt, true⟩ rfl hnd fuel ops st hst

/-! ## non-vacuity -/
section demo

/-- the balanced demo program of C03 returns with compression on, and every returned diagram is
well formed (instance of `run_wfs`; the leaf labels of `vtB` are distinct) -/
example : ∃ pool, run ⟨vtB, true⟩ 20 progB = some pool ∧ pool.length = 13 ∧
    ∀ p ∈ pool, WFs vtB p :=
  ⟨poolB, run_progB_compressed, rfl,
    run_wfs vtB (by decide) 20 progB poolB run_progB_compressed⟩

/-- canonicity observed: `compose #7 x1 #6` and `x0 ⇔ ¬x3` (#6) are the same function and the
builder returned the same pointer for both -/
example : (run ⟨vtB, true⟩ 20 progB).map (fun pool => decide (pool[12]? = pool[6]?)) = some true := by
  rw [run_progB_compressed]; rfl

/-- without compression the same program returns a decision node with two equal subs, i.e. a
pointer that is *not* `WFs` (so the hypothesis `compress = true` of `wfs_of_run` matters) -/
example : (run ⟨vtB, false⟩ 20 progB).map (fun pool => (pool[5]?).map fun p =>
    match p with
    | .dec _ _ es => decide ((es.map (·.2)).Nodup)
    | _ => true) = some (some false) := by rw [run_progB_uncompressed]; rfl

end demo

#print axioms partition_unique
#print axioms sdd_canon
#print axioms wfs_of_run
#print axioms run_canonical
#print axioms run_wfs
end Sdd
