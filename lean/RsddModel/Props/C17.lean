import RsddModel.Lemmas.Serialize
/-!
# C17 — parsing and serialisation preserve the formula

Specification: `Spec/Text.lean` (`parseDimacs`, `parseSExp`/`evalSExp`, `variableMapping`), read
directly off the text.  Model: `Model/Serialize.lean` (the glue of `Cnf::from_dimacs`,
`Cnf::to_dimacs`, `LogicalExpr::from_dimacs`, `LogicalExpr::from_sexpr`, and the three
serialisers).  The crates `dimacs`, `serde_sexpr`, `serde_json` are outside the theorems (their
Lean stand-ins are the spec readers and `LogicalSExpr.ofSExp`; the correspondence run compares
them with the real crates).

* DIMACS
  * `dimacs_roundtrip_text`  : the spec reader returns exactly the printed clause lists, for every
    clause list and every comment/header prefix;
  * `dimacs_roundtrip`       : `from_dimacs (header ++ to_dimacs c) = c` for every `c` in the image of
    `Cnf::new` (all values of the Rust type `Cnf` are: the fields are private);
  * `dimacs_roundtrip_sets`  : for an arbitrary clause list, the same clauses as *sets* of literals,
    in the same order;
  * `cnfNew_normal_form`     : `Cnf::new` is idempotent (so its image is the set of its fixed points);
  * `fromDimacs_sem`         : `Cnf::from_dimacs` = `Cnf::new` of the text's clauses, same models under
    label = number − 1;
  * `exprFromDimacs_sem`     : `LogicalExpr::from_dimacs` has the models of the text under
    label = number (the numbering its doc-test documents — **not** that of `Cnf::from_dimacs`);
  * `exprFromDimacs_panics_iff` : it panics exactly on texts with no clause or with an empty clause.
* s-expressions
  * `fromSexpr_sem`     : the indexed expression under `a` evaluates like the text under
    `name ↦ a (variableMapping name)`;
  * `fromSexpr_total`   : no panic on constant-free formulas;
  * `variableMapping_lex`, `variableMapping_inj`, `fromSexpr_models` : the numbering is increasing in
    the lexicographic order, injective on the names of the text, hence every assignment of names is
    induced by an indexed one (same models, both directions).
* serialisers
  * `serBdd_sem`, `serSdd_sem` : the node table read naively (pointer = node, negated if `compl`)
    from the root denotes the diagram's function — every diagram: shared nodes, complemented roots
    and edges, constants, literals;
  * `serBdd_postorder`, `serSdd_postorder` : children have smaller indices;
  * `serVtree_iso` : the serialised vtree read back is the vtree (and conversely).
-/
namespace C17
open Spec Spec.Text Ser

/-! ## DIMACS -/

/-- the `p cnf V C` line -/
def dimacsHeader (v c : Nat) : String :=
  String.ofList ('p' :: ([' ', 'c', 'n', 'f', ' '] ++ Nat.toDigits 10 v ++ ' ' :: Nat.toDigits 10 c))

example : dimacsHeader 3 2 = "p cnf 3 2" := by decide +kernel

/-- the header line carries no clause -/
theorem dimacsHeader_ok (v c : Nat) : HeaderOnly (dimacsHeader v c).toList := by
  rw [dimacsHeader, String.toList_ofList]
  apply headerOnly_p
  intro ch hc
  simp only [List.mem_append, List.mem_cons, List.not_mem_nil, or_false] at hc
  have hd : ∀ n, ch ∈ Nat.toDigits 10 n → ch ≠ '\n' := fun n h e => by
    have := Nat.isDigit_of_mem_toDigits (by decide) (by decide) h
    rw [e] at this; exact absurd this (by decide)
  rcases hc with ((hc | hc | hc | hc | hc) | hc) | hc | hc
  · subst hc; decide
  · subst hc; decide
  · subst hc; decide
  · subst hc; decide
  · subst hc; decide
  · exact hd _ hc
  · subst hc; decide
  · exact hd _ hc

/-- **round trip through the text, spec reader**: any clause lists, any prefix made of comment,
problem and blank lines -/
theorem dimacs_roundtrip_text (cs : Cnf) (pre : String) (hpre : HeaderOnly pre.toList) :
    parseDimacs (pre ++ toDimacs cs) = some cs := by
  rw [parseDimacs, String.toList_append, toDimacs, String.toList_ofList]
  exact parseDimacsChars_toDimacs cs pre.toList hpre

/-- `Cnf::from_dimacs` of a printed CNF is `Cnf::new` of it -/
theorem fromDimacs_toDimacs (cs : Cnf) (pre : String) (hpre : HeaderOnly pre.toList) :
    cnfFromDimacs (pre ++ toDimacs cs) = some (cnfNew cs) := by
  rw [cnfFromDimacs_eq, dimacs_roundtrip_text cs pre hpre]; rfl

/-- `Cnf::new` is idempotent -/
theorem cnfNew_normal_form (cs : Cnf) : cnfNew (cnfNew cs) = cnfNew cs := cnfNew_idem cs

/-- **C17, DIMACS round trip**: printing a CNF (a value built by `Cnf::new`) and parsing it again
returns the same CNF -/
theorem dimacs_roundtrip (cs0 : Cnf) (pre : String) (hpre : HeaderOnly pre.toList) :
    cnfFromDimacs (pre ++ toDimacs (cnfNew cs0)) = some (cnfNew cs0) := by
  rw [fromDimacs_toDimacs _ pre hpre, cnfNew_idem]

/-- the same with the concrete header and a fixed-point hypothesis -/
theorem dimacs_roundtrip_header (cs : Cnf) (hn : cnfNew cs = cs) (v c : Nat) :
    cnfFromDimacs (dimacsHeader v c ++ toDimacs cs) = some cs := by
  rw [fromDimacs_toDimacs _ _ (dimacsHeader_ok v c), hn]

/-- **arbitrary clause lists: the same clause sets**, clause by clause -/
theorem dimacs_roundtrip_sets (cs : Cnf) (pre : String) (hpre : HeaderOnly pre.toList) :
    ∃ norm : Clause → Clause, cnfFromDimacs (pre ++ toDimacs cs) = some (cs.map norm) ∧
      ∀ c l, l ∈ norm c ↔ l ∈ c :=
  ⟨fun c => dedup (sortByLabel c), fromDimacs_toDimacs cs pre hpre,
    fun c l => mem_cnfNew_clause c l⟩

/-- **`Cnf::from_dimacs` keeps the models of the text** (label = number − 1): it answers iff the
text is readable, with `Cnf::new` of the text's clauses, which has the same models -/
theorem fromDimacs_sem (s : String) :
    cnfFromDimacs s = (parseDimacs s).map cnfNew ∧
    ∀ c0, parseDimacs s = some c0 → ∀ a, cnfSat a (cnfNew c0) = cnfSat a c0 :=
  ⟨cnfFromDimacs_eq s, fun c0 _ a => cnfSat_cnfNew a c0⟩

/-- the glue alone, over whatever clauses the `dimacs` crate returns -/
theorem fromDimacsClauses_sem (zs : List (List Int)) (a : Assign) :
    cnfSat a (fromDimacsClauses zs) = cnfSat a (cnfOfInts zs) := Ser.fromDimacsClauses_sem zs a

theorem dimacsInts_nonzero (s : String) (zs : List (List Int)) (h : dimacsInts s = some zs) :
    ∀ c ∈ zs, ∀ z ∈ c, z ≠ 0 := by
  simp only [dimacsInts, dimacsIntsChars, Option.map_eq_some_iff] at h
  obtain ⟨ws, _, rfl⟩ := h
  exact clausesOf_nonzero ws

/-- **`LogicalExpr::from_dimacs` keeps the models of the text under label = number** -/
theorem exprFromDimacs_sem (s : String) (e : LogicalExpr) (h : exprFromDimacs s = some e) :
    ∃ c0, parseDimacs s = some c0 ∧ ∀ a, e.eval a = cnfSat (shift a) c0 := by
  simp only [exprFromDimacs, Option.bind_eq_some_iff] at h
  obtain ⟨zs, hz, he⟩ := h
  refine ⟨cnfOfInts zs, ?_, fun a =>
    exprFromDimacsClauses_sem zs e a (dimacsInts_nonzero s zs hz) he⟩
  simp only [dimacsInts] at hz
  simp [parseDimacs, parseDimacsChars, hz]

theorem mapM_popFold_none : ∀ (zs : List (List Int)),
    zs.mapM (fun c => popFold LogicalExpr.or (c.map exprLitOfSigned)) = none ↔ [] ∈ zs
  | [] => by simp
  | c :: r => by
    rw [List.mapM_cons, List.mem_cons, ← mapM_popFold_none r, @eq_comm _ [] c,
      ← List.map_eq_nil_iff (f := exprLitOfSigned), ← popFold_none LogicalExpr.or]
    cases popFold LogicalExpr.or (c.map exprLitOfSigned) <;>
      cases r.mapM (fun c => popFold LogicalExpr.or (c.map exprLitOfSigned)) <;> simp

theorem mapM_popFold_length : ∀ (zs : List (List Int)) (cls : List LogicalExpr),
    zs.mapM (fun c => popFold LogicalExpr.or (c.map exprLitOfSigned)) = some cls →
    cls.length = zs.length
  | [], cls, hm => by cases hm; rfl
  | c :: r, cls, hm => by
    rw [List.mapM_cons] at hm
    simp only [Option.bind_eq_bind, Option.bind_eq_some_iff, Option.pure_def, Option.some.injEq] at hm
    obtain ⟨e, -, es, hr, rfl⟩ := hm
    rw [List.length_cons, List.length_cons, mapM_popFold_length r es hr]

/-- `LogicalExpr::from_dimacs` panics (`Vec::pop().unwrap()` on an empty vector) exactly when the
text has no clause or an empty clause -/
theorem exprFromDimacs_panics_iff (s : String) (zs : List (List Int)) (hz : dimacsInts s = some zs) :
    exprFromDimacs s = none ↔ zs = [] ∨ [] ∈ zs := by
  simp only [exprFromDimacs, hz, Option.bind_some, exprFromDimacsClauses]
  cases hm : zs.mapM (fun c => popFold LogicalExpr.or (c.map exprLitOfSigned)) with
  | none =>
    simp [(mapM_popFold_none zs).mp hm]
  | some cls =>
    have h1 : ¬ [] ∈ zs := fun h => by rw [(mapM_popFold_none zs).mpr h] at hm; cases hm
    have hl : cls.length = zs.length := mapM_popFold_length zs cls hm
    simp only [Option.bind_eq_bind, Option.bind_some, popFold_none, h1, or_false]
    constructor
    · intro h; subst h; simpa using hl.symm
    · intro h; subst h; simpa using hl

/-! ## s-expressions -/

/-- **C17, s-expressions**: the indexed expression `from_sexpr` builds evaluates, under `a`, like
the text under the assignment of names `x ↦ a (variableMapping x)` -/
theorem fromSexpr_sem (t : SExp) (e : LogicalSExpr) (le : LogicalExpr)
    (ht : LogicalSExpr.ofSExp t = some e) (hle : fromSexpr e = some le) (a : Assign) :
    evalSExp (nameAssign t a) t = some (le.eval a) := by
  obtain ⟨h1, h2, _⟩ := ofSExp_spec (nameAssign t a) t e ht
  rw [h1, fromSexpr_evalNames e le a hle]
  unfold nameAssign variableMapping
  rw [h2]

/-- no `todo!()` and no failed `unwrap` on a constant-free formula -/
theorem fromSexpr_total (t : SExp) (e : LogicalSExpr) (ht : LogicalSExpr.ofSExp t = some e)
    (hc : Spec.Text.hasConst t = false) : (fromSexpr e).isSome := by
  obtain ⟨_, _, h3⟩ := ofSExp_spec (fun _ => false) t e ht
  exact Ser.fromSexpr_total e (h3 ▸ hc)

/-- the model's `variable_mapping` is the documented numbering -/
theorem variableMapping_model (t : SExp) (e : LogicalSExpr) (ht : LogicalSExpr.ofSExp t = some e)
    (x : String) (hx : x ∈ namesOf t) :
    mapGet e.variableMapping x = some (variableMapping t x) := by
  obtain ⟨_, h2, _⟩ := ofSExp_spec (fun _ => false) t e ht
  rw [variableMapping, h2]
  exact variableMapping_spec e x (h2 ▸ hx)

theorem variableMapping_lex (t : SExp) (x y : String) (hx : x ∈ namesOf t) (hxy : x < y) :
    variableMapping t x < variableMapping t y := indexIn_lt_of_lt _ x y hx hxy

theorem variableMapping_inj (t : SExp) (x y : String) (hx : x ∈ namesOf t) (hy : y ∈ namesOf t)
    (h : variableMapping t x = variableMapping t y) : x = y := indexIn_inj _ x y hx hy h

/-- **same models, other direction**: every assignment of names is induced by an indexed
assignment, under which the built expression has the value of the text -/
theorem fromSexpr_models (t : SExp) (e : LogicalSExpr) (le : LogicalExpr)
    (ht : LogicalSExpr.ofSExp t = some e) (hle : fromSexpr e = some le) (ρ : NameAssign) :
    ∃ a, (∀ x ∈ namesOf t, a (variableMapping t x) = ρ x) ∧ evalSExp ρ t = some (le.eval a) := by
  refine ⟨assignOfNames (namesOf t) ρ, fun x hx => assignOfNames_spec _ ρ x hx, ?_⟩
  obtain ⟨h1, h2, _⟩ := ofSExp_spec ρ t e ht
  rw [h1, fromSexpr_evalNames e le _ hle]
  congr 1
  apply evalNames_congr
  intro x hx
  rw [← h2] at hx ⊢
  exact (assignOfNames_spec _ ρ x hx).symm

/-! ## serialisers -/

/-- **C17, BDD tables** -/
theorem serBdd_sem (d : Bdd.Ptr) :
    ∃ r, (serBdd d).roots = [r] ∧ evalBddTable (serBdd d) r = d.eval := by
  refine ⟨(serBddAux d ⟨#[], []⟩).1, rfl, ?_⟩
  funext a
  obtain ⟨r, hr, he⟩ := serBdd_eval d a
  cases hr; exact he

theorem serBdd_postorder (d : Bdd.Ptr) (i : Nat) (n : SerBdd) (h : (serBdd d).nodes[i]? = some n) :
    BPtrLt n.low i ∧ BPtrLt n.high i := serBdd_wf d i n h

/-- **C17, SDD tables** -/
theorem serSdd_sem (d : Sdd.Ptr) :
    ∃ r, (serSdd d).roots = [r] ∧ evalSddTable (serSdd d) r = d.eval := by
  refine ⟨(serSddAux d ⟨#[], []⟩).1, rfl, ?_⟩
  funext a
  obtain ⟨r, hr, he⟩ := serSdd_eval d a
  cases hr; exact he

theorem serSdd_postorder (d : Sdd.Ptr) (i : Nat) (o : SddOr) (h : (serSdd d).nodes[i]? = some o) :
    ∀ e ∈ o, SPtrLt e.prime i ∧ SPtrLt e.sub i := serSdd_wf d i o h

/-- **C17, vtrees** -/
theorem serVtree_iso (t : Sdd.VTree) : treeOfVtreeTable (serVtree t) = t :=
  treeOfVtreeTable_serVtree t

theorem serVtree_iso' (t : SerVTree) : serVtree (treeOfVtreeTable t) = t :=
  serVtree_treeOfVtreeTable t

/-! ## non-vacuity -/

section Examples

/-- x0 ⊕ x1 with a complemented root, complemented edges and a shared node -/
def xorBdd : Bdd.Ptr := .node true 0 (.node false 1 .fls .tru) (.node true 1 .fls .tru)

example : serBdd xorBdd =
    ⟨#[⟨1, .fls, .tru⟩, ⟨0, .ptr 0 false, .ptr 0 true⟩], [.ptr 1 true]⟩ := by decide +kernel
example : (truthTable 2 (evalBddTable (serBdd xorBdd) (.ptr 1 true))) = [true, false, false, true] := by
  decide +kernel
example : serBdd .tru = ⟨#[], [.tru]⟩ := by decide +kernel
example : serBdd (.node true 3 .fls .tru) = ⟨#[⟨3, .fls, .tru⟩], [.ptr 0 true]⟩ := by decide +kernel

def xorSdd : Sdd.Ptr :=
  .dec true 1 [(.lit 0 true, .bdd true 1 2 .tru .fls), (.lit 0 false, .bdd false 1 2 .tru .fls)]

example : serSdd xorSdd =
    ⟨#[[⟨.lit 1 true, .fls⟩, ⟨.lit 1 false, .tru⟩],
       [⟨.lit 0 true, .ptr 0 true⟩, ⟨.lit 0 false, .ptr 0 false⟩]], [.ptr 1 true]⟩ := by decide +kernel
example : serSdd (.lit 4 false) = ⟨#[], [.lit 4 false]⟩ := by decide +kernel

example : serVtree (.node (.leaf 0) (.node (.leaf 1) (.leaf 2))) =
    .node (.leaf 0) (.node (.leaf 1) (.leaf 2)) := by decide +kernel

example : toDimacsChars [[⟨0, true⟩, ⟨1, false⟩], [], [⟨11, false⟩]] = "\n1 -2 0\n 0\n-12 0".toList := by
  decide +kernel
example : parseDimacsChars "c x\np cnf 3 2\n1 -2\n 3 0\n-1 0\n".toList =
    some [[⟨0, true⟩, ⟨1, false⟩, ⟨2, true⟩], [⟨0, false⟩]] := by decide +kernel
/-- `Cnf::new`: stable sort by label, then adjacent duplicates only -/
example : cnfNew [[⟨2, true⟩, ⟨0, true⟩, ⟨0, false⟩, ⟨0, true⟩, ⟨2, true⟩]] =
    [[⟨0, true⟩, ⟨0, false⟩, ⟨0, true⟩, ⟨2, true⟩]] := by decide +kernel
/-- the two DIMACS front ends number variables differently -/
example : fromDimacsClauses [[1, -2]] = [[⟨0, true⟩, ⟨1, false⟩]] := by decide +kernel
example : exprFromDimacsClauses [[1, -2]] = some (.or (.lit 2 false) (.lit 1 true)) := by decide +kernel
/-- `LogicalExpr::from_dimacs` panics on an empty clause / on no clause -/
example : exprFromDimacsClauses [[]] = none := by decide +kernel
example : exprFromDimacsClauses [] = none := by decide +kernel

end Examples

end C17

#print axioms C17.dimacsHeader_ok
#print axioms C17.dimacs_roundtrip_text
#print axioms C17.fromDimacs_toDimacs
#print axioms C17.cnfNew_normal_form
#print axioms C17.dimacs_roundtrip
#print axioms C17.dimacs_roundtrip_header
#print axioms C17.dimacs_roundtrip_sets
#print axioms C17.fromDimacs_sem
#print axioms C17.fromDimacsClauses_sem
#print axioms C17.dimacsInts_nonzero
#print axioms C17.exprFromDimacs_sem
#print axioms C17.mapM_popFold_none
#print axioms C17.mapM_popFold_length
#print axioms C17.exprFromDimacs_panics_iff
#print axioms C17.fromSexpr_sem
#print axioms C17.fromSexpr_total
#print axioms C17.variableMapping_model
#print axioms C17.variableMapping_lex
#print axioms C17.variableMapping_inj
#print axioms C17.fromSexpr_models
#print axioms C17.serBdd_sem
#print axioms C17.serBdd_postorder
#print axioms C17.serSdd_sem
#print axioms C17.serSdd_postorder
#print axioms C17.serVtree_iso
#print axioms C17.serVtree_iso'
