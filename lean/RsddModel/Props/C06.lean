import RsddModel.Lemmas.TopDownNaive
/-!
# C06 — top-down CNF compilation to decision-DNNF

"For every CNF and every order over its variables, the top-down compiler (with either node
store) returns the false constant exactly when the CNF is unsatisfiable and otherwise a
decision diagram whose models are exactly the CNF's models and in which no path decides a
variable twice; component caching and unit propagation never change the denoted function.
Conditioning such a diagram, or its negation, on a literal yields exactly the restricted
function."

Model: `RsddModel/Model/TopDown.lean` (`topdownH`, `compileTopdown`, `condHelper`, the two node
stores; the pinned defective `compileTopdownOrig`, `condHelperOrig`).  The SAT solver is the
abstract interface `Solver`; what is assumed of it is `SolverSpec` (+ `NewSpec`), and the two
hash hypotheses `HashSound` (equal cache keys ⇒ equal residual formulas) and `FreeDecide`
(deciding a variable that does not occur in the residual formula propagates nothing and keeps
hash and sat-flag).  `RsddModel/Lemmas/TopDownNaive.lean` proves all four for the executable
reference solver `NaiveSolver`, so the theorems are not vacuous.

The contract is deliberately weak in three places, because the real `SATSolver` does not satisfy
more (`Lemmas/UpSolverSpec.lean`; the instance for the real solver is `Props/C06Real.lean`):
`decide` is only specified for the variables in `spec.Var` (labels in range), so the order has to
map the levels below `numVars` into `spec.Var` (`hrange`); `pop` is only specified above the
two-frame stack `SATSolver::new` returns; and the solver may be built on a clause list `cnf0`
other than the one the specification is about (`NewSpec spec cnf0 numVars`) — for the real solver
`cnf` is the non-tautological part of `cnf0`, which has the same models.

Two of the solver facts exist for the component cache: `FreeDecide` and the relevance clause of
`decide_ok` (newly assigned variables other than the decision occur in the residual formula).
A cached diagram is reused under a different partial model with the same residual; this is sound
only if the diagram tests no variable that the other model assigns.  The invariant that gives this
is "a diagram built under `m` tests only variables of `residual cnf m`" (`GoodM.vars`), and a
decision node on a variable outside the residual is avoided only because both branches then return
the *same pointer* (the second one is a cache hit on the entry the first one wrote:
`topdownH_hit_after`) — which needs the hash to be unchanged by such a decision.
-/
namespace C06
open Spec Bdd TopDown

variable {cnf : Cnf} {S : Solver}

/-- **`topdown_h`.**  For a solver satisfying `SolverSpec`, the hash hypotheses, a node store
satisfying its contract, an order `varAt` that enumerates the variables of the CNF on levels
`< numVars`: called at `level` (`rem = numVars - level`) on a valid state `s` whose model
assigns the variables of all earlier levels and whose stack has at least two frames (as every
state reachable from `SATSolver::new` has), with a sound cache, `topdown_h` returns `r` with
* `r` agrees with the CNF on every total assignment extending the current partial model;
* no path of `r` decides a variable twice;
* every variable `r` tests occurs in the residual formula, hence is unassigned in the current
  model, hence sits at a level `≥ level`;
* the solver stack is back where it was and the cache is still sound. -/
theorem topdownH_correct (spec : SolverSpec cnf S) {NS : NodeStore} {inv : NS.τ → Prop}
    (hNS : NS.Sound inv) (varAt : Nat → Nat) (hhash : HashSound spec) (hfree : FreeDecide spec)
    (numVars : Nat) (hvarAt : ∀ v, InCnf cnf v → ∃ i, i < numVars ∧ varAt i = v)
    (hrange : ∀ i, i < numVars → spec.Var (varAt i))
    (rem level : Nat) (s : S.σ) (cache : Cache S.κ) (t : NS.τ) (f0 : Frame S.κ) (rest : List (Frame S.κ))
    (hl : level + rem = numVars) (hI : spec.Inv s) (hfr : spec.frames s = f0 :: rest)
    (hrest : rest ≠ []) (ht : inv t) (hc : CacheOK spec cache) (hlev : ∀ i, i < level → spec.modelOf s (varAt i) ≠ none) :
    let res := topdownH S NS varAt rem level s cache t
    (∀ a, Extends a (spec.modelOf s) → res.1.eval a = cnfSat a cnf) ∧
    res.1.free ∧
    (∀ v ∈ res.1.vars, InCnf (residual cnf (spec.modelOf s)) v ∧ spec.modelOf s v = none ∧
      ∀ i, i < level → varAt i ≠ v) ∧
    (res.1 ≠ .fls → ∃ a, Extends a (spec.modelOf s) ∧ res.1.eval a = true) ∧
    spec.Inv res.2.1 ∧ spec.frames res.2.1 = spec.frames s ∧ CacheOK spec res.2.2.1 ∧ inv res.2.2.2 := by
  rw [spec.modelOf_eq hfr] at hlev ⊢
  obtain ⟨hg, h1, h2, h3, h4⟩ :=
    topdownH_post spec hNS varAt hhash hfree numVars hvarAt hrange rem level s cache t f0 rest hl hI hfr hrest ht hc hlev
  refine ⟨hg.sem, hg.free, ?_, hg.nonfalse, h1, h2.trans hfr.symm, h3, h4⟩
  intro v hv
  have hu := residual_unset (hg.vars v hv)
  exact ⟨hg.vars v hv, hu, fun i hi e => hlev i hi (e ▸ hu)⟩

/-- **`compile_cnf_topdown`, any node store satisfying the contract.**  The result denotes the
CNF on all assignments, decides no variable twice on a path, and is the false constant exactly
when the CNF is unsatisfiable. -/
theorem compileTopdown_correct_store (spec : SolverSpec cnf S) {NS : NodeStore} {inv : NS.τ → Prop}
    (hNS : NS.Sound inv) (varAt : Nat → Nat) (hhash : HashSound spec) (hfree : FreeDecide spec)
    (cnf0 : Cnf) (numVars : Nat) (hnew : NewSpec spec cnf0 numVars)
    (hvarAt : ∀ v, InCnf cnf v → ∃ i, i < numVars ∧ varAt i = v)
    (hrange : ∀ i, i < numVars → spec.Var (varAt i)) (t : NS.τ) (ht : inv t) :
    (∀ a, (compileTopdown S NS varAt cnf0 numVars t).1.eval a = cnfSat a cnf) ∧
    (compileTopdown S NS varAt cnf0 numVars t).1.free ∧
    ((compileTopdown S NS varAt cnf0 numVars t).1 = .fls ↔ ∀ a, cnfSat a cnf = false) :=
  let h := compileTopdown_post spec hNS varAt hhash hfree cnf0 numVars hnew hvarAt hrange t ht
  ⟨h.1, h.2.1, h.2.2.1⟩

/-- **`compile_cnf_topdown`, standard (structural) node store.** -/
theorem compileTopdown_correct (spec : SolverSpec cnf S) (varAt : Nat → Nat)
    (hhash : HashSound spec) (hfree : FreeDecide spec) (cnf0 : Cnf) (numVars : Nat)
    (hnew : NewSpec spec cnf0 numVars)
    (hvarAt : ∀ v, InCnf cnf v → ∃ i, i < numVars ∧ varAt i = v)
    (hrange : ∀ i, i < numVars → spec.Var (varAt i)) :
    (∀ a, (compileTopdown S standardStore varAt cnf0 numVars ()).1.eval a = cnfSat a cnf) ∧
    (compileTopdown S standardStore varAt cnf0 numVars ()).1.free ∧
    ((compileTopdown S standardStore varAt cnf0 numVars ()).1 = .fls ↔ ∀ a, cnfSat a cnf = false) :=
  compileTopdown_correct_store spec standardStore_sound varAt hhash hfree cnf0 numVars hnew hvarAt hrange
    () trivial

/-- **`compile_cnf_topdown`, semantic node store — PARTIAL: under `CollisionFree`.**
Unconditional correctness is false by pigeonhole (finitely many hash values, unboundedly many
functions); the hypothesis is the explicit `H-coll`. -/
theorem compileTopdown_correct_semantic_partial (spec : SolverSpec cnf S) (varAt : Nat → Nat)
    {H : Type} [DecidableEq H] (semHash : Ptr → H) (negH key : H → H) (hcf : CollisionFree semHash negH key)
    (hhash : HashSound spec) (hfree : FreeDecide spec) (cnf0 : Cnf) (numVars : Nat)
    (hnew : NewSpec spec cnf0 numVars)
    (hvarAt : ∀ v, InCnf cnf v → ∃ i, i < numVars ∧ varAt i = v)
    (hrange : ∀ i, i < numVars → spec.Var (varAt i)) :
    (∀ a, (compileTopdown S (semanticStore semHash negH key) varAt cnf0 numVars []).1.eval a = cnfSat a cnf) ∧
    (compileTopdown S (semanticStore semHash negH key) varAt cnf0 numVars []).1.free ∧
    ((compileTopdown S (semanticStore semHash negH key) varAt cnf0 numVars []).1 = .fls ↔
      ∀ a, cnfSat a cnf = false) :=
  compileTopdown_correct_store spec (semanticStore_sound hcf) varAt hhash hfree cnf0 numVars hnew hvarAt hrange []
    (fun _ h => by cases h)

/-- `topdown_h` with the semantic store — PARTIAL: under `CollisionFree` (same statement as
`topdownH_correct`, instantiated) -/
theorem topdownH_correct_semantic_partial (spec : SolverSpec cnf S) (varAt : Nat → Nat)
    {H : Type} [DecidableEq H] (semHash : Ptr → H) (negH key : H → H) (hcf : CollisionFree semHash negH key)
    (hhash : HashSound spec) (hfree : FreeDecide spec)
    (numVars : Nat) (hvarAt : ∀ v, InCnf cnf v → ∃ i, i < numVars ∧ varAt i = v)
    (hrange : ∀ i, i < numVars → spec.Var (varAt i))
    (rem level : Nat) (s : S.σ) (cache : Cache S.κ) (t : List (H × Ptr)) (f0 : Frame S.κ)
    (rest : List (Frame S.κ))
    (hl : level + rem = numVars) (hI : spec.Inv s) (hfr : spec.frames s = f0 :: rest)
    (hrest : rest ≠ []) (ht : SemInv semHash key t)
    (hc : CacheOK spec cache) (hlev : ∀ i, i < level → spec.modelOf s (varAt i) ≠ none) :
    let res := topdownH S (semanticStore semHash negH key) varAt rem level s cache t
    (∀ a, Extends a (spec.modelOf s) → res.1.eval a = cnfSat a cnf) ∧ res.1.free ∧
    (∀ v ∈ res.1.vars, spec.modelOf s v = none) :=
  let h := topdownH_correct spec (semanticStore_sound hcf) varAt hhash hfree numVars hvarAt hrange rem level s
    cache t f0 rest hl hI hfr hrest ht hc hlev
  ⟨h.1, h.2.1, fun v hv => (h.2.2.1 v hv).2.1⟩

/-! ## the pinned `compile_cnf_topdown` (finding F8) -/

/-- the witness `(x0) ∧ (x1∨x2) ∧ (x1∨¬x2) ∧ (¬x1∨x2) ∧ (¬x1∨¬x2)` -/
def f8 : Cnf :=
  [[⟨0, true⟩], [⟨1, true⟩, ⟨2, true⟩], [⟨1, true⟩, ⟨2, false⟩], [⟨1, false⟩, ⟨2, true⟩],
   [⟨1, false⟩, ⟨2, false⟩]]

/-- the witness is unsatisfiable, the pinned compiler returns the non-constant diagram
`(x0, ⊥, ⊥)`, the repaired one the false constant -/
theorem compileTopdownOrig_not_false :
    naiveCompileOrig f8 = .node false 0 .fls .fls ∧ naiveCompileOrig f8 ≠ .fls ∧
    naiveCompile f8 = .fls := by decide +kernel

theorem f8_unsat (a : Assign) : cnfSat a f8 = false := by
  simp only [f8, cnfSat, clauseSat, litSat, List.all_cons, List.all_nil, List.any_cons, List.any_nil]
  cases a 0 <;> cases a 1 <;> cases a 2 <;> rfl

/-! ## conditioning -/

/-- **`condition` on a decision-DNNF, regular or complemented.**  `p.free` holds for every
result of the compiler and for its negation (`free_neg`). -/
theorem cond_correct_dnnf {NS : NodeStore} {inv : NS.τ → Prop} (hNS : NS.Sound inv)
    (t : NS.τ) (ht : inv t) (p : Ptr) (hp : p.free) (x : Nat) (b : Bool) (a : Assign) :
    (TopDown.condition NS t p x b).1.eval a = p.eval (upd a x b) ∧
    (TopDown.condition NS t p.neg x b).1.eval a = !(p.eval (upd a x b)) ∧
    (TopDown.condition NS t p x b).1.free ∧ x ∉ (TopDown.condition NS t p x b).1.vars := by
  have h1 := condHelper_spec hNS x b p t ht hp
  have h2 := condHelper_spec hNS x b p.neg t ht (free_neg hp)
  refine ⟨h1.2.1 a, ?_, h1.2.2.2, fun h => (h1.2.2.1 x h).2 rfl⟩
  rw [TopDown.condition, h2.2.1 a, eval_neg]

/-- the same for the standard store, no side condition but freeness -/
theorem cond_correct_dnnf_standard (p : Ptr) (hp : p.free) (x : Nat) (b : Bool) (a : Assign) :
    (TopDown.condition standardStore () p x b).1.eval a = p.eval (upd a x b) ∧
    (TopDown.condition standardStore () p.neg x b).1.eval a = !(p.eval (upd a x b)) :=
  let h := cond_correct_dnnf standardStore_sound () trivial p hp x b a
  ⟨h.1, h.2.1⟩

/-- `mkVar` (`TopDownBuilder::var`) denotes the literal -/
theorem mkVar_eval {NS : NodeStore} {inv : NS.τ → Prop} (hNS : NS.Sound inv) (t : NS.τ) (ht : inv t)
    (x : Nat) (pol : Bool) (a : Assign) : (TopDown.mkVar NS t x pol).1.eval a = fVar x pol a := by
  unfold TopDown.mkVar
  cases pol <;> simp only [Bool.false_eq_true, if_false, if_true, eval_neg, hNS.eval_eq t ht, Ptr.eval, fVar] <;>
    cases a x <;> rfl

/-- `¬(x0 ∨ x1)` as the standard store builds it -/
def notOr01 : Ptr := (dnnfNode 0 (dnnfNode 1 .fls .tru) .tru).neg

/-- the pinned `cond_helper` (finding F2): conditioning `¬(x0 ∨ x1)` on `x0 = ⊤` gives ⊤,
the restricted function is ⊥; the repaired helper gives ⊥ -/
theorem condOrig_wrong :
    (conditionOrig standardStore () notOr01 0 true).1 = .tru ∧
    (∀ a, notOr01.eval (upd a 0 true) = false) ∧
    (TopDown.condition standardStore () notOr01 0 true).1 = .fls := by
  refine ⟨by decide, ?_, by decide⟩
  intro a
  simp [notOr01, dnnfNode, Ptr.isNeg, Ptr.neg, Ptr.eval]

/-! ## non-vacuity: the reference solver, an idealised semantic hash, executable runs -/

/-- the executable reference solver `NaiveSolver` satisfies every hypothesis made on the solver,
for every CNF -/
theorem naiveSolver_satisfies (cnf : Cnf) (numVars : Nat) :
    HashSound (naiveSpec cnf) ∧ FreeDecide (naiveSpec cnf) ∧ NewSpec (naiveSpec cnf) cnf numVars :=
  ⟨naive_hashSound cnf, naive_freeDecide cnf, naive_newSpec cnf numVars⟩

/-- hence, with NO hypothesis: for every CNF the model compiler run with the reference solver
(standard store, identity order) returns a free diagram denoting the CNF, the false constant
iff the CNF is unsatisfiable -/
theorem naiveCompile_correct (cnf : Cnf) :
    (∀ a, (naiveCompile cnf).eval a = cnfSat a cnf) ∧ (naiveCompile cnf).free ∧
    (naiveCompile cnf = .fls ↔ ∀ a, cnfSat a cnf = false) := TopDown.naiveCompile_correct cnf

/-- the same for every order that enumerates the variables -/
theorem naiveCompile_order_correct (cnf : Cnf) (varAt : Nat → Nat) (numVars : Nat)
    (hvarAt : ∀ v, InCnf cnf v → ∃ i, i < numVars ∧ varAt i = v) :
    (∀ a, (compileTopdown NaiveSolver standardStore varAt cnf numVars ()).1.eval a = cnfSat a cnf) ∧
    (compileTopdown NaiveSolver standardStore varAt cnf numVars ()).1.free ∧
    ((compileTopdown NaiveSolver standardStore varAt cnf numVars ()).1 = .fls ↔ ∀ a, cnfSat a cnf = false) :=
  compileTopdown_correct (naiveSpec cnf) varAt (naive_hashSound cnf) (naive_freeDecide cnf) cnf numVars
    (naive_newSpec cnf numVars) hvarAt (fun _ _ => trivial)

/-- an idealised collision-free "hash": the node itself, tagged; `negH` flips the tag -/
def idealHash (p : Ptr) : Ptr × Bool := (p, false)
def idealNeg (h : Ptr × Bool) : Ptr × Bool := (h.1, !h.2)

theorem idealHash_collisionFree : CollisionFree idealHash idealNeg id := by
  refine fun n m => ⟨fun h => ?_, fun h => by simp [idealHash, idealNeg] at h⟩
  cases (Prod.mk.inj h).1
  exact Agrees.refl n

/-- so `CollisionFree` is satisfiable, and with it the semantic-store theorem applies -/
theorem naiveCompile_semantic_ideal (cnf : Cnf) :
    let r := (compileTopdown NaiveSolver (semanticStore idealHash idealNeg) id cnf (cnfNumVars cnf) []).1
    (∀ a, r.eval a = cnfSat a cnf) ∧ r.free ∧ (r = .fls ↔ ∀ a, cnfSat a cnf = false) :=
  compileTopdown_correct_semantic_partial (naiveSpec cnf) id idealHash idealNeg id idealHash_collisionFree
    (naive_hashSound cnf) (naive_freeDecide cnf) cnf (cnfNumVars cnf) (naive_newSpec cnf _)
    (fun v hv => ⟨v, lt_cnfNumVars hv, rfl⟩) (fun _ _ => trivial)

/-- a semantic hash in the prime field `P` as the Rust computes it: weighted count with the
normalised weights `(w, 1 - w)`, `w = var + 2` -/
def ffHash (P : Nat) : Ptr → Nat
  | .tru => 1 % P
  | .fls => 0
  | .node c v lo hi =>
    let x := ((v + 2) * ffHash P lo + (P + 1 - (v + 2) % P) * ffHash P hi) % P
    if c then (P + 1 - x) % P else x
def ffNeg (P : Nat) (h : Nat) : Nat := (P + 1 - h % P) % P

private def p (v : Nat) : Lit := ⟨v, true⟩
private def n (v : Nat) : Lit := ⟨v, false⟩

/-- `(x0 ∨ x1) ∧ (x2 ∨ x3)`: a component-cache hit on the residual `(x2 ∨ x3)` -/
def ex1 : Cnf := [[p 0, p 1], [p 2, p 3]]
/-- implication chain with a long clause -/
def ex2 : Cnf := [[n 0, p 1], [n 1, p 2], [p 3, n 2, p 0]]

/-- truth tables agree -/
def sameTable (k : Nat) (r : Ptr) (cnf : Cnf) : Bool :=
  (List.range (2 ^ k)).all fun i => r.eval (assignOfNat i) == cnfSat (assignOfNat i) cnf

theorem naiveCompile_ex1 : naiveCompile ex1 =
    .node false 0
      (.node false 1 .fls (.node false 2 (.node false 3 .fls .tru) .tru))
      (.node false 2 (.node false 3 .fls .tru) .tru) := by decide +kernel

example : naiveCompile ex1 =
    .node false 0
      (.node false 1 .fls (.node false 2 (.node false 3 .fls .tru) .tru))
      (.node false 2 (.node false 3 .fls .tru) .tru) := naiveCompile_ex1
example : sameTable 4 (naiveCompile ex2) ex2 = true := by decide +kernel
-- the semantic store over a prime field, run on the same inputs
example : sameTable 4
    (compileTopdown NaiveSolver (semanticStore (ffHash 1000003) (ffNeg 1000003)) id ex1 4 []).1 ex1 = true := by
  decide +kernel
example : sameTable 4
    (compileTopdown NaiveSolver (semanticStore (ffHash 1000003) (ffNeg 1000003)) id ex2 4 []).1 ex2 = true := by
  decide +kernel
-- a non-identity order (x3, x1, x0, x2)
example : sameTable 4
    (compileTopdown NaiveSolver standardStore (fun i => [3, 1, 0, 2].getD i 0) ex2 4 ()).1 ex2 = true := by
  decide +kernel
-- in the field with 5 elements two different functions collide and the result is WRONG:
-- unconditional correctness of the semantic store is false
example : sameTable 4
    (compileTopdown NaiveSolver (semanticStore (ffHash 5) (ffNeg 5)) id ex2 4 []).1 ex2 = false := by
  decide +kernel
-- conditioning the compiled diagram and its negation
example : ((TopDown.condition standardStore () (naiveCompile ex1) 1 false).1,
           (TopDown.condition standardStore () (naiveCompile ex1).neg 1 false).1) =
    (.node false 0 .fls (.node false 2 (.node false 3 .fls .tru) .tru),
     .node true 0 .fls (.node false 2 (.node false 3 .fls .tru) .tru)) := by
  rw [naiveCompile_ex1]; decide

/-! ## axioms -/
#print axioms topdownH_correct
#print axioms compileTopdown_correct_store
#print axioms compileTopdown_correct
#print axioms compileTopdown_correct_semantic_partial
#print axioms topdownH_correct_semantic_partial
#print axioms compileTopdownOrig_not_false
#print axioms f8_unsat
#print axioms cond_correct_dnnf
#print axioms cond_correct_dnnf_standard
#print axioms mkVar_eval
#print axioms condOrig_wrong
#print axioms naiveSolver_satisfies
#print axioms naiveCompile_correct
#print axioms naiveCompile_order_correct
#print axioms idealHash_collisionFree
#print axioms naiveCompile_semantic_ideal

end C06
