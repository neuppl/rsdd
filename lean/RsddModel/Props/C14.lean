import RsddModel.Lemmas.Orders
import RsddModel.Lemmas.DTree
import RsddModel.Lemmas.VTree
/-!
# C14 — variable orders, dtrees, vtrees and the vtree manager

"Every variable order the library produces (linear, min-fill, FORCE, run-time extension) is a
permutation of the formula's variables whose position and label maps are mutually inverse.  A dtree
built from a CNF and any elimination order has exactly the CNF's clauses as leaves, variable sets
equal to the union of the children's, and cutsets equal to the variables shared by the children
and not cut above; the vtree derived from it contains every CNF variable as exactly one leaf.  The
vtree manager's in-order indices, least common ancestors, prime/sub relation and variable count
agree with the shape of the tree."

Models: `RsddModel/Model/Orders.lean`, `RsddModel/Model/VTree.lean` (both differential-tested
against the Rust).  Readings fixed here:

* **"every CNF variable"** = every variable OCCURRING in a clause (`VT.Occurs`).  An index below
  `num_vars` that no clause mentions is in no dtree leaf and hence in no derived vtree;
  `from_dtree` returns `None` exactly when no variable occurs at all.
* The elimination order of a dtree is ANY list of naturals (no hypothesis).
* `DTree.fromCnf` is `DTree::from_cnf` with the one-line repair `res.init_vars()`; for the code as
  it stands (`DTree.fromCnfOrig`) the `vars` claim is FALSE (`dtree_vars_orig_wrong`), the leaf and
  cutset claims hold, and the derived vtree is the same whenever the elimination order mentions every
  occurring variable (`vtree_of_dtree_leaves_orig`).
* `VTreeManager.numVars` is `num_vars()` as repaired (largest label + 1); the unrepaired
  `numVarsOrig` is refuted by `numVarsOrig_wrong`.
* `force_order` has an unbounded `loop`; the theorem covers every run that returns (any fuel), for
  ANY key arithmetic (`ForceOps`), hence in particular IEEE doubles with whatever rounding/NaN
  behaviour.  The loop diverges for a CNF without clauses (model: `forceOrderFloat [] 0 = none`).
-/
namespace C14
open Orders VT Spec

/-! ## orders -/

/-- the variable orders the library produces, with their number of variables -/
inductive Produced : VarOrder → Nat → Prop
  /-- `VarOrder::new` of a permutation (its documented precondition) -/
  | new {order : List Nat} {n : Nat} (h : order.Perm (List.range n)) : Produced (VarOrder.new order) n
  /-- `VarOrder::linear_order(n)` / `Cnf::linear_order` -/
  | linear (n : Nat) : Produced (VarOrder.linear n) n
  /-- `Cnf::min_fill_order` -/
  | minFill (cs : Cnf) : Produced (minFillOrder cs (cnfNumVars cs)) (cnfNumVars cs)
  /-- `Cnf::force_order`, for any key arithmetic and any run that returns -/
  | force {K : Type} (ops : ForceOps K) (cs : Cnf) (fuel : Nat) (o : VarOrder)
      (h : forceOrder ops cs (cnfNumVars cs) fuel = some o) : Produced o (cnfNumVars cs)
  /-- run-time extension `new_last()` -/
  | newLast {o : VarOrder} {n : Nat} (h : Produced o n) : Produced o.newLast.1 (n + 1)

/-- every produced order is a permutation of `0..n-1` in both directions with mutually inverse
position and label maps -/
theorem order_inverse {o : VarOrder} {n : Nat} (h : Produced o n) :
    o.posToVar.Perm (List.range n) ∧ o.varToPos.Perm (List.range n) ∧
    (∀ i, i < n → o.get (o.varAtLevel i) = i) ∧ (∀ v, v < n → o.varAtLevel (o.get v) = v) := by
  have wf : o.WF n := by
    induction h with
    | new h => exact new_wf h
    | linear n => exact linear_wf n
    | minFill cs => exact minFillOrder_wf cs _
    | force ops cs fuel o h => exact forceOrder_wf ops cs _ fuel o h
    | newLast _ ih => exact (newLast_wf ih).1
  exact ⟨wf.perm_pos, wf.perm_var, wf.get_varAtLevel, wf.varAtLevel_get⟩

/-- `new_last()` returns the fresh label `n` and keeps the order a permutation with inverse maps -/
theorem newLast_perm {o : VarOrder} {n : Nat} (h : o.WF n) :
    o.newLast.1.WF (n + 1) ∧ o.newLast.2 = n := newLast_wf h

/-- any number of `new_last()` calls -/
theorem newLastN_perm {o : VarOrder} {n : Nat} (h : o.WF n) (k : Nat) : (o.newLastN k).WF (n + k) :=
  newLastN_wf h k

/-- the min-fill elimination sequence is a permutation of `0..numVars-1` — for the actual
tie-breaking, and (`minfill_perm_any`) for ANY choice function and ANY fill-in rewriting -/
theorem minfill_perm (cs : Cnf) (n : Nat) :
    (minFillSeq cs n).Perm (List.range n) ∧ (minFillOrder cs n).WF n :=
  ⟨minFillSeq_perm cs n, minFillOrder_wf cs n⟩

theorem minfill_perm_any (pick : UnGraph → Nat) (pre : UnGraph → Nat → UnGraph)
    (hpre : ∀ g v, (pre g v).nodes = g.nodes)
    (hpick : ∀ g, g.nodes ≠ [] → pick g < g.nodes.length) (cs : Cnf) (n : Nat) :
    (elimLoop pick pre n (interactionGraph cs n) []).Perm (List.range n) := by
  have h := elimLoop_perm pick pre hpre hpick n (interactionGraph cs n) []
    (by rw [interactionGraph_nodes]; simp)
  rw [interactionGraph_nodes] at h
  simpa using h

/-- FORCE: sorting ANY keys gives a permutation; every returned order is well-formed -/
theorem force_perm {K : Type} (ops : ForceOps K) (cs : Cnf) (n fuel : Nat) :
    (∀ l, forceSeq ops cs n fuel = some l → l.Perm (List.range n)) ∧
    (∀ o, forceOrder ops cs n fuel = some o → o.WF n) :=
  ⟨fun l h => forceSeq_perm ops cs n fuel l h, fun o h => forceOrder_wf ops cs n fuel o h⟩

/-! ## dtrees -/

/-- the leaf clauses are exactly the CNF's clauses (as a multiset), for every elimination order;
a dtree exists iff the CNF has a clause -/
theorem dtree_leaves (cs : Cnf) (ord : List Nat) :
    (cs ≠ [] → (DTree.fromCnf cs ord).isSome) ∧ (DTree.fromCnf [] ord = none) ∧
    (∀ d, DTree.fromCnf cs ord = some d → d.leaves.Perm cs) ∧
    (∀ d, DTree.fromCnfOrig cs ord = some d → d.leaves.Perm cs) :=
  ⟨fun h => fromCnf_isSome h ord, fromCnf_none ord, fun _ h => VT.dtree_leaves h,
    fun _ h => VT.dtree_leaves_orig h⟩

/-- `vars` of a leaf is its clause's variable set, `vars` of a node the union of its children's
(`DTree.VarsOk`), hence `vars` is the set of variables of the clauses below, in ascending order -/
theorem dtree_vars {cs : Cnf} {ord : List Nat} {d : DTree} (h : DTree.fromCnf cs ord = some d) :
    d.VarsOk ∧ VarSet.Sorted d.vars ∧ ∀ x, x ∈ d.vars ↔ ∃ c ∈ d.leaves, ∃ l ∈ c, l.var = x :=
  ⟨VT.dtree_vars h, dtree_vars_sorted (VT.dtree_vars h), dtree_vars_mem (VT.dtree_vars h)⟩

/-- NEGATIVE: `DTree::from_cnf` as it stands never initialises `vars` of the nodes that join the
remaining components: (x1) ∧ (¬x2), order [2,0,1] gives a root with `vars = {}` -/
theorem dtree_vars_orig_wrong :
    ∃ d, DTree.fromCnfOrig [[⟨1, true⟩], [⟨2, false⟩]] [2, 0, 1] = some d ∧ ¬ d.VarsOk :=
  VT.dtree_vars_orig_wrong

/-- every cutset is `(vars l ∩ vars r) ∖ (cutsets of the proper ancestors)`; a leaf's is
`vars ∖ ancestors` (`DTree.CutsOk`, relative to the stored `vars`) -/
theorem dtree_cutsets {cs : Cnf} {ord : List Nat} :
    (∀ d, DTree.fromCnf cs ord = some d → d.CutsOk []) ∧
    (∀ d, DTree.fromCnfOrig cs ord = some d → d.CutsOk []) :=
  ⟨fun _ h => VT.dtree_cutsets h, fun _ h => VT.dtree_cutsets_orig h⟩

/-- every variable occurring in the CNF is exactly one leaf of the derived vtree and there are no
other leaves; `from_dtree` is `None` iff no variable occurs -/
theorem vtree_of_dtree_leaves {cs : Cnf} {ord : List Nat} {d : DTree}
    (h : DTree.fromCnf cs ord = some d) :
    (match VTree.fromDtree d with
      | some t => t.leaves.Nodup ∧ ∀ x, x ∈ t.leaves ↔ Occurs x cs
      | none => ∀ x, ¬ Occurs x cs) ∧
    (VTree.fromDtree d = none ↔ ∀ x, ¬ Occurs x cs) :=
  ⟨VT.vtree_of_dtree_leaves h, vtree_of_dtree_none_iff h⟩

/-- the same for the unrepaired `from_cnf`, when the elimination order mentions every occurring
variable (as every order of the CNF's variables does) -/
theorem vtree_of_dtree_leaves_orig {cs : Cnf} {ord : List Nat} {d : DTree}
    (hord : ∀ x, Occurs x cs → x ∈ ord) (h : DTree.fromCnfOrig cs ord = some d) :
    match VTree.fromDtree d with
    | some t => t.leaves.Nodup ∧ ∀ x, x ∈ t.leaves ↔ Occurs x cs
    | none => ∀ x, ¬ Occurs x cs :=
  VT.vtree_of_dtree_leaves_orig hord h

/-! ## the vtree manager -/

/-- the in-order path of index `i` -/
abbrev pathOf (t : VTree) (i : Nat) : Path := (VTree.inorderPaths t).getD i []

/-- the index table is the in-order (left subtree, node, right subtree) numbering: there are
`size t` indices, `vtree(i)` is the subtree at the `i`-th in-order path, the paths are exactly the
nodes of the tree, each once; and a leaf's variable is mapped to the leaf's index -/
theorem inorder_index_spec (t : VTree) :
    (VTree.inorderPaths t).length = t.size ∧ (VTree.inorderPaths t).Nodup ∧
    (∀ p, p ∈ VTree.inorderPaths t ↔ (t.subtreeAt p).isSome) ∧
    (∀ i, i < t.size → (VTreeManager.new t).vtree i = t.subtreeAt (pathOf t i)) ∧
    (t.leaves.Nodup → ∀ i v, (VTreeManager.new t).vtree i = some (.leaf v) →
      (VTreeManager.new t).getVarlabelIdx v = i) :=
  ⟨VTree.length_inorderPaths t, VTree.nodup_inorderPaths t, fun _ => VTree.mem_inorderPaths,
    fun i hi => indexLookup_spec t i hi, fun hn i v h => varIndex_spec t hn i v h⟩

/-- **`lca` is correct**: the result is the in-order index of the longest common prefix of the two
root paths (`lcaSpec`).  In the Rust the minimum BFS index over the HALF-OPEN Euler segment
`[first l, first r)` is taken; that suffices because the node first seen later is never an
ancestor of the one first seen earlier (`VTree.euler_between`). -/
theorem lca_correct (t : VTree) (i j : Nat) (hi : i < t.size) (hj : j < t.size) :
    (VTreeManager.new t).lca i j = lcaSpec t i j := VT.lca_correct t i j hi hj

/-- `lcaSpec` is the deepest common ancestor: its path is a prefix of both paths, every common
prefix is a prefix of it, and it is a node of the tree -/
theorem lcaSpec_deepest (t : VTree) (i j : Nat) (hi : i < t.size) :
    lcaSpec t i j < t.size ∧
    pathOf t (lcaSpec t i j) = commonPrefix (pathOf t i) (pathOf t j) ∧
    pathOf t (lcaSpec t i j) <+: pathOf t i ∧ pathOf t (lcaSpec t i j) <+: pathOf t j ∧
    ∀ r, r <+: pathOf t i → r <+: pathOf t j → r <+: pathOf t (lcaSpec t i j) := by
  have hi' : i < (VTree.inorderPaths t).length := by rw [VTree.length_inorderPaths]; exact hi
  have vi : VTree.Valid t (pathOf t i) := by
    unfold pathOf; rw [getD_of_lt _ _ _ hi']; exact VTree.valid_inorderPaths_getElem t i hi'
  have hc : commonPrefix (pathOf t i) (pathOf t j) ∈ VTree.inorderPaths t :=
    VTree.mem_inorderPaths.mpr (VTree.valid_of_prefix (commonPrefix_prefix_left _ _) vi)
  have hlt := List.idxOf_lt_length_of_mem hc
  have hp : pathOf t (lcaSpec t i j) = commonPrefix (pathOf t i) (pathOf t j) := by
    unfold lcaSpec pathOf
    rw [getD_of_lt _ _ _ hlt]
    exact List.getElem_idxOf hlt
  refine ⟨?_, hp, ?_, ?_, ?_⟩
  · rw [← VTree.length_inorderPaths]; exact hlt
  · rw [hp]; exact commonPrefix_prefix_left _ _
  · rw [hp]; exact commonPrefix_prefix_right _ _
  · intro r h1 h2; rw [hp]; exact prefix_commonPrefix h1 h2

/-- `is_prime_index(i, j)` (the Rust's `i < j`) holds iff, `c` being the least common ancestor the
manager computes: `i` lies in the LEFT subtree of `c` and `j` is `c` or lies in its RIGHT subtree,
or `i` is `c` and `j` lies in its right subtree.  In particular nodes of the left (prime) subtree
of a decomposition node are prime to the nodes of its right (sub) subtree. -/
theorem isPrime_spec (t : VTree) (i j : Nat) (hi : i < t.size) (hj : j < t.size) :
    let c := pathOf t ((VTreeManager.new t).lca i j)
    (VTreeManager.new t).isPrimeIndex i j = true ↔
      ((∃ a, pathOf t i = c ++ false :: a) ∧ (pathOf t j = c ∨ ∃ b, pathOf t j = c ++ true :: b)) ∨
      (pathOf t i = c ∧ ∃ b, pathOf t j = c ++ true :: b) := by
  intro c
  have hc : c = commonPrefix (pathOf t i) (pathOf t j) := by
    show pathOf t ((VTreeManager.new t).lca i j) = _
    rw [lca_correct t i j hi hj]; exact (lcaSpec_deepest t i j hi).2.1
  rw [hc, isPrimeIndex_spec t i j hi hj]
  exact VTree.inorderLt_iff _ _

/-- `num_vars()` = 1 + the largest leaf label; = the number of leaves when the labels are exactly
`0..n-1`, each once -/
theorem numVars_spec (t : VTree) :
    ((VTreeManager.new t).numVars = t.maxLabel + 1 ∧ t.maxLabel ∈ t.leaves ∧
      ∀ v ∈ t.leaves, v ≤ t.maxLabel) ∧
    (∀ n, t.leaves.Perm (List.range n) →
      (VTreeManager.new t).numVars = n ∧ t.leaves.length = n) :=
  ⟨numVars_eq t, fun n h => numVars_of_perm t n h⟩

/-- NEGATIVE: before the repair `num_vars()` returned the largest label: 3 variables → 2 -/
theorem numVarsOrig_wrong :
    ∃ t : VTree, t.leaves = [0, 1, 2] ∧ (VTreeManager.new t).numVarsOrig ≠ 3 ∧
      (VTreeManager.new t).numVars = 3 :=
  ⟨.node (.leaf 0) (.node (.leaf 1) (.leaf 2)), by decide⟩

/-- the vtree shapes the library builds from a variable list have exactly that list as leaves -/
theorem shapes_leaves (o : List Nat) :
    (∀ t, VTree.rightLinear o = some t → t.leaves = o) ∧
    (∀ t, VTree.leftLinear o = some t → t.leaves = o) ∧
    (∀ k t, VTree.evenSplit o k = some t → t.leaves = o) ∧
    (o ≠ [] → (VTree.rightLinear o).isSome) :=
  ⟨VTree.rightLinear_leaves o, VTree.leftLinear_leaves o, fun k => VTree.evenSplit_leaves k o,
    VTree.rightLinear_isSome o⟩

/-! ## non-vacuity -/

section Examples

/-- `((0 1) (2 (3 4)))` shifted: the tree of the `VTreeIndex` doc comment plus a deeper branch -/
def exT : VTree := .node (.node (.leaf 3) (.leaf 1)) (.node (.leaf 0) (.node (.leaf 4) (.leaf 2)))

example : exT.size = 9 := by decide +kernel
example : VTree.inorderPaths exT =
    [[false, false], [false], [false, true], [], [true, false], [true], [true, true, false],
      [true, true], [true, true, true]] := by decide +kernel
example : VTree.bfsPaths exT =
    [[], [false], [true], [false, false], [false, true], [true, false], [true, true],
      [true, true, false], [true, true, true]] := by decide +kernel
example : (VTreeManager.new exT).dfsToBfs = [3, 1, 4, 0, 5, 2, 7, 6, 8] := by decide +kernel
example : (VTreeManager.new exT).euler = [0, 1, 3, 1, 4, 1, 0, 2, 5, 2, 6, 7, 6, 8, 6, 2, 0] := by decide +kernel
example : (VTreeManager.new exT).lca 0 2 = 1 := by decide +kernel
example : (VTreeManager.new exT).lca 6 4 = 5 := by decide +kernel
example : (VTreeManager.new exT).lca 8 0 = 3 := by decide +kernel
example : (VTreeManager.new exT).lca 7 6 = 7 := by decide +kernel
example : lcaSpec exT 6 4 = 5 := by decide +kernel
example : (VTreeManager.new exT).isPrimeIndex 0 2 = true := by decide +kernel
example : (VTreeManager.new exT).getVarlabelIdx 4 = 6 := by decide +kernel
example : (VTreeManager.new exT).numVars = 5 := by decide +kernel
example : (VTreeManager.new exT).lca 6 4 = lcaSpec exT 6 4 := lca_correct exT 6 4 (by decide) (by decide)

def exCnf : Cnf := [[⟨0, true⟩, ⟨1, false⟩], [⟨1, true⟩, ⟨2, true⟩], [⟨2, false⟩, ⟨3, true⟩], [⟨5, true⟩]]

example : cnfNumVars exCnf = 6 := by decide +kernel
example : Produced (minFillOrder exCnf 6) 6 := Produced.minFill exCnf
example : (minFillOrder exCnf 6).posToVar = [0, 5, 4, 3, 2, 1] := by decide +kernel
/-- pre-order `(is_leaf, vars, cutset)`; two components (`x5` alone), index 4 unused -/
example : ((DTree.fromCnf exCnf [0, 5, 4, 3, 2, 1]).map DTree.preorder) = some
    [(false, [0, 1, 2, 3, 5], []), (true, [5], [5]), (false, [0, 1, 2, 3], [1]),
      (true, [0, 1], [0]), (false, [1, 2, 3], [2]), (true, [1, 2], []), (true, [2, 3], [3])] := by decide +kernel
example : ((DTree.fromCnf exCnf [0, 5, 4, 3, 2, 1]).bind VTree.fromDtree).map VTree.leaves
    = some [5, 1, 0, 2, 3] := by decide +kernel
/-- the unrepaired code leaves the root's `vars` empty on the same input -/
example : ((DTree.fromCnfOrig exCnf [0, 5, 4, 3, 2, 1]).map DTree.vars) = some [] := by decide +kernel
example : Occurs 5 exCnf ∧ ¬ Occurs 4 exCnf := by unfold Occurs; decide

end Examples

/-! ## axioms -/

#print axioms order_inverse
#print axioms newLast_perm
#print axioms newLastN_perm
#print axioms minfill_perm
#print axioms minfill_perm_any
#print axioms force_perm
#print axioms dtree_leaves
#print axioms dtree_vars
#print axioms dtree_vars_orig_wrong
#print axioms dtree_cutsets
#print axioms vtree_of_dtree_leaves
#print axioms vtree_of_dtree_leaves_orig
#print axioms inorder_index_spec
#print axioms lca_correct
#print axioms lcaSpec_deepest
#print axioms isPrime_spec
#print axioms numVars_spec
#print axioms numVarsOrig_wrong
#print axioms shapes_leaves

end C14
