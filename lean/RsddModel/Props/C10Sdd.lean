import RsddModel.Lemmas.ScratchSdd
/-!
# C10 — queries are pure (SDDs)

The SDD side of C10, same shape as `Props/C10.lean`.  Model: `Model/ScratchSdd.lean`
(`SddPtr::fold`, `SddPtr::count_nodes`, `SddOr::clear_scratch`, `BinarySDD::clear_scratch`).

The one structural difference: the SDD `clear_scratch`es do not short-circuit, so the clean-up
needs no occupancy argument (`clear_total`) — at the price of walking the unfolded tree rather
than the DAG.  The specification value `valS` is the same recursion as the memoised pass with
no scratch, i.e. the fold of the unfolded tree (no separate tree type is introduced for SDDs).
-/
namespace C10Sdd
open Scratch ScratchSdd

section
variable {Tag : Type} [DecidableEq Tag] {U : Tag → Type}

/-- the memo of `bottomup_pass_h` (SDD) is transparent -/
theorem foldDag_eq_tree (t : Tag) (A : SAlg (U t)) (s : SStore) (r : SRef) (σ σ' : Scr U) (v : U t)
    (hclear : ClearOnS s r σ) (hrun : foldDagS t A s r σ = (v, σ')) :
    v = valS A s r ∧ (∀ j, reachesS s r j = false → σ' j = σ j) := by
  have h := foldDagS_spec t A s r σ (preOn_of_noPair (fun j hj => by rw [hclear j hj]; rfl))
  rw [hrun] at h
  exact ⟨h.1, h.2.2⟩

/-- `clear_scratch` on SDDs empties exactly the reachable cells, whatever the state -/
theorem clear_total (s : SStore) (r : SRef) (σ : Scr U) :
    ∀ j, clearS s r σ j = if reachesS s r j then .empty else σ j :=
  fun j => congrFun (clearS_spec s r σ) j

/-- `SddPtr::fold` -/
theorem fold_pure (t : Tag) (A : SAlg (U t)) (s : SStore) (r : SRef) (σ : Scr U) (h : ClearOnS s r σ) :
    foldS t A s r σ = (valS A s r, σ) := by
  rw [foldS_spec t A s r σ (preOn_of_noPair (fun j hj => by rw [h j hj]; rfl)), emptied_of_clearOn h]

/-- leftovers of another type are harmless -/
theorem fold_robust (t : Tag) (A : SAlg (U t)) (s : SStore) (r : SRef) (σ : Scr U)
    (h : ∀ j, reachesS s r j = true → (σ j).asPair t = none) :
    foldS t A s r σ = (valS A s r, fun j => if reachesS s r j then .empty else σ j) :=
  foldS_spec t A s r σ (preOn_of_noPair h)

/-- `SddPtr::count_nodes`: one per element of every distinct reachable node -/
theorem countNodes_pure (s : SStore) (r : SRef) (σ : Scr U) (h : ClearOnS s r σ) :
    countNodesS s r σ = (countSpecS s r, σ) := by
  rw [countNodesS_spec s r σ (fun j hj => by rw [h j hj]; rfl), emptied_of_clearOn h]

/-- sequences of SDD queries of different result types over arbitrary roots of one store: the
answers are a `map` of the scratch-free answers (hence each equals the call run alone on a
fresh scratch, any reordering reorders the answers and changes none), and the final state is
all-clear -/
theorem queries_pure (s : SStore) (qs : List (SRef × QueryS U)) :
    runQueriesS s Scr.clear qs =
      (qs.map fun p => (runQueryS s Scr.clear p.1 p.2).1, Scr.clear) := by
  induction qs with
  | nil => rfl
  | cons p qs ih =>
    obtain ⟨r, q⟩ := p
    have hc : ClearOnS s r (Scr.clear (U := U)) := fun _ _ => rfl
    have h : (runQueryS s Scr.clear r q).2 = Scr.clear := by
      cases q <;> simp only [runQueryS, fold_pure _ _ s r _ hc, countNodes_pure s r _ hc]
    simp only [runQueriesS, h, ih, List.map_cons]

theorem queries_perm (s : SStore) (qs qs' : List (SRef × QueryS U)) (hp : qs.Perm qs') :
    (runQueriesS s Scr.clear qs).1.Perm (runQueriesS s Scr.clear qs').1 := by
  rw [queries_pure, queries_pure]; exact hp.map _

end

/-! ## non-vacuity: two binary nodes, three decision nodes; nodes 1 and 2 sit under both
polarities and under both roots -/

inductive DTag | b | n deriving DecidableEq
abbrev DU : DTag → Type
  | .b => Bool | .n => Nat

def exS : SStore := List.reverse
  [.bdd 1 .fls .tru, .bdd 3 .fls .tru,
   .or [(.var 0 true, .reg 0), (.var 0 false, .fls)],
   .or [(.reg 2, .reg 1), (.compl 2, .compl 1)],
   .or [(.reg 2, .compl 1), (.compl 2, .fls)]]
def natOps : SROps Nat := ⟨0, 1, (· + ·), (· * ·)⟩
def w1 : Spec.Weights Nat := fun v => (v + 2, v + 3)

example : (foldDagS (U := DU) .n (wmcSAlg natOps w1) exS (.reg 3) Scr.clear).1 = 127 ∧
    valS (wmcSAlg natOps w1) exS (.reg 3) = 127 := by decide +kernel
example : ((foldDagS (U := DU) .n (wmcSAlg natOps w1) exS (.reg 3) Scr.clear).2 2).asPair .n = some (some 11, some 12) ∧
    ((foldDagS (U := DU) .n (wmcSAlg natOps w1) exS (.reg 3) Scr.clear).2 1).asPair .n = some (some 5, some 6) := by
  decide +kernel
example : (foldS (U := DU) .n (wmcSAlg natOps w1) exS (.reg 3) Scr.clear).2.occupied 5 = List.replicate 5 false := by
  decide +kernel
example : (countNodesS (U := DU) exS (.reg 3) Scr.clear).1 = 8 ∧
    (countNodesS (U := DU) exS (.compl 4) Scr.clear).1 = 8 ∧
    (foldS (U := DU) .n (wmcSAlg natOps w1) exS (.compl 4) Scr.clear).1 = 83 := by decide +kernel

end C10Sdd

#print axioms C10Sdd.foldDag_eq_tree
#print axioms C10Sdd.clear_total
#print axioms C10Sdd.fold_pure
#print axioms C10Sdd.fold_robust
#print axioms C10Sdd.countNodes_pure
#print axioms C10Sdd.queries_pure
#print axioms C10Sdd.queries_perm
