import RsddModel.Lemmas.Optim
/-!
# C12: marginal MAP, maximum expected utility and the generic branch and bound

"For probability weights (every weight in [0,1], low+high = 1 on every non-query variable)
marginal MAP and the generic branch-and-bound return the maximum, over all assignments of the
query variables, of the weighted count of the function restricted to that assignment, together
with a complete assignment of the query variables that attains it.  The same holds for maximum
expected utility when decision variables carry unit weight, utilities are non-negative and every
utility-bearing variable is ordered after all decision variables."

Reading.

* Code: `Optim.marginalMap`, `Optim.meu`, `Optim.bb` (`Model/Optim.lean`) mirror `marginal_map`,
  `meu`, `bb` of `src/repr/bdd.rs` on the diagram *tree* (`bdd_fold` without its memo), `f64` read
  as `Rat`.  Oracles: `Spec.mapSpec`, `Spec.meuSpec`, `Spec.bbSpec` (`Spec/Optim.lean`), brute force
  over all `2^|Q|` query assignments.
* Quantifiers.  All diagrams: every *free* `Bdd.Ptr` (no variable twice on a path: all ROBDDs of
  all orders) for marginal MAP; every reduced ordered diagram `Robdd order p` of every order for
  MEU and for the path-count form of `bb`.  All query lists `Q`: any list of labels `< numVars`
  (`from_litvec` indexes out of bounds otherwise), including `[]`, all variables, variables the
  function ignores, and repeated variables (`qWeight` counts each distinct variable once; the
  search proof goes through `Consistent` completions for exactly this case).  All weights in the
  stated domain (in fact weaker: `MapWeights`, `MeuWeights`).  The variable order of the diagram is
  arbitrary: it does not occur in the marginal MAP statements at all.
* The returned partial model `m` "is a complete assignment of the query variables": `Completes
  (PM.new n) Q m` (`m.get x ≠ none ↔ x ∈ Q`, `completes_new_get`), its reading `m.toAssign` is one
  of the enumerated query assignments and has the optimal value.
* Nothing here is partial: there is no `…_partial` theorem.
-/
namespace C12
open Bdd Spec Sem Optim

/-! ## the stated weight domains -/

/-- "every weight in [0,1], low+high = 1 on every non-query variable" (`vars` = the variables
summed over; it must contain the variables of the diagram) -/
structure ProbWeights (w : Weights Rat) (Q vars : List Nat) : Prop where
  unit_interval : ∀ v, (0 ≤ (w v).1 ∧ (w v).1 ≤ 1) ∧ (0 ≤ (w v).2 ∧ (w v).2 ≤ 1)
  normalised : ∀ v ∈ vars, v ∉ Q → (w v).1 + (w v).2 = 1

theorem ProbWeights.toMap {w : Weights Rat} {Q vars : List Nat} (h : ProbWeights w Q vars) :
    MapWeights w Q vars where
  nonneg v := ⟨(h.unit_interval v).1.1, (h.unit_interval v).2.1⟩
  query_le_one x _ := ⟨(h.unit_interval x).1.2, (h.unit_interval x).2.2⟩
  normalised := h.normalised

/-- "decision variables carry unit weight, utilities are non-negative and every utility-bearing
variable is ordered after all decision variables": `Optim.MeuWeights w D order`, i.e.
`w x = (ExpectedUtility(1,0), ExpectedUtility(1,0))` for `x ∈ D`, both components of every weight
non-negative, and along `order` every variable is a decision variable, or has
`low + high = ExpectedUtility(1,0)` (a probabilistic variable), or has no decision variable at
or below it (a utility-bearing variable). -/
abbrev MeuDomain := @MeuWeights

/-! ## marginal MAP -/

/-- **`eval_complete`**: when every query variable is assigned (and nothing else),
`marginal_map_eval` is `(∏ assigned literal weights) · wsum(non-query vars)(f at q)`: free diagram,
normalised non-query weights. -/
theorem eval_complete {w : Weights Rat} {Q vars : List Nat} (hw : MapWeights w Q vars) {p : Ptr}
    (hp : p.free) (hnd : vars.Nodup) (hcov : ∀ v ∈ p.vars, v ∈ vars) {n : Nat} (hQ : ∀ x ∈ Q, x < n)
    {c : PM} (hc : Completes (PM.new n) Q c) :
    marginalMapEval p c [] w =
      qWeight realOps w c.toAssign Q [] * wsum realOps (nonQuery vars Q) w p.eval c.toAssign :=
  map_eval_complete hw hp hcov hQ hc

/-- **`ub_sound`**: the relaxed fold (max over the unassigned query variables `bits`) is at least the
value of every completion that agrees with what is already assigned; weights non-negative,
query weights at most one (normalisation is not needed for this). -/
theorem ub_sound {w : Weights Rat} {Q vars : List Nat} (hw : MapWeights w Q vars) {p : Ptr} (hp : p.free)
    (bits : List Nat) (hbits : ∀ x ∈ bits, x ∈ Q) (m : PM) (hm : ∀ x ∈ bits, x < m.vals.length)
    (q : Assign) (hq : Consistent m bits q) :
    marginalMapEval p (complete m bits q) [] w ≤ marginalMapEval p m bits w :=
  map_ub_sound hw hp bits hbits m hm q hq

/-- **`bnb_opt`**: `marginal_map_h(lb, best, Q, w, asg) = (v, m)` ⇒
`v = max(lb, max over completions of asg over Q of their value)`; if `v > lb` then `m` is a completion
of `asg` over `Q` attaining `v`, else `(v, m) = (lb, best)`.  Stated as: `v ≥ lb`, `v` bounds every
completion consistent with `asg`, and `v` is `lb` or attained.  (By induction on `Q`, including the
strict-improvement pruning.) -/
theorem bnb_opt {w : Weights Rat} {Q vars : List Nat} (hw : MapWeights w Q vars) {p : Ptr} (hp : p.free)
    {n : Nat} (hQ : ∀ x ∈ Q, x < n) (lb : Rat) (best asg : PM) (hasg : asg.vals.length = n) :
    lb ≤ (marginalMapH p w lb best Q asg).1 ∧
    (∀ q, Consistent asg Q q →
      marginalMapEval p (complete asg Q q) [] w ≤ (marginalMapH p w lb best Q asg).1) ∧
    (marginalMapH p w lb best Q asg = (lb, best) ∨
      (lb < (marginalMapH p w lb best Q asg).1 ∧
       Completes asg Q (marginalMapH p w lb best Q asg).2 ∧
       (marginalMapH p w lb best Q asg).2 =
         complete asg Q (marginalMapH p w lb best Q asg).2.toAssign ∧
       (marginalMapH p w lb best Q asg).1 =
         marginalMapEval p (marginalMapH p w lb best Q asg).2 [] w)) := by
  have H := marginalMapH_opt hw hp hQ lb best asg hasg
  refine ⟨H.ge_lb, H.ub, ?_⟩
  rcases H.att with e | ⟨h1, h2, h3⟩
  · exact Or.inl e
  · exact Or.inr ⟨h1, h2, completes_eq (fun x hx => by rw [hasg]; exact hQ x hx) h2, h3⟩

/-- when no query variable is assigned yet every completion is consistent -/
theorem bnb_opt_fresh {w : Weights Rat} {Q vars : List Nat} (hw : MapWeights w Q vars) {p : Ptr}
    (hp : p.free) {n : Nat} (hQ : ∀ x ∈ Q, x < n) (lb : Rat) (best asg : PM) (hasg : asg.vals.length = n)
    (hfresh : ∀ x ∈ Q, asg.get x = none) (q : Assign) :
    marginalMapEval p (complete asg Q q) [] w ≤ (marginalMapH p w lb best Q asg).1 :=
  (bnb_opt hw hp hQ lb best asg hasg).2.1 q (fun x hx b hb => by rw [hfresh x hx] at hb; cases hb)

/-- **`marginalMap_opt`**: the returned value is `mapSpec` (the maximum over all assignments of `Q`),
the returned model assigns exactly `Q`, its reading is one of the `2^|Q|` enumerated query
assignments and attains the maximum. -/
theorem marginalMap_opt {w : Weights Rat} {Q vars : List Nat} (hw : ProbWeights w Q vars) {p : Ptr}
    (hp : p.free) (hnd : vars.Nodup) (hcov : ∀ v ∈ p.vars, v ∈ vars) {n : Nat} (hQ : ∀ x ∈ Q, x < n) :
    (marginalMap p Q n w).1 = mapSpec p.eval Q vars w ∧
    (∀ x, (marginalMap p Q n w).2.get x ≠ none ↔ x ∈ Q) ∧
    (marginalMap p Q n w).2.toAssign ∈ queryAssignments Q ∧
    mapValue p.eval Q (nonQuery vars Q) w (marginalMap p Q n w).2.toAssign = mapSpec p.eval Q vars w := by
  obtain ⟨h1, h2, h3, h4⟩ := Optim.marginalMap_opt hw.toMap hp hnd hcov hQ
  exact ⟨h1, completes_new_get h2, h3, h4.trans h1⟩

/-- the same under the weaker domain `MapWeights` (non-negative, query weights `≤ 1`, non-query
normalised) -/
theorem marginalMap_opt' {w : Weights Rat} {Q vars : List Nat} (hw : MapWeights w Q vars) {p : Ptr}
    (hp : p.free) (hnd : vars.Nodup) (hcov : ∀ v ∈ p.vars, v ∈ vars) {n : Nat} (hQ : ∀ x ∈ Q, x < n) :
    (marginalMap p Q n w).1 = mapSpec p.eval Q vars w ∧
    Completes (PM.new n) Q (marginalMap p Q n w).2 ∧
    (marginalMap p Q n w).2.toAssign ∈ queryAssignments Q ∧
    mapValue p.eval Q (nonQuery vars Q) w (marginalMap p Q n w).2.toAssign = (marginalMap p Q n w).1 :=
  Optim.marginalMap_opt hw hp hnd hcov hQ

/-- every value the oracle maximises over is below the returned one (the "max" unfolded) -/
theorem marginalMap_ge {w : Weights Rat} {Q vars : List Nat} (hw : ProbWeights w Q vars) {p : Ptr}
    (hp : p.free) (hnd : vars.Nodup) (hcov : ∀ v ∈ p.vars, v ∈ vars) {n : Nat} (hQ : ∀ x ∈ Q, x < n)
    (q : Assign) (hq : q ∈ queryAssignments Q) :
    mapValue p.eval Q (nonQuery vars Q) w q ≤ (marginalMap p Q n w).1 := by
  rw [(marginalMap_opt hw hp hnd hcov hQ).1]
  exact le_maxOfList _ _ (List.mem_map.mpr ⟨q, hq, rfl⟩)

/-! ## maximum expected utility -/

/-- **`meu_opt`**: reduced ordered diagram of any order `order`; decision variables of unit weight,
non-negative probabilities and utilities, utility-bearing variables ordered after all decision
variables.  The returned utility component is the maximum over all decisions of the utility of
the path count of the restricted function; the returned model assigns exactly the decision
variables and its value (both components) is the returned pair. -/
theorem meu_opt {w : Weights EU} {D order : List Nat} (hw : MeuWeights w D order) {p : Ptr}
    (hnd : order.Nodup) (hp : Robdd order p) {n : Nat} (hD : ∀ x ∈ D, x < n) :
    (meu p D n w).1.u = meuSpec p.eval D order w ∧
    (∀ x, (meu p D n w).2.get x ≠ none ↔ x ∈ D) ∧
    (meu p D n w).2.toAssign ∈ queryAssignments D ∧
    meuValue p.eval D order w (meu p D n w).2.toAssign = (meu p D n w).1 := by
  obtain ⟨h1, h2, h3, h4⟩ := Optim.meu_opt hw hnd hp hD
  exact ⟨h1, completes_new_get h2, h3, h4⟩

/-- the executable path count used by the oracle is the specification's `pathCount` -/
theorem meuValue_eq_pathCount {w : Weights EU} {D order : List Nat} {p : Ptr} (hp : Robdd order p)
    (d : Assign) :
    meuValue p.eval D order w d = pathCount euOps w order (restrictTo D d p.eval) (fun _ => false) :=
  pathCountX_eq euOps w order _ _ (dependsOn_restrictTo hp.vars_sub D d)

/-- `eu_ub` is sound in both components, and exact on complete decisions -/
theorem meu_ub_sound {w : Weights EU} {D order : List Nat} (hw : MeuWeights w D order) {p : Ptr}
    (hp : p.free) {n : Nat} (bits : List Nat) (hbits : ∀ x ∈ bits, x < n ∧ x ∈ D) (m : PM)
    (hm : MeuInv n D m) (q : Assign) (hq : Consistent m bits q) :
    (euUb p (complete m bits q) [] w).p ≤ (euUb p m bits w).p ∧
    (euUb p (complete m bits q) [] w).u ≤ (euUb p m bits w).u :=
  Optim.meu_ub_sound hw hp bits hbits m hm q hq

/-! ## generic branch and bound -/

/-- **`bb_opt`**: for every `BBSemiring` whose operations satisfy the explicit monotonicity laws
`BBLaws` (for a bounding preorder `R`) and `ChooseLaws` (for the preorder `T` that `choose`
maximises), and weights in `BbWeights` (non-negative; query weights `≤ one` and sub-distributive
over `join`; non-normalised non-query variables below all query variables), `bb` on a reduced
ordered diagram returns a value that is `T`-maximal among `bbValue q = qWeight q · pathCount (f|q)`
over all query assignments, with a model assigning exactly `Q` that attains it. -/
theorem bb_opt {α : Type} {B : BBOps α} {R T : α → α → Prop} (L : BBLaws B R) (C : ChooseLaws B R T)
    {w : Weights α} {Q order : List Nat} (hw : BbWeights B R w Q order) {p : Ptr} (hnd : order.Nodup)
    (hp : Robdd order p) {n : Nat} (hQ : ∀ x ∈ Q, x < n) :
    (∀ q ∈ queryAssignments Q, T (bbValue B.toSROps p.eval Q order w q) (bb B p Q n w).1) ∧
    (∀ x, (bb B p Q n w).2.get x ≠ none ↔ x ∈ Q) ∧
    (bb B p Q n w).2.toAssign ∈ queryAssignments Q ∧
    bbValue B.toSROps p.eval Q order w (bb B p Q n w).2.toAssign = (bb B p Q n w).1 := by
  obtain ⟨h1, h2, h3, h4⟩ := Optim.bb_opt L C hw hnd hp hQ
  exact ⟨h1, completes_new_get h2, h3, h4⟩

/-- the returned value and the oracle `bbSpec` (a `choose`-fold over all query assignments) are
`T`-equivalent -/
theorem bb_opt_spec {α : Type} {B : BBOps α} {R T : α → α → Prop} (L : BBLaws B R) (C : ChooseLaws B R T)
    {w : Weights α} {Q order : List Nat} (hw : BbWeights B R w Q order) {p : Ptr} (hnd : order.Nodup)
    (hp : Robdd order p) {n : Nat} (hQ : ∀ x ∈ Q, x < n) :
    T (bbSpec B.toSROps B.choose p.eval Q order w) (bb B p Q n w).1 ∧
    T (bb B p Q n w).1 (bbSpec B.toSROps B.choose p.eval Q order w) :=
  Optim.bb_opt_spec L C hw hnd hp hQ

/-- the laws hold for the two shipped instances -/
theorem real_instance : BBLaws realBB (fun a b : Rat => a ≤ b) ∧
    ChooseLaws realBB (fun a b : Rat => a ≤ b) (fun a b : Rat => a ≤ b) := ⟨realBBLaws, realChooseLaws⟩
theorem eu_instance : BBLaws euBB euR ∧ ChooseLaws euBB euR euT := ⟨euBBLaws, euChooseLaws⟩

/-- `bb` at `RealSemiring`: the marginal MAP statement (free diagram, any order) -/
theorem bb_real_opt {w : Weights Rat} {Q vars : List Nat} (hw : ProbWeights w Q vars) {p : Ptr}
    (hp : p.free) (hnd : vars.Nodup) (hcov : ∀ v ∈ p.vars, v ∈ vars) {n : Nat} (hQ : ∀ x ∈ Q, x < n) :
    (bb realBB p Q n w).1 = mapSpec p.eval Q vars w ∧
    (∀ x, (bb realBB p Q n w).2.get x ≠ none ↔ x ∈ Q) ∧
    (bb realBB p Q n w).2.toAssign ∈ queryAssignments Q ∧
    mapValue p.eval Q (nonQuery vars Q) w (bb realBB p Q n w).2.toAssign = mapSpec p.eval Q vars w := by
  obtain ⟨h1, h2, h3, h4⟩ := Optim.bb_real_opt hw.toMap hp hnd hcov hQ
  exact ⟨h1, completes_new_get h2, h3, h4.trans h1⟩

/-- `bb` at `RealSemiring`, path-count form, is the generic theorem at the real instance -/
theorem bb_real_opt_pathCount {w : Weights Rat} {Q order : List Nat} (hw : ProbWeights w Q order)
    {p : Ptr} (hnd : order.Nodup) (hp : Robdd order p) {n : Nat} (hQ : ∀ x ∈ Q, x < n) :
    (∀ q ∈ queryAssignments Q, bbValue realOps p.eval Q order w q ≤ (bb realBB p Q n w).1) ∧
    bbValue realOps p.eval Q order w (bb realBB p Q n w).2.toAssign = (bb realBB p Q n w).1 := by
  obtain ⟨h1, _, _, h4⟩ := bb_opt realBBLaws realChooseLaws hw.toMap.bbWeights hnd hp hQ
  exact ⟨h1, h4⟩

/-- `bb` at `ExpectedUtility`: the MEU statement -/
theorem bb_eu_opt {w : Weights EU} {D order : List Nat} (hw : MeuWeights w D order) {p : Ptr}
    (hnd : order.Nodup) (hp : Robdd order p) {n : Nat} (hD : ∀ x ∈ D, x < n) :
    (bb euBB p D n w).1.u = meuSpec p.eval D order w ∧
    (∀ x, (bb euBB p D n w).2.get x ≠ none ↔ x ∈ D) ∧
    (bb euBB p D n w).2.toAssign ∈ queryAssignments D ∧
    meuValue p.eval D order w (bb euBB p D n w).2.toAssign = (bb euBB p D n w).1 := by
  obtain ⟨h1, h2, h3, h4⟩ := Optim.bb_eu_opt hw hnd hp hD
  exact ⟨h1, completes_new_get h2, h3, h4⟩

/-! ## non-vacuity -/

/-- `x0 ∧ x1` and `x0 ∨ x1` under the order `[0, 1]`; `¬x0 ∨ x1` -/
def pAnd : Ptr := .node false 0 .fls (.node false 1 .fls .tru)
def pOr : Ptr := .node false 0 (.node false 1 .fls .tru) .tru
def pImp : Ptr := .node false 0 .tru (.node false 1 .fls .tru)

theorem pAnd_robdd : Robdd [0, 1] pAnd :=
  .node (.fls _) (.node (.fls _) (.tru _) (by decide) rfl (by decide)) (by decide) rfl (by decide)
theorem pOr_robdd : Robdd [0, 1] pOr :=
  .node (.node (.fls _) (.tru _) (by decide) rfl (by decide)) (.tru _) (by decide) rfl (by decide)
theorem pImp_robdd : Robdd [0, 1] pImp :=
  .node (.tru _) (.node (.fls _) (.tru _) (by decide) rfl (by decide)) (by decide) rfl (by decide)

/-- a probability weighting: `x0 ↦ (1/4, 3/4)`, everything else `(1/2, 1/2)` -/
def wP : Weights Rat := fun v => if v = 0 then (1/4, 3/4) else (1/2, 1/2)

theorem wP_prob (Q vars : List Nat) : ProbWeights wP Q vars where
  unit_interval v := by simp only [wP]; split <;> decide +kernel
  normalised v _ _ := by simp only [wP]; split <;> decide +kernel

/-- the hypotheses of `marginalMap_opt` are satisfiable and the conclusion is the concrete value:
query `x0` of `x0 ∧ x1`, query everything, query nothing, a repeated and an ignored variable -/
example : marginalMap pAnd [0] 2 wP = (3/8, ⟨[some true, none]⟩) := by decide +kernel
example : mapSpec pAnd.eval [0] [0, 1] wP = 3/8 := by decide +kernel
example : marginalMap pAnd [1, 0] 2 wP = (3/8, ⟨[some true, some true]⟩) := by decide +kernel
example : marginalMap pAnd [] 2 wP = (3/8, ⟨[none, none]⟩) := by decide +kernel
example : marginalMap pAnd [0, 0] 2 wP = (3/8, ⟨[some true, none]⟩) := by decide +kernel
example : marginalMap pAnd [2, 0] 3 wP = (3/16, ⟨[some true, none, some true]⟩) := by
  decide +kernel
example : mapSpec pAnd.eval [2, 0] [0, 1, 2] wP = 3/16 := by decide +kernel
example : bb realBB pOr [0, 1] 2 wP = (3/8, ⟨[some true, some true]⟩) := by decide +kernel
example : (marginalMap pAnd [0] 2 wP).1 = mapSpec pAnd.eval [0] [0, 1] wP :=
  (marginalMap_opt (wP_prob _ _) (pAnd_robdd.free (by decide)) (by decide) (by decide)
    (by decide)).1

/-- the hypothesis "query weights at most one" is used: with `x1 ↦ (2, 1/4)`, `x0 ↦ (1, 1/4)` and
`Q = [0, 1]` the relaxed fold is not an upper bound, the better branch is pruned and
`marginal_map` of `x0 ∨ x1` returns `1/4` although `x0 = T, x1 = F` has value `1/2` -/
def wBig : Weights Rat := fun v => if v = 0 then (1, 1/4) else (2, 1/4)
example : (marginalMap pOr [0, 1] 2 wBig).1 = 1/4 ∧ mapSpec pOr.eval [0, 1] [0, 1] wBig = 1/2 := by
  decide +kernel

/-- the hypothesis "non-query weights normalised" is used: a skipped non-query variable
contributes nothing to the fold but `low + high` to the sum -/
def wSkip : Weights Rat := fun v => if v = 0 then (2, 1/2) else (1/2, 1/2)
example : (marginalMap (.node false 1 .fls .tru) [1] 2 wSkip).1 = 1/2 ∧
    mapSpec (Ptr.node false 1 .fls .tru).eval [1] [0, 1] wSkip = 5/4 := by decide +kernel

/-- MEU: decision `x0` (unit weight), utility-bearing `x1 ↦ ((1,0), (1,3))` below it -/
def wU : Weights EU := fun v => if v = 0 then (⟨1, 0⟩, ⟨1, 0⟩) else (⟨1, 0⟩, ⟨1, 3⟩)

theorem wU_meu : MeuWeights wU [0] [0, 1] where
  nonneg v := by simp only [wU]; split <;> decide +kernel
  unit x hx := by simp at hx; subst hx; rfl
  after := ⟨Or.inl (by simp), Or.inr (Or.inr (by simp)), trivial⟩

example : meu pAnd [0] 2 wU = (⟨1, 3⟩, ⟨[some true, none]⟩) := by decide +kernel
example : meuSpec pAnd.eval [0] [0, 1] wU = 3 := by decide +kernel
example : bb euBB pAnd [0] 2 wU = (⟨1, 3⟩, ⟨[some true, none]⟩) := by decide +kernel
example : (meu pAnd [0] 2 wU).1.u = meuSpec pAnd.eval [0] [0, 1] wU :=
  (meu_opt wU_meu (by decide) pAnd_robdd (by decide)).1

/-- the ordering hypothesis is used: with the utility-bearing variable `x0` *above* the decision
`x1`, conditioning `¬x0 ∨ x1` on `x1 = T` removes the node on `x0` from the true conditioned
diagram (utility `0`), while the pass-through fold still counts it (utility `3`) -/
def wUbad : Weights EU := fun v => if v = 1 then (⟨1, 0⟩, ⟨1, 0⟩) else (⟨1, 0⟩, ⟨1, 3⟩)
example : (meu pImp [1] 2 wUbad).1.u = 3 ∧ meuSpec pImp.eval [1] [0, 1] wUbad = 0 := by
  decide +kernel

/-! ## axioms -/

#print axioms eval_complete
#print axioms ub_sound
#print axioms bnb_opt
#print axioms bnb_opt_fresh
#print axioms marginalMap_opt
#print axioms marginalMap_opt'
#print axioms marginalMap_ge
#print axioms meu_opt
#print axioms meuValue_eq_pathCount
#print axioms meu_ub_sound
#print axioms bb_opt
#print axioms bb_opt_spec
#print axioms real_instance
#print axioms eu_instance
#print axioms bb_real_opt
#print axioms bb_real_opt_pathCount
#print axioms bb_eu_opt
#print axioms pAnd_robdd
#print axioms wP_prob
#print axioms wU_meu
#print axioms ProbWeights.toMap

end C12
