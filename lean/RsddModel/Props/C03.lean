import RsddModel.Lemmas.SddSem
/-!
# C03 — SDD-builder operations compute the function they name

The builder invariant (`Inv`), the refinement relation (`Rel`, through `den`) and the property
theorems; the work on the single operations is in `Lemmas/SddBasic` (evaluation, partitions,
standard triples, vtree facts) and `Lemmas/SddSem` (`and`, `canonicalize`/`compress`, `condition`, `ite`).

* `and_correct`, `condition_correct`, `ite_correct`, … : the single operations, for every lawful
  apply cache `A` and ite cache `I`, every vtree, compression on and off, every fuel;
* `step_correct` : one builder call refines one step of the Boolean-function specification,
  keeps the invariant, and only *appends* to the pool (earlier diagrams are untouched, hence keep
  denoting the same function);
* `run_correct`, `run_refines`, `run_stable` : any sequence of calls.

The vtree is arbitrary (every shape, every leaf labelling; labels need not even be distinct:
`var_index` of a repeated label is its first leaf, and nothing in the semantic argument needs
more).  `cfg.compress` is arbitrary.  `none` results (rejected calls, panics of the Rust, fuel)
are outside the statement: "every *returned* SDD evaluates …".
-/
namespace Sdd
open Spec

/-- the function a pointer denotes -/
def den (p : Ptr) : BoolFn := fun a => p.eval a

section
variable (A : CacheImpl (Ptr × Ptr)) (I : CacheImpl (Ptr × Ptr × Ptr)) (cfg : Config)

/-- builder invariant: both caches are semantically sound and hold well formed results, and
every diagram handed out so far is well formed (`WF`: labels in the vtree, decision primes
partition, right-linear labelling) -/
def Inv (st : St A I) : Prop :=
  AppInv A cfg.vt st.app ∧ IteInv I cfg.vt st.ite ∧ ∀ p ∈ st.pool, WF cfg.vt p

/-- the builder state refines the specification state: diagram `i` denotes function `i` -/
def Rel (st : St A I) (sp : List BoolFn) : Prop := sp = st.pool.map den

theorem inv_init : Inv A I cfg (St.init A I) :=
  ⟨appInv_empty A cfg.vt, iteInv_empty I cfg.vt, fun p hp => by simp [St.init] at hp⟩

theorem rel_init : Rel A I (St.init A I) [] := rfl

/-! ## the single operations -/

/-- **`and`** -/
theorem and_correct (fuel : Nat) {st st' : A.σ} {a b r : Ptr} (hst : AppInv A cfg.vt st)
    (wa : WF cfg.vt a) (wb : WF cfg.vt b) (h : and A cfg.vt cfg.compress fuel st a b = some (st', r)) :
    AppInv A cfg.vt st' ∧ WF cfg.vt r ∧ ∀ asg, r.eval asg = (a.eval asg && b.eval asg) :=
  and_ok A cfg.vt cfg.compress fuel _ _ _ _ _ hst wa wb h

/-- **`or`** (De Morgan default) -/
theorem or_correct (fuel : Nat) {st st' : A.σ} {a b r : Ptr} (hst : AppInv A cfg.vt st)
    (wa : WF cfg.vt a) (wb : WF cfg.vt b) (h : bOr A cfg fuel st a b = some (st', r)) :
    AppInv A cfg.vt st' ∧ WF cfg.vt r ∧ ∀ asg, r.eval asg = (a.eval asg || b.eval asg) :=
  bOr_ok A cfg fuel hst wa wb h

/-- **`condition`** -/
theorem condition_correct (fuel : Nat) {st st' : A.σ} {f r : Ptr} {x : Nat} {v : Bool}
    (hst : AppInv A cfg.vt st) (wf : WF cfg.vt f) (h : bCond A cfg fuel st f x v = some (st', r)) :
    AppInv A cfg.vt st' ∧ WF cfg.vt r ∧ den r = fCond (den f) x v := by
  obtain ⟨h1, h2, h3⟩ := bCond_ok A cfg fuel hst wf h
  exact ⟨h1, h2, funext h3⟩

/-- **`ite`** (standard triples are sound for every order predicate) -/
theorem ite_correct (fuel : Nat) {s s' : A.σ × I.σ} {f g h r : Ptr}
    (hA : AppInv A cfg.vt s.1) (hI : IteInv I cfg.vt s.2)
    (wf : WF cfg.vt f) (wg : WF cfg.vt g) (wh : WF cfg.vt h)
    (hr : bIte A I cfg fuel s f g h = some (s', r)) :
    AppInv A cfg.vt s'.1 ∧ IteInv I cfg.vt s'.2 ∧ WF cfg.vt r ∧
      den r = fIte (den f) (den g) (den h) := by
  obtain ⟨h1, h2, h3, h4⟩ := bIte_ok A I cfg fuel hA hI wf wg wh hr
  exact ⟨h1, h2, h3, funext h4⟩

/-- **`exists`** -/
theorem exists_correct (fuel : Nat) {st st' : A.σ} {f r : Ptr} {x : Nat}
    (hst : AppInv A cfg.vt st) (wf : WF cfg.vt f) (h : bExists A cfg fuel st f x = some (st', r)) :
    AppInv A cfg.vt st' ∧ WF cfg.vt r ∧ den r = fExists (den f) x := by
  obtain ⟨h1, h2, h3⟩ := bExists_ok A cfg fuel hst wf h
  exact ⟨h1, h2, funext h3⟩

/-- **`compose`** (trait default: `∃x. (x ⇔ g) ∧ f`) -/
theorem compose_correct (fuel : Nat) {s s' : A.σ × I.σ} {f g r : Ptr} {x : Nat}
    (hA : AppInv A cfg.vt s.1) (hI : IteInv I cfg.vt s.2) (hx : cfg.vt.hasVar x = true)
    (wf : WF cfg.vt f) (wg : WF cfg.vt g) (hr : bCompose A I cfg fuel s f x g = some (s', r)) :
    AppInv A cfg.vt s'.1 ∧ IteInv I cfg.vt s'.2 ∧ WF cfg.vt r ∧
      den r = fCompose (den f) x (den g) := by
  obtain ⟨h1, h2, h3, h4⟩ := bCompose_ok A I cfg fuel hA hI hx wf wg hr
  exact ⟨h1, h2, h3, funext h4⟩

/-! ## one step -/

/-- what one successful call achieves, against the canonical spec state of `st` -/
def StepOK (st st' : St A I) (op : Op) : Prop :=
  ∃ r, st'.pool = st.pool ++ [r] ∧
    specStep cfg.vt (st.pool.map den) op = some (st.pool.map den ++ [den r]) ∧ Inv A I cfg st'

variable {A I cfg}

theorem stepOK_mk {st : St A I} {op : Op} {a : A.σ} {i : I.σ} {r : Ptr} {f : BoolFn}
    (ha : AppInv A cfg.vt a) (hi : IteInv I cfg.vt i) (wr : WF cfg.vt r)
    (hpool : ∀ p ∈ st.pool, WF cfg.vt p) (hf : ∀ asg, r.eval asg = f asg)
    (hspec : specStep cfg.vt (st.pool.map den) op = some (st.pool.map den ++ [f])) :
    StepOK A I cfg st (st.push a i r) op := by
  have e : den r = f := funext hf
  refine ⟨r, rfl, e ▸ hspec, ha, hi, ?_⟩
  intro p hp
  rcases List.mem_append.1 hp with h | h
  · exact hpool p h
  · simp only [List.mem_singleton] at h; subst h; exact wr

theorem step_core (fuel : Nat) (st st' : St A I) (op : Op) (hinv : Inv A I cfg st)
    (hstep : step A I cfg fuel st op = some st') : StepOK A I cfg st st' op := by
  obtain ⟨hA, hI, hpool⟩ := hinv
  have wfAt : ∀ {i p}, st.pool[i]? = some p → WF cfg.vt p :=
    fun h => hpool _ (List.mem_of_getElem? h)
  cases op with
  | const b =>
    cases hstep
    cases b
    · exact stepOK_mk (f := fFalse) hA hI (WF_fls _) hpool (fun _ => rfl) rfl
    · exact stepOK_mk (f := fTrue) hA hI (WF_tru _) hpool (fun _ => rfl) rfl
  | var x pol =>
    simp only [step] at hstep
    split at hstep
    · rename_i hx
      cases hstep
      refine stepOK_mk (f := fVar x pol) hA hI hx hpool (fun a => eval_lit a x pol) ?_
      simp only [specStep, hx, if_true]
    · cases hstep
  | neg i =>
    simp only [step, Option.map_eq_some_iff] at hstep
    obtain ⟨p, hp, rfl⟩ := hstep
    refine stepOK_mk (f := fNot (den p)) hA hI (WF_neg (wfAt hp)) hpool (fun a => eval_neg a p) ?_
    simp only [specStep, List.getElem?_map, hp, Option.map_some]
  | and i j =>
    obtain ⟨p, q, hp, hq, h⟩ := pool2_some hstep
    obtain ⟨⟨s, r⟩, hrun, rfl⟩ := Option.map_eq_some_iff.1 h
    obtain ⟨hs', wr, er⟩ := bAnd_ok A cfg fuel _ _ _ _ _ hA (wfAt hp) (wfAt hq) hrun
    refine stepOK_mk (f := fAnd (den p) (den q)) hs' hI wr hpool er ?_
    simp only [specStep, List.getElem?_map, hp, hq, Option.map_some]
  | or i j =>
    obtain ⟨p, q, hp, hq, h⟩ := pool2_some hstep
    obtain ⟨⟨s, r⟩, hrun, rfl⟩ := Option.map_eq_some_iff.1 h
    obtain ⟨hs', wr, er⟩ := bOr_ok A cfg fuel hA (wfAt hp) (wfAt hq) hrun
    refine stepOK_mk (f := fOr (den p) (den q)) hs' hI wr hpool er ?_
    simp only [specStep, List.getElem?_map, hp, hq, Option.map_some]
  | xor i j =>
    obtain ⟨p, q, hp, hq, h⟩ := pool2_some hstep
    obtain ⟨⟨s, r⟩, hrun, rfl⟩ := Option.map_eq_some_iff.1 h
    obtain ⟨hs', hi', wr, er⟩ := bXor_ok A I cfg fuel (s := (st.app, st.ite)) hA hI (wfAt hp) (wfAt hq) hrun
    refine stepOK_mk (f := fXor (den p) (den q)) hs' hi' wr hpool er ?_
    simp only [specStep, List.getElem?_map, hp, hq, Option.map_some]
  | iff i j =>
    obtain ⟨p, q, hp, hq, h⟩ := pool2_some hstep
    obtain ⟨⟨s, r⟩, hrun, rfl⟩ := Option.map_eq_some_iff.1 h
    obtain ⟨hs', hi', wr, er⟩ := bIff_ok A I cfg fuel (s := (st.app, st.ite)) hA hI (wfAt hp) (wfAt hq) hrun
    refine stepOK_mk (f := fIff (den p) (den q)) hs' hi' wr hpool er ?_
    simp only [specStep, List.getElem?_map, hp, hq, Option.map_some]
  | ite i j k =>
    simp only [step] at hstep
    split at hstep
    · rename_i p q r0 hp hq hr0
      simp only [Option.map_eq_some_iff] at hstep
      obtain ⟨⟨s, r⟩, hrun, rfl⟩ := hstep
      obtain ⟨hs', hi', wr, er⟩ := bIte_ok A I cfg fuel (s := (st.app, st.ite)) hA hI (wfAt hp) (wfAt hq) (wfAt hr0) hrun
      refine stepOK_mk (f := fIte (den p) (den q) (den r0)) hs' hi' wr hpool er ?_
      simp only [specStep, List.getElem?_map, hp, hq, hr0, Option.map_some]
    · cases hstep
  | cond i x b =>
    obtain ⟨p, hp, h⟩ := pool1_some hstep
    obtain ⟨⟨s, r⟩, hrun, rfl⟩ := Option.map_eq_some_iff.1 h
    obtain ⟨hs', wr, er⟩ := bCond_ok A cfg fuel hA (wfAt hp) hrun
    refine stepOK_mk (f := fCond (den p) x b) hs' hI wr hpool er ?_
    simp only [specStep, List.getElem?_map, hp, Option.map_some]
  | exist i x =>
    obtain ⟨p, hp, h⟩ := pool1_some hstep
    obtain ⟨⟨s, r⟩, hrun, rfl⟩ := Option.map_eq_some_iff.1 h
    obtain ⟨hs', wr, er⟩ := bExists_ok A cfg fuel hA (wfAt hp) hrun
    refine stepOK_mk (f := fExists (den p) x) hs' hI wr hpool er ?_
    simp only [specStep, List.getElem?_map, hp, Option.map_some]
  | compose i x j =>
    by_cases hx : cfg.vt.hasVar x = true
    · simp only [step, if_pos hx] at hstep
      obtain ⟨p, q, hp, hq, h⟩ := pool2_some hstep
      obtain ⟨⟨s, r⟩, hrun, rfl⟩ := Option.map_eq_some_iff.1 h
      obtain ⟨hs', hi', wr, er⟩ := bCompose_ok A I cfg fuel (s := (st.app, st.ite)) hA hI hx (wfAt hp) (wfAt hq) hrun
      refine stepOK_mk (f := fCompose (den p) x (den q)) hs' hi' wr hpool er ?_
      simp only [specStep, hx, if_true, List.getElem?_map, hp, hq, Option.map_some]
    · simp only [step, if_neg hx] at hstep; cases hstep

/-- **C03, one call.**  For every lawful apply cache `A` and ite cache `I`, every vtree, both
compression settings and every fuel: if the builder state satisfies the invariant and refines the
specification state `sp`, then a successful call `op` is also accepted by the specification, the
new states are again related, the invariant is kept, and the pool only grows by one entry at the
end — old entries are untouched ("keeps doing so after any later operations"). -/
theorem step_correct (fuel : Nat) (st st' : St A I) (sp : List BoolFn) (op : Op)
    (hinv : Inv A I cfg st) (hrel : Rel A I st sp) (hstep : step A I cfg fuel st op = some st') :
    ∃ sp', specStep cfg.vt sp op = some sp' ∧ Rel A I st' sp' ∧ Inv A I cfg st' ∧
      ∃ r, st'.pool = st.pool ++ [r] := by
  obtain ⟨r, hpool, hspec, hinv'⟩ := step_core fuel st st' op hinv hstep
  rw [hrel]
  refine ⟨_, hspec, ?_, hinv', r, hpool⟩
  simp only [Rel, hpool, List.map_append, List.map_cons, List.map_nil]

/-- **C03, any sequence of calls**, from any state satisfying the invariant -/
theorem run_correct (fuel : Nat) : ∀ (ops : List Op) (st st' : St A I) (sp : List BoolFn),
    Inv A I cfg st → Rel A I st sp → runFrom A I cfg fuel st ops = some st' →
    ∃ sp', specRun cfg.vt sp ops = some sp' ∧ Rel A I st' sp' ∧ Inv A I cfg st' ∧
      ∃ rs, st'.pool = st.pool ++ rs
  | [], st, st', sp, hinv, hrel, hrun => by
    simp only [runFrom, Option.some.injEq] at hrun; subst hrun
    exact ⟨sp, rfl, hrel, hinv, [], by simp⟩
  | op :: ops, st, st', sp, hinv, hrel, hrun => by
    simp only [runFrom] at hrun
    split at hrun
    · cases hrun
    · rename_i st1 h1
      obtain ⟨sp1, hsp1, hrel1, hinv1, r, hr⟩ := step_correct fuel st st1 sp op hinv hrel h1
      obtain ⟨sp', hsp', hrel', hinv', rs, hrs⟩ := run_correct fuel ops st1 st' sp1 hinv1 hrel1 hrun
      refine ⟨sp', by simp only [specRun, hsp1, hsp'], hrel', hinv', r :: rs, ?_⟩
      rw [hrs, hr, List.append_assoc]; rfl

variable (A I cfg)

/-- **C03, refinement from the fresh builder**: every successful run of the builder is a
successful run of the specification, diagram `i` of the final pool denotes Boolean function `i`
of the specification's pool, and the invariant holds at the end.  For every lawful cache pair,
every vtree, compression on or off, every fuel, every program. -/
theorem run_refines (fuel : Nat) (ops : List Op) (st : St A I)
    (hrun : runFrom A I cfg fuel (St.init A I) ops = some st) :
    ∃ sp, specRun cfg.vt [] ops = some sp ∧ sp = st.pool.map den ∧ Inv A I cfg st := by
  obtain ⟨sp, h1, h2, h3, _⟩ :=
    run_correct fuel ops (St.init A I) st [] (inv_init A I cfg) (rel_init A I) hrun
  exact ⟨sp, h1, h2, h3⟩

/-- history stability, spelled out: a diagram obtained after a prefix `ops₁` is still entry `i`
of the pool after any continuation `ops₂`, and denotes entry `i` of the specification pool -/
theorem run_stable (fuel : Nat) (ops₁ ops₂ : List Op) (st₁ st₂ : St A I)
    (h1 : runFrom A I cfg fuel (St.init A I) ops₁ = some st₁)
    (h2 : runFrom A I cfg fuel st₁ ops₂ = some st₂) :
    ∃ sp₁, specRun cfg.vt [] ops₁ = some sp₁ ∧
      ∀ i (hi : i < st₁.pool.length), ∃ (hi2 : i < st₂.pool.length) (hi3 : i < sp₁.length),
        st₂.pool[i] = st₁.pool[i] ∧ den st₂.pool[i] = sp₁[i] := by
  obtain ⟨sp₁, hs1, hrel1, hinv1⟩ := run_refines A I cfg fuel ops₁ st₁ h1
  obtain ⟨_, _, _, _, rs, hrs⟩ := run_correct fuel ops₂ st₁ st₂ sp₁ hinv1 hrel1 h2
  refine ⟨sp₁, hs1, ?_⟩
  intro i hi
  have hi2 : i < st₂.pool.length := by rw [hrs, List.length_append]; omega
  have hi3 : i < sp₁.length := by rw [hrel1, List.length_map]; exact hi
  have e : st₂.pool[i] = st₁.pool[i] := by
    simp only [hrs]; exact List.getElem_append_left hi
  refine ⟨hi2, hi3, e, ?_⟩
  rw [e]; simp only [hrel1, List.getElem_map]

/-- the top-level `Sdd.run` of the driver (list-backed caches): every returned pool is, entry by
entry, the pool of the specification -/
theorem run_sound (fuel : Nat) (ops : List Op) (pool : List Ptr) (h : run cfg fuel ops = some pool) :
    specRun cfg.vt [] ops = some (pool.map den) ∧ ∀ p ∈ pool, WF cfg.vt p := by
  simp only [run, Option.map_eq_some_iff] at h
  obtain ⟨st, hst, rfl⟩ := h
  obtain ⟨sp, h1, h2, h3⟩ := run_refines _ _ cfg fuel ops st hst
  exact ⟨by rw [h1, h2], h3.2.2⟩

end

/-! ## non-vacuity: the hypotheses `run … = some pool` are met by real programs -/
section demo
open Ptr

/-- right-linear vtree `(0 (1 2))` and balanced vtree `((0 1) (2 3))` -/
def vtR : VTree := .rightLinear [0, 1, 2]
def vtB : VTree := .evenSplit [0, 1, 2, 3] 1

/-- a program over three variables that exercises every operation of the language -/
def progR : List Op := [.var 0 true, .var 1 true, .var 2 false, .and 0 1, .or 3 2, .exist 4 1,
  .compose 4 0 2, .cond 4 2 true, .xor 0 1, .iff 8 8, .ite 0 1 2, .neg 3, .const false]

/-- the pool it produces on the right-linear vtree (all nodes binary) -/
def poolR : List Ptr :=
  [lit 0 true, lit 1 true, lit 2 false,
   bdd false 0 1 fls (lit 1 true),                                               -- x0 ∧ x1
   bdd false 0 1 (lit 2 false) (bdd false 1 3 (lit 2 false) tru),                -- (x0 ∧ x1) ∨ ¬x2
   bdd false 0 1 (lit 2 false) tru,                                              -- ∃x1. #4
   lit 2 false,                                                                  -- #4[x0 := ¬x2]
   bdd false 0 1 fls (lit 1 true),                                               -- #4 | x2
   bdd true 0 1 (lit 1 false) (lit 1 true),                                      -- x0 ⊕ x1
   tru,                                                                          -- #8 ⇔ #8
   bdd false 0 1 (lit 2 false) (lit 1 true),                                     -- ite x0 x1 ¬x2
   bdd true 0 1 fls (lit 1 true),                                                -- ¬(x0 ∧ x1)
   fls]

theorem run_progR_compressed : run ⟨vtR, true⟩ 20 progR = some poolR := by decide +kernel
theorem run_progR_uncompressed : run ⟨vtR, false⟩ 20 progR = some poolR := by decide +kernel

example : run ⟨vtR, true⟩ 20 progR = some poolR := run_progR_compressed
example : run ⟨vtR, false⟩ 20 progR = some poolR := run_progR_uncompressed

/-- a program over four variables on the balanced vtree: decision nodes with several elements,
`and_cartesian`, `and_sub_desc`, `and_prime_desc`, `and_indep`, compression -/
def progB : List Op := [.var 0 true, .var 1 true, .var 2 true, .var 3 false, .and 0 2, .or 4 1,
  .iff 0 3, .and 5 6, .exist 7 2, .cond 7 3 true, .xor 5 6, .ite 4 5 6, .compose 7 1 6]

/-- the pool it produces with compression; the primes of node 1 are the four minterms over
`x0`, `x1` and their unions -/
def poolB : List Ptr :=
  let p11 := bdd false 0 1 fls (lit 1 true)
  let p10 := bdd true 0 1 tru (lit 1 true)
  let p01 := bdd true 0 1 (lit 1 false) tru
  let p00 := bdd true 0 1 (lit 1 true) tru
  let x0_iff_nx3 := bdd true 0 3 (lit 3 false) (lit 3 true)
  [lit 0 true, lit 1 true, lit 2 true, lit 3 false,
   bdd false 0 3 fls (lit 2 true),
   dec false 3 [(p10, lit 2 true), (p00, fls), (lit 1 true, tru)],
   x0_iff_nx3,
   dec true 3 [(p11, lit 3 true), (p10, bdd false 2 5 tru (lit 3 true)), (p01, lit 3 false),
     (p00, tru)],
   dec false 3 [(p01, lit 3 true), (p00, fls), (lit 0 true, lit 3 false)],
   p01,
   dec false 3 [(bdd false 0 1 (lit 1 false) (lit 1 true), lit 3 true),
     (p10, bdd false 2 5 (lit 3 false) (lit 3 true)), (p01, lit 3 false)],
   bdd false 0 3 (lit 3 true) (bdd false 2 5 (lit 3 false) tru),
   x0_iff_nx3]

/-- the pool it produces without compression: every decision node keeps the four minterms -/
def poolBRaw : List Ptr :=
  let p11 := bdd false 0 1 fls (lit 1 true)
  let p10 := bdd true 0 1 tru (lit 1 true)
  let p01 := bdd true 0 1 (lit 1 false) tru
  let p00 := bdd true 0 1 (lit 1 true) tru
  let x0_iff_nx3 := bdd true 0 3 (lit 3 false) (lit 3 true)
  let nx3_or_x2 := bdd false 2 5 (lit 3 false) tru
  [lit 0 true, lit 1 true, lit 2 true, lit 3 false,
   bdd false 0 3 fls (lit 2 true),
   dec false 3 [(p11, tru), (p10, lit 2 true), (p01, tru), (p00, fls)],
   x0_iff_nx3,
   dec true 3 [(p11, lit 3 true), (p10, bdd false 2 5 tru (lit 3 true)), (p01, lit 3 false),
     (p00, tru)],
   dec true 3 [(p11, lit 3 true), (p10, lit 3 true), (p01, lit 3 false), (p00, tru)],
   dec true 3 [(p11, tru), (p10, tru), (p01, fls), (p00, tru)],
   dec false 3 [(p11, lit 3 true), (p10, bdd false 2 5 (lit 3 false) (lit 3 true)),
     (p01, lit 3 false), (p00, lit 3 true)],
   dec false 3 [(p11, nx3_or_x2), (p10, nx3_or_x2), (p01, lit 3 true), (p00, lit 3 true)],
   x0_iff_nx3]

theorem run_progB_compressed : run ⟨vtB, true⟩ 20 progB = some poolB := by decide +kernel
theorem run_progB_uncompressed : run ⟨vtB, false⟩ 20 progB = some poolBRaw := by decide +kernel

/-- `(x0 ∧ x2) ∨ x1` with compression: three elements, the two primes with sub `⊤` merged -/
example : (run ⟨vtB, true⟩ 20 progB).map (fun pool => (pool.length, pool[5]?)) =
    some (13, some (dec false 3
      [(bdd true 0 1 tru (lit 1 true), lit 2 true),
       (bdd true 0 1 (lit 1 true) tru, fls),
       (lit 1 true, tru)])) := by rw [run_progB_compressed]; rfl

/-- the same call without compression keeps four elements (the printed primes are pairwise
exclusive and exhaustive but two subs coincide) -/
example : (run ⟨vtB, false⟩ 20 progB).map (fun pool => (pool.length, (pool[5]?).map
    fun p => match p with | dec _ _ es => es.length | _ => 0)) = some (13, some 4) := by
  rw [run_progB_uncompressed]; rfl

/-- executable instance of the refinement, both settings: the truth table of every returned
diagram is the truth table of the specified function -/
example : (run ⟨vtB, true⟩ 20 progB).map (fun pool => pool.map fun p => truthTable 4 (den p)) =
    (specRun vtB [] progB).map (fun fs => fs.map (truthTable 4)) := by
  rw [run_progB_compressed]; decide +kernel
example : (run ⟨vtB, false⟩ 20 progB).map (fun pool => pool.map fun p => truthTable 4 (den p)) =
    (specRun vtB [] progB).map (fun fs => fs.map (truthTable 4)) := by
  rw [run_progB_uncompressed]; decide +kernel

/-- rejected calls return `none`: label outside the vtree, index outside the pool, no fuel -/
example : run ⟨vtR, true⟩ 20 [.var 3 true] = none := by decide
example : run ⟨vtR, true⟩ 20 [.var 0 true, .and 0 1] = none := by decide
example : run ⟨vtR, true⟩ 0 [.var 0 true, .var 1 true, .and 0 1] = none := by decide

/-- hence (instance of `run_sound`) the specification accepts `progB` and the pools agree entry
by entry as *functions*, with every returned diagram well formed -/
example : ∃ pool, run ⟨vtB, true⟩ 20 progB = some pool ∧
    specRun vtB [] progB = some (pool.map den) ∧ ∀ p ∈ pool, WF vtB p :=
  ⟨poolB, run_progB_compressed, run_sound ⟨vtB, true⟩ 20 progB poolB run_progB_compressed⟩

end demo

#print axioms and_correct
#print axioms or_correct
#print axioms condition_correct
#print axioms ite_correct
#print axioms exists_correct
#print axioms compose_correct
#print axioms step_correct
#print axioms run_correct
#print axioms run_refines
#print axioms run_stable
#print axioms run_sound
end Sdd
