import RsddModel.Lemmas.SddWmc
import RsddModel.Lemmas.SddWFd
import RsddModel.Props.C04
import RsddModel.Props.C07Bdd
/-!
# C07 (SDD part)

"For any diagram the library produces (BDD, SDD, decision-DNNF) and any weights whose low and
high weight sum to the semiring's one on every variable, the weighted model count equals the
semiring sum over all satisfying assignments of the product of the chosen literal weights,
independently of order, vtree, complement edges or node sharing, and Boolean evaluation of an
assignment agrees with the denoted function."

Reading.  `Sdd.wmc` mirrors `unsmoothed_wmc` through `impl DDNNFPtr for SddPtr :: fold`
(`Model/SddWmc.lean`): a node is a left fold of `+` from `zero` over `prime_v · sub_v`, and the
complement bit of a pointer is pushed into the subs, exactly as the Rust does; the memo (node
sharing) is the subject of C10.

The structural hypothesis is `Sdd.DD` (`Lemmas/SddWmc.lean`): every decision node's primes are a
partition (determinism; also what makes "negate the subs" the negation), and in each element no
variable is relevant to both prime and sub (decomposability).  It follows from `WFs vt`
(`WFs_DD`), hence holds for every pool entry of a run of the compressing builder (`run_wmc`).
Without either half the statement is false (`needs_partition`, `needs_decomposable`).

Compression switched *off*: the invariant of C03 (`WF`) records the partition property but not
on which side of the vtree node the variables of primes and subs lie.  `Lemmas/SddWFd.lean` proves
that the uncompressed builder keeps `WFd` (`WF` + primes depend only on the left child's
variables, subs only on the right child's — semantically), which gives `DD`: `run_wmc_any` covers
both settings.
-/
namespace C07Sdd
open Spec Sdd
variable {α : Type} {S : SROps α}

/-- **Clause 1.**  For a deterministic decomposable SDD, a duplicate-free variable list covering
it and weights with `lo + hi = one` on that list: the count is the sum over the explicit list of
the `2^|vars|` assignments of `[p holds] · ∏ chosen literal weights`, whatever the base
assignment. -/
theorem wmc_sdd (hS : S.Laws) (w : Weights α) {p : Ptr} (hd : DD p) {vars : List Nat}
    (hnd : vars.Nodup) (hsub : ∀ v ∈ p.vars, v ∈ vars) (hw : Normalised S w vars) (a : Assign) :
    wmc S w p = wsum S vars w (den p) a ∧
    wmc S w p = wsumList S vars w (den p) a ∧
    (allAssignments vars a).length = 2 ^ vars.length :=
  ⟨wmc_dd hS w hd hsub hw a,
   (wmc_dd hS w hd hsub hw a).trans (wsum_eq_wsumList hS w _ vars a hnd),
   allAssignments_length vars a⟩

/-- "independently of complement edges": the count of a complemented pointer is the sum for the
negated function, and the flag of the fold is the negation of the pointer -/
theorem wmc_sdd_complement (hS : S.Laws) (w : Weights α) {p : Ptr} (hd : DD p) {vars : List Nat}
    (hsub : ∀ v ∈ p.vars, v ∈ vars) (hw : Normalised S w vars) (a : Assign) :
    wmc S w p.neg = wsum S vars w (fNot (den p)) a ∧ wmcAux S w p true = wmc S w p.neg :=
  ⟨wmc_neg_dd hS w hd hsub hw a, wmcAux_true S w p⟩

/-- "independently of vtree": two SDDs of the same function — normalised for different vtrees,
compressed or not — have the same count, and the sum does not depend on the order in which the
variables are listed -/
theorem wmc_sdd_vtree_independent (hS : S.Laws) (w : Weights α) {p q : Ptr} (hp : DD p) (hq : DD q)
    (hw : ∀ v, v ∈ p.vars ∨ v ∈ q.vars → S.add (w v).1 (w v).2 = S.one)
    (heq : ∀ a, p.eval a = q.eval a) {vars vars' : List Nat} (hperm : vars.Perm vars') (a : Assign) :
    wmc S w p = wmc S w q ∧ wsum S vars w (den p) a = wsum S vars' w (den p) a :=
  ⟨wmc_denotational hS w hp hq hw heq, wsum_perm hS w hperm _ a⟩

/-- pointers with semantic variable sides (`WFd`: what the uncompressed builder and the semantic
builder maintain) -/
theorem wmc_wfd (hS : S.Laws) (w : Weights α) {vt : VTree} (hnd : vt.leaves.Nodup) {p : Ptr}
    (wp : SddSem.WFd vt p) (hw : Normalised S w vt.leaves) (a : Assign) :
    wmc S w p = wsum S vt.leaves w (den p) a ∧ wmc S w p = wsumList S vt.leaves w (den p) a ∧
    wmc S w p.neg = wsum S vt.leaves w (fNot (den p)) a :=
  have hd := SddSem.WFd_DD hnd p wp
  have hv := SddSem.WFd_vars p wp
  have ⟨h1, h2, _⟩ := wmc_sdd hS w hd hnd hv hw a
  ⟨h1, h2, wmc_neg_dd hS w hd hv hw a⟩

/-- the variables of a structurally well formed SDD are leaves of the vtree -/
theorem wfs_vars_leaves {vt : VTree} {p : Ptr} (wp : WFs vt p) : ∀ v ∈ p.vars, v ∈ vt.leaves :=
  SddSem.WFd_vars p (SddSem.WFs_WFd p wp)

/-- structurally well formed SDDs (C04) over a vtree with distinct leaves, counted over the
vtree's variables -/
theorem wmc_wfs (hS : S.Laws) (w : Weights α) {vt : VTree} (hnd : vt.leaves.Nodup) {p : Ptr}
    (wp : WFs vt p) (hw : Normalised S w vt.leaves) (a : Assign) :
    wmc S w p = wsum S vt.leaves w (den p) a ∧ wmc S w p = wsumList S vt.leaves w (den p) a ∧
    wmc S w p.neg = wsum S vt.leaves w (fNot (den p)) a :=
  wmc_wfd hS w hnd (SddSem.WFs_WFd p wp) hw a

/-- **every diagram the SDD builder returns, compression on or off** -/
theorem run_wmc_any (hS : S.Laws) (w : Weights α) (cfg : Config) (hnd : cfg.vt.leaves.Nodup)
    (fuel : Nat) (ops : List Op) (pool : List Ptr) (h : run cfg fuel ops = some pool)
    (hw : Normalised S w cfg.vt.leaves) (a : Assign) :
    ∃ fs, specRun cfg.vt [] ops = some fs ∧ fs.length = pool.length ∧
      pool.map (wmc S w) = fs.map (fun f => wsum S cfg.vt.leaves w f a) ∧
      ∀ p ∈ pool, wmc S w p = wsumList S cfg.vt.leaves w (den p) a ∧
        wmc S w p.neg = wsum S cfg.vt.leaves w (fNot (den p)) a := by
  obtain ⟨vt, c⟩ := cfg
  have hs := (run_sound ⟨vt, c⟩ fuel ops pool h).1
  have hwf : ∀ p ∈ pool, SddSem.WFd vt p := run_wfd ⟨vt, c⟩ fuel ops pool h
  refine ⟨pool.map den, hs, by simp, ?_, fun p hp => (wmc_wfd hS w hnd (hwf p hp) hw a).2⟩
  rw [List.map_map]
  exact List.map_congr_left fun p hp => (wmc_wfd hS w hnd (hwf p hp) hw a).1

/-- **every diagram the compressing builder returns**: for any program, vtree with distinct
leaves, fuel; entry `i` of the pool counts the weighted sum of the `i`-th specified function -/
theorem run_wmc (hS : S.Laws) (w : Weights α) (vt : VTree) (hnd : vt.leaves.Nodup) (fuel : Nat)
    (ops : List Op) (pool : List Ptr) (h : run ⟨vt, true⟩ fuel ops = some pool)
    (hw : Normalised S w vt.leaves) (a : Assign) :
    ∃ fs, specRun vt [] ops = some fs ∧ fs.length = pool.length ∧
      pool.map (wmc S w) = fs.map (fun f => wsum S vt.leaves w f a) ∧
      ∀ p ∈ pool, wmc S w p = wsumList S vt.leaves w (den p) a ∧
        wmc S w p.neg = wsum S vt.leaves w (fNot (den p)) a :=
  run_wmc_any hS w ⟨vt, true⟩ hnd fuel ops pool h hw a

/-- **Clause 2.**  Boolean evaluation (`DDNNFPtr::evaluate`, the count in the Boolean semiring with
weights `(!b, b)`) agrees with the denoted function on every SDD whose decision nodes are
partitions -/
theorem evaluate_agrees {p : Ptr} (hp : Parts p) (a : Assign) : evaluate p a = p.eval a :=
  evaluate_eq hp a

/-- … hence on every diagram either builder setting returns (compression on or off, any vtree) -/
theorem run_evaluate (cfg : Config) (fuel : Nat) (ops : List Op) (pool : List Ptr)
    (h : run cfg fuel ops = some pool) : ∀ p ∈ pool, ∀ a, evaluate p a = p.eval a :=
  fun p hp a => evaluate_eq (WF_parts p ((run_sound cfg fuel ops pool h).2 p hp)) a

/-! ## the hypotheses are needed -/

/-- a hand-made "decision node" whose primes overlap (`x0` and `⊤`): the fold counts `x0` twice -/
theorem needs_partition :
    wmc C07Bdd.intOps (fun _ => (1, 0)) (.dec false 1 [(.lit 0 false, .tru), (.tru, .tru)]) = 2 := by
  decide

/-- a partition whose prime and sub share a variable (`x0 ∧ x0`): weight squared -/
theorem needs_decomposable :
    wmc C07Bdd.intOps (fun _ => (-1, 2)) (.dec false 1 [(.lit 0 true, .lit 0 true), (.lit 0 false, .fls)]) = 4 ∧
    wsum C07Bdd.intOps [0] (fun _ => (-1, 2))
      (den (.dec false 1 [(.lit 0 true, .lit 0 true), (.lit 0 false, .fls)])) (fun _ => false) = 2 := by
  decide

/-! ## non-vacuity -/
section demo

/-- normalised integer weights that are not probabilities -/
def exW : Weights Int := fun v => if v = 0 then (-1, 2) else if v = 1 then (3, -2) else (5, -4)

theorem exW_norm : Normalised C07Bdd.intOps exW vtB.leaves := by
  unfold Normalised; decide

/-- the balanced demo program of C03/C04 returns, and every returned diagram (decision nodes with
several elements, complemented pointers) counts the brute-force sum over the 16 assignments -/
example : ∃ pool, run ⟨vtB, true⟩ 20 progB = some pool ∧ pool.length = 13 ∧
    ∀ p ∈ pool, wmc C07Bdd.intOps exW p = wsumList C07Bdd.intOps vtB.leaves exW (den p) (fun _ => false) := by
  obtain ⟨_, _, _, _, hall⟩ := run_wmc C07Bdd.intOps_laws exW vtB (by decide) 20 progB poolB
    run_progB_compressed exW_norm (fun _ => false)
  exact ⟨poolB, run_progB_compressed, rfl, fun p hp => (hall p hp).1⟩

/-- the same, computed on both sides -/
example : (run ⟨vtB, true⟩ 20 progB).map (fun pool => pool.map (wmc C07Bdd.intOps exW)) =
    (specRun vtB [] progB).map (fun fs => fs.map fun f =>
      wsumList C07Bdd.intOps vtB.leaves exW f (fun _ => false)) := by
  rw [run_progB_compressed]; decide +kernel

/-- the uncompressed results (an instance of `run_wmc_any`), computed -/
example : (run ⟨vtB, false⟩ 20 progB).map (fun pool => pool.map (wmc C07Bdd.intOps exW)) =
    (specRun vtB [] progB).map (fun fs => fs.map fun f =>
      wsumList C07Bdd.intOps vtB.leaves exW f (fun _ => false)) := by
  rw [run_progB_uncompressed]; decide +kernel

example : (run ⟨vtB, true⟩ 20 progB).map (fun pool => pool.map fun p => evaluate p (assignOfNat 5)) =
    (specRun vtB [] progB).map (fun fs => fs.map fun f => f (assignOfNat 5)) := by
  rw [run_progB_compressed]; decide +kernel

end demo

end C07Sdd

#print axioms C07Sdd.wmc_sdd
#print axioms C07Sdd.wmc_sdd_complement
#print axioms C07Sdd.wmc_sdd_vtree_independent
#print axioms C07Sdd.wmc_wfs
#print axioms C07Sdd.run_wmc
#print axioms C07Sdd.wmc_wfd
#print axioms C07Sdd.run_wmc_any
#print axioms C07Sdd.evaluate_agrees
#print axioms C07Sdd.run_evaluate
#print axioms C07Sdd.needs_partition
#print axioms C07Sdd.needs_decomposable
#print axioms C07Sdd.wfs_vars_leaves
#print axioms C07Sdd.exW_norm
