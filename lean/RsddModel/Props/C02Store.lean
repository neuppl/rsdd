import RsddModel.Lemmas.BddStoreCache
import RsddModel.Lemmas.BddStoreStep
import RsddModel.Model.CacheList
import RsddModel.Props.C02
/-!
# C02 (store level) — "pointer identity of the Rust = structural equality of the model", checked

`Model/BddBuilder.lean` and C01/C02 read a `BddPtr` as the tree it unfolds to.  This file makes
the justification of that reading a theorem.  `Model/BddStore.lean` is the builder with pointers
as *references* into the unique table; here:

* `unfold_injective` (`unfold_eq_iff` of `Lemmas/BddStore.lean`, from `unfold_inj`): in a table satisfying its invariant `StoreOK`
  (children before parents, no duplicates) two valid references unfold to the same tree iff they
  are the same reference;
* `stepS_refines`, `runS_refines` (from `stepS_sim`, `runS_sim` of `Lemmas/BddStoreStep.lean`):
  every returning store-level call / program (the whole `Op`
  language of C01: constants, variables, `neg`, `and`, `or`, `xor`, `iff`, `ite`, `condition`,
  `condition_model`, `exists`, `compose`, `and_lst`, `or_lst`) is matched, with the same fuel,
  by the tree-level call / program on the unfolded pool, for every pair of caches
  related by a `CacheSim`; the table invariant is kept, the table is only appended to (so every
  old reference keeps its unfolding, `old_refs_stable`);
* the two instances of `CacheSim` of `Lemmas/BddStoreCache.lean`: the cache that never stores
  (`noCacheSim`), and — **for every lawful cache `CS` keyed by references** — the tree-level cache
  whose contents are, at every moment, the image of `CS`'s contents under `unfold` (`scriptedSim`);
* `store_run_tree`: hence every store-level run with any lawful cache is a tree-level run with
  a lawful tree-level cache, pool by pool;
* `store_run_refines` (C01 at store level): every reference handed out denotes the Boolean
  function the specification names, and unfolds to a well formed ROBDD;
* `store_eq_iff_sem` (C02 at store level): two references handed out by any program are EQUAL
  AS REFERENCES iff they denote the same Boolean function.
-/
namespace BddStore
open Bdd Scratch Spec


theorem scripted_insert_eq (st : ScriptedCache.σ) (K : TKey) (V : Ptr) :
    CacheImpl.insert ScriptedCache st K V = scriptedInsert st K V := rfl

/-! ## one call, a program -/

section step
variable {CS : CacheS} {CT : CacheImpl} (sim : CacheSim CS CT) (lvl : Nat → Nat) (fuel : Nat)

/-- **one store-level builder call refines one tree-level builder call** -/
theorem stepS_refines (st st' : StS CS) (op : Op) (hinv : InvS st)
    (hstep : stepS CS lvl fuel st op = some st') : StepRefines sim lvl fuel st st' op :=
  (stepS_sim sim lvl fuel st st' op hinv hstep).1

/-- **any store-level program refines the tree-level program**, from any state satisfying the
invariant, for every pair of caches related by a `CacheSim` -/
theorem runS_refines : ∀ (ops : List Op) (st st' : StS CS), InvS st → runS CS lvl fuel st ops = some st' →
    InvS st' ∧ Extends st'.store st.store ∧ (∃ rs, st'.pool = st.pool ++ rs) ∧
    ∀ cT', sim.R st'.store st'.cache cT' →
      ∃ cT, sim.R st.store st.cache cT ∧ run CT lvl fuel (mkT cT st) ops = some (mkT cT' st') :=
  fun ops st st' hinv hrun => (runS_sim sim lvl fuel ops st st' hinv hrun).1

end step

/-! ## `ite` alone, spelled out for the two instances -/

/-- **`ite_helper`, no apply cache** (every lookup misses on both sides): the tree-level `ite`
with the same fuel on the unfolded arguments returns the unfolding of the store-level result;
the table invariant is kept and the table is only appended to -/
theorem iteS_refines_nocache (lvl : Nat → Nat) (fuel : Nat) {s s' : Store} {f g h r : Ref}
    (hs : StoreOK s) (hf : f.ValidIn s) (hg : g.ValidIn s) (hh : h.ValidIn s)
    (hrun : iteS NoCacheS lvl fuel (s, ()) f g h = some ((s', ()), r)) :
    StoreOK s' ∧ Extends s' s ∧ r.ValidIn s' ∧
    Bdd.ite NoCacheT lvl fuel () (unfold s f) (unfold s g) (unfold s h) = some ((), unfold s' r) := by
  obtain ⟨⟨h1, h2, _, h4⟩, hsim⟩ := iteS_refines noCacheSim lvl fuel (s, ()) f g h (s', ()) r hs
    (cacheValid_empty NoCacheS s) hf hg hh hrun
  obtain ⟨cT, _, hcall⟩ := hsim () trivial
  exact ⟨h1, h2, h4, hcall⟩

/-- **`ite_helper`, any lawful apply cache keyed by references**: whatever the tree-level cache
is to hold afterwards besides the image of the final reference-level contents (`tail`), there is
a script such that the tree-level `ite` — same fuel, unfolded arguments, cache contents the image
of the initial reference-level contents — returns the unfolding of the store-level result and
ends with contents the image of the final reference-level contents -/
theorem iteS_refines_lawful (CS : CacheS) (lvl : Nat → Nat) (fuel : Nat) {s s' : Store} {c c' : CS.σ}
    {f g h r : Ref} (hs : StoreOK s) (hc : CacheValid CS s c) (hf : f.ValidIn s) (hg : g.ValidIn s)
    (hh : h.ValidIn s) (hrun : iteS CS lvl fuel (s, c) f g h = some ((s', c'), r)) :
    StoreOK s' ∧ Extends s' s ∧ CacheValid CS s' c' ∧ r.ValidIn s' ∧
    ∀ tail : List Contents, ∃ script : List Contents,
      Bdd.ite ScriptedCache lvl fuel (img CS s c, script) (unfold s f) (unfold s g) (unfold s h) =
        some ((img CS s' c', tail), unfold s' r) := by
  obtain ⟨⟨h1, h2, h3, h4⟩, hsim⟩ := iteS_refines (scriptedSim CS) lvl fuel (s, c) f g h (s', c') r hs
    hc hf hg hh hrun
  refine ⟨h1, h2, h3, h4, fun tail => ?_⟩
  obtain ⟨cT, hR, hcall⟩ := hsim (img CS s' c', tail) rfl
  obtain ⟨cur, script⟩ := cT
  have : cur = img CS s c := hR
  subst this
  exact ⟨script, hcall⟩

/-! ## the property theorems -/

/-- **pointer identity = structural equality.**  In a unique table satisfying its invariant, two
references into the table unfold to the same tree iff they are the same reference. -/
theorem unfold_injective {s : Store} (hs : StoreOK s) {a b : Ref} (ha : a.ValidIn s) (hb : b.ValidIn s) :
    unfold s a = unfold s b ↔ a = b := unfold_eq_iff hs ha hb

/-- the invariant holds along every program, the table is only appended to, and hence every
reference handed out earlier keeps its unfolding for ever -/
theorem old_refs_stable (CS : CacheS) (lvl : Nat → Nat) (fuel : Nat) (ops : List Op) (st st' : StS CS)
    (hinv : InvS st) (hrun : runS CS lvl fuel st ops = some st') :
    InvS st' ∧ (∃ rs, st'.pool = st.pool ++ rs) ∧
    ∀ r : Ref, r.ValidIn st.store → r.ValidIn st'.store ∧ unfold st'.store r = unfold st.store r := by
  obtain ⟨h1, h2, h3, _⟩ := runS_refines (scriptedSim CS) lvl fuel ops st st' hinv hrun
  exact ⟨h1, h3, fun r hr => ⟨validIn_extends h2 hr, unfold_extends h2 hr⟩⟩

/-- refinement with the never-storing caches on both sides (every lookup misses) -/
theorem store_run_tree_nocache (lvl : Nat → Nat) (fuel n : Nat) (ops : List Op) (st : StS NoCacheS)
    (hrun : runS NoCacheS lvl fuel (StS.init NoCacheS n) ops = some st) :
    run NoCacheT lvl fuel (St.init NoCacheT n) ops =
      some ⟨(), st.numVars, st.pool.map (unfold st.store)⟩ := by
  obtain ⟨_, _, _, hsim⟩ := runS_refines noCacheSim lvl fuel ops _ st (invS_init _ n) hrun
  obtain ⟨cT, _, h⟩ := hsim () trivial
  exact h

/-- **refinement for every lawful cache keyed by references**: a returning store-level run from
the initial builder is a returning tree-level run (same program, same fuel, same level map) with
a lawful tree-level cache that starts empty; the tree-level pool is the unfolding of the
store-level pool. -/
theorem store_run_tree (CS : CacheS) (lvl : Nat → Nat) (fuel n : Nat) (ops : List Op) (st : StS CS)
    (hrun : runS CS lvl fuel (StS.init CS n) ops = some st) :
    InvS st ∧ ∃ (script : List Contents) (cT' : ScriptedCache.σ),
      run ScriptedCache lvl fuel ⟨(fun _ => none, script), n, []⟩ ops =
        some ⟨cT', st.numVars, st.pool.map (unfold st.store)⟩ := by
  obtain ⟨hinv, _, _, hsim⟩ := runS_refines (scriptedSim CS) lvl fuel ops _ st (invS_init _ n) hrun
  obtain ⟨cT, hR, h⟩ := hsim (img CS st.store st.cache, []) rfl
  refine ⟨hinv, cT.2, (img CS st.store st.cache, []), ?_⟩
  have e : cT = (fun _ => none, cT.2) := by
    obtain ⟨cur, script⟩ := cT
    have hR' : cur = img CS [] CS.empty := hR
    refine Prod.ext ?_ rfl
    show cur = fun _ => none
    rw [hR']
    funext K
    simp only [img]
    split
    · rw [CS.empty_get]; rfl
    · rfl
  rw [e] at h
  exact h

theorem inv_scripted_start (lvl : Nat → Nat) (script : List Contents) (n : Nat) :
    Inv ScriptedCache lvl ⟨(fun _ => none, script), n, []⟩ := by
  refine ⟨?_, ?_, fun p hp => by cases hp⟩
  · intro f g h r hget; cases hget
  · intro f g h r hget; cases hget

/-- **C01 at store level.**  For every lawful cache keyed by references, every injective level
map, every fuel, every program: if the store-level builder returns, the specification accepts
the program, the `i`-th reference handed out denotes (through the table) the `i`-th Boolean
function of the specification, it unfolds to a well formed ROBDD, and the table invariant holds. -/
theorem store_run_refines (CS : CacheS) (lvl : Nat → Nat) (inj : ∀ x y, lvl x = lvl y → x = y)
    (fuel n : Nat) (ops : List Op) (st : StS CS)
    (hrun : runS CS lvl fuel (StS.init CS n) ops = some st) :
    ∃ sp, specRun (n, []) ops = some sp ∧
      sp = (st.numVars, st.pool.map fun r => den (unfold st.store r)) ∧
      (∀ r ∈ st.pool, WF lvl (unfold st.store r)) ∧ InvS st := by
  obtain ⟨hinv, script, cT', hT⟩ := store_run_tree CS lvl fuel n ops st hrun
  obtain ⟨sp, hsp, hrel, hinvT, _⟩ := run_correct ScriptedCache lvl inj fuel ops _ _ (n, [])
    (inv_scripted_start lvl script n) ((rel_iff _ _).2 rfl) hT
  refine ⟨sp, hsp, ?_, ?_, hinv⟩
  · rw [(rel_iff _ _).1 hrel]; simp only [List.map_map]; rfl
  · intro r hr
    exact hinvT.2.2 _ (List.mem_map.2 ⟨r, hr, rfl⟩)

/-- in a table satisfying its invariant, two valid references whose trees are well formed ROBDDs are
equal iff they denote the same Boolean function: injectivity of `unfold` after canonicity -/
theorem ref_eq_iff_sem (lvl : Nat → Nat) (inj : ∀ x y, lvl x = lvl y → x = y) {s : Store} (hs : StoreOK s)
    {p q : Ref} (hp : p.ValidIn s) (hq : q.ValidIn s) (wp : WF lvl (unfold s p)) (wq : WF lvl (unfold s q)) :
    p = q ↔ ∀ a, (unfold s p).eval a = (unfold s q).eval a := by
  rw [canonicity lvl inj wp wq]; exact (unfold_injective hs hp hq).symm

/-- **C02 at store level: pointer equality decides equivalence.**  Two references handed out by
any returning store-level program (any lawful cache, injective level map, fuel) are EQUAL AS
REFERENCES iff they denote the same Boolean function. -/
theorem store_eq_iff_sem (CS : CacheS) (lvl : Nat → Nat) (inj : ∀ x y, lvl x = lvl y → x = y)
    (fuel n : Nat) (ops : List Op) (st : StS CS)
    (hrun : runS CS lvl fuel (StS.init CS n) ops = some st) {p q : Ref}
    (hp : p ∈ st.pool) (hq : q ∈ st.pool) :
    p = q ↔ ∀ a, (unfold st.store p).eval a = (unfold st.store q).eval a := by
  obtain ⟨_, _, _, hwf, hs, _, hv⟩ := store_run_refines CS lvl inj fuel n ops st hrun
  exact ref_eq_iff_sem lvl inj hs (hv p hp) (hv q hq) (hwf p hp) (hwf q hq)

/-- the same against the specification, by pool index: entries `i` and `j` are the same reference
iff the specification's Boolean functions `i` and `j` are equal -/
theorem store_eq_iff_spec (CS : CacheS) (lvl : Nat → Nat) (inj : ∀ x y, lvl x = lvl y → x = y)
    (fuel n : Nat) (ops : List Op) (st : StS CS)
    (hrun : runS CS lvl fuel (StS.init CS n) ops = some st) :
    ∃ sp, specRun (n, []) ops = some sp ∧ sp.2.length = st.pool.length ∧
      ∀ i j (hi : i < st.pool.length) (hj : j < st.pool.length) (hi' : i < sp.2.length)
        (hj' : j < sp.2.length), st.pool[i] = st.pool[j] ↔ sp.2[i] = sp.2[j] := by
  obtain ⟨sp, hsp, rfl, hwf, hs, _, hv⟩ := store_run_refines CS lvl inj fuel n ops st hrun
  refine ⟨_, hsp, by simp, ?_⟩
  intro i j hi hj hi' hj'
  have mi := List.getElem_mem hi
  have mj := List.getElem_mem hj
  simp only [List.getElem_map]
  rw [ref_eq_iff_sem lvl inj hs (hv _ mi) (hv _ mj) (hwf _ mi) (hwf _ mj)]
  exact ⟨fun h => funext h, fun h a => congrFun h a⟩

/-- the table stays reduced along every program: every stored node has `lo ≠ hi` and a regular,
non-false high edge -/
theorem store_red_of_run (CS : CacheS) (lvl : Nat → Nat) (fuel : Nat) (ops : List Op) (st st' : StS CS)
    (hinv : InvS st) (hr : StoreRed st.store) (hrun : runS CS lvl fuel st ops = some st') :
    StoreRed st'.store :=
  (runS_sim (scriptedSim CS) lvl fuel ops st st' hinv hrun).2 hr

/-- **the invariants of the unique table, flat**: after any returning program from the initial
builder (any lawful cache, any level map), children are stored at smaller indices than their
parent, no node is stored twice, every stored node has distinct children and a regular non-false
high edge, and every reference handed out points into the table -/
theorem store_invariants (CS : CacheS) (lvl : Nat → Nat) (fuel n : Nat) (ops : List Op) (st : StS CS)
    (hrun : runS CS lvl fuel (StS.init CS n) ops = some st) :
    (∀ i nd, nodeAt st.store i = some nd →
      (∀ j, nd.lo.idx? = some j → j < i) ∧ (∀ j, nd.hi.idx? = some j → j < i)) ∧
    (∀ i j nd, nodeAt st.store i = some nd → nodeAt st.store j = some nd → i = j) ∧
    (∀ nd ∈ st.store, nd.lo ≠ nd.hi ∧ nd.hi.isNeg = false ∧ nd.hi ≠ .fls) ∧
    (∀ p ∈ st.pool, p.ValidIn st.store) ∧
    (∀ p ∈ st.pool, (unfold st.store p).red) := by
  obtain ⟨⟨hs, _, hp⟩, _⟩ := old_refs_stable CS lvl fuel ops _ st (invS_init CS n) hrun
  have hr := store_red_of_run CS lvl fuel ops _ st (invS_init CS n) storeRed_nil hrun
  exact ⟨fun i nd h => hs.child_lt h, fun i j nd h1 h2 => hs.nodup h1 h2, hr, hp,
    fun p h => unfold_red hs hr (hp p h)⟩

/-! ## non-vacuity -/
section demo

/-- the demo program of C01 (every operation of the language, three variables), followed by
three more routes to `x0 ∧ x1` (entries 3 and 7 of the C01 pool): `and x1 x0`, `ite x1 x0 ⊥`,
`and_lst [x1, x0]` -/
def demoProgS : List Op := demoProg ++ [.and 1 0, .ite 1 0 16, .andLst [1, 0]]

/-- the run with the list-backed cache, evaluated once: size of the table and of the apply cache,
number of variables, references handed out, and their unfoldings (C01's pool, then `x0 ∧ x1` thrice) -/
theorem demoRunS : (runS ListCacheS id 20 (StS.init ListCacheS 3) demoProgS).map
    (fun st => (st.store.length, st.cache.length, st.numVars, st.pool, st.pool.map (unfold st.store))) =
    some (15, 13, 4,
      [.reg 0, .reg 1, .compl 2, .reg 3, .reg 5, .reg 6, .compl 2, .reg 3, .compl 9, .tru,
       .reg 10, .reg 1, .compl 12, .reg 13, .compl 3, .reg 14, .fls, .reg 3, .reg 3, .reg 3],
      demoPool ++ List.replicate 3 (.node false 0 .fls (.node false 1 .fls .tru))) := by
  decide +kernel

theorem map_of_map_eq {α β γ} {o : Option α} {f : α → β} {b : β} (h : o.map f = some b) (g : β → γ) :
    o.map (fun a => g (f a)) = some (g b) := by
  cases o with
  | none => cases h
  | some a => cases h; rfl

/-- the store-level builder with the list-backed cache returns on it: the unique table holds
15 nodes, 20 references were handed out, one variable was added, the apply cache was used -/
example : (runS ListCacheS id 20 (StS.init ListCacheS 3) demoProgS).map
    (fun st => (st.store.length, st.pool.length, st.numVars, decide (0 < st.cache.length))) =
    some (15, 20, 4, true) :=
  map_of_map_eq demoRunS fun t => (t.1, t.2.2.2.1.length, t.2.2.1, decide (0 < t.2.1))

/-- the references handed out (indices into the table): `x0 ∧ x1` is `Reg(3)` by all five routes
(entries 3, 7, 17, 18, 19), `¬x2` is `Compl(2)` by both routes (entries 2, 6) -/
example : (runS ListCacheS id 20 (StS.init ListCacheS 3) demoProgS).map (·.pool) =
    some [.reg 0, .reg 1, .compl 2, .reg 3, .reg 5, .reg 6, .compl 2, .reg 3, .compl 9, .tru,
      .reg 10, .reg 1, .compl 12, .reg 13, .compl 3, .reg 14, .fls, .reg 3, .reg 3, .reg 3] :=
  map_of_map_eq demoRunS (·.2.2.2.1)

/-- unfolded, the first 17 entries are the pool of C01's demo, tree by tree -/
example : (runS ListCacheS id 20 (StS.init ListCacheS 3) demoProgS).map
    (fun st => (st.pool.map (unfold st.store)).take 17) = some demoPool :=
  map_of_map_eq demoRunS (·.2.2.2.2.take 17)

/-- the unfolded store-level pool IS the pool of the tree-level model run with its list-backed
cache on the same program (lockstep, checked by evaluation) -/
example : (runS ListCacheS id 20 (StS.init ListCacheS 3) demoProgS).map
      (fun st => st.pool.map (unfold st.store)) =
    (run ListCache id 20 (St.init ListCache 3) demoProgS).map (·.pool) := by
  rw [map_of_map_eq demoRunS (·.2.2.2.2)]
  decide +kernel

/-- the final table satisfies the invariant and is reduced -/
example : ∃ st, runS ListCacheS id 20 (StS.init ListCacheS 3) demoProgS = some st ∧
    InvS st ∧ StoreRed st.store := by
  obtain ⟨st, h, _⟩ := Option.map_eq_some_iff.1 demoRunS
  exact ⟨st, h, (old_refs_stable ListCacheS id 20 demoProgS _ st (invS_init _ 3) h).1,
    store_red_of_run ListCacheS id 20 demoProgS _ st (invS_init _ 3) storeRed_nil h⟩

/-- instance of `store_run_refines` and `store_eq_iff_sem` (`id` is injective) -/
example : ∃ st sp, runS ListCacheS id 20 (StS.init ListCacheS 3) demoProgS = some st ∧
    specRun (3, []) demoProgS = some sp ∧
    sp = (st.numVars, st.pool.map fun r => den (unfold st.store r)) ∧
    ∀ p ∈ st.pool, ∀ q ∈ st.pool,
      (p = q ↔ ∀ a, (unfold st.store p).eval a = (unfold st.store q).eval a) := by
  obtain ⟨st, h, _⟩ := Option.map_eq_some_iff.1 demoRunS
  obtain ⟨sp, h1, h2, _⟩ := store_run_refines ListCacheS id (fun _ _ e => e) 20 3 demoProgS st h
  exact ⟨st, sp, h, h1, h2, fun p hp q hq =>
    store_eq_iff_sem ListCacheS id (fun _ _ e => e) 20 3 demoProgS st h hp hq⟩

/-- rejected calls return `none`: label outside the order, index outside the pool, no fuel -/
example : runS ListCacheS id 20 (StS.init ListCacheS 3) [.var 3 true] = none := by decide
example : runS ListCacheS id 20 (StS.init ListCacheS 3) [.var 0 true, .and 0 1] = none := by decide
example : runS ListCacheS id 1 (StS.init ListCacheS 3) [.var 0 true, .var 1 true, .and 0 1] = none := by
  decide
example : runS ListCacheS id 20 (StS.init ListCacheS 3) [.var 0 true, .cond 0 3 true] = none := by decide

/-- the never-storing cache returns as well (with enough fuel) and hands out the same references -/
example : (runS NoCacheS id 20 (StS.init NoCacheS 3) demoProgS).map (·.pool) =
    (runS ListCacheS id 20 (StS.init ListCacheS 3) demoProgS).map (·.pool) := by
  rw [map_of_map_eq demoRunS (·.2.2.2.1)]
  decide +kernel

/-- the reversed order `2 < 1 < 0` also returns; the table is different (`x0 ∧ x1` is rooted at
`x1`) but `x0 ∧ x1` is again one reference by all five routes -/
example : (runS ListCacheS (fun v => 10 - v) 20 (StS.init ListCacheS 3) demoProgS).map
    (fun st => (st.pool[3]?.map (unfold st.store),
      [7, 17, 18, 19].map fun j => st.pool[3]? == st.pool[j]?)) =
    some (some (.node false 1 .fls (.node false 0 .fls .tru)), [true, true, true, true]) := by
  decide +kernel

end demo

#print axioms unfold_injective
#print axioms iteS_refines_nocache
#print axioms iteS_refines_lawful
#print axioms stepS_refines
#print axioms runS_refines
#print axioms old_refs_stable
#print axioms store_run_tree_nocache
#print axioms store_run_tree
#print axioms store_run_refines
#print axioms store_eq_iff_sem
#print axioms store_eq_iff_spec
#print axioms store_red_of_run
#print axioms store_invariants
end BddStore
