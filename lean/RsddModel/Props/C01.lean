import RsddModel.Model.BddBuilder
import RsddModel.Model.BddCaches
import RsddModel.Lemmas.BddCanon
import RsddModel.Lemmas.BddWF
import RsddModel.Lemmas.BddSem
/-!
# C01 — BDD operations compute the function they name

The work per operation is in `Lemmas/BddSem` (semantics), `Lemmas/BddWF` (well-formedness
preservation), `Lemmas/BddCond` (memo transparency); here they are put together by cases over the
operation language (`step_core`).

* `step_correct` : one builder call refines one step of the Boolean-function specification,
  keeps the invariant, and only *appends* to the pool (so every earlier diagram is untouched
  and keeps denoting the same function);
* `run_correct`, `run_refines` : the lift to any sequence of calls, for every lawful apply cache
  `C : CacheImpl`, every injective level map `lvl` (variable order) and every fuel;
* non-vacuity `example`s: a concrete program on three variables, run with the list-backed
  cache `AllCache`, returns `some` with the expected pool.
-/
namespace Bdd
open Spec

/-- builder invariant: the apply cache is semantically sound and only holds well formed results,
and every diagram handed out so far is well formed -/
def Inv (C : CacheImpl) (lvl : Nat → Nat) (st : St C) : Prop :=
  CacheSound C st.cache ∧ CacheWF C lvl st.cache ∧ ∀ p ∈ st.pool, WF lvl p

/-- the builder state `st` refines the specification state `sp`: same number of variables, same
pool length, and the `i`-th diagram denotes the `i`-th Boolean function -/
def Rel {C : CacheImpl} (st : St C) (sp : Nat × List BoolFn) : Prop :=
  sp.1 = st.numVars ∧ sp.2.length = st.pool.length ∧
  ∀ i (h1 : i < st.pool.length) (h2 : i < sp.2.length),
    (fun a => (st.pool[i]'h1).eval a) = sp.2[i]'h2

theorem rel_iff {C : CacheImpl} (st : St C) (sp : Nat × List BoolFn) :
    Rel st sp ↔ sp = (st.numVars, st.pool.map den) := by
  obtain ⟨n, fs⟩ := sp
  constructor
  · rintro ⟨h1, h2, h3⟩
    simp only at h1 h2 h3
    subst h1
    congr 1
    apply List.ext_getElem
    · simpa using h2
    · intro i hi hi'
      have hi'' : i < st.pool.length := by simpa using hi'
      rw [List.getElem_map]
      exact (h3 i hi'' hi).symm
  · intro h
    cases h
    refine ⟨rfl, by simp, ?_⟩
    intro i h1 h2
    simp only [List.getElem_map]; rfl

theorem inv_init (C : CacheImpl) (lvl : Nat → Nat) (n : Nat) : Inv C lvl (St.init C n) :=
  ⟨cacheSound_empty C, cacheWF_empty C lvl, fun p hp => by simp [St.init] at hp⟩

theorem rel_init (C : CacheImpl) (n : Nat) : Rel (St.init C n) (n, []) :=
  (rel_iff _ _).2 rfl

/-! ## one step -/

/-- what one successful call achieves, against the canonical spec state of `st` -/
def StepOK (C : CacheImpl) (lvl : Nat → Nat) (st st' : St C) (op : Op) : Prop :=
  ∃ r, st'.pool = st.pool ++ [r] ∧
    specStep (st.numVars, st.pool.map den) op = some (st'.numVars, st.pool.map den ++ [den r]) ∧
    Inv C lvl st'

theorem stepOK_mk {C : CacheImpl} {lvl : Nat → Nat} {st : St C} {op : Op} {s' : C.σ} {n' : Nat}
    {r : Ptr} (hs : CacheSound C s') (hw : CacheWF C lvl s') (wr : WF lvl r)
    (hpool : ∀ p ∈ st.pool, WF lvl p)
    (hspec : specStep (st.numVars, st.pool.map den) op = some (n', st.pool.map den ++ [den r])) :
    StepOK C lvl st ⟨s', n', st.pool ++ [r]⟩ op := by
  refine ⟨r, rfl, hspec, hs, hw, ?_⟩
  intro p hp
  rcases List.mem_append.1 hp with h | h
  · exact hpool p h
  · simp only [List.mem_singleton] at h; subst h; exact wr

theorem getAll_spec {pool : List Ptr} : ∀ {is : List Nat} {ps : List Ptr},
    getAll pool is = some ps →
    getAllFn (pool.map den) is = some (ps.map den) ∧ ∀ p ∈ ps, p ∈ pool
  | [], ps, h => by
    simp only [getAll, Option.some.injEq] at h; subst h
    exact ⟨rfl, fun p hp => by cases hp⟩
  | i :: is, ps, h => by
    simp only [getAll] at h
    split at h
    · rename_i p qs hp hqs
      simp only [Option.some.injEq] at h; subst h
      obtain ⟨h1, h2⟩ := getAll_spec hqs
      refine ⟨by simp [getAllFn, List.getElem?_map, hp, h1], ?_⟩
      intro q hq
      rcases List.mem_cons.1 hq with e | e
      · subst e; exact List.mem_of_getElem? hp
      · exact h2 q e
    · cases h

/-- a call whose result `res` comes from the apply machinery: `hres` is the pair of its semantic
and its well-formedness lemma -/
theorem stepOK_apply {C : CacheImpl} {lvl : Nat → Nat} {st st' : St C} {op : Op}
    {res : Option (C.σ × Ptr)} {F : BoolFn} (hpool : ∀ p ∈ st.pool, WF lvl p)
    (hstep : res.map (fun (s, r) => { st with cache := s, pool := st.pool ++ [r] }) = some st')
    (hres : ∀ {s r}, res = some (s, r) →
      (CacheSound C s ∧ den r = F) ∧ (CacheWF C lvl s ∧ WF lvl r))
    (hspec : specStep (st.numVars, st.pool.map den) op =
      some (st.numVars, st.pool.map den ++ [F])) : StepOK C lvl st st' op := by
  rw [Option.map_eq_some_iff] at hstep
  obtain ⟨⟨s, r⟩, hrun, rfl⟩ := hstep
  obtain ⟨⟨hs', er⟩, hw', wr⟩ := hres hrun
  exact stepOK_mk hs' hw' wr hpool (er ▸ hspec)

/-- one successful call, against the specification state that `st` itself determines;
`step_correct` restates it for any specification state related to `st` -/
theorem step_core (C : CacheImpl) (lvl : Nat → Nat) (inj : ∀ x y, lvl x = lvl y → x = y)
    (fuel : Nat) (st st' : St C) (op : Op) (hinv : Inv C lvl st)
    (hstep : step C lvl fuel st op = some st') : StepOK C lvl st st' op := by
  obtain ⟨hs, hw, hpool⟩ := hinv
  have wfAt : ∀ {i p}, st.pool[i]? = some p → WF lvl p :=
    fun h => hpool _ (List.mem_of_getElem? h)
  cases op <;> simp only [step] at hstep
  case const b =>
    cases hstep
    refine stepOK_mk hs hw ?_ hpool ?_
    · cases b
      · exact WF_fls lvl
      · exact WF_tru lvl
    · cases b <;> rfl
  case var x pol =>
    split at hstep
    · rename_i hx
      simp only [Option.some.injEq] at hstep; subst hstep
      exact stepOK_mk hs hw (mkVar_WF lvl x pol) hpool (by simp only [specStep, hx, if_true, mkVar_sem])
    · cases hstep
  case newVar pol =>
    cases hstep
    exact stepOK_mk hs hw (mkVar_WF lvl _ pol) hpool (by simp only [specStep, mkVar_sem])
  case neg i =>
    rw [Option.map_eq_some_iff] at hstep
    obtain ⟨p, hp, rfl⟩ := hstep
    exact stepOK_mk hs hw (WF_neg (wfAt hp)) hpool
      (by simp only [specStep, List.getElem?_map, hp, Option.map_some, den_neg])
  case and i j =>
    split at hstep
    · rename_i p q hp hq
      exact stepOK_apply hpool hstep
        (fun h => ⟨bAnd_sem hs h, bAnd_WF C lvl inj hw (wfAt hp) (wfAt hq) h⟩)
        (by simp only [specStep, List.getElem?_map, hp, hq, Option.map_some])
    · cases hstep
  case or i j =>
    split at hstep
    · rename_i p q hp hq
      exact stepOK_apply hpool hstep
        (fun h => ⟨bOr_sem hs h, bOr_WF C lvl inj hw (wfAt hp) (wfAt hq) h⟩)
        (by simp only [specStep, List.getElem?_map, hp, hq, Option.map_some])
    · cases hstep
  case xor i j =>
    split at hstep
    · rename_i p q hp hq
      exact stepOK_apply hpool hstep
        (fun h => ⟨bXor_sem hs h, bXor_WF C lvl inj hw (wfAt hp) (wfAt hq) h⟩)
        (by simp only [specStep, List.getElem?_map, hp, hq, Option.map_some])
    · cases hstep
  case iff i j =>
    split at hstep
    · rename_i p q hp hq
      exact stepOK_apply hpool hstep
        (fun h => ⟨bIff_sem hs h, bIff_WF C lvl inj hw (wfAt hp) (wfAt hq) h⟩)
        (by simp only [specStep, List.getElem?_map, hp, hq, Option.map_some])
    · cases hstep
  case ite i j k =>
    split at hstep
    · rename_i p q r0 hp hq hr0
      exact stepOK_apply hpool hstep
        (fun h => ⟨ite_den hs h, ite_WF C lvl inj hw (wfAt hp) (wfAt hq) (wfAt hr0) h⟩)
        (by simp only [specStep, List.getElem?_map, hp, hq, hr0, Option.map_some])
    · cases hstep
  case cond i x b =>
    split at hstep
    · rename_i hx
      simp only [Option.map_eq_some_iff] at hstep
      obtain ⟨p, hp, rfl⟩ := hstep
      exact stepOK_mk hs hw (condition_WF lvl x b (wfAt hp)) hpool
        (by simp only [specStep, hx, if_true, List.getElem?_map, hp, Option.map_some,
          condition_sem x b (wfAt hp).1])
    · cases hstep
  case condModel i m =>
    split at hstep
    · rename_i hm
      simp only [Option.map_eq_some_iff] at hstep
      obtain ⟨p, hp, rfl⟩ := hstep
      exact stepOK_mk hs hw (condModel_WF lvl m (wfAt hp)) hpool
        (by simp only [specStep, hm, if_true, List.getElem?_map, hp, Option.map_some,
          condModel_sem m (wfAt hp).1])
    · cases hstep
  case exist i x =>
    split at hstep
    · rename_i hx
      split at hstep
      · rename_i p hp
        exact stepOK_apply hpool hstep
          (fun h => ⟨bExists_sem hs (wfAt hp).1 h, bExists_WF C lvl inj hw (wfAt hp) h⟩)
          (by simp only [specStep, hx, if_true, List.getElem?_map, hp, Option.map_some])
      · cases hstep
    · cases hstep
  case compose i x j =>
    split at hstep
    · rename_i hx
      split at hstep
      · rename_i p q hp hq
        exact stepOK_apply hpool hstep
          (fun h => ⟨bCompose_sem inj hs hw (wfAt hp) (wfAt hq) h,
            bCompose_WF C lvl inj hw (wfAt hp) (wfAt hq) h⟩)
          (by simp only [specStep, hx, if_true, List.getElem?_map, hp, hq, Option.map_some])
      · cases hstep
    · cases hstep
  case andLst is =>
    split at hstep
    · rename_i ps hps
      obtain ⟨hfn, hmem⟩ := getAll_spec hps
      exact stepOK_apply hpool hstep
        (fun h => ⟨bAndLst_sem ps hs h,
          bAndLst_WF C lvl inj ps hw (WF_tru lvl) (fun p hp => hpool p (hmem p hp)) h⟩)
        (by simp only [specStep, hfn, Option.map_some, den_tru])
    · cases hstep
  case orLst is =>
    split at hstep
    · rename_i ps hps
      obtain ⟨hfn, hmem⟩ := getAll_spec hps
      exact stepOK_apply hpool hstep
        (fun h => ⟨bOrLst_sem ps hs h,
          bOrLst_WF C lvl inj ps hw (WF_fls lvl) (fun p hp => hpool p (hmem p hp)) h⟩)
        (by simp only [specStep, hfn, Option.map_some, den_fls])
    · cases hstep

/-- **C01, one call.**  For every lawful cache `C`, injective level map `lvl` and fuel: if the
builder state satisfies the invariant and refines the specification state `sp`, then a
successful call `op` is also accepted by the specification, the new states are again related,
the invariant is kept, and the pool only grows by one entry at the end — the old entries are
untouched, which is the "keeps denoting the same function after any later operation" clause. -/
theorem step_correct (C : CacheImpl) (lvl : Nat → Nat) (inj : ∀ x y, lvl x = lvl y → x = y)
    (fuel : Nat) (st st' : St C) (sp : Nat × List BoolFn) (op : Op)
    (hinv : Inv C lvl st) (hrel : Rel st sp)
    (hstep : step C lvl fuel st op = some st') :
    ∃ sp', specStep sp op = some sp' ∧ Rel st' sp' ∧ Inv C lvl st' ∧
      ∃ r, st'.pool = st.pool ++ [r] := by
  obtain ⟨r, hpool, hspec, hinv'⟩ := step_core C lvl inj fuel st st' op hinv hstep
  rw [(rel_iff st sp).1 hrel]
  refine ⟨_, hspec, (rel_iff _ _).2 ?_, hinv', r, hpool⟩
  rw [hpool, List.map_append]; rfl

/-! ## any number of steps -/

/-- **C01, any sequence of calls**, from any state satisfying the invariant -/
theorem run_correct (C : CacheImpl) (lvl : Nat → Nat) (inj : ∀ x y, lvl x = lvl y → x = y)
    (fuel : Nat) : ∀ (ops : List Op) (st st' : St C) (sp : Nat × List BoolFn),
    Inv C lvl st → Rel st sp → run C lvl fuel st ops = some st' →
    ∃ sp', specRun sp ops = some sp' ∧ Rel st' sp' ∧ Inv C lvl st' ∧
      ∃ rs, st'.pool = st.pool ++ rs
  | [], st, st', sp, hinv, hrel, hrun => by
    simp only [run, Option.some.injEq] at hrun; subst hrun
    exact ⟨sp, rfl, hrel, hinv, [], by simp⟩
  | op :: ops, st, st', sp, hinv, hrel, hrun => by
    simp only [run] at hrun
    split at hrun
    · cases hrun
    · rename_i st1 h1
      obtain ⟨sp1, hsp1, hrel1, hinv1, r, hr⟩ := step_correct C lvl inj fuel st st1 sp op hinv hrel h1
      obtain ⟨sp', hsp', hrel', hinv', rs, hrs⟩ := run_correct C lvl inj fuel ops st1 st' sp1 hinv1 hrel1 hrun
      refine ⟨sp', by simp only [specRun, hsp1, hsp'], hrel', hinv', r :: rs, ?_⟩
      rw [hrs, hr, List.append_assoc]; rfl

/-- **C01, refinement from the initial builder** (`n` variables, empty cache, empty pool): every
successful run of the builder is a successful run of the specification, diagram `i` of the
final pool denotes Boolean function `i` of the specification's pool, and the invariant holds at
the end.  For every lawful cache, every injective level map, every fuel, every program. -/
theorem run_refines (C : CacheImpl) (lvl : Nat → Nat) (inj : ∀ x y, lvl x = lvl y → x = y)
    (fuel n : Nat) (ops : List Op) (st : St C)
    (hrun : run C lvl fuel (St.init C n) ops = some st) :
    ∃ sp, specRun (n, []) ops = some sp ∧ Rel st sp ∧ Inv C lvl st := by
  obtain ⟨sp, h1, h2, h3, _⟩ :=
    run_correct C lvl inj fuel ops (St.init C n) st (n, []) (inv_init C lvl n) (rel_init C n) hrun
  exact ⟨sp, h1, h2, h3⟩

/-- history stability, spelled out: a diagram obtained after a prefix `ops₁` of the program is
still entry `i` of the pool after any continuation `ops₂`, and still denotes entry `i` of the
specification pool after `ops₁` -/
theorem run_stable (C : CacheImpl) (lvl : Nat → Nat) (inj : ∀ x y, lvl x = lvl y → x = y)
    (fuel n : Nat) (ops₁ ops₂ : List Op) (st₁ st₂ : St C)
    (h1 : run C lvl fuel (St.init C n) ops₁ = some st₁)
    (h2 : run C lvl fuel st₁ ops₂ = some st₂) :
    ∃ sp₁, specRun (n, []) ops₁ = some sp₁ ∧
      ∀ i (hi : i < st₁.pool.length), ∃ (hi2 : i < st₂.pool.length) (hi3 : i < sp₁.2.length),
        st₂.pool[i] = st₁.pool[i] ∧ (fun a => (st₂.pool[i]).eval a) = sp₁.2[i] := by
  obtain ⟨sp₁, hs1, hrel1, hinv1⟩ := run_refines C lvl inj fuel n ops₁ st₁ h1
  obtain ⟨_, _, _, _, rs, hrs⟩ := run_correct C lvl inj fuel ops₂ st₁ st₂ sp₁ hinv1 hrel1 h2
  refine ⟨sp₁, hs1, ?_⟩
  intro i hi
  have hi2 : i < st₂.pool.length := by rw [hrs, List.length_append]; omega
  have hi3 : i < sp₁.2.length := by rw [hrel1.2.1]; exact hi
  have e : st₂.pool[i] = st₁.pool[i] := by
    simp only [hrs]; exact List.getElem_append_left hi
  exact ⟨hi2, hi3, e, by rw [e]; exact hrel1.2.2 i hi hi3⟩

/-! ## non-vacuity: the hypotheses `run … = some st` are met by real programs -/
section demo
open Ptr

/-- a program over three variables that exercises every operation of the language -/
def demoProg : List Op := [.var 0 true, .var 1 true, .var 2 false, .and 0 1, .or 3 2, .exist 4 1,
  .compose 4 0 2, .cond 4 2 true, .xor 0 1, .iff 8 8, .ite 0 1 2,
  .condModel 10 [(0, true), (2, false)], .andLst [0, 1, 2], .orLst [0, 1], .neg 3, .newVar true,
  .const false]

/-- the pool it produces under the linear order -/
def demoPool : List Ptr :=
  [node false 0 fls tru,                                                        -- x0
   node false 1 fls tru,                                                        -- x1
   node true 2 fls tru,                                                         -- ¬x2
   node false 0 fls (node false 1 fls tru),                                     -- x0 ∧ x1
   node false 0 (node true 2 fls tru) (node false 1 (node true 2 fls tru) tru), -- (x0 ∧ x1) ∨ ¬x2
   node false 0 (node true 2 fls tru) tru,                                      -- ∃x1. #4 = x0 ∨ ¬x2
   node true 2 fls tru,                                                         -- #4[x0 := ¬x2] = ¬x2
   node false 0 fls (node false 1 fls tru),                                     -- #4 | x2 = x0 ∧ x1
   node true 0 (node true 1 fls tru) (node false 1 fls tru),                    -- x0 ⊕ x1
   tru,                                                                         -- #8 ⇔ #8
   node false 0 (node true 2 fls tru) (node false 1 fls tru),                   -- ite x0 x1 ¬x2
   node false 1 fls tru,                                                        -- #10 | x0, ¬x2 = x1
   node true 0 tru (node false 1 tru (node false 2 fls tru)),                   -- x0 ∧ x1 ∧ ¬x2
   node false 0 (node false 1 fls tru) tru,                                     -- x0 ∨ x1
   node true 0 fls (node false 1 fls tru),                                      -- ¬(x0 ∧ x1)
   node false 3 fls tru,                                                        -- fresh x3
   fls]

/-- the one evaluation of `demoProg` under the linear order; the examples below read it off -/
theorem demo_run : (run AllCache id 20 (St.init AllCache 3) demoProg).map
    (fun st => (st.pool, st.numVars, decide (0 < st.cache.length))) = some (demoPool, 4, true) := by
  decide +kernel

/-- with the list-backed cache and the linear order the model returns, and returns this pool -/
example : (run AllCache id 20 (St.init AllCache 3) demoProg).map (·.pool) = some demoPool := by
  have h := congrArg (Option.map (·.1)) demo_run
  rwa [Option.map_map] at h

/-- the number of variables grew by the one `newVar`, and the apply cache was really used -/
example : (run AllCache id 20 (St.init AllCache 3) demoProg).map
    (fun st => (st.numVars, decide (0 < st.cache.length))) = some (4, true) := by
  have h := congrArg (Option.map (·.2)) demo_run
  rwa [Option.map_map] at h

/-- the reversed order `2 < 1 < 0` also returns (different diagrams, e.g. `x0 ∧ x1` is rooted
at `x1`) -/
example : ((run AllCache (fun v => 10 - v) 20 (St.init AllCache 3) demoProg).map (·.pool)).map
    (fun pool => (pool.length, pool[3]?)) = some (17, some (node false 1 fls (node false 0 fls tru))) := by
  decide +kernel

/-- rejected calls return `none`: label outside the order, index outside the pool, no fuel -/
example : run AllCache id 20 (St.init AllCache 3) [.var 3 true] = none := by decide
example : run AllCache id 20 (St.init AllCache 3) [.var 0 true, .and 0 1] = none := by decide
example : run AllCache id 1 (St.init AllCache 3) [.var 0 true, .var 1 true, .and 0 1] = none := by
  decide

/-- hence the specification accepts `demoProg` as well and the two pools agree entry by entry
(an instance of `run_refines`; `id` is injective) -/
example : ∃ st sp, run AllCache id 20 (St.init AllCache 3) demoProg = some st ∧
    specRun (3, []) demoProg = some sp ∧ Rel st sp ∧ Inv AllCache id st := by
  cases h : run AllCache id 20 (St.init AllCache 3) demoProg with
  | none => have e := demo_run; rw [h] at e; cases e
  | some st =>
    obtain ⟨sp, h1, h2, h3⟩ := run_refines AllCache id (fun _ _ e => e) 20 3 demoProg st h
    exact ⟨st, sp, rfl, h1, h2, h3⟩

end demo

#print axioms step_correct
#print axioms run_correct
#print axioms run_refines
#print axioms run_stable
end Bdd
