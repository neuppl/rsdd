import RsddModel.Model.GenCli
import RsddModel.Lemmas.TieCliAux
/-!
# Tie to the source text (translator route): the command-line tools (bin/*.rs) and the rest of the C interface
(src/ffi/{wmc,bdd,cnf,var,dtree,vtree}.rs, src/util/semirings/ffi_polynomial_semiring.rs)

`RsddModel/Model/GenCli.lean` is rewritten from the Rust text on every run (tools/gen_cli.py).  The theorems state
that the regenerated definitions are the hand-written model (`Cli.singleWmc`, `Cli.formulaToBdd`, `Ffi.modelCount`,
`Ffi.fromCParts`) or its literal mirrors (`CliAux.*`, `FfiAux.*` in Lemmas/TieCliAux.lean, related to the model there).

Each proof is `first | rfl | …`: `rfl` closes the literally equal translations and the alias mode (a function outside
the translator's grammar is generated as an alias of the model, status `UNTRANSLATED`); the alternatives after it
unfold both sides and normalise (`tie_close […]`), so that a harmless re-arrangement of the source still checks.
-/
namespace TieCli
open Bdd Spec

/-- robust closing tactic (this file's own `tie_close`, with the definitions to unfold as argument): definitional
equality, else unfold both sides and normalise, splitting one `if`/`match` if needed -/
syntax "tie_close" "[" Lean.Parser.Tactic.simpLemma,* "]" : tactic
macro_rules
  | `(tactic| tie_close [$ls,*]) => `(tactic|
      first
      | rfl
      | (simp only [$ls,*]; first | done | grind | (split <;> simp_all; done))
      | (simp [$ls,*]; done))

/-! ## bin/weighted_model_count.rs -/

theorem singleWmcOut_tie : @Gen.Cli.singleWmcOut = @CliAux.singleWmcOut := by
  first
  | rfl
  | (funext α C fuel S P e n order w
     simp only [Gen.Cli.singleWmcOut, CliAux.singleWmcOut]
     cases Compile.compileExpr (Bdd.ops C order.get fuel) C.empty (Cli.toCompileExpr e) <;>
       tie_close [Option.bind_some, Option.bind_none, Option.map_some, Option.map_none])

theorem singleWmcLabels_tie : Gen.Cli.singleWmcLabels = CliAux.singleWmcLabels := by
  first | rfl | decide

/-- **`single_wmc` is `Cli.singleWmc`** (the model C19 `cli_wmc_spec` is about): the weighted count it prints, as
regenerated from the source, under the level map / inverse of the `VarOrder` it is given -/
theorem singleWmc_tie {α : Type} (C : CacheImpl) (fuel : Nat) (S : SROps α) (P : Nat) (e : Ser.LogicalExpr) (n : Nat)
    (order : Orders.VarOrder) (w : Weights α) :
    (Gen.Cli.singleWmcOut C fuel S P e n order w).map (·.2) =
      Cli.singleWmc C order.get order.varAtLevel fuel S w n e := by
  first
  -- the source as it stands: the same computation on both sides once the compilation result is decided
  | (simp only [Gen.Cli.singleWmcOut, Cli.singleWmc]
     cases Compile.compileExpr (Bdd.ops C order.get fuel) C.empty (Cli.toCompileExpr e) <;> rfl)
  -- through the literal mirror `CliAux.singleWmcOut` and its relation to the model
  | (rw [singleWmcOut_tie]; exact CliAux.singleWmcOut_weighted C fuel S P e n order w)

theorem partialWmcs_tie : @Gen.Cli.partialWmcs = @CliAux.partialWmcs := by
  first
  | rfl
  | (funext α C fuel S P e n order w ps inv
     simp only [Gen.Cli.partialWmcs, CliAux.partialWmcs]
     cases Compile.compileExpr (Bdd.ops C order.get fuel) C.empty (Cli.toCompileExpr e) <;>
       tie_close [Option.bind_some, Option.bind_none, Option.map_some, Option.map_none])

theorem toVarOrder_tie : Gen.Cli.toVarOrder = CliAux.toVarOrder := by
  first
  | rfl
  | (funext o m; cases o <;> tie_close [Gen.Cli.toVarOrder, CliAux.toVarOrder, Option.map_some, Option.map_none])

theorem generatePartialAssignments_tie : Gen.Cli.generatePartialAssignments = CliAux.generatePartialAssignments := by
  first
  | rfl
  | (funext ps inv n
     simp only [Gen.Cli.generatePartialAssignments, CliAux.generatePartialAssignments]
     apply List.map_congr_left; intro a _
     apply List.map_congr_left; intro i _
     cases CliAux.lookup inv i <;> first | rfl | (simp only []; rename_i s; cases CliAux.lookup a s <;> rfl))

theorem wmcMain_tie : @Gen.Cli.wmcMain = @CliAux.wmcMain := by
  first
  | rfl
  | (funext α C fuel S P sexpr weights co cp
     simp only [Gen.Cli.wmcMain, CliAux.wmcMain, singleWmcOut_tie, partialWmcs_tie, toVarOrder_tie,
       generatePartialAssignments_tie]; done)
  | (funext α C fuel S P sexpr weights co cp
     simp [Gen.Cli.wmcMain, CliAux.wmcMain, singleWmcOut_tie, partialWmcs_tie, toVarOrder_tie,
       generatePartialAssignments_tie]; done)

/-- consequence: without `partials` the count tool runs `single_wmc` (hence `Cli.singleWmc`) on the indexed expression -/
theorem wmcMain_single {α : Type} (C : CacheImpl) (fuel : Nat) (S : SROps α) (P : Nat) (sexpr : Ser.LogicalSExpr)
    (weights : List (String × (α × α))) (co : Option (List String)) :
    ∃ (n : Nat) (order : Orders.VarOrder) (w : Weights α),
      (Gen.Cli.wmcMain C fuel S P sexpr weights co none).map (Sum.elim (fun _ => none) (fun r => some r.2)) =
        (Ser.fromSexpr sexpr).bind fun e => (Cli.singleWmc C order.get order.varAtLevel fuel S w n e).map some := by
  obtain ⟨n, order, w, h⟩ := CliAux.wmcMain_single C fuel S P sexpr weights co
  refine ⟨n, order, w, ?_⟩
  rw [wmcMain_tie, h]
  cases Ser.fromSexpr sexpr with
  | none => rfl
  | some e =>
    simp only [Option.bind_some]
    rw [← CliAux.singleWmcOut_weighted C fuel S P e n order w]
    cases CliAux.singleWmcOut C fuel S P e n order w <;> rfl

/-! ## bin/bottomup_formula_to_bdd.rs, bin/bottomup_cnf_to_bdd.rs -/

theorem formulaMain_tie : Gen.Cli.formulaMain = CliAux.formulaMain := by
  first
  | rfl
  | (funext C fuel ord cfg sexpr
     simp only [Gen.Cli.formulaMain, CliAux.formulaMain]
     cases Ser.fromSexpr sexpr <;> first | rfl | (simp only [Option.bind_some]; split <;> tie_close [Option.bind_some, Option.bind_none]))

/-- **the formula tool is `Cli.formulaToBdd`** (the model of C19 `cli_formula_to_bdd_spec`) on the indexed expression,
compiled under the order chosen by `--ordering` -/
theorem formulaToBdd_tie (C : CacheImpl) (fuel : Nat) (ord : String) (cfg : Option (Option (List String)))
    (sexpr : Ser.LogicalSExpr) :
    Gen.Cli.formulaMain C fuel ord cfg sexpr =
      (Ser.fromSexpr sexpr).bind fun e => (CliAux.formulaOrder ord cfg sexpr).bind fun o => Cli.formulaToBdd C o.get fuel e := by
  rw [formulaMain_tie]; exact CliAux.formulaMain_spec C fuel ord cfg sexpr

theorem cnfMain_tie : Gen.Cli.cnfMain = CliAux.cnfMain := by
  first
  | rfl
  | (funext C fuel o s file nv
     simp only [Gen.Cli.cnfMain, CliAux.cnfMain]
     cases Ser.cnfFromDimacs file <;> first | rfl | (simp only [Option.bind_some]; tie_close [Option.bind_some, Option.bind_none]))

/-! ## the C interface -/

theorem modelCount_tie : Gen.FfiMore.modelCount = FfiAux.modelCountLit := by
  first
  | rfl
  | (funext P lvl varAt n p; tie_close [Gen.FfiMore.modelCount, FfiAux.modelCountLit])

/-- **`robdd_model_count` is `Ffi.modelCount`** (the model of C18 `ffi_model_count`) whenever the smoothed diagram
mentions labels below `num_vars` only -/
theorem modelCount_model (P : Nat) (lvl varAt : Nat → Nat) (n : Nat) (p : Ptr)
    (h : ∀ v ∈ (smooth lvl varAt p n).vars, v < n) :
    Gen.FfiMore.modelCount P lvl varAt n p = Ffi.modelCount P lvl varAt n p := by
  rw [modelCount_tie]; exact FfiAux.modelCountLit_eq P lvl varAt n p h

theorem fromCParts_tie : @Gen.FfiMore.fromCParts = @FfiAux.fromCPartsLit := by
  first
  | rfl
  | (funext α S M cs n; tie_close [Gen.FfiMore.fromCParts, FfiAux.fromCPartsLit])

theorem fromCParts'_tie : @Gen.FfiMore.fromCParts' = @FfiAux.fromCPartsLit := by
  first
  | rfl
  | (funext α S M cs n; tie_close [Gen.FfiMore.fromCParts', FfiAux.fromCPartsLit])

/-- **`from_c_parts` is `Ffi.fromCParts`** (the model of C18 `fromCParts_spec`), both copies
of the Rust function: `src/ffi/wmc.rs` (`fromCParts`) and `src/util/semirings/ffi_polynomial_semiring.rs` (`fromCParts'`) -/
theorem fromCParts_model {α : Type} (S : SROps α) (M : Nat) (cs : List α) :
    Gen.FfiMore.fromCParts S M (some cs) cs.length = Ffi.fromCParts S M cs ∧
    Gen.FfiMore.fromCParts' S M (some cs) cs.length = Ffi.fromCParts S M cs := by
  rw [fromCParts_tie, fromCParts'_tie]; exact ⟨FfiAux.fromCPartsLit_some S M cs, FfiAux.fromCPartsLit_some S M cs⟩

theorem newPolynomial_tie : @Gen.FfiMore.newPolynomial = @FfiAux.fromCPartsLit := by
  first
  | rfl
  | (funext α S M cs n; simp only [Gen.FfiMore.newPolynomial, fromCParts_tie])

theorem newPolynomial'_tie : @Gen.FfiMore.newPolynomial' = @FfiAux.fromCPartsLit := by
  first
  | rfl
  | (funext α S M cs n; simp only [Gen.FfiMore.newPolynomial', fromCParts'_tie])

theorem polynomialLen_tie : @Gen.FfiMore.polynomialLen = @FfiAux.polynomialLen := by
  first
  | rfl
  | (funext α p; cases p <;> tie_close [Gen.FfiMore.polynomialLen, FfiAux.polynomialLen])

theorem polynomialLen'_tie : @Gen.FfiMore.polynomialLen' = @FfiAux.polynomialLen := by
  first
  | rfl
  | (funext α p; cases p <;> tie_close [Gen.FfiMore.polynomialLen', FfiAux.polynomialLen])

theorem polynomialGetCoeffs_tie : @Gen.FfiMore.polynomialGetCoeffs = fun α S (_ : Nat) => @FfiAux.polynomialGetCoeffs α S := by
  first
  | rfl
  | (funext α S M p b n; cases p <;> cases b <;> tie_close [Gen.FfiMore.polynomialGetCoeffs, FfiAux.polynomialGetCoeffs])

theorem polynomialGetCoeffs'_tie : @Gen.FfiMore.polynomialGetCoeffs' = fun α S (_ : Nat) => @FfiAux.polynomialGetCoeffs α S := by
  first
  | rfl
  | (funext α S M p b n; cases p <;> cases b <;> tie_close [Gen.FfiMore.polynomialGetCoeffs', FfiAux.polynomialGetCoeffs])

theorem polySetWeight_tie : @Gen.FfiMore.polySetWeight = @FfiAux.polySetWeight := by
  first
  | rfl
  | (funext α S M w v lc ll hc hl; cases w <;> tie_close [Gen.FfiMore.polySetWeight, FfiAux.polySetWeight, fromCParts_tie])

theorem polySetWeight'_tie : @Gen.FfiMore.polySetWeight' = @FfiAux.polySetWeight := by
  first
  | rfl
  | (funext α S M w v lc ll hc hl; cases w <;> tie_close [Gen.FfiMore.polySetWeight', FfiAux.polySetWeight, fromCParts'_tie])

theorem compileCnf_tie : Gen.FfiMore.compileCnf =
    fun C lvl (_ : Nat → Nat) (_ : Nat) fuel st cnf => FfiAux.compileCnf C lvl fuel st cnf := by
  first
  | rfl
  | (funext C lvl varAt numVars fuel st cnf
     simp only [Gen.FfiMore.compileCnf, FfiAux.compileCnf]
     cases Compile.compileCnf (Bdd.ops C lvl fuel) st (Compile.sortClauses lvl cnf) <;> rfl)

theorem varOrderLinear_tie : Gen.FfiMore.varOrderLinear = Orders.VarOrder.linear := by
  first | rfl | (funext n; tie_close [Gen.FfiMore.varOrderLinear])

theorem cnfFromDimacs_tie : Gen.FfiMore.cnfFromDimacs = Ser.cnfFromDimacs := by
  first
  | (funext s; simp only [Gen.FfiMore.cnfFromDimacs]; cases Ser.cnfFromDimacs s <;> rfl)
  | rfl

theorem bddWmc_tie : @Gen.FfiMore.bddWmc = fun α S p w => @Bdd.wmc α S w p := by
  first | rfl | (funext α S p w; tie_close [Gen.FfiMore.bddWmc])

theorem bddWmcComplex_tie : Gen.FfiMore.bddWmcComplex = fun p w => Bdd.wmc Sem.cxOps w p := by
  first | rfl | (funext p w; tie_close [Gen.FfiMore.bddWmcComplex])

theorem cnfNew_tie : Gen.FfiMore.cnfNew = FfiAux.cnfNew := by
  first
  | rfl
  | (funext cs n; simp [Gen.FfiMore.cnfNew, FfiAux.cnfNew, List.take_length]; done)

theorem cnfMinFillOrder_tie : Gen.FfiMore.cnfMinFillOrder = Orders.minFillOrder := by
  first | rfl | (funext c n; tie_close [Gen.FfiMore.cnfMinFillOrder])

theorem varOrderNew_tie : Gen.FfiMore.varOrderNew = FfiAux.varOrderNew := by
  first | rfl | (funext o n; tie_close [Gen.FfiMore.varOrderNew, FfiAux.varOrderNew])

theorem literalNew_tie : Gen.FfiMore.literalNew = Spec.Lit.mk := by
  first | rfl | (funext l p; tie_close [Gen.FfiMore.literalNew])

theorem dtreeFromCnf_tie : Gen.FfiMore.dtreeFromCnf = fun cnf (o : Orders.VarOrder) => VT.DTree.fromCnf cnf o.posToVar := by
  first
  | rfl
  | (funext cnf o; simp only [Gen.FfiMore.dtreeFromCnf]; cases VT.DTree.fromCnf cnf o.posToVar <;> rfl)

theorem vtreeFromDtree_tie : Gen.FfiMore.vtreeFromDtree = VT.VTree.fromDtree := by
  first
  | rfl
  | (funext d; simp only [Gen.FfiMore.vtreeFromDtree]; cases VT.VTree.fromDtree d <;> rfl)

theorem newWmcParams_tie : @Gen.FfiMore.newWmcParams = @FfiAux.newParams := by
  first | rfl | (funext α S; tie_close [Gen.FfiMore.newWmcParams, FfiAux.newParams])

theorem newWmcParamsComplex_tie : @Gen.FfiMore.newWmcParamsComplex = @FfiAux.newParams := by
  first | rfl | (funext α S; tie_close [Gen.FfiMore.newWmcParamsComplex, FfiAux.newParams])

theorem setWeight_tie : @Gen.FfiMore.setWeight = @FfiAux.setWeight := by
  first | rfl | (funext α w v lo hi; tie_close [Gen.FfiMore.setWeight])

theorem setWeightComplex_tie : @Gen.FfiMore.setWeightComplex = @FfiAux.setWeight := by
  first | rfl | (funext α w v lo hi; tie_close [Gen.FfiMore.setWeightComplex])

theorem varWeight_tie : @Gen.FfiMore.varWeight = @FfiAux.varWeight := by
  first | rfl | (funext α w v; simp only [Gen.FfiMore.varWeight, FfiAux.varWeight]; cases w v <;> rfl)

theorem varWeightComplex_tie : @Gen.FfiMore.varWeightComplex = @FfiAux.varWeight := by
  first | rfl | (funext α w v; simp only [Gen.FfiMore.varWeightComplex, FfiAux.varWeight]; cases w v <;> rfl)

theorem weightLo_tie : @Gen.FfiMore.weightLo = fun α => @Prod.fst α α := by
  first | rfl | (funext α w; tie_close [Gen.FfiMore.weightLo])

theorem weightHi_tie : @Gen.FfiMore.weightHi = fun α => @Prod.snd α α := by
  first | rfl | (funext α w; tie_close [Gen.FfiMore.weightHi])

#print axioms singleWmcOut_tie
#print axioms singleWmcLabels_tie
#print axioms singleWmc_tie
#print axioms partialWmcs_tie
#print axioms toVarOrder_tie
#print axioms generatePartialAssignments_tie
#print axioms wmcMain_tie
#print axioms wmcMain_single
#print axioms formulaMain_tie
#print axioms formulaToBdd_tie
#print axioms cnfMain_tie
#print axioms modelCount_tie
#print axioms modelCount_model
#print axioms fromCParts_tie
#print axioms fromCParts'_tie
#print axioms fromCParts_model
#print axioms newPolynomial_tie
#print axioms newPolynomial'_tie
#print axioms polynomialLen_tie
#print axioms polynomialLen'_tie
#print axioms polynomialGetCoeffs_tie
#print axioms polynomialGetCoeffs'_tie
#print axioms polySetWeight_tie
#print axioms polySetWeight'_tie
#print axioms compileCnf_tie
#print axioms varOrderLinear_tie
#print axioms cnfFromDimacs_tie
#print axioms bddWmc_tie
#print axioms bddWmcComplex_tie
#print axioms cnfNew_tie
#print axioms cnfMinFillOrder_tie
#print axioms varOrderNew_tie
#print axioms literalNew_tie
#print axioms dtreeFromCnf_tie
#print axioms vtreeFromDtree_tie
#print axioms newWmcParams_tie
#print axioms newWmcParamsComplex_tie
#print axioms setWeight_tie
#print axioms setWeightComplex_tie
#print axioms varWeight_tie
#print axioms varWeightComplex_tie
#print axioms weightLo_tie
#print axioms weightHi_tie
end TieCli
