import RsddModel.Model.Scratch
/-!
# Lemmas for C10: the scratch memo is transparent and is cleaned up

* `foldDag_spec`: the memoised pass returns the value of the un-memoised fold on the unfolded
  tree, leaves every reachable cell occupied and touches no other cell;
* `dfs_spec`: the two short-circuiting depth-first walks (`clear_scratch`, `count_h`) as one
  generic walk, characterised exactly under the closure condition that makes the short-circuit
  sound; `foldl_walk_spec`, `node_walk_spec` say it for any marking walk over indexed cells (walks
  one after the other; a node and then its children) and also serve the SDD `count_h`;
* `clearScratch_spec`, `fold_spec`, `bddFold_eq_fold`: what the public calls are built from;
* `Extends`, `Ref.ValidIn`, `unfold_extends`, `reachCount_extends`: the store only grows and growing
  it changes no old diagram (this is what the store-level BDD files import);
* `condAlloc_store_rel`, `specQueries_extends`, `specQueries_get`: the allocating calls only put nodes
  on top of the store, so every answer of a sequence is an answer on an extension of the initial
  store (`condNode`: the node step of `cond_with_alloc` with the recursive results as variables).
-/
namespace Scratch
open Bdd Spec

/-! ## references -/

@[simp] theorem Ref.neg_neg (r : Ref) : r.neg.neg = r := by cases r <;> rfl
@[simp] theorem Ref.idx?_neg (r : Ref) : r.neg.idx? = r.idx? := by cases r <;> rfl
theorem Ref.leafPtr_neg (r : Ref) : r.neg.leafPtr = r.leafPtr.neg := by cases r <;> rfl

theorem Ref.eq_of_idx? {r : Ref} {i : Nat} (h : r.idx? = some i) :
    r = (if r.isNeg then .compl i else .reg i) := by
  cases r <;> simp_all [Ref.idx?, Ref.isNeg]

theorem Ref.isNeg_neg {r : Ref} {i : Nat} (h : r.idx? = some i) : r.neg.isNeg = !r.isNeg := by
  cases r <;> simp_all [Ref.idx?, Ref.isNeg, Ref.neg]

/-! ## `unfold` and `reaches` -/

theorem unfold_cons_eq (n : Node) (rest : Store) {r : Ref} (h : r.idx? = some rest.length) :
    unfold (n :: rest) r = .node r.isNeg n.var (unfold rest n.lo) (unfold rest n.hi) := by
  simp [unfold, h]

theorem unfold_cons_ne (n : Node) (rest : Store) {r : Ref} {i : Nat} (h : r.idx? = some i)
    (hi : i ≠ rest.length) : unfold (n :: rest) r = unfold rest r := by
  simp [unfold, h, hi]

theorem reaches_cons_eq (n : Node) (rest : Store) {r : Ref} (h : r.idx? = some rest.length) (j : Nat) :
    reaches (n :: rest) r j = (j == rest.length || reaches rest n.lo j || reaches rest n.hi j) := by
  simp [reaches, h]

theorem reaches_cons_ne (n : Node) (rest : Store) {r : Ref} {i : Nat} (h : r.idx? = some i)
    (hi : i ≠ rest.length) (j : Nat) : reaches (n :: rest) r j = reaches rest r j := by
  simp [reaches, h, hi]

theorem reaches_none (s : Store) {r : Ref} (h : r.idx? = none) (j : Nat) : reaches s r j = false := by
  cases s <;> simp [reaches, h]

theorem reaches_congr {r r' : Ref} (h : r.idx? = r'.idx?) : ∀ (s : Store) (j : Nat),
    reaches s r j = reaches s r' j
  | [], _ => rfl
  | n :: rest, j => by
    simp only [reaches, h]
    cases h' : r'.idx? with
    | none => rfl
    | some i =>
      simp only
      split
      · rfl
      · exact reaches_congr h rest j

@[simp] theorem reaches_neg (s : Store) (r : Ref) (j : Nat) : reaches s r.neg j = reaches s r j :=
  reaches_congr (Ref.idx?_neg r) s j

theorem reaches_lt : ∀ (s : Store) (r : Ref) (j : Nat), reaches s r j = true → j < s.length
  | [], _, _, h => by simp [reaches] at h
  | n :: rest, r, j, h => by
    simp only [reaches] at h
    cases h' : r.idx? with
    | none => simp [h'] at h
    | some i =>
      simp only [h'] at h
      split at h
      · simp only [Bool.or_eq_true, beq_iff_eq] at h
        rcases h with (h | h) | h
        · subst h; simp_all
        · have := reaches_lt rest _ _ h; simp; omega
        · have := reaches_lt rest _ _ h; simp; omega
      · have := reaches_lt rest _ _ h; simp; omega

theorem reaches_self (n : Node) (rest : Store) {r : Ref} (h : r.idx? = some rest.length) :
    reaches (n :: rest) r rest.length = true := by simp [reaches_cons_eq n rest h]

theorem reaches_trans : ∀ (s : Store) (r : Ref) (j k : Nat),
    reaches s r j = true → reaches s (.reg j) k = true → reaches s r k = true
  | [], _, _, _, h, _ => by simp [reaches] at h
  | n :: rest, r, j, k, h1, h2 => by
    -- below the head, the edges out of `j` are those in `rest`
    have h2' : ∀ x, reaches rest x j = true → reaches rest (.reg j) k = true := fun x hx => by
      have := reaches_lt _ _ _ hx
      rwa [reaches_cons_ne n rest (r := .reg j) rfl (by omega)] at h2
    cases h' : r.idx? with
    | none => simp [reaches_none _ h'] at h1
    | some i =>
      by_cases hi : i = rest.length
      · subst hi
        rw [reaches_cons_eq n rest h'] at h1 ⊢
        simp only [Bool.or_eq_true, beq_iff_eq] at h1 ⊢
        rcases h1 with (h1 | h1) | h1
        · subst h1
          rw [reaches_cons_eq n rest (r := .reg rest.length) rfl] at h2
          simpa using h2
        · exact Or.inl (Or.inr (reaches_trans rest _ j k h1 (h2' _ h1)))
        · exact Or.inr (reaches_trans rest _ j k h1 (h2' _ h1))
      · rw [reaches_cons_ne n rest h' hi] at h1 ⊢
        exact reaches_trans rest r j k h1 (h2' _ h1)

theorem unfold_neg : ∀ (s : Store) (r : Ref), unfold s r.neg = (unfold s r).neg
  | [], r => by simp [unfold, Ref.leafPtr_neg]
  | n :: rest, r => by
    cases h : r.idx? with
    | none => cases r <;> simp_all [unfold, Ref.idx?, Ref.neg, Ref.leafPtr, Ptr.neg]
    | some i =>
      have h' : r.neg.idx? = some i := by simp [h]
      by_cases hi : i = rest.length
      · subst hi
        rw [unfold_cons_eq n rest h, unfold_cons_eq n rest h', Ref.isNeg_neg h]; rfl
      · rw [unfold_cons_ne n rest h hi, unfold_cons_ne n rest h' hi]; exact unfold_neg rest r

/-! ## the tree fold -/

variable {V : Type}

theorem treeFold_neg (A : Alg V) (p : Ptr) (b : Bool) : treeFold A p.neg b = treeFold A p (!b) := by
  cases p with
  | tru => cases b <;> rfl
  | fls => cases b <;> rfl
  | node c v lo hi => cases b <;> cases c <;> rfl

/-- the value the reference denotes: the un-memoised fold of its tree -/
def val (A : Alg V) (s : Store) (r : Ref) : V := treeFold A (unfold s r) false

theorem val_nil (A : Alg V) (r : Ref) : val A [] r = A.leaf r := by cases r <;> rfl

theorem val_none (A : Alg V) (s : Store) {r : Ref} (h : r.idx? = none) : val A s r = A.leaf r := by
  cases r <;> cases s <;> simp_all [val, unfold, Ref.idx?, Ref.leafPtr, treeFold, Alg.leaf]

theorem val_cons_ne (A : Alg V) (n : Node) (rest : Store) {r : Ref} {i : Nat} (h : r.idx? = some i)
    (hi : i ≠ rest.length) : val A (n :: rest) r = val A rest r := by
  simp [val, unfold_cons_ne n rest h hi]

theorem val_cons_eq (A : Alg V) (n : Node) (rest : Store) {r : Ref} (h : r.idx? = some rest.length) :
    val A (n :: rest) r =
      A.node n.var (val A rest (if r.isNeg then n.lo.neg else n.lo))
        (val A rest (if r.isNeg then n.hi.neg else n.hi)) := by
  simp only [val, unfold_cons_eq n rest h, treeFold]
  cases r.isNeg <;> simp [unfold_neg, treeFold_neg]

/-! ## cells -/

set_option linter.unusedSectionVars false
section cells
variable {Tag : Type} [DecidableEq Tag] {U : Tag → Type}

@[simp] theorem Cell.asPair_pair_self (t : Tag) (c r : Option (U t)) :
    (Cell.pair t c r : Cell U).asPair t = some (c, r) := by simp [Cell.asPair]
@[simp] theorem Cell.asPair_empty (t : Tag) : (Cell.empty : Cell U).asPair t = none := rfl
@[simp] theorem Cell.isSome_pair (t : Tag) (c r : Option (U t)) : (Cell.pair t c r : Cell U).isSome = true := rfl
@[simp] theorem Cell.isSome_empty : (Cell.empty : Cell U).isSome = false := rfl

@[simp] theorem Scr.set_same (σ : Scr U) (i : Nat) (c : Cell U) : σ.set i c i = c := by simp [Scr.set]
theorem Scr.set_other (σ : Scr U) {i j : Nat} (c : Cell U) (h : j ≠ i) : σ.set i c j = σ j := by
  simp [Scr.set, h]

/-! ## the cached pair -/

/-- read as a pair of type `U t`, the cell holds nothing but `vc` (complemented pass) and `vr`
(regular pass).  `CellOK t A s i` below is `PairOK t (val A s (.compl i)) (val A s (.reg i))` by
unfolding, and is used as such. -/
def PairOK (t : Tag) (vc vr : U t) (c : Cell U) : Prop :=
  ∀ a b, c.asPair t = some (a, b) → (∀ v, a = some v → v = vc) ∧ (∀ v, b = some v → v = vr)

theorem PairOK.of_noPair {t : Tag} {vc vr : U t} {c : Cell U} (h : c.asPair t = none) : PairOK t vc vr c := by
  intro a b hab; rw [h] at hab; cases hab

/-- The `match` on the cached pair, arm by arm: a hit (only on a cell that reads as a pair) returns
the value of the pass that asks; after a miss, writing this pass's value beside what was cached
for the other pass gives a correct pair again. -/
theorem PairOK.probe {t : Tag} {vc vr : U t} {c : Cell U} (h : PairOK t vc vr c) (neg : Bool) :
    match probeFold neg (c.asPair t) with
    | .hit v => c.asPair t ≠ none ∧ v = if neg then vc else vr
    | .miss cached => ∀ v, v = (if neg then vc else vr) →
        PairOK t vc vr (.pair t (storeFold neg v cached).1 (storeFold neg v cached).2) := by
  unfold PairOK at h ⊢
  generalize c.asPair t = o at h ⊢
  rcases o with _ | ⟨a, b⟩
  · cases neg <;> simp [probeFold, storeFold]
  · have h' := h a b rfl
    clear h
    rcases a with _ | a <;> rcases b with _ | b <;> cases neg <;>
      simp [probeFold, storeFold] at h' ⊢ <;> simp [h']

/-! ## the memo invariant -/

/-- a cell of node `i` that reads as a pair of this traversal's type holds correct values -/
def CellOK (t : Tag) (A : Alg (U t)) (s : Store) (i : Nat) (c : Cell U) : Prop :=
  ∀ a b, c.asPair t = some (a, b) →
    (∀ v, a = some v → v = val A s (.compl i)) ∧ (∀ v, b = some v → v = val A s (.reg i))

theorem cellOK_cons {t : Tag} {A : Alg (U t)} (n : Node) (rest : Store) {j : Nat} (hj : j ≠ rest.length)
    (c : Cell U) : CellOK t A (n :: rest) j c ↔ CellOK t A rest j c := by
  simp only [CellOK, val_cons_ne A n rest (r := .compl j) rfl hj, val_cons_ne A n rest (r := .reg j) rfl hj]

/-- What the memoised pass needs of the incoming state on the nodes reachable from `r`:
a cell that reads as a pair of this result type is correct and sits above occupied cells only.
(Every other content — empty, a `usize`, a pair of another type — is acceptable.) -/
def PreOK (t : Tag) (A : Alg (U t)) (s : Store) (σ : Scr U) (r : Ref) : Prop :=
  ∀ j, reaches s r j = true → CellOK t A s j (σ j) ∧
    ((σ j).asPair t ≠ none → ∀ k, reaches s (.reg j) k = true → (σ k).isSome = true)

theorem preOK_of_noPair {t : Tag} {A : Alg (U t)} {s : Store} {σ : Scr U} {r : Ref}
    (h : ∀ j, reaches s r j = true → (σ j).asPair t = none) : PreOK t A s σ r :=
  fun j hj => ⟨PairOK.of_noPair (h j hj), fun h' => absurd (h j hj) h'⟩

theorem preOK_clear {t : Tag} {A : Alg (U t)} {s : Store} {r : Ref} : PreOK t A s (Scr.clear (U := U)) r :=
  preOK_of_noPair (fun _ _ => rfl)

theorem preOK_child {t : Tag} {A : Alg (U t)} {n : Node} {rest : Store} {σ : Scr U} {r x : Ref}
    (hx : ∀ j, reaches rest x j = true → reaches (n :: rest) r j = true)
    (h : PreOK t A (n :: rest) σ r) : PreOK t A rest σ x := by
  intro j hj
  have hlt := reaches_lt _ _ _ hj
  have hne : j ≠ rest.length := by omega
  obtain ⟨h1, h2⟩ := h j (hx j hj)
  refine ⟨(cellOK_cons n rest hne _).1 h1, fun h' k hk => h2 h' k ?_⟩
  rw [reaches_cons_ne n rest (r := .reg j) rfl hne]; exact hk

/-- what a memoised pass over `x` leaves: the value, every reachable cell correct *and occupied*
(the short-circuiting clear relies on it), no other cell touched -/
def PassOK (t : Tag) (A : Alg (U t)) (s : Store) (x : Ref) (σ : Scr U) (res : U t × Scr U) : Prop :=
  res.1 = val A s x ∧
  (∀ j, reaches s x j = true → CellOK t A s j (res.2 j) ∧ (res.2 j).isSome = true) ∧
  (∀ j, reaches s x j = false → res.2 j = σ j)

theorem PassOK.preOK {t : Tag} {A : Alg (U t)} {s : Store} {σ : Scr U} {x y : Ref} {res : U t × Scr U}
    (hx : PassOK t A s x σ res) (h : PreOK t A s σ y) : PreOK t A s res.2 y := by
  obtain ⟨_, p, f⟩ := hx
  intro j hj
  cases hjx : reaches s x j with
  | true => exact ⟨(p j hjx).1, fun _ k hk => (p k (reaches_trans s x j k hjx hk)).2⟩
  | false =>
    rw [f j hjx]
    refine ⟨(h j hj).1, fun h' k hk => ?_⟩
    cases hkx : reaches s x k with
    | true => exact (p k hkx).2
    | false => rw [f k hkx]; exact (h j hj).2 h' k hk

theorem val_of_idx? (A : Alg V) (s : Store) {r : Ref} {i : Nat} (h : r.idx? = some i) :
    val A s r = if r.isNeg then val A s (.compl i) else val A s (.reg i) := by
  cases r <;> cases h <;> rfl

theorem reaches_ite_neg (s : Store) (c : Bool) (r : Ref) (j : Nat) :
    reaches s (if c then r.neg else r) j = reaches s r j := by
  cases c <;> simp

/-- `bottomup_pass_h` is transparent: value of the tree fold; afterwards every reachable cell
is correct *and occupied*; no other cell is touched. -/
theorem foldDag_spec (t : Tag) (A : Alg (U t)) : ∀ (s : Store) (r : Ref) (σ : Scr U),
    PreOK t A s σ r → PassOK t A s r σ (foldDag t A s r σ)
  | [], r, σ, _ => ⟨(val_nil A r).symm, fun _ hj => (by cases hj), fun _ _ => rfl⟩
  | n :: rest, r, σ, hpre => by
    cases h : r.idx? with
    | none =>
      simp only [foldDag, h]
      exact ⟨(val_none A _ h).symm, fun j hj => (by rw [reaches_none _ h] at hj; cases hj), fun _ _ => rfl⟩
    | some i =>
      by_cases hi : i = rest.length
      · subst hi
        obtain ⟨hok, hclosed⟩ := hpre _ (reaches_self n rest h)
        have hreach := reaches_cons_eq n rest h
        simp only [foldDag, h, if_true]
        have hprobe := PairOK.probe hok r.isNeg
        cases hp : probeFold r.isNeg ((σ rest.length).asPair t) with
        | hit v =>
          rw [hp] at hprobe
          refine ⟨?_, fun j hj => ⟨(hpre j hj).1, hclosed hprobe.1 j ?_⟩, fun _ _ => rfl⟩
          · rw [val_of_idx? A _ h]; exact hprobe.2
          · rw [← hj]; exact reaches_congr (by rw [h]; rfl) _ _
        | miss cached =>
          have pre1 : PreOK t A rest σ (if r.isNeg then n.lo.neg else n.lo) :=
            preOK_child (fun j hj => by rw [hreach]; rw [reaches_ite_neg] at hj; simp [hj]) hpre
          have pre2 : PreOK t A rest σ (if r.isNeg then n.hi.neg else n.hi) :=
            preOK_child (fun j hj => by rw [hreach]; rw [reaches_ite_neg] at hj; simp [hj]) hpre
          have pa := foldDag_spec t A rest _ σ pre1
          generalize foldDag t A rest (if r.isNeg then n.lo.neg else n.lo) σ = ra at pa ⊢
          have pb := foldDag_spec t A rest _ ra.2 (pa.preOK pre2)
          generalize foldDag t A rest (if r.isNeg then n.hi.neg else n.hi) ra.2 = rb at pb ⊢
          obtain ⟨v1, p1, f1⟩ := pa
          obtain ⟨v2, p2, f2⟩ := pb
          simp only [reaches_ite_neg] at p1 f1 p2 f2
          have hval : A.node n.var ra.1 rb.1 = val A (n :: rest) r := by
            rw [val_cons_eq A n rest h, v1, v2]
          refine ⟨hval, ?_, ?_⟩
          · intro j hj
            by_cases hji : j = rest.length
            · subst hji
              simp only [Scr.set_same, Cell.isSome_pair, and_true]
              rw [hp] at hprobe
              exact hprobe _ (hval.trans (val_of_idx? A _ h))
            · simp only [Scr.set_other _ _ hji]
              rw [cellOK_cons n rest hji]
              cases hjh : reaches rest n.hi j with
              | true => exact p2 j hjh
              | false =>
                rw [f2 j hjh]
                refine p1 j ?_
                rw [hreach] at hj
                simpa [hji, hjh] using hj
          · intro j hj
            rw [hreach] at hj
            simp only [Bool.or_eq_false_iff, beq_eq_false_iff_ne, ne_eq] at hj
            obtain ⟨⟨hji, hjl⟩, hjh⟩ := hj
            simp only [Scr.set_other _ _ hji]
            rw [f2 j hjh, f1 j hjl]
      · obtain ⟨v1, p1, f1⟩ := foldDag_spec t A rest r σ (preOK_child (fun j hj => by
          rw [reaches_cons_ne n rest h hi]; exact hj) hpre)
        simp only [foldDag, h, hi, if_false, PassOK, reaches_cons_ne n rest h hi]
        refine ⟨by rw [v1, val_cons_ne A n rest h hi], fun j hj => ?_, f1⟩
        have := reaches_lt _ _ _ hj
        rw [cellOK_cons n rest (by omega)]
        exact p1 j hj

/-! ## the short-circuiting walks -/

/-- `clear_scratch` and `count_h` are the same walk: enter a node iff `visit cell`, overwrite
the cell with `mark`, then both children through the raw edges. -/
def dfs (visit : Cell U → Bool) (mark : Cell U) : Store → Ref → Scr U × Nat → Scr U × Nat
  | [], _, st => st
  | n :: rest, r, st =>
    match r.idx? with
    | none => st
    | some i =>
      if i = rest.length then
        if visit (st.1 i) then
          dfs visit mark rest n.hi (dfs visit mark rest n.lo (st.1.set i mark, st.2 + 1))
        else st
      else dfs visit mark rest r st

theorem clearScratch_eq_dfs : ∀ (s : Store) (r : Ref) (σ : Scr U) (c : Nat),
    clearScratch s r σ = (dfs Cell.isSome .empty s r (σ, c)).1
  | [], _, _, _ => rfl
  | n :: rest, r, σ, c => by
    cases h : r.idx? with
    | none => simp only [clearScratch, dfs, h]
    | some i =>
      by_cases hi : i = rest.length
      · subst hi
        simp only [clearScratch, dfs, h, if_true]
        by_cases hv : (σ rest.length).isSome = true
        · rw [if_pos hv, if_pos hv, clearScratch_eq_dfs rest n.lo _ (c + 1), clearScratch_eq_dfs rest n.hi _
            (dfs Cell.isSome .empty rest n.lo (σ.set rest.length .empty, c + 1)).2]
        · rw [if_neg hv, if_neg hv]
      · simp only [clearScratch, dfs, h, hi, if_false]
        exact clearScratch_eq_dfs rest r σ c

theorem countH_eq_dfs : ∀ (s : Store) (r : Ref) (st : Scr U × Nat),
    countH s r st = dfs (fun c => c.asCount.isNone) (.count 0) s r st
  | [], _, _ => rfl
  | n :: rest, r, st => by
    cases h : r.idx? with
    | none => simp only [countH, dfs, h]
    | some i =>
      by_cases hi : i = rest.length
      · subst hi
        simp only [countH, dfs, h, if_true, ← countH_eq_dfs rest]
        cases (st.1 rest.length).asCount <;> rfl
      · simp only [countH, dfs, h, hi, if_false]
        exact countH_eq_dfs rest r st

section walks
variable (visit : Cell U → Bool) (mark : Cell U)

/-- below a cell of `X` that is not entered, nothing would be entered -/
def Closed (R : Nat → Nat → Bool) (X : Nat → Bool) (σ : Scr U) : Prop :=
  ∀ j, X j = true → visit (σ j) = false → ∀ k, R j k = true → visit (σ k) = false

/-- the cells of `X` that are entered get the mark -/
def markOn (X : Nat → Bool) (σ : Scr U) : Scr U := fun j => if X j && visit (σ j) then mark else σ j

/-- total weight of the cells of `X` that are entered -/
def entered (w : Nat → Nat) (N : Nat) (X : Nat → Bool) (σ : Scr U) : Nat :=
  ((List.range N).map fun j => if X j && visit (σ j) then w j else 0).sum

theorem sum_map_add {f g1 g2 : Nat → Nat} : ∀ (l : List Nat), (∀ j ∈ l, f j = g1 j + g2 j) →
    (l.map f).sum = (l.map g1).sum + (l.map g2).sum
  | [], _ => rfl
  | x :: l, h => by
    have ih := sum_map_add l (fun j hj => h j (List.mem_cons_of_mem _ hj))
    have hx := h x (List.mem_cons_self ..)
    simp only [List.map_cons, List.sum_cons, ih, hx]; omega

theorem sum_beq_range (i : Nat) (wt : Nat) : ∀ N,
    ((List.range N).map fun j => if j = i then wt else 0).sum = if i < N then wt else 0
  | 0 => by simp
  | N + 1 => by
    rw [List.range_succ, List.map_append, List.sum_append, sum_beq_range i wt N]
    by_cases h1 : i < N
    · have : ¬ N = i := by omega
      simp [h1, this]; omega
    · by_cases h2 : N = i
      · subst h2; simp
      · have : ¬ i < N + 1 := by omega
        simp [h1, h2, this]

variable {visit mark} (hm : visit mark = false)
include hm

theorem visit_markOn (Y : Nat → Bool) (σ : Scr U) (j : Nat) :
    visit (markOn visit mark Y σ j) = (visit (σ j) && !Y j) := by
  unfold markOn
  cases Y j <;> cases hv : visit (σ j) <;> simp [hv, hm]

/-- The closure condition for `X` survives a walk over `Y` (closed under the edge relation `R`):
if `j` is in `Y`, so is everything below it, which is then marked or was not to be entered;
otherwise `j` is as before. -/
theorem closed_markOn {R : Nat → Nat → Bool} {X Y : Nat → Bool}
    (hY : ∀ j k, Y j = true → R j k = true → Y k = true) {σ : Scr U} (h : Closed visit R X σ) :
    Closed visit R X (markOn visit mark Y σ) := by
  intro j hj hvj k hk
  rw [visit_markOn hm] at hvj ⊢
  cases hYj : Y j with
  | true => rw [hY j k hYj hk]; simp
  | false =>
    rw [hYj] at hvj
    rw [h j hj (by simpa using hvj) k hk]; rfl

theorem markOn_none {X : Nat → Bool} {σ : Scr U} (w : Nat → Nat) (N : Nat)
    (h : ∀ j, X j = true → visit (σ j) = false) :
    markOn visit mark X σ = σ ∧ entered visit w N X σ = 0 := by
  have : ∀ j, (X j && visit (σ j)) = false := fun j => by
    cases hj : X j with
    | false => rfl
    | true => exact h j hj
  refine ⟨funext fun j => by simp only [markOn, this]; rfl, ?_⟩
  simp only [entered, this]
  induction List.range N <;> simp_all

/-- walks over `X k`, `k ∈ ks`, one after the other, are one walk over their union -/
theorem foldl_walk_spec (w : Nat → Nat) (N : Nat) {κ : Type} (R : Nat → Nat → Bool) (X : κ → Nat → Bool)
    (hX : ∀ k j j', X k j = true → R j j' = true → X k j' = true)
    (walk : κ → Scr U × Nat → Scr U × Nat) :
    ∀ ks : List κ,
    (∀ k ∈ ks, ∀ σ c, Closed visit R (X k) σ →
      walk k (σ, c) = (markOn visit mark (X k) σ, c + entered visit w N (X k) σ)) →
    ∀ σ c, Closed visit R (fun j => ks.any (X · j)) σ →
    ks.foldl (fun st k => walk k st) (σ, c) =
      (markOn visit mark (fun j => ks.any (X · j)) σ, c + entered visit w N (fun j => ks.any (X · j)) σ)
  | [], _, σ, c, _ => by
    obtain ⟨h1, h2⟩ := markOn_none hm (X := fun _ => false) (σ := σ) w N (fun _ h => by cases h)
    simp only [List.foldl_nil, List.any_nil, h1, h2, Nat.add_zero]
  | k :: ks, ih, σ, c, hcl => by
    rw [List.foldl_cons, ih k (List.mem_cons_self ..) σ c (fun j hj => hcl j (by simp [hj])),
      foldl_walk_spec w N R X hX walk ks (fun k' hk' => ih k' (List.mem_cons_of_mem _ hk')) _ _
        (closed_markOn hm (hX k) (fun j hj => hcl j (by simp [hj])))]
    refine Prod.ext (funext fun j => ?_) ?_
    · simp only [markOn, List.any_cons]
      by_cases hx : X k j = true <;> by_cases ha : ks.any (X · j) = true <;>
        by_cases hv : visit (σ j) = true <;> simp [hx, ha, hv, hm]
    · simp only [entered, Nat.add_assoc]
      rw [← sum_map_add]
      intro j _
      simp only [markOn, List.any_cons]
      by_cases hx : X k j = true <;> by_cases ha : ks.any (X · j) = true <;>
        by_cases hv : visit (σ j) = true <;> simp [hx, ha, hv, hm]

/-- One node of a walk: entering node `i` (its cell gets the mark) and then walking its children
`ks`, whose reach lies below `i`, is the walk over `P = {i} ∪ ⋃ X k`.  The children are walked in
the store without node `i`: `R`, `w` are its edges and weights, `R'`, `w'` those of the store with
node `i` (for `count_h` on SDDs the weights are `weightAt` of the two stores; for BDDs both are 1). -/
theorem node_walk_spec (w w' : Nat → Nat) {N i : Nat} (hi : i < N) {κ : Type} {R R' : Nat → Nat → Bool}
    {X : κ → Nat → Bool} {P : Nat → Bool} {walk : κ → Scr U × Nat → Scr U × Nat} (ks : List κ)
    (hX : ∀ k j j', X k j = true → R j j' = true → X k j' = true)
    (hK : ∀ j, ks.any (X · j) = true → j < i ∧ w' j = w j)
    (hR : ∀ j k, j < i → R j k = true → R' j k = true ∧ k < i)
    (hP : ∀ j, P j = (decide (j = i) || ks.any (X · j)))
    (ih : ∀ k ∈ ks, ∀ σ c, Closed visit R (X k) σ →
      walk k (σ, c) = (markOn visit mark (X k) σ, c + entered visit w N (X k) σ))
    {σ : Scr U} (hv : visit (σ i) = true) (hcl : Closed visit R' P σ) (c : Nat) :
    ks.foldl (fun st k => walk k st) (σ.set i mark, c + w' i) =
      (markOn visit mark P σ, c + entered visit w' N P σ) := by
  have hclK : Closed visit R (fun j => ks.any (X · j)) (σ.set i mark) := by
    intro j hj hvj k hk
    obtain ⟨hji, _⟩ := hK j hj
    obtain ⟨hk', hki⟩ := hR j k hji hk
    rw [Scr.set_other _ _ (by omega)] at hvj ⊢
    exact hcl j (by rw [hP]; simp only [hj, Bool.or_true]) hvj k hk'
  have hKi : ks.any (X · i) = false := by
    cases h : ks.any (X · i) with
    | false => rfl
    | true => exact absurd (hK i h).1 (Nat.lt_irrefl i)
  rw [foldl_walk_spec hm w N R X hX walk ks ih _ _ hclK]
  refine Prod.ext (funext fun j => ?_) ?_
  · simp only [markOn, hP]
    by_cases hji : j = i
    · subst hji; simp [hKi, hv]
    · simp [hji, Scr.set_other σ mark hji]
  · simp only [entered, Nat.add_assoc]
    rw [sum_map_add (f := fun j => if P j && visit (σ j) then w' j else 0)
      (g1 := fun j => if j = i then w' i else 0)
      (g2 := fun j => if ks.any (X · j) && visit ((σ.set i mark) j) then w j else 0), sum_beq_range, if_pos hi]
    intro j _
    rw [hP]
    by_cases hji : j = i
    · subst hji; simp [hKi, hv]
    · rw [Scr.set_other σ mark hji]
      by_cases hk : ks.any (X · j) = true
      · simp [hji, hk, (hK j hk).2]
      · simp [hji, hk]

/-- The walk, exactly: under the closure condition it overwrites precisely the reachable cells that
satisfy `visit`, and counts them. -/
theorem dfs_spec (N : Nat) :
    ∀ (s : Store) (r : Ref) (σ : Scr U) (c : Nat), s.length ≤ N →
    Closed visit (fun j k => reaches s (.reg j) k) (reaches s r) σ →
    dfs visit mark s r (σ, c) =
      (markOn visit mark (reaches s r) σ, c + entered visit (fun _ => 1) N (reaches s r) σ)
  | [], r, σ, c, _, _ => by
    obtain ⟨h1, h2⟩ := markOn_none hm (X := reaches [] r) (σ := σ) (fun _ => 1) N (fun _ h => by cases h)
    rw [h1, h2]; rfl
  | n :: rest, r, σ, c, hN, hcl => by
    simp only [List.length_cons] at hN
    cases h : r.idx? with
    | none =>
      obtain ⟨h1, h2⟩ := markOn_none hm (X := reaches (n :: rest) r) (σ := σ) (fun _ => 1) N
        (fun j hj => by rw [reaches_none _ h] at hj; cases hj)
      rw [h1, h2]; simp only [dfs, h, Nat.add_zero]
    | some i =>
      by_cases hi : i = rest.length
      · subst hi
        have hreach := reaches_cons_eq n rest h
        simp only [dfs, h, if_true]
        cases hv : visit (σ rest.length) with
        | false =>
          obtain ⟨h1, h2⟩ := markOn_none hm (X := reaches (n :: rest) r) (σ := σ) (fun _ => 1) N
            (fun j hj => hcl _ (reaches_self n rest h) hv j (by
              rw [← hj]; exact reaches_congr (by rw [h]; rfl) _ _))
          rw [h1, h2]; rfl
        | true =>
          simp only [if_true]
          have hw := node_walk_spec hm (fun _ => 1) (fun _ => 1) (N := N) (i := rest.length) (by omega)
            (X := fun x j => reaches rest x j) (walk := fun x st => dfs visit mark rest x st) [n.lo, n.hi]
            (fun x j j' hj hj' => reaches_trans rest x j j' hj hj')
            (fun j hj => by
              obtain ⟨x, _, hx⟩ := List.any_eq_true.1 hj
              exact ⟨reaches_lt _ _ _ hx, rfl⟩)
            (fun j k hj hk => ⟨by
              show reaches (n :: rest) (.reg j) k = true
              rw [reaches_cons_ne n rest (r := .reg j) rfl (by omega)]; exact hk, reaches_lt _ _ _ hk⟩)
            (fun j => by
              rw [hreach, Bool.or_assoc]; simp only [List.any_cons, List.any_nil, Bool.or_false]; rfl)
            (fun x _ σ c hx => dfs_spec N rest x σ c (by omega) hx) hv hcl c
          simp only [List.foldl_cons, List.foldl_nil] at hw
          exact hw
      · have he : reaches (n :: rest) r = reaches rest r := funext (reaches_cons_ne n rest h hi)
        simp only [dfs, h, hi, if_false, he]
        refine dfs_spec N rest r σ c (by omega) fun j hj hvj k hk => ?_
        have hjl := reaches_lt _ _ _ hj
        refine hcl j (by rw [he]; exact hj) hvj k ?_
        show reaches (n :: rest) (.reg j) k = true
        rw [reaches_cons_ne n rest (r := .reg j) rfl (by omega)]; exact hk
end walks

/-! ## the public calls -/

/-- the cells of the nodes reachable from `r` are all empty -/
def ClearOn (s : Store) (r : Ref) (σ : Scr U) : Prop := ∀ j, reaches s r j = true → σ j = .empty

theorem preOK_of_clearOn {t : Tag} {A : Alg (U t)} {s : Store} {σ : Scr U} {r : Ref}
    (h : ClearOn s r σ) : PreOK t A s σ r :=
  preOK_of_noPair fun j hj => by rw [h j hj]; rfl

theorem emptied_of_clearOn {R : Nat → Bool} {σ : Scr U} (h : ∀ j, R j = true → σ j = .empty) :
    (fun j => if R j then Cell.empty else σ j) = σ := by
  funext j
  cases hj : R j <;> simp [h j, hj]

theorem clearScratch_spec (s : Store) (r : Ref) (σ : Scr U)
    (hcl : ∀ j, reaches s r j = true → (σ j).isSome = false →
      ∀ k, reaches s (.reg j) k = true → (σ k).isSome = false) :
    clearScratch s r σ = fun j => if reaches s r j then .empty else σ j := by
  rw [clearScratch_eq_dfs s r σ 0,
    dfs_spec (visit := Cell.isSome) (mark := .empty) rfl s.length s r σ 0 (Nat.le_refl _) hcl]
  funext j
  cases hj : reaches s r j <;> cases hs : σ j <;> simp [markOn, hj, hs, Cell.isSome]

/-- key step of the clean-up: after a pass every reachable cell is occupied, so the
short-circuit never cuts off a written cell -/
theorem clearScratch_of_occupied (s : Store) (r : Ref) (σ : Scr U)
    (h : ∀ j, reaches s r j = true → (σ j).isSome = true) :
    clearScratch s r σ = fun j => if reaches s r j then .empty else σ j :=
  clearScratch_spec s r σ (fun j hj hn => by rw [h j hj] at hn; cases hn)

theorem clearScratch_clearOn (s : Store) (r : Ref) (σ : Scr U) (h : ClearOn s r σ) :
    clearScratch s r σ = σ := by
  rw [clearScratch_spec s r σ (fun j _ _ k hk => by
    have hjk : reaches s r k = true := reaches_trans s r j k ‹_› hk
    simp [h k hjk]), emptied_of_clearOn h]

@[simp] theorem clearScratch_clear (s : Store) (r : Ref) : clearScratch s r (Scr.clear (U := U)) = Scr.clear :=
  clearScratch_clearOn s r _ (fun _ _ => rfl)

/-- `DDNNFPtr::fold`: the answer is the un-memoised fold of the tree, and afterwards exactly the
reachable cells have been emptied. -/
theorem fold_spec (t : Tag) (A : Alg (U t)) (s : Store) (r : Ref) (σ : Scr U) (h : PreOK t A s σ r) :
    fold t A s r σ = (val A s r, fun j => if reaches s r j then .empty else σ j) := by
  obtain ⟨hv, hp, hf⟩ := foldDag_spec t A s r σ h
  simp only [fold, hv]
  rw [clearScratch_of_occupied s r _ (fun j hj => (hp j hj).2)]
  congr 1
  funext j
  cases hj : reaches s r j <;> simp [hf j, hj]

/-- the two `match`es on the cached pair (`bdd_fold_h`, `bottomup_pass_h`) and the two ways of
writing it back agree -/
theorem probeBdd_eq_probeFold (t : Tag) (neg : Bool) (o : Option (Option (U t) × Option (U t)))
    (σ σ' : Scr U) (i : Nat) (res : U t) :
    (match probeBdd neg o with
      | .inl v => (v, σ)
      | .inr (prevLow, prevHigh) =>
        (res, σ'.set i (if neg then .pair t (some res) prevHigh else .pair t prevLow (some res)))) =
    (match probeFold neg o with
      | .hit v => (v, σ)
      | .miss cached =>
        (res, σ'.set i (.pair t (storeFold neg res cached).1 (storeFold neg res cached).2))) := by
  rcases o with _ | ⟨_ | a, _ | b⟩ <;> cases neg <;> rfl

/-- `bdd_fold_h` is `bottomup_pass_h` for the algebra `(high_v, low_v, f)` -/
theorem bddFoldDag_eq (t : Tag) (f : Nat → U t → U t → U t) (lowV highV : U t) :
    ∀ (s : Store) (r : Ref) (σ : Scr U),
    bddFoldDag t f lowV highV s r σ = foldDag t (bddAlg f lowV highV) s r σ
  | [], _, _ => rfl
  | n :: rest, r, σ => by
    cases h : r.idx? with
    | none => simp only [bddFoldDag, foldDag, h]
    | some i =>
      by_cases hi : i = rest.length
      · subst hi
        simp only [bddFoldDag, foldDag, h, if_true, bddFoldDag_eq t f lowV highV rest]
        exact probeBdd_eq_probeFold t r.isNeg _ σ _ rest.length _
      · simp only [bddFoldDag, foldDag, h, hi, if_false]
        exact bddFoldDag_eq t f lowV highV rest r σ

theorem bddFold_eq_fold (t : Tag) (f : Nat → U t → U t → U t) (lowV highV : U t) (s : Store) (r : Ref)
    (σ : Scr U) : bddFold t f lowV highV s r σ = fold t (bddAlg f lowV highV) s r σ := by
  simp only [bddFold, fold, bddFoldDag_eq]

end cells

/-! ## the store only grows, and growing it changes no old diagram -/

/-- `s'` is `s` with nodes allocated on top -/
def Extends (s' s : Store) : Prop := ∃ l, s' = l ++ s

theorem Extends.refl (s : Store) : Extends s s := ⟨[], rfl⟩
theorem Extends.trans {a b c : Store} (h1 : Extends a b) (h2 : Extends b c) : Extends a c := by
  obtain ⟨l1, rfl⟩ := h1; obtain ⟨l2, rfl⟩ := h2; exact ⟨l1 ++ l2, by simp⟩
theorem Extends.cons (n : Node) (s : Store) : Extends (n :: s) s := ⟨[n], rfl⟩
theorem Extends.length_le {a b : Store} (h : Extends a b) : b.length ≤ a.length := by
  obtain ⟨l, rfl⟩ := h; simp

/-- the reference points into the store -/
def Ref.ValidIn (r : Ref) (s : Store) : Prop := ∀ i, r.idx? = some i → i < s.length

theorem unfold_append (s : Store) {r : Ref} (hr : r.ValidIn s) : ∀ l : Store, unfold (l ++ s) r = unfold s r
  | [] => rfl
  | m :: l => by
    cases h : r.idx? with
    | none => cases r <;> cases s <;> simp_all [unfold, Ref.idx?]
    | some i =>
      have := hr i h
      rw [List.cons_append, unfold_cons_ne m (l ++ s) h (by simp; omega)]
      exact unfold_append s hr l

theorem reaches_append (s : Store) {r : Ref} (hr : r.ValidIn s) (j : Nat) :
    ∀ l : Store, reaches (l ++ s) r j = reaches s r j
  | [] => rfl
  | m :: l => by
    cases h : r.idx? with
    | none => rw [reaches_none _ h, reaches_none _ h]
    | some i =>
      have := hr i h
      rw [List.cons_append, reaches_cons_ne m (l ++ s) h (by simp; omega)]
      exact reaches_append s hr j l

theorem unfold_extends {s' s : Store} (h : Extends s' s) {r : Ref} (hr : r.ValidIn s) :
    unfold s' r = unfold s r := by obtain ⟨l, rfl⟩ := h; exact unfold_append s hr l

theorem reachCount_extends {s' s : Store} (h : Extends s' s) {r : Ref} (hr : r.ValidIn s) :
    reachCount s' r = reachCount s r := by
  obtain ⟨l, rfl⟩ := h
  have hf : reaches (l ++ s) r = reaches s r := funext fun j => reaches_append s hr j l
  -- the indices of the new nodes are not reachable
  have hnil : ((List.range l.length).map (s.length + ·)).filter (reaches s r) = [] :=
    List.filter_eq_nil_iff.2 fun j hj hh => by
      obtain ⟨i, _, rfl⟩ := List.mem_map.1 hj
      have := reaches_lt _ _ _ hh
      omega
  simp only [reachCount, hf, List.length_append, Nat.add_comm l.length, List.range_add, List.filter_append,
    hnil, List.append_nil]

theorem insertRaw_extends (s : Store) (n : Node) : Extends (insertRaw s n).1 s := by
  simp only [insertRaw]; split
  · exact Extends.refl s
  · exact Extends.cons n s

theorem getOrInsert_extends (s : Store) (n : Node) : Extends (getOrInsert s n).1 s := by
  simp only [getOrInsert]; split <;> exact insertRaw_extends _ _

theorem getOrInsertDnnf_extends (s : Store) (n : Node) : Extends (getOrInsertDnnf s n).1 s := by
  simp only [getOrInsertDnnf]; split <;> exact insertRaw_extends _ _

/-! ### `cond_with_alloc`, one step at a time -/

/-- what `cond_with_alloc` returns at a node `n` (pointed to by `r`) that lies above the
conditioned variable and is not in the cache, given the results `l`, `h` of its two recursive calls -/
def condNode (n : Node) (r : Ref) (l h : Ref × (Store × CondCache)) : Ref × (Store × CondCache) :=
  if l.1 = h.1 then (if r.isNeg then l.1.neg else l.1, h.2)
  else
    let res : Ref × Store :=
      if l.1 ≠ n.lo ∨ h.1 ≠ n.hi then
        let a := getOrInsert h.2.1 ⟨n.var, l.1, h.1⟩
        (if r.isNeg then a.2.neg else a.2, a.1)
      else (r, h.2.1)
    (res.1, (res.2, (r, if r.isNeg then res.1.neg else res.1) :: h.2.2))

section
variable (lt : Nat → Nat → Bool) (x : Nat) (b : Bool)

theorem condAlloc_none (view : Store) {r : Ref} (h : r.idx? = none) (st : Store × CondCache) :
    condAlloc lt x b view r st = (r, st) := by
  cases view <;> simp only [condAlloc, h]

theorem condAlloc_cons_ne (n : Node) (rest : Store) {r : Ref} {i : Nat} (h : r.idx? = some i)
    (hi : i ≠ rest.length) (st : Store × CondCache) :
    condAlloc lt x b (n :: rest) r st = condAlloc lt x b rest r st := by
  simp only [condAlloc, h, hi, if_false]

theorem condAlloc_cons_eq (n : Node) (rest : Store) {r : Ref} (h : r.idx? = some rest.length)
    (st : Store × CondCache) :
    condAlloc lt x b (n :: rest) r st =
      if lt x n.var then (r, st)
      else if n.var = x then (if r.isNeg then (if b then n.hi else n.lo).neg else if b then n.hi else n.lo, st)
      else match st.2.get r with
        | some v => (if r.isNeg then v.neg else v, st)
        | none => condNode n r (condAlloc lt x b rest n.lo st)
            (condAlloc lt x b rest n.hi (condAlloc lt x b rest n.lo st).2) := by
  simp only [condAlloc, h, if_true]; rfl

/-- All `cond_with_alloc` does to the store is a sequence of `get_or_insert`s of nodes with two
distinct children: a reflexive, transitive relation that every such step satisfies holds between
the final and the initial store. -/
theorem condAlloc_store_rel (R : Store → Store → Prop) (refl : ∀ s, R s s)
    (trans : ∀ {s₁ s₂ s₃}, R s₁ s₂ → R s₂ s₃ → R s₁ s₃)
    (step : ∀ s v (l h : Ref), l ≠ h → R (getOrInsert s ⟨v, l, h⟩).1 s)
    (view : Store) : ∀ (r : Ref) (st : Store × CondCache), R (condAlloc lt x b view r st).2.1 st.1 := by
  induction view with
  | nil => exact fun _ _ => refl _
  | cons n rest ih =>
    intro r st
    cases h : r.idx? with
    | none => rw [condAlloc_none lt x b _ h]; exact refl _
    | some i =>
      by_cases hi : i = rest.length
      · subst hi
        rw [condAlloc_cons_eq lt x b n rest h]
        by_cases hlt : lt x n.var = true
        · rw [if_pos hlt]; exact refl _
        · rw [if_neg hlt]
          by_cases hv : n.var = x
          · rw [if_pos hv]; exact refl _
          · rw [if_neg hv]
            cases st.2.get r with
            | some v => exact refl _
            | none =>
              have h12 := trans (ih n.hi _) (ih n.lo st)
              generalize condAlloc lt x b rest n.hi _ = hh at h12 ⊢
              generalize condAlloc lt x b rest n.lo st = l
              unfold condNode
              by_cases hlh : l.1 = hh.1
              · rw [if_pos hlh]; exact h12
              · rw [if_neg hlh]
                by_cases hch : l.1 ≠ n.lo ∨ hh.1 ≠ n.hi
                · simp only [if_pos hch]; exact trans (step _ _ _ _ hlh) h12
                · simp only [if_neg hch]; exact h12
      · rw [condAlloc_cons_ne lt x b n rest h hi]
        exact ih r st

theorem condAlloc_extends (view : Store) (r : Ref) (st : Store × CondCache) :
    Extends (condAlloc lt x b view r st).2.1 st.1 :=
  condAlloc_store_rel lt x b Extends Extends.refl Extends.trans
    (fun s _ _ _ _ => getOrInsert_extends s _) view r st
end

section
variable {Tag : Type} [DecidableEq Tag] {U : Tag → Type}

theorem dnnfCondH_extends (x : Nat) (b : Bool) (σ : Scr U) :
    ∀ (view : Store) (r : Ref) (cur : Store), Extends (dnnfCondH x b σ view r cur).2 cur
  | [], _, cur => Extends.refl _
  | n :: rest, r, cur => by
    have h1 := dnnfCondH_extends x b σ rest n.lo cur
    have h2 := dnnfCondH_extends x b σ rest n.hi (dnnfCondH x b σ rest n.lo cur).2
    have h3 := dnnfCondH_extends x b σ rest r cur
    simp only [dnnfCondH]
    -- with the two recursive results as variables, every branch returns `cur`, the store `h.2`
    -- after both calls, or one insertion on top of `h.2`
    generalize dnnfCondH x b σ rest n.lo cur = l at h1 h2 ⊢
    generalize dnnfCondH x b σ rest n.hi l.2 = h at h2 ⊢
    cases r.idx? with
    | none => exact Extends.refl _
    | some i =>
      dsimp only
      by_cases hi : i = rest.length
      · rw [if_pos hi]
        by_cases hv : n.var = x
        · rw [if_pos hv]; exact Extends.refl _
        · rw [if_neg hv]
          cases (σ i).asPtr with
          | some v => exact Extends.refl _
          | none =>
            dsimp only
            by_cases hlh : l.1 = h.1
            · rw [if_pos hlh]; exact h2.trans h1
            · rw [if_neg hlh]
              by_cases hch : l.1 ≠ n.lo ∨ h.1 ≠ n.hi
              · rw [if_pos hch]; exact (getOrInsertDnnf_extends _ _).trans (h2.trans h1)
              · rw [if_neg hch]; exact h2.trans h1
      · rw [if_neg hi]; exact h3
end

theorem smoothH_extends (lvl varAt : Nat → Nat) :
    ∀ (k cur : Nat) (r : Ref) (s : Store), Extends (smoothH lvl varAt k cur r s).2 s
  | 0, _, _, s => Extends.refl s
  | k + 1, cur, r, s => by
    have ins : ∀ {s' : Store} (n : Node), Extends s' s → Extends (getOrInsert s' n).1 s :=
      fun n h => (getOrInsert_extends _ n).trans h
    simp only [smoothH]
    cases r.idx? with
    | none => exact ins _ (smoothH_extends lvl varAt k (cur + 1) r s)
    | some i =>
      simp only
      cases s.get? i with
      | none => exact Extends.refl s
      | some n =>
        simp only
        split
        · exact ins _ ((smoothH_extends lvl varAt k (cur + 1) n.hi _).trans
            (smoothH_extends lvl varAt k (cur + 1) n.lo s))
        · exact ins _ (smoothH_extends lvl varAt k (cur + 1) (.reg i) s)

section
variable {Tag : Type} [DecidableEq Tag] {U : Tag → Type}

theorem specQuery_extends (s : Store) (r : Ref) (q : Query U) : Extends (specQuery s r q).2 s := by
  cases q with
  | fold t A => exact Extends.refl s
  | bddFold t f lo hi => exact Extends.refl s
  | optim t p => exact Extends.refl s
  | countNodes => exact Extends.refl s
  | condition lt x b => exact condAlloc_extends lt x b s r (s, [])
  | dnnfCondition x b => exact dnnfCondH_extends x b _ s r s
  | smooth lvl varAt nv => exact smoothH_extends lvl varAt nv 0 r s

theorem specQueries_extends : ∀ (qs : List (Ref × Query U)) (s : Store), Extends (specQueries s qs).2 s
  | [], s => Extends.refl s
  | (r, q) :: qs, s => (specQueries_extends qs _).trans (specQuery_extends s r q)

theorem specQueries_get : ∀ (qs : List (Ref × Query U)) (s : Store) (k : Nat) (r : Ref) (q : Query U),
    qs[k]? = some (r, q) →
    ∃ s', Extends s' s ∧ (specQueries s qs).1[k]? = some (specQuery s' r q).1
  | [], _, _, _, _, h => by simp at h
  | (r0, q0) :: qs, s, 0, r, q, h => by
    simp only [List.getElem?_cons_zero, Option.some.injEq, Prod.mk.injEq] at h
    obtain ⟨rfl, rfl⟩ := h
    exact ⟨s, Extends.refl s, by simp [specQueries]⟩
  | (r0, q0) :: qs, s, k + 1, r, q, h => by
    simp only [List.getElem?_cons_succ] at h
    obtain ⟨s', he, hk⟩ := specQueries_get qs (specQuery s r0 q0).2 k r q h
    exact ⟨s', he.trans (specQuery_extends s r0 q0), by simpa [specQueries] using hk⟩
end

section
variable {Tag : Type} [DecidableEq Tag] {U : Tag → Type}

/-- the calls that allocate nothing -/
def Query.readOnly : Query U → Bool
  | .fold .. | .bddFold .. | .optim .. | .countNodes => true
  | _ => false

theorem specQuery_readOnly (s : Store) (r : Ref) {q : Query U} (h : q.readOnly = true) :
    (specQuery s r q).2 = s := by
  cases q <;> simp_all [Query.readOnly, specQuery]

theorem specQueries_readOnly : ∀ (qs : List (Ref × Query U)) (s : Store),
    (∀ p ∈ qs, p.2.readOnly = true) →
    specQueries s qs = (qs.map fun p => (specQuery s p.1 p.2).1, s)
  | [], _, _ => rfl
  | (r, q) :: qs, s, h => by
    have h1 := specQuery_readOnly s r (h (r, q) (List.mem_cons_self ..))
    simp only [specQueries, h1, List.map_cons]
    rw [specQueries_readOnly qs s (fun p hp => h p (List.mem_cons_of_mem _ hp))]
end

end Scratch
