import RsddModel.Model.CnfUtil
/-!
# Primes and products of lists of primes

What the prime-weight hashes of `CnfHasher` (`Lemmas/CnfHasher.lean`) and of the unit-propagation
solver (`Lemmas/UnitPropPrimes.lean`) share: Euclid's lemma, a prime factor of a product of primes
is one of them, and the one argument why either hash determines the residual formula: a product
of pairwise different primes, one per literal occurrence, determines which occurrences were
multiplied (`sel_eq_of_hash_eq`); and a few list facts about strictly ascending and
duplicate-free lists.
-/
namespace CnfUtil

namespace VarSet

theorem nodup_of_sorted {l : List Nat} (h : l.Pairwise (· < ·)) : l.Nodup :=
  List.Pairwise.imp (fun hlt => Nat.ne_of_lt hlt) h

theorem sorted_ext {l l' : List Nat} (h1 : l.Pairwise (· < ·)) (h2 : l'.Pairwise (· < ·))
    (h : ∀ x, x ∈ l ↔ x ∈ l') : l = l' :=
  ((List.perm_ext_iff_of_nodup (nodup_of_sorted h1) (nodup_of_sorted h2)).mpr h).eq_of_pairwise
    (fun _ _ _ _ hab hba => absurd hab (Nat.lt_asymm hba)) h1 h2

end VarSet

theorem inj_of_nodup_map {β γ : Type} (f : β → γ) {l : List β} (h : (l.map f).Nodup) :
    ∀ a ∈ l, ∀ b ∈ l, f a = f b → a = b :=
  List.Pairwise.forall_of_forall_of_flip (fun _ _ _ => rfl)
    ((List.pairwise_map.mp h).imp fun hne e => absurd e hne)
    ((List.pairwise_map.mp h).imp fun hne e => absurd e.symm hne)

theorem eq_of_mem_of_nodup_flatMap {β γ : Type} {f : β → List γ} {l : List β}
    (h : (l.flatMap f).Nodup) : ∀ a ∈ l, ∀ b ∈ l, ∀ x, x ∈ f a → x ∈ f b → a = b :=
  List.Pairwise.forall_of_forall_of_flip (fun _ _ _ _ _ => rfl)
    ((List.pairwise_flatMap.mp h).2.imp fun hab x xa xb => absurd rfl (hab x xa x xb))
    ((List.pairwise_flatMap.mp h).2.imp fun hab x xb xa => absurd rfl (hab x xa x xb))

theorem range_map_getD {β γ : Type} (F : β → γ) (d : β) (l : List β) :
    (List.range l.length).map (fun i => F (l.getD i d)) = l.map F :=
  List.ext_getElem (by simp) fun i h _ => by
    have hi : i < l.length := by simpa using h
    simp [hi]

/-! ## primes -/

def Prime (p : Nat) : Prop := 2 ≤ p ∧ ∀ d, d ∣ p → d = 1 ∨ d = p

theorem isPrimeB_prime {p : Nat} (h : isPrimeB p = true) : Prime p := by
  obtain ⟨h2, hd⟩ := isPrimeB_iff.mp h
  have hp0 : 0 < p := Nat.lt_of_lt_of_le (by decide) h2
  refine ⟨h2, fun d hdiv => ?_⟩
  have hpos : 0 < d := Nat.pos_of_dvd_of_pos hdiv hp0
  by_cases h1 : d = 1
  · exact Or.inl h1
  · exact Or.inr (Classical.byContradiction fun hne =>
      hd d (by omega) (Nat.lt_of_le_of_ne (Nat.le_of_dvd hp0 hdiv) hne) hdiv)

/-- Euclid's lemma -/
theorem prime_dvd_mul {p a b : Nat} (hp : Prime p) (h : p ∣ a * b) : p ∣ a ∨ p ∣ b := by
  by_cases ha : p ∣ a
  · exact Or.inl ha
  · right
    have hg : Nat.gcd p a = 1 := by
      rcases hp.2 _ (Nat.gcd_dvd_left p a) with h1 | h1
      · exact h1
      · exfalso; apply ha; rw [← h1]; exact Nat.gcd_dvd_right p a
    exact Nat.Coprime.dvd_of_dvd_mul_left hg h

theorem prime_dvd_prime {p q : Nat} (hp : Prime p) (hq : Prime q) (h : p ∣ q) : p = q := by
  rcases hq.2 p h with h1 | h1
  · have := hp.1; omega
  · exact h1

/-! ## products of lists -/

def lprod (l : List Nat) : Nat := l.foldr (· * ·) 1

theorem lprod_append (l l' : List Nat) : lprod (l ++ l') = lprod l * lprod l' :=
  List.prod_append_nat

theorem lprod_perm {l l' : List Nat} (h : l.Perm l') : lprod l = lprod l' := h.prod_nat

theorem dvd_lprod_of_mem {x : Nat} : ∀ {l : List Nat}, x ∈ l → x ∣ lprod l
  | a :: l, h => by
    rcases List.mem_cons.mp h with rfl | h
    · exact Nat.dvd_mul_right _ _
    · exact Nat.dvd_trans (dvd_lprod_of_mem h) (Nat.dvd_mul_left _ _)

theorem prime_dvd_lprod {p : Nat} (hp : Prime p) : ∀ (l : List Nat), p ∣ lprod l → ∃ q ∈ l, p ∣ q
  | [], h => absurd (Nat.le_trans hp.1 (Nat.le_of_dvd Nat.one_pos h)) (by decide)
  | a :: l, h => by
    rcases prime_dvd_mul hp h with h1 | h1
    · exact ⟨a, List.mem_cons_self, h1⟩
    · obtain ⟨q, hq, hd⟩ := prime_dvd_lprod hp l h1
      exact ⟨q, List.mem_cons_of_mem _ hq, hd⟩

theorem lprod_le_of_sublist {l l' : List Nat} (h : l.Sublist l') (hpos : ∀ x ∈ l', 1 ≤ x) :
    lprod l ≤ lprod l' := by
  induction h with
  | slnil => exact Nat.le_refl _
  | cons a _ ih =>
    exact Nat.le_trans (ih fun x hx => hpos x (List.mem_cons_of_mem _ hx))
      (Nat.le_mul_of_pos_left _ (hpos a List.mem_cons_self))
  | cons_cons a _ ih =>
    have := ih (fun x hx => hpos x (List.mem_cons_of_mem _ hx))
    exact Nat.mul_le_mul_left a this

theorem mem_of_prime_dvd_lprod {x : Nat} {l : List Nat} (hx : Prime x) (hp : ∀ y ∈ l, Prime y)
    (hd : x ∣ lprod l) : x ∈ l := by
  obtain ⟨q, hq, hxq⟩ := prime_dvd_lprod hx l hd
  rw [prime_dvd_prime hx (hp q hq) hxq]; exact hq

theorem lprod_flatMap {β : Type} (A : β → List Nat) : ∀ (l : List β),
    lprod (l.flatMap A) = lprod (l.map fun b => lprod (A b))
  | [] => rfl
  | b :: l => by rw [List.flatMap_cons, lprod_append, lprod_flatMap A l]; rfl

/-! ## products over a selection of weighted occurrences

Both prime-product hashes give every literal occurrence `o` of a clause list `cls` a weight `w o`,
the weights pairwise different primes, and multiply the weights of a selection `sel c o` of the
occurrences: `CnfHasher::hash` the unset literals of the open non-unit clauses, the
unit-propagation solver the complement (the removed occurrences).  A weight divides the product
exactly when its occurrence is selected, so the product determines the selection. -/

section selection
variable {β : Type} {w : β → Nat} {cls : List (List β)}

/-- the weights of the selected occurrences, clause by clause -/
def selW (w : β → Nat) (cls : List (List β)) (sel : List β → β → Bool) : List Nat :=
  cls.flatMap fun c => (c.filter (sel c)).map w

theorem selW_sublist (sel : List β → β → Bool) : ∀ cls : List (List β),
    (selW w cls sel).Sublist (cls.flatMap (·.map w))
  | [] => List.Sublist.refl _
  | c :: cls => by
    rw [selW, List.flatMap_cons, List.flatMap_cons]
    exact (List.filter_sublist.map w).append (selW_sublist sel cls)

theorem selW_congr {sel sel' : List β → β → Bool} (h : ∀ c ∈ cls, ∀ o ∈ c, sel c o = sel' c o) :
    selW w cls sel = selW w cls sel' := by
  rw [selW, selW, List.flatMap_def, List.flatMap_def]
  exact congrArg _ (List.map_congr_left fun c hc => congrArg _ (List.filter_congr (h c hc)))

variable (hnd : (cls.flatMap (·.map w)).Nodup) (hp : ∀ x ∈ cls.flatMap (·.map w), Prime x)
include hnd hp

theorem dvd_selW_iff (sel : List β → β → Bool) {c : List β} (hc : c ∈ cls) {o : β} (ho : o ∈ c) :
    w o ∣ lprod (selW w cls sel) ↔ sel c o = true := by
  have hmem : w o ∈ cls.flatMap (·.map w) := List.mem_flatMap.mpr ⟨c, hc, List.mem_map_of_mem ho⟩
  refine ⟨fun h => ?_, fun h => dvd_lprod_of_mem
    (List.mem_flatMap.mpr ⟨c, hc, List.mem_map_of_mem (List.mem_filter.mpr ⟨ho, h⟩)⟩)⟩
  -- the prime `w o` is the weight of a selected `o' ∈ c'`; the weights are all different
  have := mem_of_prime_dvd_lprod (hp _ hmem) (fun y hy => hp y ((selW_sublist sel cls).subset hy)) h
  obtain ⟨c', hc', hin⟩ := List.mem_flatMap.mp this
  obtain ⟨o', ho', e⟩ := List.mem_map.mp hin
  obtain ⟨ho', hsel⟩ := List.mem_filter.mp ho'
  obtain rfl : c' = c := eq_of_mem_of_nodup_flatMap hnd c' hc' c hc (w o)
    (e ▸ List.mem_map_of_mem ho') (List.mem_map_of_mem ho)
  obtain rfl : o' = o := inj_of_nodup_map w ((List.pairwise_flatMap.mp hnd).1 c' hc) o' ho' o ho e
  exact hsel

theorem sel_eq_of_lprod_eq {sel sel' : List β → β → Bool}
    (h : lprod (selW w cls sel) = lprod (selW w cls sel')) :
    ∀ c ∈ cls, ∀ o ∈ c, sel c o = sel' c o := fun c hc o ho => by
  rw [Bool.eq_iff_iff, ← dvd_selW_iff hnd hp sel hc ho, ← dvd_selW_iff hnd hp sel' hc ho, h]

/-- the hash is injective on selections while the product of all weights does not wrap -/
theorem sel_eq_of_hash_eq {M : Nat} (hT : lprod (cls.flatMap (·.map w)) < M)
    {sel sel' : List β → β → Bool} (h : lprod (selW w cls sel) % M = lprod (selW w cls sel') % M) :
    ∀ c ∈ cls, ∀ o ∈ c, sel c o = sel' c o := by
  have lt := fun s => Nat.lt_of_le_of_lt
    (lprod_le_of_sublist (selW_sublist s cls) fun x hx => Nat.le_of_lt (hp x hx).1) hT
  rw [Nat.mod_eq_of_lt (lt sel), Nat.mod_eq_of_lt (lt sel')] at h
  exact sel_eq_of_lprod_eq hnd hp h

end selection

open Spec in
/-- What the removed occurrences (those of a satisfied clause, and the false literals) say about
a clause that neither model falsifies: satisfied alike and, if unsatisfied, the same literals
false.  `f` reads the literal off an occurrence. -/
theorem clause_data_of_removed_eq {γ : Type} (f : γ → Lit) {m m' : PModel} {c : List γ}
    (hf : ¬ ∀ o ∈ c, litFalse m (f o) = true) (hf' : ¬ ∀ o ∈ c, litFalse m' (f o) = true)
    (h : ∀ o ∈ c, (c.any (litTrue m ∘ f) || litFalse m (f o)) =
      (c.any (litTrue m' ∘ f) || litFalse m' (f o))) :
    c.any (litTrue m ∘ f) = c.any (litTrue m' ∘ f) ∧
      (c.any (litTrue m ∘ f) = false → ∀ o ∈ c, litFalse m (f o) = litFalse m' (f o)) := by
  generalize c.any (litTrue m ∘ f) = s at h ⊢
  generalize c.any (litTrue m' ∘ f) = s' at h ⊢
  -- a clause satisfied under one model only has all its occurrences removed under the other
  cases s <;> cases s'
  · exact ⟨rfl, fun _ => h⟩
  · exact absurd (fun o ho => h o ho) hf
  · exact absurd (fun o ho => (h o ho).symm) hf'
  · exact ⟨rfl, nofun⟩

end CnfUtil
