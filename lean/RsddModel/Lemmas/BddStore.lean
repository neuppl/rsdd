import RsddModel.Model.BddStore
import RsddModel.Lemmas.Scratch
import RsddModel.Lemmas.BddCanon
/-!
# Lemmas: the unique table justifies reading a pointer as the tree it unfolds to

* `StoreOK`: the invariant of the unique table — children of a node are stored before the node
  (so `unfold` follows real edges), and no node is stored twice; flat readings
  `StoreOK.child_lt`, `StoreOK.nodup`, converse `storeOK_of_flat`.  `StoreRed`: every stored node has `lo ≠ hi` and a regular,
  non-false high edge.
* `unfold_inj`: under `StoreOK`, `unfold s` is injective on the references valid in `s` — pointer
  identity is structural equality of the unfoldings.  `refOf` is the (computable) inverse.
* `insertRaw_find_or_append`: the table operation used here is exactly the find-or-append
  behaviour that `Props/C02Table.lean` proves of the robin-hood table.
* `getOrInsert_spec`, `getOrInsert_red`: `get_or_insert` keeps the invariants, only appends, and
  unfolds to `Bdd.mkNode`.
* `unfold_red`: in a reduced table every valid reference unfolds to a reduced diagram.
(`Lemmas/BddStoreIte.lean`: `Ite::new`, `ite`; `Lemmas/BddStoreCond.lean`: conditioning.)
-/
namespace BddStore
open Bdd Scratch Spec

/-! ## references -/

theorem validIn_tru (s : Store) : Ref.tru.ValidIn s := by intro i h; cases h
theorem validIn_fls (s : Store) : Ref.fls.ValidIn s := by intro i h; cases h
theorem validIn_neg {s : Store} {r : Ref} (h : r.ValidIn s) : r.neg.ValidIn s := by
  intro i hi; exact h i (by simpa using hi)
theorem validIn_reg {s : Store} {i : Nat} (h : i < s.length) : (Ref.reg i).ValidIn s := by
  intro j hj; cases hj; exact h
theorem validIn_compl {s : Store} {i : Nat} (h : i < s.length) : (Ref.compl i).ValidIn s := by
  intro j hj; cases hj; exact h
theorem validIn_ite {s : Store} {c : Bool} {a b : Ref} (ha : a.ValidIn s) (hb : b.ValidIn s) :
    (if c then a else b).ValidIn s := by cases c <;> simpa
theorem validIn_extends {s' s : Store} (h : Extends s' s) {r : Ref} (hr : r.ValidIn s) :
    r.ValidIn s' :=
  fun i hi => Nat.lt_of_lt_of_le (hr i hi) h.length_le
theorem validIn_nil {r : Ref} (h : r.ValidIn []) : r.idx? = none := by
  cases hr : r.idx? with
  | none => rfl
  | some i => have := h i hr; simp at this

theorem Ref.neg_inj {a b : Ref} (h : a.neg = b.neg) : a = b := by
  have := congrArg Ref.neg h; simpa using this
theorem Ref.eq_neg_iff {a b : Ref} : a = b.neg ↔ a.neg = b := by
  constructor <;> (intro h; subst h; simp)
theorem Ref.neg_ne (a : Ref) : a.neg ≠ a := by cases a <;> simp [Ref.neg]
@[simp] theorem Ref.isNeg_tru : Ref.tru.isNeg = false := rfl
@[simp] theorem Ref.isNeg_fls : Ref.fls.isNeg = false := rfl
theorem Ref.isNeg_neg_of_isNeg {a : Ref} (h : a.isNeg = true) : a.neg.isNeg = false := by
  cases a <;> simp_all [Ref.isNeg, Ref.neg]

/-! ## reading the store -/

theorem nodeAt_cons_self (n : Node) (rest : Store) : nodeAt (n :: rest) rest.length = some n :=
  if_pos rfl

theorem nodeAt_cons_of_lt (n : Node) {rest : Store} {i : Nat} (h : i < rest.length) :
    nodeAt (n :: rest) i = nodeAt rest i := if_neg (Nat.ne_of_lt h)

theorem nodeAt_cons_some {m : Node} {rest : Store} {i : Nat} {n : Node} (h : nodeAt (m :: rest) i = some n) :
    (i = rest.length ∧ m = n) ∨ (i ≠ rest.length ∧ nodeAt rest i = some n) := by
  by_cases hi : i = rest.length
  · rw [nodeAt, if_pos hi] at h; exact Or.inl ⟨hi, Option.some.inj h⟩
  · rw [nodeAt, if_neg hi] at h; exact Or.inr ⟨hi, h⟩

theorem nodeAt_lt : ∀ {s : Store} {i : Nat} {n : Node}, nodeAt s i = some n → i < s.length
  | [], _, _, h => nomatch h
  | m :: rest, i, n, h => by
    rcases nodeAt_cons_some h with ⟨rfl, _⟩ | ⟨_, h⟩
    · exact Nat.lt_succ_self _
    · exact Nat.lt_succ_of_lt (nodeAt_lt h)

theorem nodeAt_of_lt : ∀ {s : Store} {i : Nat}, i < s.length → ∃ n, nodeAt s i = some n
  | [], _, h => nomatch h
  | m :: rest, i, h => by
    rcases Nat.lt_succ_iff_lt_or_eq.1 h with h | rfl
    · rw [nodeAt_cons_of_lt m h]; exact nodeAt_of_lt h
    · exact ⟨m, nodeAt_cons_self m rest⟩

theorem nodeAt_none {s : Store} {i : Nat} (h : s.length ≤ i) : nodeAt s i = none := by
  cases hn : nodeAt s i with
  | none => rfl
  | some n => exact absurd (nodeAt_lt hn) (Nat.not_lt.2 h)

theorem nodeAt_mem : ∀ {s : Store} {i : Nat} {n : Node}, nodeAt s i = some n → n ∈ s
  | [], _, _, h => nomatch h
  | m :: rest, i, n, h => by
    rcases nodeAt_cons_some h with ⟨_, rfl⟩ | ⟨_, h⟩
    · exact List.mem_cons_self ..
    · exact List.mem_cons_of_mem _ (nodeAt_mem h)

/-- `nodeAt` is the indexing function of `Model/Scratch.lean` -/
theorem nodeAt_eq_get? : ∀ (s : Store) (i : Nat), nodeAt s i = s.get? i
  | [], i => rfl
  | m :: rest, i => by
    rw [nodeAt, nodeAt_eq_get? rest i, Store.get?, Store.get?, List.length_cons, Nat.add_sub_cancel]
    rcases Nat.lt_trichotomy i rest.length with h | h | h
    · have h4 : rest.length - i = (rest.length - 1 - i) + 1 := by
        rw [Nat.sub_right_comm, Nat.sub_add_cancel (Nat.sub_pos_of_lt h)]
      rw [if_neg (Nat.ne_of_lt h), if_pos h, if_pos (Nat.lt_succ_of_lt h), h4, List.getElem?_cons_succ]
    · rw [if_pos h, if_pos (h ▸ Nat.lt_succ_self _), h, Nat.sub_self]; rfl
    · rw [if_neg (Nat.ne_of_gt h), if_neg (Nat.lt_asymm h), if_neg (Nat.not_lt.2 h)]

theorem nodeAt_append {s : Store} {i : Nat} {n : Node} (h : nodeAt s i = some n) :
    ∀ l : Store, nodeAt (l ++ s) i = some n
  | [] => h
  | m :: l => by
    rw [List.cons_append, nodeAt_cons_of_lt m (nodeAt_lt (nodeAt_append h l))]
    exact nodeAt_append h l

theorem nodeAt_extends {s' s : Store} (he : Extends s' s) {i : Nat} {n : Node}
    (h : nodeAt s i = some n) : nodeAt s' i = some n := by
  obtain ⟨l, rfl⟩ := he; exact nodeAt_append h l

theorem findNode_none_iff : ∀ {s : Store} {n : Node}, findNode s n = none ↔ n ∉ s
  | [], n => by simp [findNode]
  | m :: rest, n => by
    simp only [findNode]
    split
    · subst_vars; simp
    · rename_i hne
      rw [findNode_none_iff, List.mem_cons, not_or]
      exact ⟨fun h => ⟨fun e => hne e.symm, h⟩, fun h => h.2⟩

theorem findNode_some : ∀ {s : Store} {n : Node} {i : Nat}, findNode s n = some i → nodeAt s i = some n
  | [], _, _, h => by simp [findNode] at h
  | m :: rest, n, i, h => by
    simp only [findNode] at h
    split at h
    · cases h; subst_vars; exact nodeAt_cons_self ..
    · have h' := findNode_some h
      rw [nodeAt_cons_of_lt m (nodeAt_lt h')]; exact h'

/-! ## the invariant of the unique table -/

/-- children are stored before their parent, and no node is stored twice -/
def StoreOK : Store → Prop
  | [] => True
  | n :: rest => n.lo.ValidIn rest ∧ n.hi.ValidIn rest ∧ findNode rest n = none ∧ StoreOK rest

/-- every stored node is reduced and has a regular, non-false high edge -/
def StoreRed (s : Store) : Prop := ∀ n ∈ s, n.lo ≠ n.hi ∧ n.hi.isNeg = false ∧ n.hi ≠ .fls

theorem storeOK_nil : StoreOK [] := trivial
theorem storeRed_nil : StoreRed [] := by intro n hn; cases hn

theorem StoreOK.child_lt : ∀ {s : Store}, StoreOK s → ∀ {i : Nat} {n : Node}, nodeAt s i = some n →
    (∀ j, n.lo.idx? = some j → j < i) ∧ (∀ j, n.hi.idx? = some j → j < i)
  | [], _, _, _, h => nomatch h
  | m :: rest, ⟨hlo, hhi, _, hok⟩, i, n, h => by
    rcases nodeAt_cons_some h with ⟨rfl, rfl⟩ | ⟨_, h⟩
    · exact ⟨hlo, hhi⟩
    · exact hok.child_lt h

theorem StoreOK.nodup : ∀ {s : Store}, StoreOK s → ∀ {i j : Nat} {n : Node}, nodeAt s i = some n →
    nodeAt s j = some n → i = j
  | [], _, _, _, _, h, _ => nomatch h
  | m :: rest, ⟨_, _, hfind, hok⟩, i, j, n, h1, h2 => by
    have hm : m ∉ rest := findNode_none_iff.1 hfind
    rcases nodeAt_cons_some h1 with ⟨rfl, rfl⟩ | ⟨_, h1⟩
    · rcases nodeAt_cons_some h2 with ⟨rfl, _⟩ | ⟨_, h2⟩
      · rfl
      · exact absurd (nodeAt_mem h2) hm
    · rcases nodeAt_cons_some h2 with ⟨_, rfl⟩ | ⟨_, h2⟩
      · exact absurd (nodeAt_mem h1) hm
      · exact hok.nodup h1 h2

theorem StoreOK.child_valid {s : Store} (hs : StoreOK s) {i : Nat} {n : Node} (h : nodeAt s i = some n) :
    n.lo.ValidIn s ∧ n.hi.ValidIn s := by
  obtain ⟨h1, h2⟩ := hs.child_lt h
  exact ⟨fun j hj => Nat.lt_trans (h1 j hj) (nodeAt_lt h), fun j hj => Nat.lt_trans (h2 j hj) (nodeAt_lt h)⟩

theorem StoreOK.findNode_eq {s : Store} (hs : StoreOK s) {i : Nat} {n : Node} (h : nodeAt s i = some n) :
    findNode s n = some i := by
  cases hf : findNode s n with
  | none => exact absurd (nodeAt_mem h) (findNode_none_iff.1 hf)
  | some j => rw [hs.nodup (findNode_some hf) h]

theorem storeOK_of_flat : ∀ {s : Store},
    (∀ i n, nodeAt s i = some n → (∀ j, n.lo.idx? = some j → j < i) ∧ (∀ j, n.hi.idx? = some j → j < i)) →
    (∀ i j n, nodeAt s i = some n → nodeAt s j = some n → i = j) → StoreOK s
  | [], _, _ => trivial
  | m :: rest, h1, h2 => by
    have hm := nodeAt_cons_self m rest
    have up : ∀ {i n}, nodeAt rest i = some n → nodeAt (m :: rest) i = some n :=
      fun h => (nodeAt_cons_of_lt m (nodeAt_lt h)).trans h
    refine ⟨(h1 _ _ hm).1, (h1 _ _ hm).2, ?_, storeOK_of_flat (fun i n h => h1 i n (up h))
      (fun i j n hi hj => h2 i j n (up hi) (up hj))⟩
    cases hf : findNode rest m with
    | none => rfl
    | some j =>
      have hj := findNode_some hf
      exact absurd (h2 _ _ _ hm (up hj)) (Nat.ne_of_gt (nodeAt_lt hj))

/-! ## unfolding a valid reference -/

@[simp] theorem unfold_tru (s : Store) : unfold s .tru = .tru := by cases s <;> rfl
@[simp] theorem unfold_fls (s : Store) : unfold s .fls = .fls := by cases s <;> rfl

theorem unfold_none (s : Store) {r : Ref} (h : r.idx? = none) : unfold s r = r.leafPtr := by
  cases s <;> simp [unfold, h]

theorem unfold_of_nodeAt : ∀ {s : Store}, StoreOK s → ∀ {r : Ref} {i : Nat} {n : Node},
    r.idx? = some i → nodeAt s i = some n →
    unfold s r = .node r.isNeg n.var (unfold s n.lo) (unfold s n.hi)
  | [], _, _, _, _, _, h => nomatch h
  | m :: rest, ⟨hlo, hhi, _, hok⟩, r, i, n, hr, h => by
    have e := Extends.cons m rest
    rcases nodeAt_cons_some h with ⟨rfl, rfl⟩ | ⟨hne, h⟩
    · rw [unfold_cons_eq _ rest hr, unfold_extends e hlo, unfold_extends e hhi]
    · obtain ⟨cl, ch⟩ := hok.child_valid h
      rw [unfold_cons_ne m rest hr hne, unfold_of_nodeAt hok hr h, unfold_extends e cl, unfold_extends e ch]

theorem top?_unfold : ∀ (s : Store) (r : Ref), (unfold s r).top? = varOf s r
  | [], r => by cases r <;> rfl
  | m :: rest, r => by
    cases hr : r.idx? with
    | none => rw [unfold_none _ hr]; simp only [varOf, hr]; cases r <;> rfl
    | some i =>
      by_cases hi : i = rest.length
      · subst hi; rw [unfold_cons_eq _ _ hr]; simp [varOf, hr, nodeAt, Ptr.top?]
      · rw [unfold_cons_ne _ _ hr hi, top?_unfold rest r]; simp [varOf, hr, nodeAt, hi]

section shape
variable {s : Store} (hs : StoreOK s) {r : Ref} (hr : r.ValidIn s)
include hs hr

theorem valid_cases :
    r = .tru ∨ r = .fls ∨ ∃ i n, r.idx? = some i ∧ nodeAt s i = some n ∧ n.lo.ValidIn s ∧ n.hi.ValidIn s ∧
      unfold s r = .node r.isNeg n.var (unfold s n.lo) (unfold s n.hi) := by
  cases hi : r.idx? with
  | none => cases r <;> simp_all [Ref.idx?]
  | some i =>
    obtain ⟨n, hn⟩ := nodeAt_of_lt (hr i hi)
    obtain ⟨cl, ch⟩ := hs.child_valid hn
    exact Or.inr (Or.inr ⟨i, n, rfl, hn, cl, ch, unfold_of_nodeAt hs hi hn⟩)

/-- every test of `Ite::new` on a single pointer gives the same answer on a valid reference and on its tree -/
theorem tests_unfold :
    (unfold s r).isNeg = r.isNeg ∧ (unfold s r).isTrue = r.isTrue ∧ (unfold s r).isFalse = r.isFalse := by
  rcases valid_cases hs hr with rfl | rfl | ⟨i, n, hi, _, _, _, h⟩
  · rw [unfold_tru]; exact ⟨rfl, rfl, rfl⟩
  · rw [unfold_fls]; exact ⟨rfl, rfl, rfl⟩
  · rw [h]; cases r <;> first | exact ⟨rfl, rfl, rfl⟩ | cases hi

theorem isNeg_unfold : (unfold s r).isNeg = r.isNeg := (tests_unfold hs hr).1
theorem isTrue_unfold : (unfold s r).isTrue = r.isTrue := (tests_unfold hs hr).2.1
theorem isFalse_unfold : (unfold s r).isFalse = r.isFalse := (tests_unfold hs hr).2.2

/-! ## reading a valid reference off the shape of its unfolding -/

theorem unfold_eq_tru (e : unfold s r = .tru) : r = .tru := by
  have h := isTrue_unfold hs hr
  rw [e] at h
  cases r <;> first | rfl | cases h

theorem unfold_eq_fls (e : unfold s r = .fls) : r = .fls := by
  have h := isFalse_unfold hs hr
  rw [e] at h
  cases r <;> first | rfl | cases h

theorem unfold_eq_node {c : Bool} {v : Nat} {L H : Ptr} (e : unfold s r = .node c v L H) :
    ∃ i n, r.idx? = some i ∧ nodeAt s i = some n ∧ n.lo.ValidIn s ∧ n.hi.ValidIn s ∧
      r.isNeg = c ∧ n.var = v ∧ unfold s n.lo = L ∧ unfold s n.hi = H := by
  rcases valid_cases hs hr with rfl | rfl | ⟨i, n, hi, hn, nl, nh, h⟩
  · rw [unfold_tru] at e; cases e
  · rw [unfold_fls] at e; cases e
  · rw [h] at e; cases e; exact ⟨i, n, hi, hn, nl, nh, rfl, rfl, rfl, rfl⟩

end shape

/-! ## the inverse of `unfold`: looking a tree up in the table -/

/-- the reference of a tree, if all its nodes are stored -/
def refOf (s : Store) : Ptr → Option Ref
  | .tru => some .tru
  | .fls => some .fls
  | .node c v lo hi =>
    match refOf s lo, refOf s hi with
    | some l, some h =>
      match findNode s ⟨v, l, h⟩ with
      | some i => some (if c then .compl i else .reg i)
      | none => none
    | _, _ => none

theorem refOf_unfold_aux {s : Store} (hs : StoreOK s) : ∀ (P : Ptr) {r : Ref}, r.ValidIn s →
    unfold s r = P → refOf s P = some r := by
  intro P
  induction P with
  | tru => intro r hr e; rw [unfold_eq_tru hs hr e]; rfl
  | fls => intro r hr e; rw [unfold_eq_fls hs hr e]; rfl
  | node c v L H ihL ihH =>
    intro r hr e
    obtain ⟨i, n, hi, hn, nl, nh, ec, ev, el, eh⟩ := unfold_eq_node hs hr e
    have hf : findNode s ⟨v, n.lo, n.hi⟩ = some i := ev ▸ hs.findNode_eq hn
    simp only [refOf, ihL nl el, ihH nh eh, hf]
    rw [Ref.eq_of_idx? hi, ec]

theorem refOf_unfold {s : Store} (hs : StoreOK s) {r : Ref} (hr : r.ValidIn s) :
    refOf s (unfold s r) = some r := refOf_unfold_aux hs _ hr rfl

/-! ## KEY LEMMA: `unfold` is injective on valid references -/

/-- **pointer identity = structural equality**: in a store satisfying the invariant, two valid
references that unfold to the same tree are the same reference (both are what `refOf` finds) -/
theorem unfold_inj {s : Store} (hs : StoreOK s) {a b : Ref} (ha : a.ValidIn s) (hb : b.ValidIn s)
    (h : unfold s a = unfold s b) : a = b :=
  Option.some.inj ((refOf_unfold hs ha).symm.trans (h ▸ refOf_unfold hs hb))

theorem unfold_eq_iff {s : Store} (hs : StoreOK s) {a b : Ref} (ha : a.ValidIn s) (hb : b.ValidIn s) :
    unfold s a = unfold s b ↔ a = b :=
  ⟨unfold_inj hs ha hb, fun h => by rw [h]⟩

/-- the invariant is needed: with a duplicate node two different references unfold alike -/
example : unfold [⟨0, .fls, .tru⟩, ⟨0, .fls, .tru⟩] (.reg 0) = unfold [⟨0, .fls, .tru⟩, ⟨0, .fls, .tru⟩] (.reg 1)
    ∧ Ref.reg 0 ≠ Ref.reg 1 := by decide

theorem refOf_some {s : Store} (hs : StoreOK s) : ∀ {P : Ptr} {r : Ref}, refOf s P = some r →
    r.ValidIn s ∧ unfold s r = P := by
  intro P
  induction P with
  | tru => intro r h; cases h; exact ⟨validIn_tru s, unfold_tru s⟩
  | fls => intro r h; cases h; exact ⟨validIn_fls s, unfold_fls s⟩
  | node c v L H ihL ihH =>
    intro r h
    simp only [refOf] at h
    split at h
    · rename_i l hh hl hhh
      split at h
      · rename_i i hf
        cases h
        have hn := findNode_some hf
        have hidx : (if c = true then Ref.compl i else Ref.reg i).idx? = some i := by cases c <;> rfl
        refine ⟨?_, ?_⟩
        · cases c
          · exact validIn_reg (nodeAt_lt hn)
          · exact validIn_compl (nodeAt_lt hn)
        · rw [unfold_of_nodeAt hs hidx hn, (ihL hl).2, (ihH hhh).2]; cases c <;> rfl
      · cases h
    · cases h

/-! ## `get_or_insert` -/

/-- the outcome `o = (table, reference)` of a call that only allocates: the invariant is kept, the
table `s` is only appended to, the reference is valid and unfolds to `P` -/
def Grows (s : Store) (o : Store × Ref) (P : Ptr) : Prop :=
  StoreOK o.1 ∧ Extends o.1 s ∧ o.2.ValidIn o.1 ∧ unfold o.1 o.2 = P

section
variable {s : Store} {o : Store × Ref} {P : Ptr}
theorem Grows.ok (h : Grows s o P) : StoreOK o.1 := h.1
theorem Grows.ext (h : Grows s o P) : Extends o.1 s := h.2.1
theorem Grows.valid (h : Grows s o P) : o.2.ValidIn o.1 := h.2.2.1
theorem Grows.unfold (h : Grows s o P) : unfold o.1 o.2 = P := h.2.2.2
/-- the frame: a reference of the old table is one of the new table, with the same unfolding -/
theorem Grows.keep (h : Grows s o P) {p : Ref} (hp : p.ValidIn s) :
    p.ValidIn o.1 ∧ Scratch.unfold o.1 p = Scratch.unfold s p :=
  ⟨validIn_extends h.ext hp, unfold_extends h.ext hp⟩
end

theorem insertRaw_grows {s : Store} (hs : StoreOK s) {n : Node} (hl : n.lo.ValidIn s) (hh : n.hi.ValidIn s)
    {r : Ref} (hr : r.idx? = some (insertRaw s n).2) :
    Grows s ((insertRaw s n).1, r) (.node r.isNeg n.var (unfold s n.lo) (unfold s n.hi)) := by
  have hext := insertRaw_extends s n
  have ⟨h1, h2⟩ : StoreOK (insertRaw s n).1 ∧ nodeAt (insertRaw s n).1 (insertRaw s n).2 = some n := by
    simp only [insertRaw]
    split
    · rename_i i hf; exact ⟨hs, findNode_some hf⟩
    · rename_i hf; exact ⟨⟨hl, hh, hf, hs⟩, nodeAt_cons_self ..⟩
  refine ⟨h1, hext, fun j hj => ?_, ?_⟩
  · rw [hr] at hj; cases hj; exact nodeAt_lt h2
  · rw [unfold_of_nodeAt h1 hr h2, unfold_extends hext hl, unfold_extends hext hh]

theorem insertRaw_red {s : Store} (hr : StoreRed s) {n : Node}
    (hn : n.lo ≠ n.hi ∧ n.hi.isNeg = false ∧ n.hi ≠ .fls) : StoreRed (insertRaw s n).1 := by
  simp only [insertRaw]
  split
  · exact hr
  · intro m hm
    rcases List.mem_cons.1 hm with rfl | hm
    · exact hn
    · exact hr m hm

theorem getOrInsert_spec {s : Store} (hs : StoreOK s) {x : Nat} {lo hi : Ref}
    (hl : lo.ValidIn s) (hh : hi.ValidIn s) :
    Grows s (getOrInsert s ⟨x, lo, hi⟩) (mkNode x (unfold s lo) (unfold s hi)) := by
  have hcond : (hi.isNeg || hi == Ref.fls) = ((unfold s hi).isNeg || (unfold s hi).isFalse) := by
    rw [isNeg_unfold hs hh, isFalse_unfold hs hh]; cases hi <;> rfl
  simp only [getOrInsert, mkNode]
  rw [← hcond]
  split
  · have := insertRaw_grows hs (n := ⟨x, lo.neg, hi.neg⟩) (validIn_neg hl) (validIn_neg hh) (r := .compl _) rfl
    rwa [unfold_neg, unfold_neg] at this
  · exact insertRaw_grows hs (n := ⟨x, lo, hi⟩) hl hh (r := .reg _) rfl

/-- `get_or_insert` stores a regular, non-false high edge: the test it normalises on -/
theorem Ref.neg_regular : ∀ {r : Ref}, (r.isNeg || r == .fls) = true → r.neg.isNeg = false ∧ r.neg ≠ .fls
  | .fls, _ => ⟨rfl, Ref.noConfusion⟩
  | .compl _, _ => ⟨rfl, Ref.noConfusion⟩
  | .tru, h => nomatch h
  | .reg _, h => nomatch h

theorem Ref.regular : ∀ {r : Ref}, ¬(r.isNeg || r == .fls) = true → r.isNeg = false ∧ r ≠ .fls
  | .tru, _ => ⟨rfl, Ref.noConfusion⟩
  | .reg _, _ => ⟨rfl, Ref.noConfusion⟩
  | .fls, h => absurd rfl h
  | .compl _, h => absurd rfl h

theorem getOrInsert_red {s : Store} (hr : StoreRed s) {x : Nat} {lo hi : Ref} (hne : lo ≠ hi) :
    StoreRed (getOrInsert s ⟨x, lo, hi⟩).1 := by
  simp only [getOrInsert]
  split
  · rename_i hc; exact insertRaw_red hr ⟨fun e => hne (Ref.neg_inj e), Ref.neg_regular hc⟩
  · rename_i hc; exact insertRaw_red hr ⟨hne, Ref.regular hc⟩

/-- the table operation is find-or-append (the behaviour `C02Table.table_refines_set` proves of
the robin-hood table: a hit returns the index holding the key and changes nothing, a miss
appends the key at index `len`) -/
theorem insertRaw_find_or_append (s : Store) (n : Node) :
    (n ∈ s → (insertRaw s n).1 = s) ∧
    (n ∉ s → (insertRaw s n).1 = n :: s ∧ (insertRaw s n).2 = s.length) ∧
    nodeAt (insertRaw s n).1 (insertRaw s n).2 = some n := by
  simp only [insertRaw]
  cases hf : findNode s n with
  | none =>
    have := findNode_none_iff.1 hf
    exact ⟨fun h => absurd h this, fun _ => ⟨rfl, rfl⟩, nodeAt_cons_self ..⟩
  | some i =>
    have hn := findNode_some hf
    exact ⟨fun _ => rfl, fun h => absurd (nodeAt_mem hn) h, hn⟩

/-- in a reduced table every valid reference unfolds to a reduced diagram (no node with equal
children, every high edge regular and not false) -/
theorem unfold_red {s : Store} (hs : StoreOK s) (hr : StoreRed s) {r : Ref} (hv : r.ValidIn s) :
    (unfold s r).red := by
  generalize e : unfold s r = P
  induction P generalizing r with
  | tru => trivial
  | fls => trivial
  | node c v L H ihL ihH =>
    obtain ⟨i, n, hi, hn, nl, nh, _, _, el, eh⟩ := unfold_eq_node hs hv e
    obtain ⟨r1, r2, r3⟩ := hr n (nodeAt_mem hn)
    refine ⟨?_, ?_, ?_, ihL nl el, ihH nh eh⟩
    · rw [← el, ← eh]; exact fun e' => r1 (unfold_inj hs nl nh e')
    · rw [← eh, isNeg_unfold hs nh]; exact r2
    · exact fun e' => r3 (unfold_eq_fls hs nh (eh.trans e'))

#print axioms unfold_inj
#print axioms refOf_unfold
end BddStore
