import RsddModel.Model.Orders
import RsddModel.Model.OrdersExtra
/-!
# Support definitions for the translator route of the order heuristics of `src/repr/cnf.rs`
(`tools/gen_cnford.py` ↦ `Model/GenCnfOrd.lean`, tied in `Props/TieCnfOrd.lean`)

Loop combinators of the translator's mapping table and the facts that turn an index loop
`for i in a..v.len() { … v[i] … }` into list recursion (the shape of the hand-written model).
-/
namespace Orders.Tr

/-- `for (idx, x) in it.enumerate() { … }` -/
def forEnum {α σ : Type} (l : List α) (s : σ) (f : Nat → α → σ → σ) : σ :=
  (l.zipIdx).foldl (fun s p => f p.2 p.1 s) s

/-- `it.enumerate()` in value position: pairs `(index, element)` -/
def enumerate {α : Type} (l : List α) : List (Nat × α) := (List.range l.length).zip l

/-- `while c { body }` with fuel (the state is returned unchanged when the fuel runs out) -/
def whileFuel {σ : Type} : Nat → (σ → Bool) → (σ → σ) → σ → σ
  | 0, _, _, s => s
  | n + 1, c, b, s => if c s then whileFuel n c b (b s) else s

/-- `loop { body; if c { break; } }` with fuel: `none` when the fuel runs out; `c` is the exit test as a
function of the state BEFORE the iteration -/
def loopFuel {σ : Type} : Nat → (σ → σ) → (σ → Bool) → σ → Option σ
  | 0, _, _, _ => none
  | n + 1, b, c, s => if c s then some (b s) else loopFuel n b c (b s)

/-- `Iterator::min_by(cmp)`: the FIRST minimum (the running best `x` is replaced by a later `y`
only when `cmp x y == Greater`) -/
def minBy {α : Type} (cmp : α → α → Ordering) : List α → Option α
  | [] => none
  | x :: xs => some (xs.foldl (fun best y => if cmp best y = .gt then y else best) x)

/-- recursion over the suffixes of a list: `G x rest` for every element `x` followed by `rest` -/
def dropRec {α σ : Type} (G : α → List α → σ → σ) : List α → σ → σ
  | [], s => s
  | x :: r, s => dropRec G r (G x r s)

/-- `for j in i..l.len() { s = F j s }` where `F j` looks at `l[j]` and `l[j+1..]` -/
theorem forRange_dropRec {α σ : Type} (F : Nat → σ → σ) (G : α → List α → σ → σ) (l : List α) (d : α)
    (hF : ∀ j s, j < l.length → F j s = G (l.getD j d) (l.drop (j + 1)) s) (i : Nat) (s : σ) :
    forRange i l.length F s = dropRec G (l.drop i) s := by
  unfold forRange
  generalize hk : l.length - i = k
  induction k generalizing i s with
  | zero => rw [List.drop_eq_nil_of_le (Nat.le_of_sub_eq_zero hk)]; rfl
  | succ k ih =>
    have hi : i < l.length := Nat.lt_of_sub_eq_succ hk
    rw [List.range'_succ, List.foldl_cons, List.drop_eq_getElem_cons hi, dropRec, hF i s hi,
      ih (i + 1) _ (by rw [Nat.sub_add_eq, hk, Nat.add_sub_cancel])]
    simp [List.getD_eq_getElem?_getD, List.getElem?_eq_getElem hi]

theorem dropRec_const {α σ : Type} (f : α → σ → σ) : ∀ (l : List α) (s : σ),
    dropRec (fun x _ s => f x s) l s = l.foldl (fun s x => f x s) s
  | [], _ => rfl
  | _ :: r, _ => dropRec_const f r _

/-- `for j in i..l.len() { s = F j s }` where `F j` only looks at `l[j]` is a fold over `l[i..]` -/
theorem forRange_drop_foldl {α σ : Type} (F : Nat → σ → σ) (f : α → σ → σ) (l : List α) (d : α)
    (hF : ∀ j s, j < l.length → F j s = f (l.getD j d) s) (i : Nat) (s : σ) :
    forRange i l.length F s = (l.drop i).foldl (fun s x => f x s) s := by
  rw [forRange_dropRec F (fun x _ s => f x s) l d hF, dropRec_const]

/-- `for v in 0..n { s = F v s }` as a fold over `List.range n` -/
theorem forRange_zero {σ : Type} (F : Nat → σ → σ) (n : Nat) (s : σ) :
    forRange 0 n F s = (List.range n).foldl (fun s v => F v s) s := by
  simp [forRange, List.range_eq_range']

/-! ### the model's recursions in fold / `dropRec` form -/

theorem igInner_eq_foldl (a : Nat) (l : List Spec.Lit) (g : UnGraph) :
    igInner a l g = l.foldl (fun g x => if g.hasEdge a x.var then g else g.addEdge a x.var) g := by
  induction l generalizing g with
  | nil => rfl
  | cons x xs ih => simp only [igInner, List.foldl_cons]; exact ih _

theorem igClause_eq_dropRec (c : List Spec.Lit) (g : UnGraph) :
    igClause c g = dropRec (fun x r g => igInner x.var (x :: r) g) c g := by
  induction c generalizing g with
  | nil => rfl
  | cons x xs ih => simp only [igClause, dropRec]; exact ih _

theorem fillInner_eq_foldl (a : Nat) (l : List Nat) (g : UnGraph) :
    fillInner a l g = l.foldl (fun g b => if g.hasEdge a b then g else g.addEdge a b) g := by
  induction l generalizing g with
  | nil => rfl
  | cons x xs ih => simp only [fillInner, List.foldl_cons]; exact ih _

theorem fillAll_eq_dropRec (l : List Nat) (g : UnGraph) :
    fillAll l g = dropRec (fun a r g => fillInner a r g) l g := by
  induction l generalizing g with
  | nil => rfl
  | cons x xs ih => simp only [fillAll, dropRec]; exact ih _

theorem count_foldl (p : Nat → Bool) (l : List Nat) (n : Nat) :
    l.foldl (fun s x => if p x then s + 1 else s) n = n + (l.filter p).length := by
  induction l generalizing n with
  | nil => simp
  | cons x xs ih =>
    simp only [List.foldl_cons, List.filter_cons]
    split <;> simp [ih] <;> omega

theorem countMissing_eq_dropRec (g : UnGraph) (l : List Nat) (n : Nat) :
    dropRec (fun a r s => s + (r.filter fun b => !g.hasEdge a b).length) l n = n + countMissing g l := by
  induction l generalizing n with
  | nil => simp [dropRec, countMissing]
  | cons x xs ih => simp only [dropRec, countMissing, ih]; omega

/-! ### `min_by` on `(index, key)` pairs is the model's `firstMinIdx` -/

theorem minBy_aux (f : Nat → Nat) : ∀ (k i b bv : Nat),
    (((List.range' i k).map fun x => (x, f x)).foldl
        (fun (best : Nat × Nat) y => if compare best.2 y.2 = .gt then y else best) (b, bv)).1
      = firstMinIdxAux ((List.range' i k).map f) i b bv := by
  intro k
  induction k with
  | zero => intro i b bv; rfl
  | succ k ih =>
    intro i b bv
    simp only [List.range'_succ, List.map_cons, List.foldl_cons, firstMinIdxAux]
    by_cases h : f i < bv
    · have : compare bv (f i) = .gt := by simp [Nat.compare_eq_gt, h]
      simp only [this, if_true, h]
      exact ih (i + 1) i (f i)
    · have : compare bv (f i) ≠ .gt := by simp [Nat.compare_eq_gt, h]
      simp only [this, if_false, h]
      exact ih (i + 1) b bv

theorem minBy_firstMinIdx (f : Nat → Nat) (n : Nat) :
    ((minBy (fun (p q : Nat × Nat) => compare p.2 q.2) ((List.range n).map fun x => (x, f x))).getD default).1
      = firstMinIdx ((List.range n).map f) := by
  cases n with
  | zero => rfl
  | succ n =>
    rw [List.range_eq_range', List.range'_succ]
    simp only [List.map_cons, minBy, firstMinIdx, Option.getD_some]
    exact minBy_aux f n 1 0 (f 0)

end Orders.Tr
