import RsddModel.Lemmas.SddWmc
import RsddModel.Lemmas.Semirings
import RsddModel.Lemmas.Scratch
/-!
# Lemmas: semantic hashing over `FiniteField<P>` — BDDs, SDDs, and the per-node hash cache

* `SROps.Hom`: counts commute with semiring homomorphisms (`Bdd.wmcAux_hom`, `Sdd.wmcAux_hom`).
  The raw operations `Sem.ffOps P` on `Nat` (what the executable model and the Rust compute) are
  the image of the field `Sem.ffOpsFF P` under `FF.v`, so every statement proved from the
  semiring laws transfers to the raw hash for weights `< P`.
* `Bdd.wmc_ff`, `Sdd.wmc_ff`: the raw count is the value of the count in the field, hence (by
  `wmc_free`, `wmc_dd` there) of the weighted sum of the denoted function.
* the *second* hash computation of the Rust (`cached_semantic_hash`: complemented pointer =
  `negate` of the regular one; binary node `low·low_w + high·high_w`; decision node a `u128` sum
  reduced once) computes the same number: `Sdd.hashTree_eq`, `Scratch.hashTreeB_eq`.
* the cache: for a FIXED prime and weight map, starting from a cache all of whose entries are
  hashes under that map (e.g. the empty one), every call returns the recomputed value and keeps
  the invariant (`Scratch.cachedHash_ok`, `Sdd.cachedHash_ok`; sequences: `…Seq_ok`).
-/

/-- a homomorphism of operation records -/
structure SROps.Hom {α β : Type} (φ : β → α) (S' : SROps β) (S : SROps α) : Prop where
  zero : φ S'.zero = S.zero
  one : φ S'.one = S.one
  add : ∀ x y, φ (S'.add x y) = S.add (φ x) (φ y)
  mul : ∀ x y, φ (S'.mul x y) = S.mul (φ x) (φ y)

namespace Spec
/-- push weights through a map -/
def mapW {α β : Type} (φ : β → α) (w : Weights β) : Weights α := fun v => (φ (w v).1, φ (w v).2)
end Spec

open Spec

namespace Bdd
variable {α β : Type} {S : SROps α} {S' : SROps β} {φ : β → α}

theorem wmcAux_hom (hφ : SROps.Hom φ S' S) (w : Weights β) : ∀ (p : Ptr) (n : Bool),
    wmcAux S (mapW φ w) p n = φ (wmcAux S' w p n)
  | .tru, n => by cases n <;> simp [wmcAux, hφ.zero, hφ.one]
  | .fls, n => by cases n <;> simp [wmcAux, hφ.zero, hφ.one]
  | .node c v lo hi, n => by
    simp only [wmcAux, hφ.add, hφ.mul, wmcAux_hom hφ w lo, wmcAux_hom hφ w hi, mapW]

end Bdd

namespace Sdd
variable {α β : Type} {S : SROps α} {S' : SROps β} {φ : β → α}

mutual
theorem wmcAux_hom (hφ : SROps.Hom φ S' S) (w : Weights β) : ∀ (p : Ptr) (n : Bool),
    wmcAux S (mapW φ w) p n = φ (wmcAux S' w p n)
  | .tru, n => by cases n <;> simp [wmcAux, hφ.zero, hφ.one]
  | .fls, n => by cases n <;> simp [wmcAux, hφ.zero, hφ.one]
  | .lit v pol, n => by simp only [wmcAux, mapW]; split <;> rfl
  | .bdd c l i lo hi, n => by
    simp only [wmcAux, hφ.add, hφ.mul, hφ.zero, wmcAux_hom hφ w lo, wmcAux_hom hφ w hi, mapW]
  | .dec c i es, n => by
    simp only [wmcAux]; rw [← hφ.zero]; exact wmcElems_hom hφ w (xor c n) es S'.zero
theorem wmcElems_hom (hφ : SROps.Hom φ S' S) (w : Weights β) (m : Bool) :
    ∀ (es : List (Ptr × Ptr)) (acc : β),
    wmcElems S (mapW φ w) m es (φ acc) = φ (wmcElems S' w m es acc)
  | [], acc => rfl
  | (p, s) :: rest, acc => by
    simp only [wmcElems, wmcAux_hom hφ w p, wmcAux_hom hφ w s, ← hφ.mul, ← hφ.add]
    exact wmcElems_hom hφ w m rest _
end

end Sdd

/-! ## the field and its raw image -/
namespace Sem

theorem ffHom (P : Nat) (h0 : 0 < P) : SROps.Hom FF.v (ffOpsFF P h0) (ffOps P) :=
  ⟨rfl, rfl, fun _ _ => rfl, fun _ _ => rfl⟩

/-- weights reduced into the field -/
def liftW {P : Nat} (h0 : 0 < P) (w : Weights Nat) : Weights (FF P) :=
  fun v => (FF.new h0 (w v).1, FF.new h0 (w v).2)

/-- every weight is a residue -/
def WBelow (P : Nat) (w : Weights Nat) : Prop := ∀ v, (w v).1 < P ∧ (w v).2 < P

theorem mapW_liftW {P : Nat} (h0 : 0 < P) {w : Weights Nat} (hw : WBelow P w) :
    mapW FF.v (liftW h0 w) = w := by
  funext v
  simp only [mapW, liftW, FF.new, ffNew, Nat.mod_eq_of_lt (hw v).1, Nat.mod_eq_of_lt (hw v).2]

theorem liftW_normalised {P : Nat} (h0 : 0 < P) {w : Weights Nat} (hw : WBelow P w) {vars : List Nat}
    (hn : Normalised (ffOps P) w vars) : Normalised (ffOpsFF P h0) (liftW h0 w) vars := by
  intro v hv
  apply FF.ext
  have := hn v hv
  simp only [ffOps] at this
  show ffAdd P (ffNew P (w v).1) (ffNew P (w v).2) = ffNew P 1
  simp only [ffNew, Nat.mod_eq_of_lt (hw v).1, Nat.mod_eq_of_lt (hw v).2]
  exact this

theorem FF.add_sub {P : Nat} (x y : FF P) : (x.add y).sub y = x :=
  FF.ext (ff_add_sub x.lt y.lt)

theorem FF.add_right_cancel {P : Nat} {x y z : FF P} (h : x.add z = y.add z) : x = y := by
  rw [← FF.add_sub x z, h, FF.add_sub]

/-- `negate` is the unique solution of `y + x = 1` -/
theorem FF.eq_negate {P : Nat} {x y : FF P} (h : y.add x = FF.new x.pos 1) : y = x.negate :=
  FF.add_right_cancel (h.trans (FF.negate_add x).symm)

theorem ffNew_idem (P x : Nat) : ffNew P (ffNew P x) = ffNew P x := Nat.mod_mod _ _
theorem ffNew_ffAdd (P a b : Nat) : ffNew P (ffAdd P a b) = ffAdd P a b := by
  simp only [ffAdd, ffNew_idem]

end Sem

open Sem

/-! ## from the field to the raw operations -/

namespace Bdd

/-- the raw count is the value of the count in the field -/
theorem wmc_ff {P : Nat} (h0 : 0 < P) {w : Weights Nat} (hw : WBelow P w) (p : Ptr) (n : Bool) :
    wmcAux (ffOps P) w p n = (wmcAux (ffOpsFF P h0) (liftW h0 w) p n).v := by
  rw [← wmcAux_hom (ffHom P h0), mapW_liftW h0 hw]

end Bdd

namespace Sdd

theorem wmc_ff {P : Nat} (h0 : 0 < P) {w : Weights Nat} (hw : WBelow P w) (p : Ptr) (n : Bool) :
    wmcAux (ffOps P) w p n = (wmcAux (ffOpsFF P h0) (liftW h0 w) p n).v := by
  rw [← wmcAux_hom (ffHom P h0), mapW_liftW h0 hw]

/-! ## `cached_semantic_hash` (tree level) computes the same number -/

section hashTree
variable {P : Nat} (h0 : 0 < P) (hP : P < 2 ^ 128) {w : Weights Nat} (hw : WBelow P w)

/-- the count in the field -/
abbrev X (p : Ptr) : FF P := wmcAux (ffOpsFF P h0) (liftW h0 w) p false

include hw in
theorem liftW_v (v : Nat) : ((liftW h0 w v).1).v = (w v).1 ∧ ((liftW h0 w v).2).v = (w v).2 := by
  simp only [liftW, FF.new, ffNew, Nat.mod_eq_of_lt (hw v).1, Nat.mod_eq_of_lt (hw v).2, and_self]

include hP hw in
/-- complemented pointer: `negate` of the regular pointer's count -/
theorem X_neg {p : Ptr} (hd : DD p) (hn : ∀ v ∈ p.vars, ffAdd P (w v).1 (w v).2 = ffNew P 1) :
    wmcAux (ffOpsFF P h0) (liftW h0 w) p true = (X h0 (w := w) p).negate := by
  apply FF.eq_negate
  have hN : ∀ v ∈ p.vars, (ffOpsFF P h0).add (liftW h0 w v).1 (liftW h0 w v).2 = (ffOpsFF P h0).one :=
    liftW_normalised h0 hw (vars := p.vars) hn
  have := wmc_add_neg (ffLaws P h0 hP) (liftW h0 w) hd hN
  rw [(ffLaws P h0 hP).add_comm, ← wmcAux_true] at this
  exact this

mutual
theorem hashTree_X (hP : P < 2 ^ 128) (hw : WBelow P w) : ∀ (p : Ptr), DD p → (∀ v ∈ p.vars, ffAdd P (w v).1 (w v).2 = ffNew P 1) →
    hashTree P w p = (X h0 (w := w) p).v
  | .tru, _, _ => rfl
  | .fls, _, _ => rfl
  | .lit v pol, _, _ => by
    simp only [hashTree, X, wmcAux, Bool.xor_false]
    cases pol
    · exact (liftW_v h0 hw v).1.symm
    · exact (liftW_v h0 hw v).2.symm
  | .bdd c l i lo hi, hd, hn => by
    have hL := ffLaws P h0 hP
    have ihlo := hashTree_X hP hw lo hd.2.2.1 fun v hv => hn v (List.mem_cons_of_mem _ (List.mem_append_left _ hv))
    have ihhi := hashTree_X hP hw hi hd.2.2.2 fun v hv => hn v (List.mem_cons_of_mem _ (List.mem_append_right _ hv))
    have hreg : Sem.ffAdd P (Sem.ffMul P (hashTree P w lo) (w l).1) (Sem.ffMul P (hashTree P w hi) (w l).2) =
        (X h0 (w := w) (.bdd false l i lo hi)).v := by
      rw [ihlo, ihhi, ← (liftW_v h0 hw l).1, ← (liftW_v h0 hw l).2]
      show (((X h0 lo).mul (liftW h0 w l).1).add ((X h0 hi).mul (liftW h0 w l).2)).v = _
      apply congrArg FF.v
      simp only [X, wmcAux, Bool.xor_false]
      show (ffOpsFF P h0).add ((ffOpsFF P h0).mul _ _) ((ffOpsFF P h0).mul _ _) = _
      rw [Bdd.sr_zero_add hL, hL.add_comm, hL.mul_comm _ (liftW h0 w l).2, hL.mul_comm _ (liftW h0 w l).1]
    cases c
    · simp only [hashTree, Bool.false_eq_true, if_false]; exact hreg
    · simp only [hashTree, if_true]
      rw [hreg]
      exact congrArg FF.v (X_neg h0 hP hw (p := .bdd false l i lo hi) hd hn).symm
  | .dec c i es, hd, hn => by
    have hreg : Sem.ffNew P (hashElems P w es) = (X h0 (w := w) (.dec false i es)).v := by
      simp only [X, wmcAux, Bool.xor_false]
      rw [hashElems_X hP hw es hd.2 hn]
      show _ = ((ffNew P 0) + _) % P
      simp [ffNew]
    cases c
    · simp only [hashTree, Bool.false_eq_true, if_false]; exact hreg
    · simp only [hashTree, if_true]
      rw [hreg]
      exact congrArg FF.v (X_neg h0 hP hw (p := .dec false i es) hd hn).symm
/-- the `u128` sum over the elements, reduced once, is the field's sum -/
theorem hashElems_X (hP : P < 2 ^ 128) (hw : WBelow P w) : ∀ (es : List (Ptr × Ptr)), DDElems es →
    (∀ v ∈ varsElems es, ffAdd P (w v).1 (w v).2 = ffNew P 1) → ∀ acc : FF P,
    (wmcElems (ffOpsFF P h0) (liftW h0 w) false es acc).v = (acc.v + hashElems P w es) % P
  | [], _, _, acc => by simp [wmcElems, hashElems, Nat.mod_eq_of_lt acc.lt]
  | (p, s) :: rest, hd, hn, acc => by
    have hp := hashTree_X hP hw p hd.1.2.1 fun v hv => hn v (List.mem_append_left _ hv)
    have hs := hashTree_X hP hw s hd.1.2.2 fun v hv =>
      hn v (List.mem_append_right _ (List.mem_append_left _ hv))
    simp only [wmcElems, hashElems]
    rw [hashElems_X hP hw rest hd.2 (fun v hv => hn v (List.mem_append_right _ (List.mem_append_right _ hv))),
      hp, hs]
    show (ffAdd P acc.v (ffMul P _ _) + _) % P = _
    rw [ffAdd_spec, Nat.mod_add_mod, Nat.add_assoc]
end

include h0 hP hw in
/-- **the two hash computations of the Rust agree**: `SddPtr::cached_semantic_hash` (as a function
of the tree) is `DDNNFPtr::semantic_hash` -/
theorem hashTree_eq {p : Ptr} (hd : DD p) (hn : ∀ v ∈ p.vars, ffAdd P (w v).1 (w v).2 = ffNew P 1) :
    hashTree P w p = semanticHash P w p := by
  rw [hashTree_X h0 hP hw p hd hn, semanticHash, wmc, wmc_ff h0 hw]

end hashTree
end Sdd

/-! ## the BDD side: `BddPtr::cached_semantic_hash` -/
namespace Scratch
open Bdd

/-- `BddPtr::cached_semantic_hash` / `BddNode::semantic_hash` as a function of the tree (every
cache miss): a complemented pointer is `negate` of the regular one -/
def hashTreeB (P : Nat) (w : Weights Nat) : Bdd.Ptr → Nat
  | .tru => Sem.ffNew P 1
  | .fls => Sem.ffNew P 0
  | .node c v lo hi =>
    let h := Sem.ffAdd P (Sem.ffMul P (hashTreeB P w lo) (w v).1) (Sem.ffMul P (hashTreeB P w hi) (w v).2)
    if c then Sem.ffNegate P h else h

section
variable {P : Nat} (h0 : 0 < P) (hP : P < 2 ^ 128) {w : Weights Nat} (hw : WBelow P w)

include hP hw in
theorem hashTreeB_X : ∀ (p : Bdd.Ptr), (∀ v ∈ p.vars, ffAdd P (w v).1 (w v).2 = ffNew P 1) →
    hashTreeB P w p = (Bdd.wmcAux (ffOpsFF P h0) (liftW h0 w) p false).v
  | .tru, _ => rfl
  | .fls, _ => rfl
  | .node c v lo hi, hn => by
    have hL := ffLaws P h0 hP
    have ihlo := hashTreeB_X lo (fun u hu => hn u (by simp [Bdd.Ptr.vars, hu]))
    have ihhi := hashTreeB_X hi (fun u hu => hn u (by simp [Bdd.Ptr.vars, hu]))
    have hreg : Sem.ffAdd P (Sem.ffMul P (hashTreeB P w lo) (w v).1) (Sem.ffMul P (hashTreeB P w hi) (w v).2) =
        (Bdd.wmcAux (ffOpsFF P h0) (liftW h0 w) (.node false v lo hi) false).v := by
      rw [ihlo, ihhi, ← (Sdd.liftW_v h0 hw v).1, ← (Sdd.liftW_v h0 hw v).2]
      show (FF.add (FF.mul _ _) (FF.mul _ _)).v = _
      apply congrArg FF.v
      simp only [Bdd.wmcAux, Bool.xor_false]
      show (ffOpsFF P h0).add ((ffOpsFF P h0).mul _ _) ((ffOpsFF P h0).mul _ _) = _
      rw [hL.mul_comm _ (liftW h0 w v).2, hL.mul_comm _ (liftW h0 w v).1]
    cases c
    · simp only [hashTreeB, Bool.false_eq_true, if_false]; exact hreg
    · simp only [hashTreeB, if_true]
      rw [hreg]
      show (FF.negate _).v = _
      apply congrArg FF.v
      symm
      apply FF.eq_negate
      have hN : ∀ u ∈ (Bdd.Ptr.node false v lo hi).vars,
          (ffOpsFF P h0).add (liftW h0 w u).1 (liftW h0 w u).2 = (ffOpsFF P h0).one :=
        liftW_normalised h0 hw (vars := (Bdd.Ptr.node false v lo hi).vars) hn
      have := Bdd.wmcAux_add hL (liftW h0 w) (.node false v lo hi) hN
      rw [hL.add_comm] at this
      exact this

include h0 hP hw in
/-- `cached_semantic_hash` (as a function of the tree) is `semantic_hash` (the fold), for every
diagram, free or not -/
theorem hashTreeB_eq {p : Bdd.Ptr} (hn : ∀ v ∈ p.vars, ffAdd P (w v).1 (w v).2 = ffNew P 1) :
    hashTreeB P w p = Bdd.wmc (ffOps P) w p := by
  rw [hashTreeB_X h0 hP hw p hn, Bdd.wmc, Bdd.wmc_ff h0 hw]

end

/-! ### the cache -/

/-- every entry of the cache (at a node of the store) is that node's hash under THIS prime and
weight map -/
def CacheOK (P : Nat) (w : Weights Nat) (s : Store) (c : HashCache) : Prop :=
  ∀ i h, i < s.length → c i = some h → h = hashTreeB P w (unfold s (.reg i))

theorem cacheOK_empty (P : Nat) (w : Weights Nat) (s : Store) : CacheOK P w s (fun _ => none) :=
  fun _ _ _ h => by cases h

theorem cacheOK_tail {P : Nat} {w : Weights Nat} {n : Node} {rest : Store} {c : HashCache}
    (h : CacheOK P w (n :: rest) c) : CacheOK P w rest c := by
  intro i x hi hc
  have := h i x (Nat.lt_succ_of_lt hi) hc
  rwa [unfold_cons_ne n rest (r := .reg i) rfl (Nat.ne_of_lt hi)] at this

theorem hashTreeB_node_false (P : Nat) (w : Weights Nat) (v : Nat) (lo hi : Bdd.Ptr) :
    Sem.ffNew P (hashTreeB P w (.node false v lo hi)) = hashTreeB P w (.node false v lo hi) := by
  simp only [hashTreeB, Bool.false_eq_true, if_false, ffNew_ffAdd]

/-- the head node through a complemented reference: `negate` of what the regular reference
returns, and the same cache -/
theorem cachedHash_compl_head (P : Nat) (w : Weights Nat) (n : Node) (rest : Store) (c : HashCache) :
    cachedHash P w (n :: rest) (.compl rest.length) c =
      (Sem.ffNegate P (cachedHash P w (n :: rest) (.reg rest.length) c).1,
        (cachedHash P w (n :: rest) (.reg rest.length) c).2) := by
  simp only [cachedHash, if_true]

/-- one call: the returned value is the recomputed hash, the invariant is kept, entries outside
the store are untouched -/
theorem cachedHash_ok (P : Nat) (w : Weights Nat) : ∀ (s : Store) (r : Ref) (c : HashCache),
    CacheOK P w s c →
    (cachedHash P w s r c).1 = hashTreeB P w (unfold s r) ∧ CacheOK P w s (cachedHash P w s r c).2 ∧
      ∀ j, s.length ≤ j → (cachedHash P w s r c).2 j = c j
  | [], r, c, h => by cases r <;> exact ⟨rfl, h, fun _ _ => rfl⟩
  | n :: rest, r, c, h => by
    have ih := cachedHash_ok P w rest
    have hu : ∀ r : Ref, r.idx? = some rest.length → unfold (n :: rest) r =
        .node r.isNeg n.var (unfold rest n.lo) (unfold rest n.hi) := fun r hr => unfold_cons_eq n rest hr
    -- a cache that is good for `rest` and agrees with `c` from the head on is good for the store
    have lift : ∀ {c' : HashCache}, CacheOK P w rest c' → (∀ j, rest.length ≤ j → c' j = c j) →
        CacheOK P w (n :: rest) c' := by
      intro c' h' hfr j x hj hcj
      by_cases hji : j = rest.length
      · rw [hfr j (Nat.le_of_eq hji.symm)] at hcj
        exact h j x hj hcj
      · rw [unfold_cons_ne n rest (r := .reg j) rfl hji]
        exact h' j x (Nat.lt_of_le_of_ne (Nat.le_of_lt_succ hj) hji) hcj
    -- a reference to an earlier node: the call on `rest`
    have below : ∀ (r : Ref) (i : Nat), r.idx? = some i → i ≠ rest.length →
        cachedHash P w (n :: rest) r c = cachedHash P w rest r c →
        (cachedHash P w (n :: rest) r c).1 = hashTreeB P w (unfold (n :: rest) r) ∧
          CacheOK P w (n :: rest) (cachedHash P w (n :: rest) r c).2 ∧
          ∀ j, (n :: rest).length ≤ j → (cachedHash P w (n :: rest) r c).2 j = c j := by
      intro r i hr hi e
      obtain ⟨a1, a2, a3⟩ := ih r c (cacheOK_tail h)
      rw [e, unfold_cons_ne n rest hr hi]
      exact ⟨a1, lift a2 a3, fun j hj => a3 j (Nat.le_of_succ_le hj)⟩
    -- the head node through a regular reference: a hit, or the two children and a new entry
    have head : (cachedHash P w (n :: rest) (.reg rest.length) c).1 =
          hashTreeB P w (.node false n.var (unfold rest n.lo) (unfold rest n.hi)) ∧
        CacheOK P w (n :: rest) (cachedHash P w (n :: rest) (.reg rest.length) c).2 ∧
        ∀ j, (n :: rest).length ≤ j → (cachedHash P w (n :: rest) (.reg rest.length) c).2 j = c j := by
      cases hc : c rest.length with
      | some x =>
        have hx := h rest.length x (Nat.lt_succ_self _) hc
        rw [hu (.reg rest.length) rfl] at hx
        simp only [cachedHash, if_true, hc]
        exact ⟨by rw [hx]; exact hashTreeB_node_false P w _ _ _, h, fun _ _ => trivial⟩
      | none =>
        obtain ⟨l1, l2, l3⟩ := ih n.lo c (cacheOK_tail h)
        obtain ⟨h1, h2, h3⟩ := ih n.hi _ l2
        have hv : Sem.ffAdd P (Sem.ffMul P (cachedHash P w rest n.lo c).1 (w n.var).1)
            (Sem.ffMul P (cachedHash P w rest n.hi (cachedHash P w rest n.lo c).2).1 (w n.var).2) =
            hashTreeB P w (.node false n.var (unfold rest n.lo) (unfold rest n.hi)) := by
          rw [l1, h1]; simp only [hashTreeB, Bool.false_eq_true, if_false]
        simp only [cachedHash, if_true, hc]
        refine ⟨hv, fun j x hj hcj => ?_, fun j hj => ?_⟩
        · by_cases hji : j = rest.length
          · subst hji
            simp only [if_true, Option.some.injEq] at hcj
            rw [← hcj, hu (.reg rest.length) rfl]; exact hv
          · simp only [hji, if_false] at hcj
            rw [unfold_cons_ne n rest (r := .reg j) rfl hji]
            exact h2 j x (Nat.lt_of_le_of_ne (Nat.le_of_lt_succ hj) hji) hcj
        · have hne : j ≠ rest.length := Nat.ne_of_gt hj
          simp only [hne, if_false]
          rw [h3 j (Nat.le_of_succ_le hj), l3 j (Nat.le_of_succ_le hj)]
    cases r with
    | tru => exact ⟨rfl, h, fun _ _ => rfl⟩
    | fls => exact ⟨rfl, h, fun _ _ => rfl⟩
    | reg i =>
      by_cases hi : i = rest.length
      · subst hi
        rw [hu (.reg rest.length) rfl]; exact head
      · exact below (.reg i) i rfl hi (by simp only [cachedHash, hi, if_false])
    | compl i =>
      by_cases hi : i = rest.length
      · subst hi
        rw [hu (.compl rest.length) rfl, cachedHash_compl_head]
        exact ⟨by rw [head.1]; rfl, head.2⟩
      · exact below (.compl i) i rfl hi (by simp only [cachedHash, hi, if_false])

/-- a sequence of `cached_semantic_hash` calls on roots of one store, threading the cache -/
def cachedHashSeq (P : Nat) (w : Weights Nat) (s : Store) : List Ref → HashCache → List Nat × HashCache
  | [], c => ([], c)
  | r :: rs, c =>
    let a := cachedHash P w s r c
    let b := cachedHashSeq P w s rs a.2
    (a.1 :: b.1, b.2)

theorem cachedHashSeq_ok (P : Nat) (w : Weights Nat) (s : Store) : ∀ (rs : List Ref) (c : HashCache),
    CacheOK P w s c →
    (cachedHashSeq P w s rs c).1 = rs.map (fun r => hashTreeB P w (unfold s r)) ∧
      CacheOK P w s (cachedHashSeq P w s rs c).2
  | [], c, h => ⟨rfl, h⟩
  | r :: rs, c, h => by
    obtain ⟨a1, a2, _⟩ := cachedHash_ok P w s r c h
    obtain ⟨b1, b2⟩ := cachedHashSeq_ok P w s rs _ a2
    exact ⟨by simp only [cachedHashSeq, List.map_cons, a1, b1], b2⟩

end Scratch

/-! ## the SDD side: the per-node cache of `SddPtr::cached_semantic_hash` -/
namespace Sdd

theorem unfold_reg_eq (n : Node) (rest : Store) :
    unfold (n :: rest) (.reg rest.length) = unfoldNodeWith (unfold rest) n false := by
  simp [unfold]
theorem unfold_compl_eq (n : Node) (rest : Store) :
    unfold (n :: rest) (.compl rest.length) = unfoldNodeWith (unfold rest) n true := by
  simp [unfold]
theorem unfold_reg_ne (n : Node) (rest : Store) {i : Nat} (h : i ≠ rest.length) :
    unfold (n :: rest) (.reg i) = unfold rest (.reg i) := by
  simp [unfold, h]
theorem unfold_compl_ne (n : Node) (rest : Store) {i : Nat} (h : i ≠ rest.length) :
    unfold (n :: rest) (.compl i) = unfold rest (.compl i) := by
  simp [unfold, h]

/-- the hash of a regular node pointer is already reduced -/
theorem hashTree_node_false (P : Nat) (w : Weights Nat) (f : Ref → Ptr) (n : Node) :
    Sem.ffNew P (hashTree P w (unfoldNodeWith f n false)) = hashTree P w (unfoldNodeWith f n false) := by
  cases n <;> simp [unfoldNodeWith, hashTree, ffNew_ffAdd, ffNew_idem]

theorem hashTree_node_true (P : Nat) (w : Weights Nat) (f : Ref → Ptr) (n : Node) :
    hashTree P w (unfoldNodeWith f n true) = Sem.ffNegate P (hashTree P w (unfoldNodeWith f n false)) := by
  cases n <;> simp [unfoldNodeWith, hashTree]

/-- every entry of the cache (at a node of the store) is that node's hash under THIS prime and
weight map -/
def CacheOK (P : Nat) (w : Weights Nat) (s : Store) (c : HashCache) : Prop :=
  ∀ i h, i < s.length → c i = some h → h = hashTree P w (unfold s (.reg i))

theorem cacheOK_empty (P : Nat) (w : Weights Nat) (s : Store) : CacheOK P w s (fun _ => none) :=
  fun _ _ _ h => by cases h

theorem cacheOK_tail {P : Nat} {w : Weights Nat} {n : Node} {rest : Store} {c : HashCache}
    (h : CacheOK P w (n :: rest) c) : CacheOK P w rest c := by
  intro i x hi hc
  have := h i x (Nat.lt_succ_of_lt hi) hc
  rwa [unfold_reg_ne n rest (Nat.ne_of_lt hi)] at this

/-- what the recursive call on the rest of the store is assumed to do -/
def FSpec (P : Nat) (w : Weights Nat) (rest : Store) (f : Ref → HashCache → Nat × HashCache) : Prop :=
  ∀ r c, CacheOK P w rest c →
    (f r c).1 = hashTree P w (unfold rest r) ∧ CacheOK P w rest (f r c).2 ∧
      ∀ j, rest.length ≤ j → (f r c).2 j = c j

theorem cachedElemsWith_ok {P : Nat} {w : Weights Nat} {rest : Store}
    {f : Ref → HashCache → Nat × HashCache} (hf : FSpec P w rest f) :
    ∀ (es : List (Ref × Ref)) (c : HashCache), CacheOK P w rest c →
    (cachedElemsWith P f es c).1 = hashElems P w (es.map fun e => (unfold rest e.1, unfold rest e.2)) ∧
      CacheOK P w rest (cachedElemsWith P f es c).2 ∧
      ∀ j, rest.length ≤ j → (cachedElemsWith P f es c).2 j = c j
  | [], c, h => ⟨rfl, h, fun _ _ => rfl⟩
  | (p, s) :: es, c, h => by
    obtain ⟨a1, a2, a3⟩ := hf p c h
    obtain ⟨b1, b2, b3⟩ := hf s _ a2
    obtain ⟨r1, r2, r3⟩ := cachedElemsWith_ok hf es _ b2
    refine ⟨?_, r2, fun j hj => ?_⟩
    · simp only [cachedElemsWith, List.map_cons, hashElems, a1, b1, r1]
    · simp only [cachedElemsWith]; rw [r3 j hj, b3 j hj, a3 j hj]

theorem cachedNodeWith_ok {P : Nat} {w : Weights Nat} {rest : Store}
    {f : Ref → HashCache → Nat × HashCache} (hf : FSpec P w rest f) (n : Node) (c : HashCache)
    (h : CacheOK P w (n :: rest) c) :
    (cachedNodeWith P w f n rest.length c).1 = hashTree P w (unfoldNodeWith (unfold rest) n false) ∧
      CacheOK P w (n :: rest) (cachedNodeWith P w f n rest.length c).2 ∧
      ∀ j, (n :: rest).length ≤ j → (cachedNodeWith P w f n rest.length c).2 j = c j := by
  have keep : ∀ (c' : HashCache) (v : Nat), CacheOK P w rest c' →
      v = hashTree P w (unfoldNodeWith (unfold rest) n false) →
      CacheOK P w (n :: rest) (fun j => if j = rest.length then some v else c' j) := by
    intro c' v hc' hv j x hj hcj
    by_cases hji : j = rest.length
    · subst hji
      simp only [if_true, Option.some.injEq] at hcj
      rw [← hcj, unfold_reg_eq, hv]
    · simp only [hji, if_false] at hcj
      rw [unfold_reg_ne n rest hji]
      exact hc' j x (Nat.lt_of_le_of_ne (Nat.le_of_lt_succ hj) hji) hcj
  cases hc : c rest.length with
  | some x =>
    have hx := h rest.length x (Nat.lt_succ_self _) hc
    rw [unfold_reg_eq] at hx
    cases n with
    | bdd l idx lo hi =>
      simp only [cachedNodeWith, hc]
      exact ⟨by rw [hx]; exact hashTree_node_false P w _ _, h, fun _ _ => trivial⟩
    | dec idx es =>
      simp only [cachedNodeWith, hc]
      exact ⟨by rw [hx]; exact hashTree_node_false P w _ _, h, fun _ _ => trivial⟩
  | none =>
    cases n with
    | bdd l idx lo hi =>
      obtain ⟨a1, a2, a3⟩ := hf lo c (cacheOK_tail h)
      obtain ⟨b1, b2, b3⟩ := hf hi _ a2
      simp only [cachedNodeWith, hc]
      have hv : Sem.ffAdd P (Sem.ffMul P (f lo c).1 (w l).1) (Sem.ffMul P (f hi (f lo c).2).1 (w l).2) =
          hashTree P w (unfoldNodeWith (unfold rest) (.bdd l idx lo hi) false) := by
        rw [a1, b1]; simp [unfoldNodeWith, hashTree]
      refine ⟨hv, keep _ _ b2 hv, fun j hj => ?_⟩
      have hne : j ≠ rest.length := Nat.ne_of_gt hj
      simp only [hne, if_false]
      rw [b3 j (Nat.le_of_succ_le hj), a3 j (Nat.le_of_succ_le hj)]
    | dec idx es =>
      obtain ⟨a1, a2, a3⟩ := cachedElemsWith_ok hf es c (cacheOK_tail h)
      simp only [cachedNodeWith, hc]
      have hv : Sem.ffNew P (cachedElemsWith P f es c).1 =
          hashTree P w (unfoldNodeWith (unfold rest) (.dec idx es) false) := by
        rw [a1]; simp [unfoldNodeWith, hashTree]
      refine ⟨hv, keep _ _ a2 hv, fun j hj => ?_⟩
      have hne : j ≠ rest.length := Nat.ne_of_gt hj
      simp only [hne, if_false]
      exact a3 j (Nat.le_of_succ_le hj)

/-- one call: the returned value is the recomputed hash, the invariant is kept, entries outside
the store are untouched -/
theorem cachedHash_ok (P : Nat) (w : Weights Nat) : ∀ (s : Store), FSpec P w s (cachedHash P w s)
  | [] => by
    intro r c h
    cases r <;> exact ⟨rfl, h, fun _ _ => rfl⟩
  | n :: rest => by
    have ih := cachedHash_ok P w rest
    have lift : ∀ {c c' : HashCache}, CacheOK P w (n :: rest) c → CacheOK P w rest c' →
        (∀ j, rest.length ≤ j → c' j = c j) → CacheOK P w (n :: rest) c' := by
      intro c c' h h' hfr j x hj hcj
      by_cases hji : j = rest.length
      · rw [hfr j (Nat.le_of_eq hji.symm)] at hcj; exact h j x hj hcj
      · rw [unfold_reg_ne n rest hji]
        exact h' j x (Nat.lt_of_le_of_ne (Nat.le_of_lt_succ hj) hji) hcj
    intro r c h
    cases r with
    | tru => exact ⟨rfl, h, fun _ _ => rfl⟩
    | fls => exact ⟨rfl, h, fun _ _ => rfl⟩
    | lit v pol => exact ⟨rfl, h, fun _ _ => rfl⟩
    | reg i =>
      by_cases hi : i = rest.length
      · subst hi
        obtain ⟨a1, a2, a3⟩ := cachedNodeWith_ok ih n c h
        simp only [cachedHash, if_true]
        exact ⟨by rw [a1, unfold_reg_eq], a2, a3⟩
      · obtain ⟨a1, a2, a3⟩ := ih (.reg i) c (cacheOK_tail h)
        simp only [cachedHash, hi, if_false]
        exact ⟨by rw [a1, unfold_reg_ne n rest hi], lift h a2 a3,
          fun j hj => a3 j (Nat.le_of_succ_le hj)⟩
    | compl i =>
      by_cases hi : i = rest.length
      · subst hi
        obtain ⟨a1, a2, a3⟩ := cachedNodeWith_ok ih n c h
        simp only [cachedHash, if_true]
        exact ⟨by rw [a1, unfold_compl_eq, hashTree_node_true], a2, a3⟩
      · obtain ⟨a1, a2, a3⟩ := ih (.compl i) c (cacheOK_tail h)
        simp only [cachedHash, hi, if_false]
        exact ⟨by rw [a1, unfold_compl_ne n rest hi], lift h a2 a3,
          fun j hj => a3 j (Nat.le_of_succ_le hj)⟩

theorem cachedHashes_ok (P : Nat) (w : Weights Nat) (s : Store) : ∀ (rs : List Ref) (c : HashCache),
    CacheOK P w s c →
    (cachedHashes P w s rs c).1 = rs.map (fun r => hashTree P w (unfold s r)) ∧
      CacheOK P w s (cachedHashes P w s rs c).2
  | [], c, h => ⟨rfl, h⟩
  | r :: rs, c, h => by
    obtain ⟨a1, a2, _⟩ := cachedHash_ok P w s r c h
    obtain ⟨b1, b2⟩ := cachedHashes_ok P w s rs _ a2
    exact ⟨by simp only [cachedHashes, List.map_cons, a1, b1], b2⟩

end Sdd
