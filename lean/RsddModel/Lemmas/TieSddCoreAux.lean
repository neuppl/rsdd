import RsddModel.Model.Sdd
/-!
# Auxiliary definitions for the translator route of the SDD builder core (static, hand-written)

`RsddModel/Model/GenSddCore.lean` (regenerated from the Rust text by `tools/gen_sddcore.py`) refers to
the few names defined here that have no literal counterpart in `Model/Sdd.lean`:

* `vtree?`, `vtreeIndex?` : `SddPtr::vtree()` / `SddBuilder::vtree_index` with their panics explicit;
* `isComplChoice` : `Ite::is_compl_choice` (the builder as it stands does not call it; a source that does still translates);
* `condBody`, `iteBody`, `iffBody`, `xorBody`, `existsBody`, `composeBody` : the bodies of the model's
  `condition`, `bIte`, `bIff`, `bXor`, `bExists`, `bCompose` with the recursive / derived calls abstracted
  (each with the theorem that the model definition IS that body);
* `…G` : the loops of the model re-parametrised the way the generated loops are (raw `node_iter()`
  elements plus the complement flag of the root, instead of the complement-adjusted element list).
  A generated loop carries every local of its function, hence the unused arguments `_cmpr`, `_i`, `_es`, `_vt`, `_andF`.
-/
namespace TieSddCoreAux
open Sdd

/-- `SddPtr::vtree()`; `none` = the panic on constants and literals -/
def vtree? : Ptr → Option Nat
  | .bdd _ _ i _ _ => some i
  | .dec _ i _ => some i
  | _ => none

/-- `SddBuilder::vtree_index` with the panic on constants explicit -/
def vtreeIndex? (vt : VTree) (p : Ptr) : Option Nat :=
  if p.isTrue || p.isFalse then none else some (vtreeIndex vt p)

def isComplChoice : Ite → Bool
  | .complChoice .. => true
  | _ => false

/-- complement-adjusted elements -/
def adj (c : Bool) (es : List Elem) : List Elem := if c then negSubs es else es

theorem isNeg_dec (c : Bool) (i : Nat) (es : List Elem) : (Ptr.dec c i es).isNeg = c := by cases c <;> rfl
theorem isNeg_bdd (c : Bool) (l i : Nat) (lo hi : Ptr) : (Ptr.bdd c l i lo hi).isNeg = c := by cases c <;> rfl

theorem adj_nil (c : Bool) : adj c [] = [] := by cases c <;> rfl
theorem adj_cons (c : Bool) (p s : Ptr) (l : List Elem) :
    adj c ((p, s) :: l) = (p, if c then s.neg else s) :: adj c l := by
  cases c <;> simp [adj, negSubs]

theorem elems?_eq (r : Ptr) : r.elems? = (r.nodeIter?).map (adj r.isNeg) := by
  cases r with
  | bdd c l i lo hi => cases c <;> simp [Ptr.elems?, Ptr.nodeIter?, Ptr.isNeg, adj, negSubs]
  | dec c i es => cases c <;> simp [Ptr.elems?, Ptr.nodeIter?, Ptr.isNeg, adj]
  | _ => rfl

/-! ## bodies with the recursive calls abstracted -/

section
variable {σ : Type}

/-- one unfolding of `Sdd.condition`, the recursive call being `condF` -/
def condBody (cmpr : Bool) (andF : AndF σ) (condF : σ → Ptr → Nat → Bool → Option (σ × Ptr))
    (st : σ) (f : Ptr) (x : Nat) (v : Bool) : Option (σ × Ptr) :=
  match f with
  | .tru => some (st, .tru)
  | .fls => some (st, .fls)
  | .lit l p => some (st, if l = x then (if p = v then .tru else .fls) else .lit l p)
  | .bdd c l i lo hi =>
    match condLoop (fun st p => condF st p x v) st
        [(.lit l true, if c then hi.neg else hi), (.lit l false, if c then lo.neg else lo)] with
    | none => none
    | some (st', .early r) => some (st', r)
    | some (st', .elems es) => canonicalize cmpr andF st' es i
  | .dec c i es =>
    match condLoop (fun st p => condF st p x v) st (if c then negSubs es else es) with
    | none => none
    | some (st', .early r) => some (st', r)
    | some (st', .elems es') => canonicalize cmpr andF st' es' i

theorem condition_succ (cmpr : Bool) (andF : AndF σ) (x : Nat) (v : Bool) (n : Nat) (st : σ) (f : Ptr) :
    Sdd.condition cmpr andF x v (n + 1) st f =
      condBody cmpr andF (fun st f _ _ => Sdd.condition cmpr andF x v n st f) st f x v := by
  cases f <;> rfl

def existsBody (andF : AndF σ) (condF : σ → Ptr → Nat → Bool → Option (σ × Ptr))
    (st : σ) (f : Ptr) (x : Nat) : Option (σ × Ptr) :=
  match condF st f x true with
  | none => none
  | some (s1, v1) =>
    match condF s1 f x false with
    | none => none
    | some (s2, v2) => orF andF s2 v1 v2

def iffBody {τ : Type} (iteF : τ → Ptr → Ptr → Ptr → Option (τ × Ptr)) (s : τ) (f g : Ptr) := iteF s f g g.neg
def xorBody {τ : Type} (iteF : τ → Ptr → Ptr → Ptr → Option (τ × Ptr)) (s : τ) (f g : Ptr) := iteF s f g.neg g
end

def iteBody (A : CacheImpl (Ptr × Ptr)) (I : CacheImpl (Ptr × Ptr × Ptr)) (vt : VTree) (andF : AndF A.σ)
    (s : A.σ × I.σ) (f g h : Ptr) : Option ((A.σ × I.σ) × Ptr) :=
  match Ite.new (primeOrd vt) f g h with
  | .const r => some (s, r)
  | key =>
    match iteCacheGet I s.2 key with
    | some v => some (s, v)
    | none =>
      match andF s.1 f g with
      | none => none
      | some (a1, fg) =>
        match andF a1 f.neg h with
        | none => none
        | some (a2, nfh) =>
          match orF andF a2 fg nfh with
          | none => none
          | some (a3, r) => some ((a3, iteCacheInsert I s.2 key r), r)

def composeBody (A : CacheImpl (Ptr × Ptr)) (I : CacheImpl (Ptr × Ptr × Ptr)) (andF : AndF A.σ)
    (iffF : A.σ × I.σ → Ptr → Ptr → Option ((A.σ × I.σ) × Ptr))
    (existsF : A.σ → Ptr → Nat → Option (A.σ × Ptr))
    (s : A.σ × I.σ) (f : Ptr) (x : Nat) (g : Ptr) : Option ((A.σ × I.σ) × Ptr) :=
  match iffF s (.lit x true) g with
  | none => none
  | some (s1, i) =>
    match andF s1.1 i f with
    | none => none
    | some (a2, c) =>
      match existsF a2 c x with
      | none => none
      | some (a3, r) => some ((a3, s1.2), r)

section
variable (A : CacheImpl (Ptr × Ptr)) (I : CacheImpl (Ptr × Ptr × Ptr)) (cfg : Config) (fuel : Nat)

theorem bIte_eq : bIte A I cfg fuel = iteBody A I cfg.vt (bAnd A cfg fuel) := by rfl
theorem bIff_eq : bIff A I cfg fuel = iffBody (bIte A I cfg fuel) := by rfl
theorem bXor_eq : bXor A I cfg fuel = xorBody (bIte A I cfg fuel) := by rfl
theorem bExists_eq :
    bExists A cfg fuel = existsBody (bAnd A cfg fuel) (fun st f x v => bCond A cfg fuel st f x v) := by
  funext s f x
  simp only [bExists, existsBody, bOr]; grind
theorem bCompose_eq :
    bCompose A I cfg fuel = composeBody A I (bAnd A cfg fuel) (bIff A I cfg fuel) (bExists A cfg fuel) := by rfl
theorem bOr_eq : bOr A cfg fuel = orF (bAnd A cfg fuel) := by rfl
end

/-! ## the loops of the model, parametrised as the generated loops are -/

section
variable {σ : Type}

def liftList (r : Option (σ × List Elem)) : Option (σ × LoopRes) :=
  match r with
  | none => none
  | some (st, v) => some (st, .elems v)

/-- loop of `and_sub_desc` over the raw elements of `Reg/Compl(or)` with complement flag `c` -/
def subDescLoopG (_cmpr : Bool) (andF : AndF σ) (d : Ptr) (c : Bool) (_i : Nat) (_es : List Elem)
    (st : σ) (l : List Elem) : Option (σ × LoopRes) :=
  liftList (subDescLoop andF d st (adj c l))

/-- inner loop of `and_prime_desc` for the element `a1` of `r` -/
def primeInnerG (_cmpr : Bool) (andF : AndF σ) (r : Ptr) (a1 : Elem) (st : σ) (l : List Elem) :
    Option (σ × LoopRes) :=
  innerLoop andF false a1.1 (if r.isNeg then a1.2.neg else a1.2) st l

/-- outer loop of `and_prime_desc` over the raw elements of `r` -/
def primeOuterG (_cmpr : Bool) (andF : AndF σ) (r d : Ptr) (st : σ) (l : List Elem) : Option (σ × LoopRes) :=
  prodLoop andF false [(d, .tru), (d.neg, .fls)] st (adj r.isNeg l)

/-- inner loop of `and_cartesian` over the raw elements of `b` -/
def cartInnerG (_vt : VTree) (_cmpr : Bool) (andF : AndF σ) (a b : Ptr) (a1 : Elem) (st : σ) (l : List Elem) :
    Option (σ × LoopRes) :=
  innerLoop andF true a1.1 (if a.isNeg then a1.2.neg else a1.2) st (adj b.isNeg l)

/-- outer loop of `and_cartesian` over the raw elements of `a` (`b.node_iter()` is evaluated per element) -/
def cartOuterG (_vt : VTree) (_cmpr : Bool) (andF : AndF σ) (a b : Ptr) (st : σ) (l : List Elem) :
    Option (σ × LoopRes) :=
  match l with
  | [] => some (st, .elems [])
  | _ :: _ =>
    match b.nodeIter? with
    | none => none
    | some eb => prodLoop andF true (adj b.isNeg eb) st (adj a.isNeg l)

/-- loop of `condition` over the raw elements of `f` -/
def condLoopG (_cmpr : Bool) (_andF : AndF σ) (condF : σ → Ptr → Nat → Bool → Option (σ × Ptr))
    (f : Ptr) (x : Nat) (v : Bool) (st : σ) (l : List Elem) : Option (σ × LoopRes) :=
  condLoop (fun st p => condF st p x v) st (adj f.isNeg l)

theorem find?_adj (c : Bool) (p1 : Ptr) (l : List Elem) :
    (adj c l).find? (fun e => e.1 = p1) =
      (l.find? (fun e => decide (e.1 = p1))).map (fun e => (e.1, if c then e.2.neg else e.2)) := by
  induction l with
  | nil => simp [adj_nil]
  | cons hd tl ih =>
    obtain ⟨p, s⟩ := hd
    rw [adj_cons]
    by_cases h : p = p1 <;> simp [h, ih]

end
end TieSddCoreAux
