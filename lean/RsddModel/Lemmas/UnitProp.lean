import RsddModel.Model.UnitProp
import RsddModel.Lemmas.PModel
/-!
# Lemmas about the unit propagator model (`Model/UnitProp.lean`)

* `LoopRel` / `DecideRel`: big-step relational semantics of the watcher loop and of
  `UnitPropagate::decide`; `loop_cases` splits one iteration of the fuel function into the rules,
  `loop_rel`, `decide_rel` show every terminating run is a derivation, so all further facts are
  proved by rule induction.
* soundness (`LoopRel.sound`), monotonicity (`LoopRel.ext`), frame properties of the watch lists
  (`LoopRel.frame`, `LoopRel.newWatches`) and the watch invariant (`LoopRel.watchOK`). The fixpoint
  property that follows from it is `fixpoint_of_watch` in `Lemmas/UnitPropWatch.lean`.
-/
namespace UnitProp
open Spec

/-! ## watch-list vectors -/

theorem setPad_getD (l : List (List Nat)) (v : Nat) (xs : List Nat) (v' : Nat) :
    ((setPad l v xs)[v']?).getD [] = if v' = v then xs else (l[v']?).getD [] := by
  induction l, v, xs using setPad.induct generalizing v' with
  | case1 xs => cases v' <;> rfl
  | case2 v xs ih =>
    cases v' with
    | zero => rfl
    | succ v' =>
      simp only [setPad, List.getElem?_cons_succ, ih, Nat.succ_eq_add_one, Nat.add_right_cancel_iff,
        List.getElem?_nil]
  | case3 h t xs => cases v' <;> rfl
  | case4 h t v xs ih =>
    cases v' with
    | zero => rfl
    | succ v' =>
      simp only [setPad, List.getElem?_cons_succ, ih, Nat.succ_eq_add_one, Nat.add_right_cancel_iff]

theorem WL.get_upd (wl : WL) (p : Bool) (v : Nat) (xs : List Nat) (p' : Bool) (v' : Nat) :
    (wl.upd p v xs).get p' v' = if p' = p ∧ v' = v then xs else wl.get p' v' := by
  cases p <;> cases p' <;>
    simp only [WL.upd, WL.get, setPad_getD, if_true, Bool.false_eq_true, if_false, true_and,
      false_and, reduceCtorEq]

theorem WL.get_push (wl : WL) (l : Lit) (ci : Nat) (p : Bool) (v : Nat) :
    (wl.push l ci).get p v = if p = l.pol ∧ v = l.var then wl.get p v ++ [ci] else wl.get p v := by
  unfold WL.push
  rw [WL.get_upd]
  split
  · next h => rw [h.1, h.2]
  · rfl

@[simp] theorem WL.get_empty (p : Bool) (v : Nat) : WL.empty.get p v = [] := by
  cases p <;> simp [WL.empty, WL.get]

instance : LawfulBEq Lit where
  eq_of_beq {a b} h := by
    cases a; cases b
    simp only [BEq.beq] at h
    simpa [instBEqLit.beq] using h
  rfl {a} := by
    cases a
    simp [BEq.beq, instBEqLit.beq]

/-! ## partial models -/

/-- `m'` agrees with `m` wherever `m` is defined -/
def PExt (m m' : PModel) : Prop := ∀ x b, m x = some b → m' x = some b

theorem PExt.refl (m : PModel) : PExt m m := fun _ _ h => h
theorem PExt.trans {a b c : PModel} (h1 : PExt a b) (h2 : PExt b c) : PExt a c :=
  fun x v h => h2 x v (h1 x v h)

theorem PExt.of_none {m m' : PModel} (h : PExt m m') {v : Nat} (hv : m' v = none) : m v = none := by
  cases hm : m v with
  | none => rfl
  | some b => rw [h v b hm] at hv; cases hv

theorem PExt.set {m : PModel} {x : Nat} (b : Bool) (h : m x = none) : PExt m (m.set x b) := pext_set b h

theorem Extends.mono {a : Assign} {m m' : PModel} (h : Extends a m') (hm : PExt m m') : Extends a m :=
  fun x b hx => h x b (hm x b hx)

/-! ## `isort`, `dedupAdj` -/

theorem mem_insertBy {le : Lit → Lit → Bool} {a x : Lit} : ∀ {t : List Lit},
    x ∈ insertBy le a t ↔ x = a ∨ x ∈ t
  | [] => by simp [insertBy]
  | b :: t => by
    unfold insertBy
    split
    · simp
    · rw [List.mem_cons, mem_insertBy (t := t), List.mem_cons]
      exact or_left_comm

theorem mem_isort {le : Lit → Lit → Bool} {x : Lit} : ∀ {c : List Lit}, x ∈ isort le c ↔ x ∈ c
  | [] => by simp [isort]
  | a :: t => by unfold isort; rw [mem_insertBy, mem_isort (c := t), List.mem_cons]

theorem mem_dedupAdj {x : Lit} : ∀ {c : List Lit}, x ∈ dedupAdj c ↔ x ∈ c
  | [] => by simp [dedupAdj]
  | [a] => by simp [dedupAdj]
  | a :: b :: t => by
    unfold dedupAdj
    split
    · next e => rw [mem_dedupAdj (c := b :: t), e]; simp
    · rw [List.mem_cons, mem_dedupAdj (c := b :: t)]; simp

theorem insertBy_pairwise {le : Lit → Lit → Bool} (htot : ∀ a b, le a b = false → le b a = true)
    (htrans : ∀ a b c, le a b = true → le b c = true → le a c = true) {a : Lit} :
    ∀ {t : List Lit}, t.Pairwise (fun x y => le x y = true) →
      (insertBy le a t).Pairwise (fun x y => le x y = true)
  | [], _ => by simp [insertBy]
  | b :: t, h => by
    unfold insertBy
    have hb := List.pairwise_cons.mp h
    cases hle : le a b with
    | true =>
      rw [if_pos rfl]
      refine List.pairwise_cons.mpr ⟨fun c hc => ?_, h⟩
      rcases List.mem_cons.mp hc with e | hc
      · rw [e]; exact hle
      · exact htrans _ _ _ hle (hb.1 c hc)
    | false =>
      rw [if_neg Bool.false_ne_true]
      refine List.pairwise_cons.mpr ⟨fun c hc => ?_, insertBy_pairwise htot htrans hb.2⟩
      rcases mem_insertBy.mp hc with e | hc
      · rw [e]; exact htot a b hle
      · exact hb.1 c hc

theorem isort_pairwise {le : Lit → Lit → Bool} (htot : ∀ a b, le a b = false → le b a = true)
    (htrans : ∀ a b c, le a b = true → le b c = true → le a c = true) :
    ∀ (c : List Lit), (isort le c).Pairwise (fun x y => le x y = true)
  | [] => List.Pairwise.nil
  | _ :: t => insertBy_pairwise htot htrans (isort_pairwise htot htrans t)

/-! ## relational semantics -/

/-- the clause visited at position `idx` of the list watching the negation of `l` -/
def curClause (cnf : Cnf) (wl : WL) (l : Lit) (idx : Nat) : Clause :=
  cnf.getD ((wl.get (!l.pol) l.var).getD idx 0) []

/-- the index of that clause: `curClause cnf wl l idx = cnf.getD (curIdx wl l idx) []` by `rfl` -/
def curIdx (wl : WL) (l : Lit) (idx : Nat) : Nat := (wl.get (!l.pol) l.var).getD idx 0

/-- watch lists after moving the watch at position `idx` of `¬l`'s list to `newLit` -/
def moveWatch (wl : WL) (l : Lit) (idx : Nat) (newLit : Lit) : WL :=
  (wl.upd (!l.pol) l.var (swapRemove (wl.get (!l.pol) l.var) idx)).push newLit (curIdx wl l idx)

/-- Big-step semantics of the watcher loop: `LoopRel cnf rep wl m l idx wl' r` — the loop for the
new assignment `l` (already set in `m`), started at `watcher_idx = idx` with watch lists `wl`,
terminates with watch lists `wl'` and result `r` (`none` = UNSAT). The recursive `decide` on a
new unit `u` is inlined (`u` is unassigned, so its prelude just sets it). -/
inductive LoopRel (cnf : Cnf) (rep : Bool) : WL → PModel → Lit → Nat → WL → Option PModel → Prop
  | done {wl m l idx} :
      (wl.get (!l.pol) l.var).length ≤ idx → LoopRel cnf rep wl m l idx wl (some m)
  | skip {wl m l idx wl' r} :
      idx < (wl.get (!l.pol) l.var).length →
      (curClause cnf wl l idx).any (litTrue m) = true →
      LoopRel cnf rep wl m l (idx + 1) wl' r → LoopRel cnf rep wl m l idx wl' r
  | conflict {wl m l idx} :
      idx < (wl.get (!l.pol) l.var).length →
      (curClause cnf wl l idx).any (litTrue m) = false →
      (curClause cnf wl l idx).filter (litUnset m) = [] → LoopRel cnf rep wl m l idx wl none
  | unitConflict {wl m l idx u wl'} :
      idx < (wl.get (!l.pol) l.var).length →
      (curClause cnf wl l idx).any (litTrue m) = false →
      (curClause cnf wl l idx).filter (litUnset m) = [u] →
      LoopRel cnf rep wl (m.set u.var u.pol) u 0 wl' none → LoopRel cnf rep wl m l idx wl' none
  | unitOk {wl m l idx u wl1 m1 wl' r} :
      idx < (wl.get (!l.pol) l.var).length →
      (curClause cnf wl l idx).any (litTrue m) = false →
      (curClause cnf wl l idx).filter (litUnset m) = [u] →
      LoopRel cnf rep wl (m.set u.var u.pol) u 0 wl1 (some m1) →
      LoopRel cnf rep wl1 m1 l (idx + 1) wl' r → LoopRel cnf rep wl m l idx wl' r
  | move {wl m l idx cand second rest wl' r} :
      idx < (wl.get (!l.pol) l.var).length →
      (curClause cnf wl l idx).any (litTrue m) = false →
      (curClause cnf wl l idx).filter (litUnset m) = cand :: second :: rest →
      LoopRel cnf rep (moveWatch wl l idx (pickWatch rep wl l (curIdx wl l idx) cand second)) m l idx wl' r →
      LoopRel cnf rep wl m l idx wl' r

/-- Big-step semantics of `UnitPropagate::decide` -/
inductive DecideRel (cnf : Cnf) (rep : Bool) : WL → PModel → Lit → WL → Option PModel → Prop
  | same {wl m l} : m l.var = some l.pol → DecideRel cnf rep wl m l wl (some m)
  | clash {wl m l} : m l.var = some (!l.pol) → DecideRel cnf rep wl m l wl none
  | fresh {wl m l wl' r} : m l.var = none →
      LoopRel cnf rep wl (m.set l.var l.pol) l 0 wl' r → DecideRel cnf rep wl m l wl' r

theorem mem_filter_unset {m : PModel} {c : Clause} {u : Lit} {rest : List Lit}
    (h : c.filter (litUnset m) = u :: rest) : m u.var = none := by
  have : u ∈ c.filter (litUnset m) := by rw [h]; exact List.mem_cons_self
  exact litUnset_iff.mp (List.mem_filter.mp this).2

theorem mem_of_filter_unset {m : PModel} {c : Clause} {u : Lit} {rest : List Lit}
    (h : c.filter (litUnset m) = u :: rest) : u ∈ c :=
  (List.mem_filter.mp (h ▸ List.mem_cons_self : u ∈ c.filter (litUnset m))).1

/-- One iteration of the watcher loop, by cases, with the recursive calls left standing: the six
rules of `LoopRel` and the inner call running out of fuel. -/
theorem loop_cases {cnf : Cnf} {rep : Bool} {fuel : Nat} {wl : WL} {m : PModel} {l : Lit} {idx : Nat}
    {P : Option UPOut → Prop}
    (done : (wl.get (!l.pol) l.var).length ≤ idx → P (some (wl, some m)))
    (skip : idx < (wl.get (!l.pol) l.var).length → (curClause cnf wl l idx).any (litTrue m) = true →
      P (loop cnf rep fuel wl m l (idx + 1)))
    (conflict : idx < (wl.get (!l.pol) l.var).length →
      (curClause cnf wl l idx).any (litTrue m) = false →
      (curClause cnf wl l idx).filter (litUnset m) = [] → P (some (wl, none)))
    (unitFuel : ∀ u, idx < (wl.get (!l.pol) l.var).length →
      (curClause cnf wl l idx).any (litTrue m) = false →
      (curClause cnf wl l idx).filter (litUnset m) = [u] →
      loop cnf rep fuel wl (m.set u.var u.pol) u 0 = none → P none)
    (unitConflict : ∀ u wl', idx < (wl.get (!l.pol) l.var).length →
      (curClause cnf wl l idx).any (litTrue m) = false →
      (curClause cnf wl l idx).filter (litUnset m) = [u] →
      loop cnf rep fuel wl (m.set u.var u.pol) u 0 = some (wl', none) → P (some (wl', none)))
    (unitOk : ∀ u wl' m', idx < (wl.get (!l.pol) l.var).length →
      (curClause cnf wl l idx).any (litTrue m) = false →
      (curClause cnf wl l idx).filter (litUnset m) = [u] →
      loop cnf rep fuel wl (m.set u.var u.pol) u 0 = some (wl', some m') →
      P (loop cnf rep fuel wl' m' l (idx + 1)))
    (move : ∀ cand second rest, idx < (wl.get (!l.pol) l.var).length →
      (curClause cnf wl l idx).any (litTrue m) = false →
      (curClause cnf wl l idx).filter (litUnset m) = cand :: second :: rest →
      P (loop cnf rep fuel (moveWatch wl l idx (pickWatch rep wl l (curIdx wl l idx) cand second))
        m l idx)) :
    P (loop cnf rep (fuel + 1) wl m l idx) := by
  unfold loop
  by_cases hge : idx ≥ (wl.get (!l.pol) l.var).length
  · rw [if_pos hge]; exact done hge
  rw [if_neg hge]
  dsimp only
  have hlt : idx < (wl.get (!l.pol) l.var).length := Nat.lt_of_not_le hge
  -- `curClause cnf wl l idx`, as the body of `loop` spells it
  cases hs : (cnf.getD ((wl.get (!l.pol) l.var).getD idx 0) []).any (litTrue m) with
  | true => rw [if_pos rfl]; exact skip hlt hs
  | false =>
    rw [if_neg Bool.false_ne_true]
    cases hf : (cnf.getD ((wl.get (!l.pol) l.var).getD idx 0) []).filter (litUnset m) with
    | nil => exact conflict hlt hs hf
    | cons u rest =>
      cases rest with
      | nil =>
        -- `u` is unassigned, so the prelude of the recursive `decide` just sets it
        show P (match decideK (loop cnf rep fuel) wl m u with
          | none => none
          | some (wl', none) => some (wl', none)
          | some (wl', some m') => loop cnf rep fuel wl' m' l (idx + 1))
        unfold decideK; rw [mem_filter_unset hf]
        cases h : loop cnf rep fuel wl (m.set u.var u.pol) u 0 with
        | none => exact unitFuel u hlt hs hf h
        | some out =>
          obtain ⟨wl', r⟩ := out
          cases r with
          | none => exact unitConflict u wl' hlt hs hf h
          | some m' => exact unitOk u wl' m' hlt hs hf h
      | cons second rest => exact move u second rest hlt hs hf

theorem loop_rel (cnf : Cnf) (rep : Bool) :
    ∀ fuel wl m l idx out, loop cnf rep fuel wl m l idx = some out →
      LoopRel cnf rep wl m l idx out.1 out.2 := by
  intro fuel
  induction fuel with
  | zero => intro wl m l idx out h; cases h
  | succ n ih =>
    intro wl m l idx
    refine loop_cases (P := fun o => ∀ out, o = some out → LoopRel cnf rep wl m l idx out.1 out.2)
      ?_ ?_ ?_ ?_ ?_ ?_ ?_
    · intro hge out h; cases h; exact .done hge
    · intro hlt hs out h; exact .skip hlt hs (ih _ _ _ _ _ h)
    · intro hlt hs hf out h; cases h; exact .conflict hlt hs hf
    · intro u _ _ _ _ out h; cases h
    · intro u wl' hlt hs hf hu out h; cases h; exact .unitConflict hlt hs hf (ih _ _ _ _ _ hu)
    · intro u wl' m' hlt hs hf hu out h; exact .unitOk hlt hs hf (ih _ _ _ _ _ hu) (ih _ _ _ _ _ h)
    · intro cand second rest hlt hs hf out h; exact .move hlt hs hf (ih _ _ _ _ _ h)

theorem decide_rel {cnf : Cnf} {rep : Bool} {fuel wl m l out}
    (h : decideK (loop cnf rep fuel) wl m l = some out) : DecideRel cnf rep wl m l out.1 out.2 := by
  unfold decideK at h
  split at h
  · next v hv =>
    split at h
    · next e => cases h; exact .same (e ▸ hv)
    · next e => cases h; exact .clash (by rw [hv, Bool.eq_not_of_ne e])
  · next hv => exact .fresh hv (loop_rel cnf rep fuel _ _ _ _ _ h)

/-! ## `swap_remove` -/

theorem swapRemove_zero (x : Nat) (xs : List Nat) :
    swapRemove (x :: xs) 0 = match xs with | [] => [] | y :: t => (y :: t).getLastD 0 :: (y :: t).dropLast := by
  cases xs with
  | nil => simp [swapRemove]
  | cons y t => simp [swapRemove, List.getLastD]

theorem swapRemove_succ (x : Nat) (xs : List Nat) (k : Nat) (hk : k < xs.length) :
    swapRemove (x :: xs) (k + 1) = x :: swapRemove xs k := by
  cases xs with
  | nil => simp at hk
  | cons y t =>
    unfold swapRemove
    by_cases h : k + 1 < (y :: t).length
    · have h' : k + 1 + 1 < (x :: y :: t).length := by simpa using h
      rw [if_pos h, if_pos h']
      simp only [List.set_cons_succ]
      have hne : (y :: t).set k ((y :: t).getLastD 0) ≠ [] := by
        intro e; have := congrArg List.length e; simp at this
      have e : (x :: y :: t).getLastD 0 = (y :: t).getLastD 0 := by simp [List.getLastD]
      rw [e, List.dropLast_cons_of_ne_nil hne]
    · have h' : ¬ (k + 1 + 1 < (x :: y :: t).length) := by simpa using h
      rw [if_neg h, if_neg h']
      simp

theorem swapRemove_perm : ∀ (xs : List Nat) (k : Nat), k < xs.length →
    (swapRemove xs k).Perm (xs.eraseIdx k)
  | [], k, h => by simp at h
  | x :: xs, 0, _ => by
    rw [swapRemove_zero]
    cases xs with
    | nil => simp
    | cons y t =>
      simp only [List.eraseIdx_zero, List.tail_cons]
      have h1 : (y :: t).getLastD 0 = (y :: t).getLast (by simp) := by simp [List.getLastD]
      rw [h1]
      have h2 := List.dropLast_concat_getLast (l := y :: t) (by simp)
      have h3 : ((y :: t).getLast (by simp) :: (y :: t).dropLast).Perm
          ((y :: t).dropLast ++ [(y :: t).getLast (by simp)]) := by
        simpa using (List.perm_append_comm (l₁ := [(y :: t).getLast (by simp)]) (l₂ := (y :: t).dropLast))
      rw [h2] at h3
      exact h3
  | x :: xs, k + 1, h => by
    have hk : k < xs.length := by simpa using h
    rw [swapRemove_succ x xs k hk]
    simp only [List.eraseIdx_cons_succ]
    exact (swapRemove_perm xs k hk).cons x

theorem swapRemove_getD_lt (xs : List Nat) (k j : Nat) (hk : k < xs.length) (hj : j < k) :
    (swapRemove xs k).getD j 0 = xs.getD j 0 := by
  have hj' : j < xs.length - 1 := Nat.lt_of_lt_of_le hj (Nat.le_sub_one_of_lt hk)
  unfold swapRemove
  split
  · rw [List.getD_eq_getElem?_getD, List.getD_eq_getElem?_getD, List.getElem?_dropLast,
      List.length_set, if_pos hj', List.getElem?_set_ne (Nat.ne_of_gt hj)]
  · rw [List.getD_eq_getElem?_getD, List.getD_eq_getElem?_getD, List.getElem?_dropLast, if_pos hj']

theorem swapRemove_length (xs : List Nat) (k : Nat) (hk : k < xs.length) :
    (swapRemove xs k).length = xs.length - 1 := by
  rw [(swapRemove_perm xs k hk).length_eq, List.length_eraseIdx]; simp [hk]

theorem mem_swapRemove {xs : List Nat} {k i : Nat} (hk : k < xs.length)
    (h : i ∈ swapRemove xs k) : i ∈ xs :=
  List.mem_of_mem_eraseIdx ((swapRemove_perm xs k hk).mem_iff.mp h)

/-! ## validity of the watch lists, monotonicity, soundness -/

/-- every watch entry is a clause index -/
def WatchValid (cnf : Cnf) (wl : WL) : Prop := ∀ p v i, i ∈ wl.get p v → i < cnf.length

theorem curIdx_mem {wl : WL} {l : Lit} {idx : Nat} (h : idx < (wl.get (!l.pol) l.var).length) :
    curIdx wl l idx ∈ wl.get (!l.pol) l.var := by
  unfold curIdx
  rw [List.getD_eq_getElem?_getD, List.getElem?_eq_getElem h]
  exact List.getElem_mem h

theorem mem_moveWatch {wl : WL} {l : Lit} {idx : Nat} {nl : Lit} {p : Bool} {v i : Nat}
    (hlt : idx < (wl.get (!l.pol) l.var).length)
    (h : i ∈ (moveWatch wl l idx nl).get p v) :
    i ∈ wl.get p v ∨ (i = curIdx wl l idx ∧ p = nl.pol ∧ v = nl.var) := by
  unfold moveWatch at h
  rw [WL.get_push] at h
  have key : ∀ p v, i ∈ (wl.upd (!l.pol) l.var (swapRemove (wl.get (!l.pol) l.var) idx)).get p v →
      i ∈ wl.get p v := by
    intro p v h
    rw [WL.get_upd] at h
    split at h
    · next e => rw [e.1, e.2]; exact mem_swapRemove hlt h
    · exact h
  split at h
  · next e =>
    rw [List.mem_append] at h
    rcases h with h | h
    · exact .inl (key _ _ h)
    · exact .inr ⟨by simpa using h, e.1, e.2⟩
  · exact .inl (key _ _ h)

theorem WatchValid.moveWatch {cnf : Cnf} {wl : WL} {l : Lit} {idx : Nat} {nl : Lit}
    (hv : WatchValid cnf wl) (hlt : idx < (wl.get (!l.pol) l.var).length) :
    WatchValid cnf (moveWatch wl l idx nl) := by
  intro p v i h
  rcases mem_moveWatch hlt h with h | ⟨h, _, _⟩
  · exact hv p v i h
  · rw [h]; exact hv _ _ _ (curIdx_mem hlt)

theorem LoopRel.valid {cnf rep wl m l idx wl' r} (h : LoopRel cnf rep wl m l idx wl' r)
    (hv : WatchValid cnf wl) : WatchValid cnf wl' := by
  induction h with
  | done _ => exact hv
  | skip _ _ _ ih => exact ih hv
  | conflict _ _ _ => exact hv
  | unitConflict _ _ _ _ ih => exact ih hv
  | unitOk _ _ _ _ _ ih1 ih2 => exact ih2 (ih1 hv)
  | move hlt _ _ _ ih => exact ih (hv.moveWatch hlt)

theorem DecideRel.valid {cnf rep wl m l wl' r} (h : DecideRel cnf rep wl m l wl' r)
    (hv : WatchValid cnf wl) : WatchValid cnf wl' := by
  cases h with
  | same _ => exact hv
  | clash _ => exact hv
  | fresh _ h => exact h.valid hv

theorem LoopRel.ext {cnf rep wl m l idx wl' m'} (h : LoopRel cnf rep wl m l idx wl' (some m')) :
    PExt m m' := by
  generalize hr : some m' = r at h
  induction h generalizing m' with
  | done _ => cases hr; exact PExt.refl _
  | skip _ _ _ ih => exact ih hr
  | conflict _ _ _ => cases hr
  | unitConflict _ _ _ _ _ => cases hr
  | unitOk _ _ hf _ _ ih1 ih2 =>
    exact ((PExt.set _ (mem_filter_unset hf)).trans (ih1 rfl)).trans (ih2 hr)
  | move _ _ _ _ ih => exact ih hr

theorem DecideRel.ext {cnf rep wl m l wl' m'} (h : DecideRel cnf rep wl m l wl' (some m')) :
    PExt m m' ∧ m' l.var = some l.pol := by
  cases h with
  | same h => exact ⟨PExt.refl _, h⟩
  | fresh hn h =>
    have := h.ext
    exact ⟨(PExt.set _ hn).trans this, this _ _ (pset_same _ _ _)⟩

theorem curClause_mem {cnf : Cnf} {wl : WL} {l : Lit} {idx : Nat} (hv : WatchValid cnf wl)
    (h : idx < (wl.get (!l.pol) l.var).length) : curClause cnf wl l idx ∈ cnf := by
  have h1 : curIdx wl l idx < cnf.length := hv _ _ _ (curIdx_mem h)
  show cnf.getD (curIdx wl l idx) [] ∈ cnf
  rw [List.getD_eq_getElem?_getD, List.getElem?_eq_getElem h1]
  exact List.getElem_mem h1

/-- Soundness of the loop against every total model of the CNF that extends the current partial
model: the loop does not report UNSAT and the model stays below the total model. -/
theorem LoopRel.sound {cnf rep wl m l idx wl' r} (h : LoopRel cnf rep wl m l idx wl' r)
    (hv : WatchValid cnf wl) (a : Assign) (ha : cnfSat a cnf = true) (he : Extends a m) :
    ∃ m', r = some m' ∧ Extends a m' := by
  induction h with
  | done _ => exact ⟨_, rfl, he⟩
  | skip _ _ _ ih => exact ih hv he
  | conflict hlt hs hf =>
    obtain ⟨lit, hl, _⟩ := sat_unset_lit he (cnfSat_mem ha (curClause_mem hv hlt)) hs
    rw [hf] at hl; cases hl
  | unitConflict hlt hs hf _ ih =>
    obtain ⟨m', e, _⟩ := ih hv (he.unit ha (curClause_mem hv hlt) hs hf)
    cases e
  | unitOk hlt hs hf h1 _ ih1 ih2 =>
    obtain ⟨m', e, he1⟩ := ih1 hv (he.unit ha (curClause_mem hv hlt) hs hf)
    cases e
    exact ih2 (h1.valid hv) he1
  | move hlt _ _ _ ih => exact ih (hv.moveWatch hlt) he

theorem DecideRel.sound {cnf rep wl m l wl' r} (h : DecideRel cnf rep wl m l wl' r)
    (hv : WatchValid cnf wl) (a : Assign) (ha : cnfSat a cnf = true) (he : Extends a m)
    (hl : litSat a l = true) : ∃ m', r = some m' ∧ Extends a m' := by
  have hx : a l.var = l.pol := by simpa [litSat] using hl
  cases h with
  | same _ => exact ⟨_, rfl, he⟩
  | clash h =>
    exact absurd (hx.symm.trans (he _ _ h)) (Bool.eq_not_self _).mp
  | fresh _ h => exact h.sound hv a ha (Extends.set he hx)

/-! ## frame properties of the watch lists -/

theorem pickWatch_cases (rep : Bool) (wl : WL) (l : Lit) (ci : Nat) (cand second : Lit) :
    pickWatch rep wl l ci cand second = cand ∨ pickWatch rep wl l ci cand second = second := by
  unfold pickWatch
  cases rep
  · by_cases h : ci ∈ wl.get l.pol cand.var <;> simp [h]
  · by_cases h : ci ∈ wl.get cand.pol cand.var <;> simp [h]

theorem pickWatch_unset {rep : Bool} {wl : WL} {l : Lit} {ci : Nat} {m : PModel} {c : Clause}
    {cand second : Lit} {rest : List Lit} (hf : c.filter (litUnset m) = cand :: second :: rest) :
    m (pickWatch rep wl l ci cand second).var = none ∧ pickWatch rep wl l ci cand second ∈ c := by
  have h1 : cand ∈ c.filter (litUnset m) := hf ▸ List.mem_cons_self
  have h2 : second ∈ c.filter (litUnset m) := hf ▸ List.mem_cons_of_mem _ List.mem_cons_self
  rw [List.mem_filter, litUnset_iff] at h1 h2
  rcases pickWatch_cases rep wl l ci cand second with e | e <;> rw [e]
  · exact ⟨h1.2, h1.1⟩
  · exact ⟨h2.2, h2.1⟩

theorem moveWatch_get_self {wl : WL} {l : Lit} {idx : Nat} {nl : Lit} (h : nl.var ≠ l.var) :
    (moveWatch wl l idx nl).get (!l.pol) l.var = swapRemove (wl.get (!l.pol) l.var) idx := by
  unfold moveWatch
  rw [WL.get_push, if_neg (by intro e; exact h e.2.symm), WL.get_upd, if_pos ⟨rfl, rfl⟩]

theorem moveWatch_get_other {wl : WL} {l : Lit} {idx : Nat} {nl : Lit} {p : Bool} {v : Nat}
    (h1 : ¬ (p = (!l.pol) ∧ v = l.var)) (h2 : ¬ (p = nl.pol ∧ v = nl.var)) :
    (moveWatch wl l idx nl).get p v = wl.get p v := by
  unfold moveWatch
  rw [WL.get_push, if_neg h2, WL.get_upd, if_neg h1]

/-- the loop for `l` rewrites only the list of `¬l` and lists of variables that are unassigned
when it starts: lists of assigned variables other than `¬l`'s are left as they are -/
theorem LoopRel.frame {cnf rep wl m l idx wl' r} (h : LoopRel cnf rep wl m l idx wl' r) :
    ∀ p v, m v ≠ none → ¬ (p = (!l.pol) ∧ v = l.var) → wl'.get p v = wl.get p v := by
  induction h with
  | done _ => intros; rfl
  | skip _ _ _ ih => exact ih
  | conflict _ _ _ => intros; rfl
  | @unitConflict wl m l idx u wl' _ _ hf _ ih =>
    intro p v hv _
    have hu := mem_filter_unset hf
    exact ih p v (fun e => hv (pset_none e)) (fun e => hv (e.2 ▸ hu))
  | @unitOk wl m l idx u wl1 m1 wl' r _ _ hf h1 _ ih1 ih2 =>
    intro p v hv hn
    have hu := mem_filter_unset hf
    rw [ih2 p v (fun e => hv (((PExt.set _ hu).trans (h1.ext)).of_none e)) hn,
      ih1 p v (fun e => hv (pset_none e)) (fun e => hv (e.2 ▸ hu))]
  | @move wl m l idx cand second rest wl' r _ _ hf _ ih =>
    intro p v hv hn
    have hnl := (pickWatch_unset (rep := rep) (wl := wl) (l := l) (ci := curIdx wl l idx) hf).1
    rw [ih p v hv hn]
    exact moveWatch_get_other hn (fun e => by rw [e.2] at hv; exact hv hnl)

/-! ## the watch invariant -/

/-- clause `i` is in the watch list of literal `w` -/
def Watches (wl : WL) (i : Nat) (w : Lit) : Prop := i ∈ wl.get w.pol w.var

/-- every watch on a false literal, except watches on literals in `X`, belongs to a clause that has
a true literal. `X` holds the literals whose watchers are still pending: while the loop for `l` runs,
`¬l` has just become false and its watch list is only partly visited (`LoopRel.watchOK`). -/
def WatchOKX (cnf : Cnf) (wl : WL) (m : PModel) (X : Lit → Prop) : Prop :=
  ∀ i w, Watches wl i w → ¬ X w → litFalse m w = true → (cnf.getD i []).any (litTrue m) = true

/-- the watch invariant for a partial model: a clause watching a false literal has a true literal -/
def WatchOK (cnf : Cnf) (wl : WL) (m : PModel) : Prop := WatchOKX cnf wl m (fun _ => False)

theorem lneg_var (l : Lit) : l.neg.var = l.var := rfl
theorem lneg_pol (l : Lit) : l.neg.pol = !l.pol := rfl

theorem eq_neg_comm {a b : Lit} : a = b.neg ↔ b = a.neg := by
  have nn : ∀ l : Lit, l.neg.neg = l := fun l => by cases l; simp [Lit.neg]
  exact ⟨fun h => by rw [h, nn], fun h => by rw [h, nn]⟩

theorem lit_eq_neg {w l : Lit} (hv : w.var = l.var) (hp : w.pol = !l.pol) : w = l.neg := by
  cases w; cases l; simp_all [Lit.neg]

theorem lit_ext {w l : Lit} (hp : w.pol = l.pol) (hv : w.var = l.var) : w = l := by
  cases w; cases l; simp_all

/-- setting `l` makes only `¬l` newly false -/
theorem watchOKX_set {cnf : Cnf} {wl : WL} {m : PModel} {X : Lit → Prop} {l : Lit}
    (hn : m l.var = none) (h : WatchOKX cnf wl m X) :
    WatchOKX cnf wl (m.set l.var l.pol) (fun w => X w ∨ w = l.neg) := by
  intro i w hw hx hf
  have hf' := litFalse_iff.mp hf
  by_cases e : w.var = l.var
  · rw [e, pset_same] at hf'
    have hp : w.pol = !l.pol := by
      have : l.pol = !w.pol := by simpa using hf'
      rw [this]; simp
    exact absurd (.inr (lit_eq_neg e hp)) hx
  · rw [pset_other _ _ e] at hf'
    exact anyTrue_mono (PExt.set _ hn) (h i w hw (fun hX => hx (.inl hX)) (litFalse_iff.mpr hf'))

/-- Main loop invariant: if all watches except those on `X` and on `¬l` are fine, and the watchers
of `¬l` at positions `< idx` have satisfied clauses, then on normal termination all watches
except those on `X` are fine. (Independent of the choice `pickWatch` makes.) -/
theorem LoopRel.watchOK {cnf rep wl m l idx wl' r} (h : LoopRel cnf rep wl m l idx wl' r) :
    ∀ (X : Lit → Prop), m l.var = some l.pol →
      WatchOKX cnf wl m (fun w => X w ∨ w = l.neg) →
      (∀ k, k < idx → (curClause cnf wl l k).any (litTrue m) = true) →
      ∀ m', r = some m' → WatchOKX cnf wl' m' X := by
  induction h with
  | @done wl m l idx hle =>
    intro X hl P2 P3 m' e i w hw hx hf
    cases e
    by_cases hwl : w = l.neg
    · subst hwl
      have hw' : i ∈ wl.get (!l.pol) l.var := hw
      obtain ⟨k, hk, e⟩ := List.mem_iff_getElem.mp hw'
      have := P3 k (Nat.lt_of_lt_of_le hk hle)
      have e2 : (wl.get (!l.pol) l.var).getD k 0 = i := by
        rw [List.getD_eq_getElem?_getD, List.getElem?_eq_getElem hk]; simpa using e
      unfold curClause at this
      rw [e2] at this
      exact this
    · exact P2 i w hw (fun h => h.elim hx hwl) hf
  | @skip wl m l idx wl' r _ hs _ ih =>
    intro X hl P2 P3
    refine ih X hl P2 ?_
    intro k hk
    by_cases e : k = idx
    · subst e; exact hs
    · exact P3 k (Nat.lt_of_le_of_ne (Nat.le_of_lt_succ hk) e)
  | conflict _ _ _ => intro X _ _ _ m' e; cases e
  | unitConflict _ _ _ _ _ => intro X _ _ _ m' e; cases e
  | @unitOk wl m l idx u wl1 m1 wl' r hlt hs hf h1 h2 ih1 ih2 =>
    intro X hl P2 P3
    have hu := mem_filter_unset hf
    have hext : PExt m m1 := (PExt.set _ hu).trans (h1.ext)
    have hne : l.var ≠ u.var := by intro e; rw [e, hu] at hl; cases hl
    have hframe : wl1.get (!l.pol) l.var = wl.get (!l.pol) l.var :=
      h1.frame _ _ (by rw [pset_other _ _ hne, hl]; simp) (fun e => hne e.2)
    have inner := ih1 (fun w => X w ∨ w = l.neg) (pset_same _ _ _) (watchOKX_set hu P2)
      (fun k hk => absurd hk (Nat.not_lt_zero k)) m1 rfl
    refine ih2 X (hext _ _ hl) inner ?_
    intro k hk
    unfold curClause; rw [hframe]
    by_cases e : k = idx
    · subst e
      exact List.any_eq_true.mpr ⟨u, mem_of_filter_unset hf, litTrue_iff.mpr ((h1.ext) _ _ (pset_same _ _ _))⟩
    · exact anyTrue_mono hext (P3 k (Nat.lt_of_le_of_ne (Nat.le_of_lt_succ hk) e))
  | @move wl m l idx cand second rest wl' r hlt hs hf _ ih =>
    intro X hl P2 P3
    have hnl := pickWatch_unset (rep := rep) (wl := wl) (l := l) (ci := curIdx wl l idx) hf
    have hne : (pickWatch rep wl l (curIdx wl l idx) cand second).var ≠ l.var := by
      intro e; rw [e, hl] at hnl; cases hnl.1
    refine ih X hl ?_ ?_
    · intro i w hw hx hfalse
      rcases mem_moveWatch hlt hw with hw | ⟨_, hp, hv⟩
      · exact P2 i w hw hx hfalse
      · have := litFalse_iff.mp hfalse
        rw [hv, hnl.1] at this; cases this
    · intro k hk
      have := P3 k hk
      unfold curClause at this ⊢
      rw [moveWatch_get_self hne, swapRemove_getD_lt _ _ _ hlt hk]
      exact this

theorem DecideRel.watchOK {cnf rep wl m l wl' m'} (h : DecideRel cnf rep wl m l wl' (some m'))
    (X : Lit → Prop) (hok : WatchOKX cnf wl m X) : WatchOKX cnf wl' m' X := by
  cases h with
  | same _ => exact hok
  | fresh hn h =>
    exact h.watchOK X (pset_same _ _ _) (watchOKX_set hn hok)
      (fun k hk => absurd hk (Nat.not_lt_zero k)) m' rfl

/-- a watch that is new after the loop sits on a literal that was unassigned when it started
(`pickWatch` chooses among the unassigned literals of the clause) -/
theorem LoopRel.newWatches {cnf rep wl m l idx wl' r} (h : LoopRel cnf rep wl m l idx wl' r) :
    ∀ i w, Watches wl' i w → Watches wl i w ∨ m w.var = none := by
  induction h with
  | done _ => intro i w h; exact .inl h
  | skip _ _ _ ih => exact ih
  | conflict _ _ _ => intro i w h; exact .inl h
  | @unitConflict wl m l idx u wl' _ _ hf _ ih =>
    intro i w hw
    rcases ih i w hw with h | h
    · exact .inl h
    · exact .inr (pset_none h)
  | @unitOk wl m l idx u wl1 m1 wl' r _ _ hf h1 _ ih1 ih2 =>
    intro i w hw
    rcases ih2 i w hw with h | h
    · rcases ih1 i w h with h | h
      · exact .inl h
      · exact .inr (pset_none h)
    · exact .inr (((PExt.set _ (mem_filter_unset hf)).trans (h1.ext)).of_none h)
  | @move wl m l idx cand second rest wl' r hlt _ hf _ ih =>
    intro i w hw
    have hnl := pickWatch_unset (rep := rep) (wl := wl) (l := l) (ci := curIdx wl l idx) hf
    rcases ih i w hw with h | h
    · rcases mem_moveWatch hlt h with h | ⟨_, _, hv⟩
      · exact .inl h
      · exact .inr (by rw [hv]; exact hnl.1)
    · exact .inr h

theorem DecideRel.newWatches {cnf rep wl m l wl' r} (h : DecideRel cnf rep wl m l wl' r) :
    ∀ i w, Watches wl' i w → Watches wl i w ∨ m w.var = none := by
  cases h with
  | same _ => intro i w h; exact .inl h
  | clash _ => intro i w h; exact .inl h
  | fresh hn h =>
    intro i w hw
    rcases h.newWatches i w hw with h | h
    · exact .inl h
    · exact .inr (pset_none h)

/-- the watch invariant of a model below the one a call started from survives the call, whatever
its outcome (also `UNSAT`, which leaves the lists partially updated) -/
theorem WatchOK.lower {cnf : Cnf} {wl wl' : WL} {m mj : PModel}
    (hnew : ∀ i w, Watches wl' i w → Watches wl i w ∨ m w.var = none)
    (hle : PExt mj m) (hok : WatchOK cnf wl mj) : WatchOK cnf wl' mj := by
  intro i w hw hx hf
  rcases hnew i w hw with h | h
  · exact hok i w h hx hf
  · have := hle _ _ (litFalse_iff.mp hf)
    rw [h] at this; cases this

end UnitProp
