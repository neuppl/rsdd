import RsddModel.Model.Serialize
import RsddModel.Lemmas.CnfNorm
/-!
# Lemmas for C17: serialisers and table evaluators, DIMACS round trip, s-expressions
-/
namespace Ser
open Spec

/-! ## lists -/

theorem assocGet_mem {κ : Type} [DecidableEq κ] :
    ∀ (t : List (κ × Nat)) (k : κ) (v : Nat), assocGet t k = some v → (k, v) ∈ t
  | [], _, _, h => by simp [assocGet] at h
  | (k', v') :: rest, k, v, h => by
    simp only [assocGet] at h
    split at h
    · cases h; subst_vars; exact List.mem_cons_self
    · exact List.mem_cons_of_mem _ (assocGet_mem rest k v h)

theorem any_congr' {α : Type} {l : List α} {f g : α → Bool} (h : ∀ x ∈ l, f x = g x) :
    l.any f = l.any g := by
  induction l with
  | nil => rfl
  | cons x r ih =>
    simp only [List.any_cons, h x List.mem_cons_self,
      ih (fun y hy => h y (List.mem_cons_of_mem _ hy))]

/-! ## BDD tables (the serialiser's correctness follows the SDD tables, at the end) -/

/-- a pointer refers below `n` -/
def BPtrLt : SerBddPtr → Nat → Prop
  | .ptr j _, n => j < n
  | _, _ => True

/-- children refer to strictly smaller indices (post order) -/
def BWf (nodes : Array SerBdd) : Prop :=
  ∀ i n, nodes[i]? = some n → BPtrLt n.low i ∧ BPtrLt n.high i

/-! ## DIMACS: printing then reading -/

open Spec.Text

theorem splitAt_ne_nil (p : Char → Bool) : ∀ l, splitAt p l ≠ []
  | [] => by simp [splitAt]
  | c :: cs => by
    simp only [splitAt]
    split
    · simp
    · split <;> simp

theorem splitAt_none (p : Char → Bool) : ∀ l, (∀ c ∈ l, p c = false) → splitAt p l = [l]
  | [], _ => rfl
  | c :: cs, h => by
    have hc : p c = false := h c List.mem_cons_self
    have ih := splitAt_none p cs (fun x hx => h x (List.mem_cons_of_mem _ hx))
    simp [splitAt, hc, ih]

theorem splitAt_append_sep (p : Char → Bool) (c : Char) (hc : p c = true) (r : List Char) :
    ∀ x, splitAt p (x ++ c :: r) = splitAt p x ++ splitAt p r
  | [] => by simp [splitAt, hc]
  | y :: x => by
    have ih := splitAt_append_sep p c hc r x
    simp only [List.cons_append, splitAt]
    split
    · simp [ih]
    · rw [ih]
      cases hx : splitAt p x with
      | nil => exact absurd hx (splitAt_ne_nil p x)
      | cons l ls => simp

theorem tokens_append_ws (x r : List Char) (c : Char) (hc : isWs c = true) :
    tokens (x ++ c :: r) = tokens x ++ tokens r := by
  simp [tokens, splitAt_append_sep isWs c hc r x]

theorem tokens_single (t : List Char) (hne : t ≠ []) (hw : ∀ c ∈ t, isWs c = false) :
    tokens t = [t] := by
  simp [tokens, splitAt_none isWs t hw, hne]

theorem tokens_joinSp : ∀ (ts : List (List Char)),
    (∀ t ∈ ts, t ≠ [] ∧ ∀ c ∈ t, isWs c = false) → tokens (joinSp ts) = ts
  | [], _ => by simp [joinSp, tokens, splitAt]
  | [x], h => by
    obtain ⟨h1, h2⟩ := h x List.mem_cons_self
    simpa [joinSp] using tokens_single x h1 h2
  | x :: y :: r, h => by
    obtain ⟨h1, h2⟩ := h x List.mem_cons_self
    have ih := tokens_joinSp (y :: r) (fun t ht => h t (List.mem_cons_of_mem _ ht))
    simp only [joinSp]
    rw [tokens_append_ws x _ ' ' (by decide), ih, tokens_single x h1 h2]; rfl

/-! ### characters of a printed literal -/

/-- characters `to_dimacs` prints inside a clause line -/
def okCh (c : Char) : Bool := c.isDigit || c == '-' || c == ' '

theorem ne_of_class {p : Char → Bool} {c d : Char} (h : p c = true) (hd : p d = false) : c ≠ d :=
  fun e => Bool.false_ne_true (hd.symm.trans (e ▸ h))

theorem okCh_not_nl {c : Char} (h : okCh c = true) : isNl c = false :=
  beq_eq_false_iff_ne.mpr (ne_of_class h (by decide))

theorem okCh_not_cp {c : Char} (h : okCh c = true) : (c == 'c' || c == 'p') = false :=
  Bool.or_eq_false_iff.mpr ⟨beq_eq_false_iff_ne.mpr (ne_of_class h (by decide)),
    beq_eq_false_iff_ne.mpr (ne_of_class h (by decide))⟩

/-- a printed literal consists of digits and `-`: no blanks, only `okCh` characters -/
theorem showLit_chars (l : Lit) : ∀ c ∈ showLit l, isWs c = false ∧ okCh c = true := by
  intro c hc
  have hd : c.isDigit = true ∨ c = '-' := by
    rcases List.mem_append.mp hc with hc | hc
    · split at hc <;> simp at hc; exact Or.inr hc
    · exact Or.inl (Nat.isDigit_of_mem_toDigits (by decide) (by decide) hc)
  rcases hd with h | rfl
  · refine ⟨?_, by simp [okCh, h]⟩
    simp only [isWs, Bool.or_eq_false_iff, beq_eq_false_iff_ne]
    exact ⟨⟨⟨ne_of_class h (by decide), ne_of_class h (by decide)⟩, ne_of_class h (by decide)⟩,
      ne_of_class h (by decide)⟩
  · exact ⟨by decide, by decide⟩

theorem joinSp_ok : ∀ (ts : List (List Char)), (∀ t ∈ ts, ∀ c ∈ t, okCh c = true) →
    ∀ c ∈ joinSp ts, okCh c = true
  | [], _ => by simp [joinSp]
  | [x], h => by simpa [joinSp] using h x List.mem_cons_self
  | x :: y :: r, h => by
    intro c hc
    simp only [joinSp, List.mem_append, List.mem_cons] at hc
    rcases hc with hc | hc | hc
    · exact h x List.mem_cons_self c hc
    · subst hc; decide
    · exact joinSp_ok (y :: r) (fun t ht => h t (List.mem_cons_of_mem _ ht)) c hc

/-- a clause line without its leading newline -/
def clauseBody (c : Clause) : List Char := joinSp (c.map showLit) ++ [' ', '0']

theorem clauseLine_eq (c : Clause) : clauseLine c = '\n' :: clauseBody c := rfl

theorem clauseBody_ok (c : Clause) : ∀ ch ∈ clauseBody c, okCh ch = true := by
  intro ch hc
  simp only [clauseBody, List.mem_append, List.mem_cons, List.not_mem_nil, or_false] at hc
  rcases hc with hc | hc | hc
  · refine joinSp_ok (c.map showLit) ?_ ch hc
    intro t ht
    obtain ⟨l, _, rfl⟩ := List.mem_map.mp ht
    exact fun c hc => (showLit_chars l c hc).2
  · subst hc; decide
  · subst hc; decide

theorem tokens_clauseBody (c : Clause) : tokens (clauseBody c) = c.map showLit ++ [['0']] := by
  simp only [clauseBody]
  rw [tokens_append_ws _ _ ' ' (by decide), tokens_joinSp]
  · rfl
  · intro t ht
    obtain ⟨l, _, rfl⟩ := List.mem_map.mp ht
    exact ⟨by simp [showLit, Nat.toDigits_ne_nil], fun c hc => (showLit_chars l c hc).1⟩

theorem skipLine_clauseBody (c : Clause) : skipLine (clauseBody c) = false := by
  simp only [skipLine, firstChar?]
  cases h : (List.dropWhile isWs (clauseBody c)).head? with
  | none => rfl
  | some ch =>
    have hm : ch ∈ clauseBody c :=
      (List.dropWhile_sublist _).subset (List.mem_of_mem_head? h)
    simpa using okCh_not_cp (clauseBody_ok c ch hm)

theorem lines_toDimacs : ∀ (cs : Cnf) (pre : List Char),
    splitAt isNl (pre ++ toDimacsChars cs) = splitAt isNl pre ++ cs.map clauseBody
  | [], pre => by simp [toDimacsChars]
  | c :: rest, pre => by
    have ih := lines_toDimacs rest (clauseBody c)
    simp only [toDimacsChars, List.flatMap_cons, clauseLine_eq, List.cons_append] at ih ⊢
    rw [splitAt_append_sep isNl '\n' (by decide) _ pre, ih,
        splitAt_none isNl (clauseBody c) (fun ch h => okCh_not_nl (clauseBody_ok c ch h))]
    simp

/-! ### numbers -/

theorem digitsVal_eq (cs : List Char) : digitsVal cs = Nat.ofDigitChars 10 cs 0 := rfl

theorem parseNat_toDigits (n : Nat) : parseNat? (Nat.toDigits 10 n) = some n := by
  have h1 : (Nat.toDigits 10 n).isEmpty = false := List.isEmpty_eq_false_iff.mpr Nat.toDigits_ne_nil
  have h2 : (Nat.toDigits 10 n).all Char.isDigit = true :=
    List.all_eq_true.mpr fun c hc => Nat.isDigit_of_mem_toDigits (by decide) (by decide) hc
  simp [parseNat?, h1, h2, digitsVal_eq]

/-- the signed integer `to_dimacs` prints for a literal -/
def intOfLit (l : Lit) : Int := if l.pol then ((l.var + 1 : Nat) : Int) else -((l.var + 1 : Nat) : Int)

theorem parseInt_showLit (l : Lit) : parseInt? (showLit l) = some (intOfLit l) := by
  cases hp : l.pol with
  | false =>
    simp [showLit, hp, parseInt?, parseNat_toDigits, intOfLit]
  | true =>
    simp only [showLit, hp, if_true, List.nil_append, intOfLit]
    cases hd : Nat.toDigits 10 (l.var + 1) with
    | nil => exact absurd hd Nat.toDigits_ne_nil
    | cons ch r =>
      have hdig : ch.isDigit = true :=
        Nat.isDigit_of_mem_toDigits (by decide) (by decide) (hd ▸ List.mem_cons_self)
      have hne : ch ≠ '-' := by intro e; rw [e] at hdig; exact absurd hdig (by decide)
      have hn := parseNat_toDigits (l.var + 1)
      rw [hd] at hn
      unfold parseInt?
      split
      · rename_i heq; cases heq; exact absurd rfl hne
      · simp [hn]

theorem toNat_eq_natAbs {z : Int} (h : 0 ≤ z) : z.toNat = z.natAbs :=
  Int.ofNat_inj.mp ((Int.toNat_of_nonneg h).trans (Int.natAbs_of_nonneg h).symm)

theorem litOfSigned_eq_litOfInt (z : Int) : litOfSigned z = litOfInt z := by
  unfold litOfSigned litOfInt
  by_cases h : 0 < z
  · rw [if_pos h, decide_eq_true h, toNat_eq_natAbs (Int.le_of_lt h)]
  · rw [if_neg h, decide_eq_false h, toNat_eq_natAbs (Int.neg_nonneg_of_nonpos (Int.not_lt.mp h)),
      Int.natAbs_neg]

/-! ### tokens → integers → clauses -/

def tokLine (c : Clause) : List (List Char) := c.map showLit ++ [['0']]
def intLine (c : Clause) : List Int := c.map intOfLit ++ [0]

theorem mapM_parseInt_lits : ∀ (c : Clause),
    (c.map showLit).mapM parseInt? = some (c.map intOfLit)
  | [] => rfl
  | l :: r => by simp [List.mapM_cons, parseInt_showLit, mapM_parseInt_lits r]

theorem mapM_parseInt_line (c : Clause) : (tokLine c).mapM parseInt? = some (intLine c) := by
  unfold tokLine intLine
  rw [List.mapM_append, mapM_parseInt_lits]
  simp [List.mapM_cons, (by decide : parseInt? ['0'] = some 0)]

theorem mapM_parseInt_lines : ∀ (cs : Cnf),
    (cs.flatMap tokLine).mapM parseInt? = some (cs.flatMap intLine)
  | [] => rfl
  | c :: r => by
    simp [List.flatMap_cons, List.mapM_append, mapM_parseInt_line, mapM_parseInt_lines r]

theorem clausesOf_line (rest : List Int) : ∀ (c : List Int), (∀ z ∈ c, z ≠ 0) →
    clausesOf (c ++ 0 :: rest) = c :: clausesOf rest
  | [], _ => by simp [clausesOf]
  | z :: c, h => by
    have hz : z ≠ 0 := h z List.mem_cons_self
    have ih := clausesOf_line rest c (fun x hx => h x (List.mem_cons_of_mem _ hx))
    simp [clausesOf, hz, ih]

theorem clausesOf_lines : ∀ (cs : Cnf), clausesOf (cs.flatMap intLine) = cs.map (·.map intOfLit)
  | [] => rfl
  | c :: r => by
    simp only [List.flatMap_cons, intLine, List.append_assoc, List.singleton_append, List.map_cons]
    rw [clausesOf_line _ _ (by
      intro z hz; obtain ⟨l, _, rfl⟩ := List.mem_map.mp hz; rw [intOfLit]; split <;> omega)]
    rw [clausesOf_lines r]

/-- text that carries no clause: every line is a comment, the problem line, or blank -/
def HeaderOnly (pre : List Char) : Prop :=
  ∀ ln ∈ splitAt isNl pre, skipLine ln = true ∨ tokens ln = []

theorem headerOnly_tokens (pre : List Char) (h : HeaderOnly pre) :
    ((splitAt isNl pre).filter (fun ln => !skipLine ln)).flatMap tokens = [] := by
  rw [List.flatMap_eq_nil_iff]
  intro ln hln
  obtain ⟨hm, hs⟩ := List.mem_filter.mp hln
  rcases h ln hm with h1 | h1
  · simp [h1] at hs
  · exact h1

/-- **the integers read back from `pre ++ to_dimacs cs`** -/
theorem dimacsInts_toDimacs (cs : Cnf) (pre : List Char) (hpre : HeaderOnly pre) :
    dimacsIntsChars (pre ++ toDimacsChars cs) = some (cs.map (·.map intOfLit)) := by
  have hbody : (cs.map clauseBody).filter (fun ln => !skipLine ln) = cs.map clauseBody := by
    rw [List.filter_eq_self]
    intro ln hln
    obtain ⟨c, _, rfl⟩ := List.mem_map.mp hln
    simp [skipLine_clauseBody]
  have htok : (cs.map clauseBody).flatMap tokens = cs.flatMap tokLine := by
    rw [List.flatMap_map]
    congr 1; funext c; exact tokens_clauseBody c
  simp only [dimacsIntsChars, lines_toDimacs, List.filter_append, List.flatMap_append,
    headerOnly_tokens pre hpre, hbody, htok, List.nil_append, mapM_parseInt_lines,
    Option.map_some, clausesOf_lines]

theorem cnfOfInts_intOfLit (cs : Cnf) : cnfOfInts (cs.map (·.map intOfLit)) = cs := by
  have h : ∀ l, litOfInt (intOfLit l) = l := fun ⟨v, p⟩ => by
    cases p <;> simp [intOfLit, litOfInt] <;> omega
  simp [cnfOfInts, Function.comp_def, h]

/-- **reading back what `to_dimacs` printed gives the very same clause lists** (spec reader) -/
theorem parseDimacsChars_toDimacs (cs : Cnf) (pre : List Char) (hpre : HeaderOnly pre) :
    parseDimacsChars (pre ++ toDimacsChars cs) = some cs := by
  rw [parseDimacsChars, dimacsInts_toDimacs cs pre hpre, Option.map_some, cnfOfInts_intOfLit]

/-- a single line starting with `p` (e.g. `p cnf 3 2`) carries no clause -/
theorem headerOnly_p (l : List Char) (hnl : ∀ c ∈ l, c ≠ '\n') : HeaderOnly ('p' :: l) := by
  intro ln hln
  rw [splitAt_none isNl ('p' :: l) (by
    intro c hc
    rcases List.mem_cons.mp hc with rfl | hc
    · decide
    · simpa [isNl] using hnl c hc)] at hln
  simp only [List.mem_singleton] at hln
  subst hln
  left; simp [skipLine, firstChar?, List.dropWhile, isWs]

/-! ## `Cnf::new`: membership, semantics, idempotence

`cnfNew` is `CnfUtil.normClause` on every clause (the same three functions, written out a second
time in the model); its facts are those of `Lemmas/CnfNorm.lean`. -/

theorem insertByLabel_eq (x : Lit) : ∀ l, insertByLabel x l = CnfUtil.insertByLabel x l
  | [] => rfl
  | y :: ys => by rw [insertByLabel, CnfUtil.insertByLabel, insertByLabel_eq x ys]

theorem sortByLabel_eq : ∀ l, sortByLabel l = CnfUtil.sortByLabel l
  | [] => rfl
  | x :: xs => by rw [sortByLabel, CnfUtil.sortByLabel, insertByLabel_eq, sortByLabel_eq xs]

theorem dedup_eq : ∀ l, dedup l = CnfUtil.dedupAdj l
  | [] => rfl
  | [_] => rfl
  | x :: y :: r => by rw [dedup, CnfUtil.dedupAdj, dedup_eq (y :: r)]

theorem cnfNew_eq (cs : Cnf) : cnfNew cs = cs.map CnfUtil.normClause :=
  List.map_congr_left fun c _ => by rw [dedup_eq, sortByLabel_eq]; rfl

/-- the literals of a clause of `Cnf::new` are those of the given clause -/
theorem mem_cnfNew_clause (c : Clause) (y : Lit) : y ∈ dedup (sortByLabel c) ↔ y ∈ c := by
  rw [dedup_eq, sortByLabel_eq]; exact CnfUtil.mem_normClause

theorem cnfSat_cnfNew (a : Assign) : ∀ (cs : Cnf), cnfSat a (cnfNew cs) = cnfSat a cs :=
  fun cs => cnfNew_eq cs ▸ CnfUtil.cnfSat_map_normClause a cs

/-- **`Cnf::new` is idempotent**: the stored clause vectors are a normal form -/
theorem cnfNew_idem (cs : Cnf) : cnfNew (cnfNew cs) = cnfNew cs := by
  rw [cnfNew_eq, cnfNew_eq, List.map_map]
  exact List.map_congr_left fun c _ => CnfUtil.normClause_idem c

/-! ## the glue of `Cnf::from_dimacs` -/

theorem fromDimacsClauses_eq (zs : List (List Int)) :
    fromDimacsClauses zs = cnfNew (cnfOfInts zs) := by
  rw [fromDimacsClauses, cnfOfInts, funext litOfSigned_eq_litOfInt]

/-- **`Cnf::from_dimacs` keeps the models** (label = number − 1) -/
theorem fromDimacsClauses_sem (zs : List (List Int)) (a : Assign) :
    cnfSat a (fromDimacsClauses zs) = cnfSat a (cnfOfInts zs) := by
  rw [fromDimacsClauses_eq, cnfSat_cnfNew]

theorem cnfFromDimacs_eq (s : String) : cnfFromDimacs s = (parseDimacs s).map cnfNew := by
  simp only [cnfFromDimacs, parseDimacs, parseDimacsChars, dimacsInts, Option.map_map]
  congr 1; funext zs; exact fromDimacsClauses_eq zs

/-! ## `LogicalExpr::from_dimacs` -/

theorem foldl_or_eval (a : Assign) : ∀ (xs : List LogicalExpr) (init : LogicalExpr),
    (xs.foldl .or init).eval a = (init.eval a || xs.any (·.eval a))
  | [], init => by simp
  | x :: r, init => by
    simp [foldl_or_eval a r, LogicalExpr.eval, Bool.or_assoc]

theorem foldl_and_eval (a : Assign) : ∀ (xs : List LogicalExpr) (init : LogicalExpr),
    (xs.foldl .and init).eval a = (init.eval a && xs.all (·.eval a))
  | [], init => by simp
  | x :: r, init => by
    simp [foldl_and_eval a r, LogicalExpr.eval, Bool.and_assoc]

theorem popFold_concat {α : Type} (op : α → α → α) (ys : List α) (l : α) :
    popFold op (ys.concat l) = some (ys.foldl op l) := by
  simp [popFold]

theorem popFold_none {α : Type} (op : α → α → α) (xs : List α) :
    popFold op xs = none ↔ xs = [] := by
  rcases List.eq_nil_or_concat xs with rfl | ⟨ys, l, rfl⟩
  · simp [popFold]
  · rw [popFold_concat]; simp

theorem popFold_or_eval (a : Assign) (xs : List LogicalExpr) (r : LogicalExpr)
    (h : popFold .or xs = some r) : r.eval a = xs.any (·.eval a) := by
  rcases List.eq_nil_or_concat xs with rfl | ⟨ys, l, rfl⟩
  · cases h
  · rw [popFold_concat] at h; cases h
    simp [foldl_or_eval, Bool.or_comm]

theorem popFold_and_eval (a : Assign) (xs : List LogicalExpr) (r : LogicalExpr)
    (h : popFold .and xs = some r) : r.eval a = xs.all (·.eval a) := by
  rcases List.eq_nil_or_concat xs with rfl | ⟨ys, l, rfl⟩
  · cases h
  · rw [popFold_concat] at h; cases h
    simp [foldl_and_eval, Bool.and_comm]
/-- the assignment of **1-based** labels seen through 0-based ones -/
def shift (a : Assign) : Assign := fun x => a (x + 1)

theorem exprLit_eval (a : Assign) (z : Int) (hz : z ≠ 0) :
    (exprLitOfSigned z).eval a = litSat (shift a) (litOfInt z) := by
  have hv : z.natAbs - 1 + 1 = z.natAbs := Nat.sub_add_cancel (Int.natAbs_pos.mpr hz)
  rw [← litOfSigned_eq_litOfInt]
  simp only [exprLitOfSigned, LogicalExpr.eval, litSat, litOfSigned, shift, hv]
  cases decide (0 < z) <;> cases a z.natAbs <;> rfl

theorem mapM_clauses_eval (a : Assign) : ∀ (zs : List (List Int)) (cls : List LogicalExpr),
    (∀ c ∈ zs, ∀ z ∈ c, z ≠ 0) →
    zs.mapM (fun c => popFold LogicalExpr.or (c.map exprLitOfSigned)) = some cls →
    cls.all (·.eval a) = cnfSat (shift a) (cnfOfInts zs)
  | [], cls, _, h => by cases h; rfl
  | c :: r, cls, hnz, h => by
    rw [List.mapM_cons] at h
    simp only [Option.bind_eq_bind, Option.bind_eq_some_iff, Option.pure_def, Option.some.injEq] at h
    obtain ⟨e, hc, es, hr, rfl⟩ := h
    have ih := mapM_clauses_eval a r es (fun c' hc' => hnz c' (List.mem_cons_of_mem _ hc')) hr
    simp only [List.all_cons, ih, popFold_or_eval a _ e hc, cnfSat, cnfOfInts, List.map_cons,
      clauseSat, List.any_map]
    congr 1
    exact any_congr' fun z hz => exprLit_eval a z (hnz c List.mem_cons_self z hz)

/-- **`LogicalExpr::from_dimacs` keeps the models under label = number** -/
theorem exprFromDimacsClauses_sem (zs : List (List Int)) (e : LogicalExpr) (a : Assign)
    (hnz : ∀ c ∈ zs, ∀ z ∈ c, z ≠ 0) (h : exprFromDimacsClauses zs = some e) :
    e.eval a = cnfSat (shift a) (cnfOfInts zs) := by
  simp only [exprFromDimacsClauses, Option.bind_eq_bind, Option.bind_eq_some_iff] at h
  obtain ⟨cls, hm, h⟩ := h
  rw [popFold_and_eval a cls e h, mapM_clauses_eval a zs cls hnz hm]

theorem clausesOf_nonzero : ∀ (zs : List Int), ∀ c ∈ clausesOf zs, ∀ z ∈ c, z ≠ 0
  | [], c, hc => by simp [clausesOf] at hc
  | x :: r, c, hc => by
    have ih := clausesOf_nonzero r
    simp only [clausesOf] at hc
    split at hc
    · rcases List.mem_cons.mp hc with rfl | hc
      · simp
      · exact ih c hc
    · rename_i hx
      split at hc
      · simp only [List.mem_singleton] at hc; subst hc
        intro z hz; simp only [List.mem_singleton] at hz; subst hz; exact hx
      · rename_i c0 cs0 heq
        rw [heq] at ih
        rcases List.mem_cons.mp hc with rfl | hc
        · intro z hz
          rcases List.mem_cons.mp hz with rfl | hz
          · exact hx
          · exact ih c0 List.mem_cons_self z hz
        · exact ih c (List.mem_cons_of_mem _ hc)


/-! ## s-expressions -/

/-- the typed tree evaluated under an assignment of names (proof device: links the text-level
evaluator with the indexed expression) -/
def LogicalSExpr.evalNames (ρ : NameAssign) : LogicalSExpr → Bool
  | .tru => true
  | .fls => false
  | .var s => ρ s
  | .not e => !(e.evalNames ρ)
  | .or l r => l.evalNames ρ || r.evalNames ρ
  | .and l r => l.evalNames ρ && r.evalNames ρ
  | .iff l r => l.evalNames ρ == r.evalNames ρ
  | .xor l r => Bool.xor (l.evalNames ρ) (r.evalNames ρ)
  | .ite g t e => if g.evalNames ρ then t.evalNames ρ else e.evalNames ρ

def LogicalSExpr.hasConst : LogicalSExpr → Bool
  | .tru | .fls => true
  | .var _ => false
  | .not e => e.hasConst
  | .or l r | .and l r | .iff l r | .xor l r => l.hasConst || r.hasConst
  | .ite g t e => g.hasConst || t.hasConst || e.hasConst

/-- the stand-in for the deserialiser is faithful to the text: same value under every assignment
of names, same names, same constants -/
theorem ofSExp_spec (ρ : NameAssign) (t : SExp) :
    ∀ e, LogicalSExpr.ofSExp t = some e →
      evalSExp ρ t = some (e.evalNames ρ) ∧ namesOf t = e.uniqueVariables ∧
      Spec.Text.hasConst t = e.hasConst := by
  fun_induction LogicalSExpr.ofSExp t
  case case1 | case2 | case3 => intro e h; cases h; exact ⟨rfl, rfl, rfl⟩
  case case4 e1 ih =>
    intro e h
    obtain ⟨x, h1, rfl⟩ := Option.map_eq_some_iff.mp h
    obtain ⟨i1, i2, i3⟩ := ih x h1
    simp only [evalSExp, namesOf, Spec.Text.hasConst, i1, i2, i3]
    exact ⟨rfl, rfl, rfl⟩
  case case10 => intro e h; cases h
  case case9 g1 e1 f1 ih3 ih2 ih1 =>
    intro e h
    simp only [Option.bind_eq_bind, Option.bind_eq_some_iff, Option.pure_def, Option.some.injEq] at h
    obtain ⟨c, h0, x, h1, y, h2, rfl⟩ := h
    obtain ⟨k1, k2, k3⟩ := ih3 c h0
    obtain ⟨i1, i2, i3⟩ := ih2 x h1
    obtain ⟨j1, j2, j3⟩ := ih1 y h2
    simp only [evalSExp, namesOf, Spec.Text.hasConst, i1, i2, i3, j1, j2, j3, k1, k2, k3]
    exact ⟨rfl, rfl, rfl⟩
  all_goals
    rename_i e1 f1 ih2 ih1
    intro e h
    simp only [Option.bind_eq_bind, Option.bind_eq_some_iff, Option.pure_def, Option.some.injEq] at h
    obtain ⟨x, h1, y, h2, rfl⟩ := h
    obtain ⟨i1, i2, i3⟩ := ih2 x h1
    obtain ⟨j1, j2, j3⟩ := ih1 y h2
    simp only [evalSExp, namesOf, Spec.Text.hasConst, i1, i2, i3, j1, j2, j3]
    exact ⟨rfl, rfl, rfl⟩

/-! ### the lexicographic numbering -/

theorem str_lt_of_not (x y : String) (h1 : ¬ x < y) (h2 : x ≠ y) : y < x :=
  Classical.byContradiction fun h3 =>
    h2 (String.le_antisymm (String.not_lt.mp h3) (String.not_lt.mp h1))

def StrictSorted (l : List String) : Prop := l.Pairwise (· < ·)

theorem mem_insertName (x y : String) : ∀ l, y ∈ insertName x l ↔ y = x ∨ y ∈ l
  | [] => List.mem_cons
  | z :: r => by
    rw [insertName]
    by_cases h1 : x < z
    · rw [if_pos h1, List.mem_cons]
    · by_cases h2 : x = z
      · rw [if_neg h1, if_pos h2, h2, List.mem_cons, or_self_left]
      · rw [if_neg h1, if_neg h2, List.mem_cons, mem_insertName x y r, List.mem_cons]
        exact or_left_comm

theorem insertName_sorted (x : String) : ∀ l, StrictSorted l → StrictSorted (insertName x l)
  | [], _ => List.pairwise_singleton _ _
  | z :: r, h => by
    have hz := List.pairwise_cons.mp h
    rw [insertName]
    by_cases h1 : x < z
    · rw [if_pos h1]
      exact List.pairwise_cons.mpr ⟨fun y hy => (List.mem_cons.mp hy).elim (· ▸ h1)
        fun hy => String.lt_trans h1 (hz.1 y hy), h⟩
    · by_cases h2 : x = z
      · rw [if_neg h1, if_pos h2]; exact h
      · rw [if_neg h1, if_neg h2]
        refine List.pairwise_cons.mpr ⟨fun y hy => ?_, insertName_sorted x r hz.2⟩
        exact ((mem_insertName x y r).mp hy).elim (· ▸ str_lt_of_not _ _ h1 h2) (hz.1 y)

theorem mem_sortedNames (y : String) : ∀ l, y ∈ sortedNames l ↔ y ∈ l
  | [] => by simp [sortedNames]
  | x :: r => by
    have ih := mem_sortedNames y r
    simp only [sortedNames, List.foldr_cons] at ih ⊢
    rw [mem_insertName, ih]; simp

theorem sortedNames_sorted : ∀ l, StrictSorted (sortedNames l)
  | [] => List.Pairwise.nil
  | x :: r => by
    have ih := sortedNames_sorted r
    simp only [sortedNames, List.foldr_cons] at ih ⊢
    exact insertName_sorted x _ ih

theorem mem_distinct (y : String) : ∀ l, y ∈ distinct l ↔ y ∈ l
  | [] => by simp [distinct]
  | x :: r => by
    rw [distinct]
    by_cases hx : x ∈ r
    · rw [if_pos hx, mem_distinct y r, List.mem_cons]
      exact ⟨Or.inr, fun h => h.elim (· ▸ hx) id⟩
    · rw [if_neg hx, List.mem_cons, List.mem_cons, mem_distinct y r]

theorem distinct_nodup : ∀ l, (distinct l).Nodup
  | [] => by simp [distinct]
  | x :: r => by
    simp only [distinct]
    split
    · exact distinct_nodup r
    · rename_i hx
      exact List.nodup_cons.mpr ⟨fun h => hx ((mem_distinct x r).mp h), distinct_nodup r⟩

/-- position in a strictly increasing list = number of smaller members -/
theorem mapGet_zipIdx_sorted (x : String) : ∀ (l : List String) (k : Nat), StrictSorted l → x ∈ l →
    mapGet (l.zipIdx k) x = some (k + (l.filter (fun y => decide (y < x))).length)
  | [], _, _, hx => nomatch hx
  | y :: r, k, hs, hx => by
    have hz := List.pairwise_cons.mp hs
    rw [List.zipIdx_cons, mapGet, List.filter_cons]
    by_cases he : x = y
    · subst he
      have hnil : r.filter (fun y => decide (y < x)) = [] :=
        List.filter_eq_nil_iff.mpr fun z hz' => by simpa using String.lt_asymm (hz.1 z hz')
      rw [if_pos rfl, if_neg (by simp [String.lt_irrefl]), hnil]; rfl
    · have hxr : x ∈ r := (List.mem_cons.mp hx).resolve_left he
      rw [if_neg he, if_pos (by simpa using hz.1 x hxr), mapGet_zipIdx_sorted x r (k + 1) hz.2 hxr,
        List.length_cons, Nat.add_assoc, Nat.add_comm 1]

theorem indexIn_eq_sorted (names : List String) (x : String) :
    indexIn names x = ((sortedNames names).filter (fun y => decide (y < x))).length := by
  have hn : (sortedNames names).Nodup :=
    List.Pairwise.imp (fun {a b} hab e => by subst e; exact String.lt_irrefl _ hab)
      (sortedNames_sorted names)
  have hp : (distinct names).Perm (sortedNames names) :=
    (List.perm_ext_iff_of_nodup (distinct_nodup names) hn).mpr
      (fun a => by rw [mem_distinct, mem_sortedNames])
  exact (hp.filter _).length_eq

/-- **`variable_mapping` is the documented numbering** -/
theorem variableMapping_spec (e : LogicalSExpr) (x : String) (hx : x ∈ e.uniqueVariables) :
    mapGet e.variableMapping x = some (indexIn e.uniqueVariables x) := by
  rw [LogicalSExpr.variableMapping,
    mapGet_zipIdx_sorted x _ 0 (sortedNames_sorted _) ((mem_sortedNames x _).mpr hx),
    indexIn_eq_sorted]
  simp

/-! ### `from_sexpr` -/

theorem xor_formula (x y : Bool) : ((!x && y) || (x && !y)) = Bool.xor x y := by
  cases x <;> cases y <;> rfl

/-- the helper, for any mapping that answers the documented index on the names of the tree -/
theorem fromSexprHelper_sem (m : List (String × Nat)) (idx : String → Nat) (a : Assign)
    (e : LogicalSExpr) :
    (∀ x ∈ e.uniqueVariables, mapGet m x = some (idx x)) →
    ∀ le, fromSexprHelper m e = some le → le.eval a = e.evalNames (fun x => a (idx x)) := by
  fun_induction fromSexprHelper m e
  case case1 | case2 => intro _ le h; cases h
  case case3 s | case4 s =>
    intro hm le h
    rw [hm s List.mem_cons_self] at h
    cases h; rfl
  case case5 e1 _ ih =>
    intro hm le h
    obtain ⟨x, h1, rfl⟩ := Option.map_eq_some_iff.mp h
    exact congrArg (!·) (ih hm x h1)
  case case10 g t e1 ih3 ih2 ih1 =>
    intro hm le h
    simp only [LogicalSExpr.uniqueVariables, List.mem_append] at hm
    simp only [Option.bind_eq_bind, Option.bind_eq_some_iff, Option.pure_def, Option.some.injEq] at h
    obtain ⟨c, h0, x, h1, y, h2, rfl⟩ := h
    simp only [LogicalExpr.eval, LogicalSExpr.evalNames,
      ih3 (fun x hx => hm x (Or.inl (Or.inl hx))) c h0,
      ih2 (fun x hx => hm x (Or.inl (Or.inr hx))) x h1,
      ih1 (fun x hx => hm x (Or.inr hx)) y h2]
  all_goals
    rename_i l r ih2 ih1
    intro hm le h
    simp only [LogicalSExpr.uniqueVariables, List.mem_append] at hm
    simp only [Option.bind_eq_bind, Option.bind_eq_some_iff, Option.pure_def, Option.some.injEq] at h
    obtain ⟨x, h1, y, h2, rfl⟩ := h
    simp only [LogicalExpr.eval, LogicalSExpr.evalNames, xor_formula,
      ih2 (fun x hx => hm x (Or.inl hx)) x h1, ih1 (fun x hx => hm x (Or.inr hx)) y h2]

/-- the helper answers (no `todo!()`, no failed `unwrap`) on constant-free trees whose names the
mapping knows -/
theorem fromSexprHelper_total (m : List (String × Nat)) (e : LogicalSExpr) :
    (∀ x ∈ e.uniqueVariables, (mapGet m x).isSome) → e.hasConst = false →
    (fromSexprHelper m e).isSome := by
  fun_induction fromSexprHelper m e
  case case1 | case2 => intro _ h; cases h
  case case3 s | case4 s =>
    intro hm _
    rw [Option.isSome_map]; exact hm s List.mem_cons_self
  case case5 e1 _ ih =>
    intro hm hc
    rw [Option.isSome_map]; exact ih hm hc
  case case10 g t e1 ih3 ih2 ih1 =>
    intro hm hc
    simp only [LogicalSExpr.uniqueVariables, List.mem_append] at hm
    simp only [LogicalSExpr.hasConst, Bool.or_eq_false_iff] at hc
    obtain ⟨c, h0⟩ := Option.isSome_iff_exists.mp (ih3 (fun x hx => hm x (Or.inl (Or.inl hx))) hc.1.1)
    obtain ⟨x, h1⟩ := Option.isSome_iff_exists.mp (ih2 (fun x hx => hm x (Or.inl (Or.inr hx))) hc.1.2)
    obtain ⟨y, h2⟩ := Option.isSome_iff_exists.mp (ih1 (fun x hx => hm x (Or.inr hx)) hc.2)
    rw [h0, h1, h2]; rfl
  all_goals
    rename_i l r ih2 ih1
    intro hm hc
    simp only [LogicalSExpr.uniqueVariables, List.mem_append] at hm
    simp only [LogicalSExpr.hasConst, Bool.or_eq_false_iff] at hc
    obtain ⟨x, h1⟩ := Option.isSome_iff_exists.mp (ih2 (fun x hx => hm x (Or.inl hx)) hc.1)
    obtain ⟨y, h2⟩ := Option.isSome_iff_exists.mp (ih1 (fun x hx => hm x (Or.inr hx)) hc.2)
    rw [h1, h2]; rfl

/-- **`from_sexpr` on the typed tree** -/
theorem fromSexpr_evalNames (e : LogicalSExpr) (le : LogicalExpr) (a : Assign)
    (h : fromSexpr e = some le) :
    le.eval a = e.evalNames (fun x => a (indexIn e.uniqueVariables x)) :=
  fromSexprHelper_sem e.variableMapping (indexIn e.uniqueVariables) a e
    (fun x hx => variableMapping_spec e x hx) le h

theorem fromSexpr_total (e : LogicalSExpr) (hc : e.hasConst = false) : (fromSexpr e).isSome :=
  fromSexprHelper_total e.variableMapping e
    (fun x hx => by rw [variableMapping_spec e x hx]; rfl) hc

/-! ### the numbering is injective on the names of the text: every assignment of names is
induced by an indexed assignment -/

theorem filter_length_lt {p q : String → Bool} (x : String) (l : List String)
    (hpq : ∀ z, p z = true → q z = true) (hx : x ∈ l) (hq : q x = true) (hp : p x = false) :
    (l.filter p).length < (l.filter q).length := by
  have he : l.filter p = (l.filter q).filter p := by
    rw [List.filter_filter]
    refine List.filter_congr fun z _ => ?_
    cases hz : p z
    · rfl
    · rw [hpq z hz]; rfl
  rw [he, List.length_filter_lt_length_iff_exists]
  exact ⟨x, List.mem_filter.mpr ⟨hx, hq⟩, by simp [hp]⟩

theorem indexIn_lt_of_lt (names : List String) (x y : String) (hx : x ∈ names) (hxy : x < y) :
    indexIn names x < indexIn names y := by
  refine filter_length_lt x (distinct names) ?_ ((mem_distinct x names).mpr hx) ?_ ?_
  · intro z hz; simp only [decide_eq_true_eq] at hz ⊢; exact String.lt_trans hz hxy
  · simpa using hxy
  · simp [String.lt_irrefl]

theorem indexIn_inj (names : List String) (x y : String) (hx : x ∈ names) (hy : y ∈ names)
    (h : indexIn names x = indexIn names y) : x = y := by
  apply Classical.byContradiction
  intro hne
  by_cases hlt : x < y
  · have := indexIn_lt_of_lt names x y hx hlt; omega
  · have := indexIn_lt_of_lt names y x hy (str_lt_of_not x y hlt hne); omega

/-- an indexed assignment inducing a given assignment of names -/
def assignOfNames (names : List String) (ρ : NameAssign) : Assign := fun i =>
  match names.find? (fun x => indexIn names x == i) with
  | some x => ρ x
  | none => false

theorem assignOfNames_spec (names : List String) (ρ : NameAssign) (x : String) (hx : x ∈ names) :
    assignOfNames names ρ (indexIn names x) = ρ x := by
  simp only [assignOfNames]
  cases hf : names.find? (fun y => indexIn names y == indexIn names x) with
  | none => exact absurd (List.find?_eq_none.mp hf x hx) (by simp)
  | some y =>
    rw [indexIn_inj names y x (List.mem_of_find?_eq_some hf) hx (by simpa using List.find?_some hf)]

theorem evalNames_congr (ρ ρ' : NameAssign) : ∀ (e : LogicalSExpr),
    (∀ x ∈ e.uniqueVariables, ρ x = ρ' x) → e.evalNames ρ = e.evalNames ρ'
  | .tru, _ => rfl
  | .fls, _ => rfl
  | .var s, h => h s List.mem_cons_self
  | .not e, h => congrArg (!·) (evalNames_congr ρ ρ' e h)
  | .or l r, h | .and l r, h | .iff l r, h | .xor l r, h => by
    have hl := evalNames_congr ρ ρ' l fun x hx => h x (List.mem_append_left _ hx)
    have hr := evalNames_congr ρ ρ' r fun x hx => h x (List.mem_append_right _ hx)
    simp only [LogicalSExpr.evalNames, hl, hr]
  | .ite g t e, h => by
    have hg := evalNames_congr ρ ρ' g fun x hx =>
      h x (List.mem_append_left _ (List.mem_append_left _ hx))
    have ht := evalNames_congr ρ ρ' t fun x hx =>
      h x (List.mem_append_left _ (List.mem_append_right _ hx))
    have he := evalNames_congr ρ ρ' e fun x hx => h x (List.mem_append_right _ hx)
    simp only [LogicalSExpr.evalNames, hg, ht, he]

/-! ## SDD tables -/

def SPtrLt : SerSddPtr → Nat → Prop
  | .ptr j _, n => j < n
  | _, _ => True

theorem SPtrLt.mono {p : SerSddPtr} {n m : Nat} (h : SPtrLt p n) (hnm : n ≤ m) : SPtrLt p m := by
  cases p <;> simp_all [SPtrLt]; omega

def SWf (nodes : Array SddOr) : Prop :=
  ∀ i o, nodes[i]? = some o → ∀ e ∈ o, SPtrLt e.prime i ∧ SPtrLt e.sub i

def SPrefix (nodes nodes' : Array SddOr) : Prop :=
  nodes.size ≤ nodes'.size ∧ ∀ i, i < nodes.size → nodes'[i]? = nodes[i]?

theorem SPrefix.refl (nodes : Array SddOr) : SPrefix nodes nodes := ⟨Nat.le_refl _, fun _ _ => rfl⟩

theorem SPrefix.trans {a b c : Array SddOr} (h1 : SPrefix a b) (h2 : SPrefix b c) : SPrefix a c :=
  ⟨Nat.le_trans h1.1 h2.1, fun i hi => by rw [h2.2 i (Nat.lt_of_lt_of_le hi h1.1), h1.2 i hi]⟩

theorem SPrefix.push (nodes : Array SddOr) (n : SddOr) : SPrefix nodes (nodes.push n) :=
  ⟨by simp, fun i hi => by
    rw [Array.getElem?_push]; split
    · omega
    · rfl⟩

theorem evalSddPtr_prefix {nodes nodes' : Array SddOr} (a : Assign) (hw : SWf nodes)
    (hp : SPrefix nodes nodes') :
    ∀ (fuel : Nat) (p : SerSddPtr), SPtrLt p nodes.size →
      evalSddPtr nodes' a fuel p = evalSddPtr nodes a fuel p
  | _, .tru, _ => by simp [evalSddPtr]
  | _, .fls, _ => by simp [evalSddPtr]
  | _, .lit _ _, _ => by simp [evalSddPtr]
  | 0, .ptr _ _, _ => by simp [evalSddPtr]
  | fuel + 1, .ptr i c, h => by
    have hi : i < nodes.size := h
    simp only [evalSddPtr, hp.2 i hi]
    cases hn : nodes[i]? with
    | none => rfl
    | some o =>
      simp only
      congr 1
      apply any_congr'
      intro e he
      obtain ⟨h1, h2⟩ := hw i o hn e he
      rw [evalSddPtr_prefix a hw hp fuel e.prime (h1.mono (Nat.le_of_lt hi)),
          evalSddPtr_prefix a hw hp fuel e.sub (h2.mono (Nat.le_of_lt hi))]

def SDenotes (nodes : Array SddOr) (a : Assign) (p : SerSddPtr) (d : Sdd.Ptr) : Prop :=
  SPtrLt p nodes.size ∧ ∀ fuel, SPtrLt p fuel → evalSddPtr nodes a fuel p = d.eval a

theorem SDenotes.ext {nodes nodes' : Array SddOr} {a : Assign} {p : SerSddPtr} {d : Sdd.Ptr}
    (h : SDenotes nodes a p d) (hw : SWf nodes) (hp : SPrefix nodes nodes') :
    SDenotes nodes' a p d :=
  ⟨h.1.mono hp.1, fun fuel hf => by rw [evalSddPtr_prefix a hw hp fuel p h.1]; exact h.2 fuel hf⟩

theorem SDenotes.flip {nodes : Array SddOr} {a : Assign} {i : Nat} {k d : Sdd.Ptr} {c : Bool}
    (h : SDenotes nodes a (.ptr i false) k) (he : d.eval a = xor c (k.eval a)) :
    SDenotes nodes a (.ptr i c) d := by
  refine ⟨h.1, fun fuel hf => ?_⟩
  have h2 := h.2 fuel hf
  cases fuel with
  | zero => exact absurd hf (Nat.not_lt_zero _)
  | succ f =>
    have hi : i < nodes.size := h.1
    simp only [evalSddPtr, Array.getElem?_eq_getElem hi, Bool.false_bne] at h2 ⊢
    rw [h2, he]

/-- the elements of a serialised node denote, one by one, the elements of the decision node -/
inductive ElemsDenote (nodes : Array SddOr) (a : Assign) :
    SddOr → List (Sdd.Ptr × Sdd.Ptr) → Prop where
  | nil : ElemsDenote nodes a [] []
  | cons {e : SddAnd} {p s : Sdd.Ptr} {o : SddOr} {es : List (Sdd.Ptr × Sdd.Ptr)} :
      SDenotes nodes a e.prime p → SDenotes nodes a e.sub s → ElemsDenote nodes a o es →
      ElemsDenote nodes a (e :: o) ((p, s) :: es)

theorem ElemsDenote.ext {nodes nodes' : Array SddOr} {a : Assign} {o : SddOr}
    {es : List (Sdd.Ptr × Sdd.Ptr)} (h : ElemsDenote nodes a o es) (hw : SWf nodes)
    (hp : SPrefix nodes nodes') : ElemsDenote nodes' a o es := by
  induction h with
  | nil => exact .nil
  | cons h1 h2 _ ih => exact .cons (h1.ext hw hp) (h2.ext hw hp) ih

theorem ElemsDenote.lt {nodes : Array SddOr} {a : Assign} {o : SddOr}
    {es : List (Sdd.Ptr × Sdd.Ptr)} (h : ElemsDenote nodes a o es) :
    ∀ e ∈ o, SPtrLt e.prime nodes.size ∧ SPtrLt e.sub nodes.size := by
  induction h with
  | nil => intro e he; simp at he
  | cons h1 h2 _ ih =>
    intro e he
    rcases List.mem_cons.mp he with rfl | he
    · exact ⟨h1.1, h2.1⟩
    · exact ih e he

theorem ElemsDenote.eval {nodes : Array SddOr} {a : Assign} {o : SddOr}
    {es : List (Sdd.Ptr × Sdd.Ptr)} (h : ElemsDenote nodes a o es) (f : Nat) (hf : nodes.size ≤ f) :
    (o.any fun e => evalSddPtr nodes a f e.prime && evalSddPtr nodes a f e.sub) =
      Sdd.evalElems a es := by
  induction h with
  | nil => rfl
  | @cons e p s o' es' h1 h2 _ ih =>
    rw [List.any_cons, Sdd.evalElems, ih, h1.2 f (h1.1.mono hf), h2.2 f (h2.1.mono hf)]

structure SInv (a : Assign) (s : SddSt) : Prop where
  wf : SWf s.nodes
  tbl : ∀ k idx, (k, idx) ∈ s.table → SDenotes s.nodes a (.ptr idx false) k

theorem SInv.push {a : Assign} {s : SddSt} {o : SddOr} {k : Sdd.Ptr} (hs : SInv a s)
    (hlt : ∀ e ∈ o, SPtrLt e.prime s.nodes.size ∧ SPtrLt e.sub s.nodes.size)
    (hev : ∀ f, s.nodes.size ≤ f →
      (o.any fun e => evalSddPtr s.nodes a f e.prime && evalSddPtr s.nodes a f e.sub) = k.eval a) :
    SInv a ⟨s.nodes.push o, (k, s.nodes.size) :: s.table⟩ ∧
    SDenotes (s.nodes.push o) a (.ptr s.nodes.size false) k := by
  have hpush := SPrefix.push s.nodes o
  have hnew : SDenotes (s.nodes.push o) a (.ptr s.nodes.size false) k := by
    refine ⟨Array.size_push _ ▸ Nat.lt_succ_self _, fun fuel hf => ?_⟩
    cases fuel with
    | zero => exact absurd hf (Nat.not_lt_zero _)
    | succ f =>
      simp only [evalSddPtr, Array.getElem?_push, if_true, Bool.false_bne]
      rw [← hev f (Nat.le_of_lt_succ hf)]
      exact any_congr' fun e he => by
        rw [evalSddPtr_prefix a hs.wf hpush f e.prime (hlt e he).1,
          evalSddPtr_prefix a hs.wf hpush f e.sub (hlt e he).2]
  refine ⟨⟨fun i n hn => ?_, fun k' idx hm => ?_⟩, hnew⟩
  · rw [Array.getElem?_push] at hn
    by_cases hi : i = s.nodes.size
    · rw [if_pos hi] at hn; cases hn; subst hi; exact hlt
    · rw [if_neg hi] at hn; exact hs.wf i n hn
  · rcases List.mem_cons.mp hm with he | hm'
    · cases he; exact hnew
    · exact (hs.tbl k' idx hm').ext hs.wf hpush

mutual
theorem serSddAux_correct (a : Assign) :
    ∀ (d : Sdd.Ptr) (s : SddSt), SInv a s →
      SInv a (serSddAux d s).2 ∧ SPrefix s.nodes (serSddAux d s).2.nodes ∧
      SDenotes (serSddAux d s).2.nodes a (serSddAux d s).1 d
  | .tru, s, hs => ⟨hs, SPrefix.refl _, trivial, fun fuel _ => by cases fuel <;> rfl⟩
  | .fls, s, hs => ⟨hs, SPrefix.refl _, trivial, fun fuel _ => by cases fuel <;> rfl⟩
  | .lit v p, s, hs => ⟨hs, SPrefix.refl _, trivial, fun fuel _ => by cases fuel <;> rfl⟩
  | .bdd c l i lo hi, s, hs => by
    rw [serSddAux]
    cases hg : assocGet s.table (.bdd false l i lo hi) with
    | some idx =>
      exact ⟨hs, SPrefix.refl _,
        (hs.tbl _ _ (assocGet_mem _ _ _ hg)).flip (by simp [Sdd.Ptr.eval])⟩
    | none =>
      obtain ⟨i1, p1, d1⟩ := serSddAux_correct a lo s hs
      obtain ⟨i2, p2, d2⟩ := serSddAux_correct a hi (serSddAux lo s).2 i1
      have d1' := d1.ext i1.wf p2
      obtain ⟨i3, hnew⟩ := i2.push (k := .bdd false l i lo hi)
        (o := [⟨.lit l true, (serSddAux hi (serSddAux lo s).2).1⟩, ⟨.lit l false, (serSddAux lo s).1⟩])
        (fun e he => by
          rcases List.mem_cons.mp he with rfl | he
          · exact ⟨trivial, d2.1⟩
          · rw [List.mem_singleton.mp he]; exact ⟨trivial, d1'.1⟩)
        (fun f hf => by
          simp only [List.any_cons, List.any_nil, evalSddPtr, Sdd.Ptr.eval, if_true, Bool.false_bne]
          rw [d2.2 f (d2.1.mono hf), d1'.2 f (d1'.1.mono hf)]
          cases a l <;> simp)
      exact ⟨i3, p1.trans (p2.trans (SPrefix.push _ _)), hnew.flip (by simp [Sdd.Ptr.eval])⟩
  | .dec c i es, s, hs => by
    rw [serSddAux]
    cases hg : assocGet s.table (.dec false i es) with
    | some idx =>
      exact ⟨hs, SPrefix.refl _,
        (hs.tbl _ _ (assocGet_mem _ _ _ hg)).flip (by simp [Sdd.Ptr.eval])⟩
    | none =>
      obtain ⟨i1, p1, d1⟩ := serSddElems_correct a es s hs
      obtain ⟨i2, hnew⟩ := i1.push (k := .dec false i es) d1.lt
        fun f hf => (d1.eval f hf).trans (by simp [Sdd.Ptr.eval])
      exact ⟨i2, p1.trans (SPrefix.push _ _), hnew.flip (by simp [Sdd.Ptr.eval])⟩
theorem serSddElems_correct (a : Assign) :
    ∀ (es : List (Sdd.Ptr × Sdd.Ptr)) (s : SddSt), SInv a s →
      SInv a (serSddElems es s).2 ∧ SPrefix s.nodes (serSddElems es s).2.nodes ∧
      ElemsDenote (serSddElems es s).2.nodes a (serSddElems es s).1 es
  | [], s, hs => ⟨hs, SPrefix.refl _, .nil⟩
  | (p, sub) :: rest, s, hs => by
    rw [serSddElems]
    obtain ⟨i1, p1, d1⟩ := serSddAux_correct a p s hs
    obtain ⟨i2, p2, d2⟩ := serSddAux_correct a sub (serSddAux p s).2 i1
    obtain ⟨i3, p3, d3⟩ := serSddElems_correct a rest (serSddAux sub (serSddAux p s).2).2 i2
    exact ⟨i3, p1.trans (p2.trans p3),
      .cons ((d1.ext i1.wf p2).ext i2.wf p3) (d2.ext i2.wf p3) d3⟩
end
theorem SInv.init (a : Assign) : SInv a ⟨#[], []⟩ :=
  ⟨fun i n h => by simp at h, fun k idx h => by simp at h⟩

/-- **the table `from_sdd` produces, read naively from its root, is the diagram's function** -/
theorem serSdd_eval (d : Sdd.Ptr) (a : Assign) :
    ∃ r, (serSdd d).roots = [r] ∧ evalSddTable (serSdd d) r a = d.eval a := by
  obtain ⟨_, _, hd⟩ := serSddAux_correct a d ⟨#[], []⟩ (SInv.init a)
  exact ⟨(serSddAux d ⟨#[], []⟩).1, rfl, hd.2 _ hd.1⟩

theorem serSdd_wf (d : Sdd.Ptr) : SWf (serSdd d).nodes :=
  (serSddAux_correct (fun _ => false) d ⟨#[], []⟩ (SInv.init _)).1.wf

/-! ## BDD tables: the BDD serialiser is the SDD serialiser on binary nodes

`serSddAux` treats `.bdd c v _ lo hi` exactly as `serBddAux` treats `.node c v lo hi`: memo lookup on
the regular pointer, low first, then high, push, same index.  So a BDD table is the SDD table of
the embedded diagram, node by node, and its two properties are those of the SDD table. -/

/-- a BDD as an SDD of binary nodes (the vtree index plays no role in serialisation) -/
def embD : Bdd.Ptr → Sdd.Ptr
  | .tru => .tru
  | .fls => .fls
  | .node c v lo hi => .bdd c v 0 (embD lo) (embD hi)

def embP : SerBddPtr → SerSddPtr
  | .ptr i c => .ptr i c
  | .tru => .tru
  | .fls => .fls

/-- the two-element node `serSddAux` pushes for a binary node -/
def embN (n : SerBdd) : SddOr := [⟨.lit n.topvar true, embP n.high⟩, ⟨.lit n.topvar false, embP n.low⟩]

def embS (s : BddSt) : SddSt := ⟨s.nodes.map embN, s.table.map fun e => (embD e.1, e.2)⟩

theorem embD_eval (a : Assign) : ∀ d : Bdd.Ptr, (embD d).eval a = d.eval a
  | .tru => rfl
  | .fls => rfl
  | .node c v lo hi => by simp only [embD, Sdd.Ptr.eval, Bdd.Ptr.eval, embD_eval a lo, embD_eval a hi]

theorem embD_inj : ∀ {d e : Bdd.Ptr}, embD d = embD e → d = e
  | .tru, .tru, _ => rfl
  | .fls, .fls, _ => rfl
  | .node .., .node .., h => by
    simp only [embD, Sdd.Ptr.bdd.injEq] at h
    obtain ⟨rfl, rfl, -, h1, h2⟩ := h
    rw [embD_inj h1, embD_inj h2]
  | .tru, .fls, h | .fls, .tru, h | .tru, .node .., h | .fls, .node .., h
  | .node .., .tru, h | .node .., .fls, h => by simp [embD] at h

theorem assocGet_embD (k : Bdd.Ptr) : ∀ t : List (Bdd.Ptr × Nat),
    assocGet (t.map fun e => (embD e.1, e.2)) (embD k) = assocGet t k
  | [] => rfl
  | (k', v) :: r => by
    simp only [List.map_cons, assocGet, assocGet_embD k r]
    by_cases h : k = k'
    · rw [if_pos h, if_pos (congrArg embD h)]
    · rw [if_neg h, if_neg fun e => h (embD_inj e)]

theorem evalBddPtr_emb (nodes : Array SerBdd) (a : Assign) : ∀ (fuel : Nat) (p : SerBddPtr),
    evalBddPtr nodes a fuel p = evalSddPtr (nodes.map embN) a fuel (embP p)
  | _, .tru => by simp [evalBddPtr, evalSddPtr, embP]
  | _, .fls => by simp [evalBddPtr, evalSddPtr, embP]
  | 0, .ptr _ _ => by simp [evalBddPtr, evalSddPtr, embP]
  | fuel + 1, .ptr i c => by
    simp only [evalBddPtr, embP, evalSddPtr, Array.getElem?_map]
    cases nodes[i]? with
    | none => rfl
    | some n =>
      simp only [Option.map_some, embN, List.any_cons, List.any_nil, evalSddPtr, if_true,
        Bool.false_eq_true, if_false, evalBddPtr_emb nodes a fuel]
      cases a n.topvar <;> simp

/-- one run of the BDD serialiser is one run of the SDD serialiser on the embedded diagram -/
theorem serSddAux_emb : ∀ (d : Bdd.Ptr) (s : BddSt),
    serSddAux (embD d) (embS s) = (embP (serBddAux d s).1, embS (serBddAux d s).2)
  | .tru, _ => rfl
  | .fls, _ => rfl
  | .node c v lo hi, s => by
    rw [serBddAux, embD, serSddAux]
    have hk : assocGet (embS s).table (.bdd false v 0 (embD lo) (embD hi)) =
        assocGet s.table (.node false v lo hi) := assocGet_embD (.node false v lo hi) s.table
    rw [hk]
    cases assocGet s.table (.node false v lo hi) with
    | some i => rfl
    | none =>
      simp only [serSddAux_emb lo s, serSddAux_emb hi]
      simp [embS, embN, embP, embD]

theorem serSdd_emb (d : Bdd.Ptr) :
    serSdd (embD d) = ⟨(serBdd d).nodes.map embN, (serBdd d).roots.map embP⟩ := by
  have h := serSddAux_emb d ⟨#[], []⟩
  rw [show embS ⟨#[], []⟩ = ⟨#[], []⟩ by simp [embS]] at h
  simp only [serSdd, serBdd, h]; rfl

/-- **the table `from_bdd` produces, read naively from its root, is the diagram's function** -/
theorem serBdd_eval (d : Bdd.Ptr) (a : Assign) :
    ∃ r, (serBdd d).roots = [r] ∧ evalBddTable (serBdd d) r a = d.eval a := by
  obtain ⟨r, hr, he⟩ := serSdd_eval (embD d) a
  refine ⟨(serBddAux d ⟨#[], []⟩).1, rfl, ?_⟩
  rw [serSdd_emb] at hr he
  cases hr
  rw [← embD_eval, ← he, evalBddTable, evalBddPtr_emb, evalSddTable, Array.size_map]

/-- the table is in post order: children have smaller indices -/
theorem serBdd_wf (d : Bdd.Ptr) : BWf (serBdd d).nodes := fun i n hn => by
  have h := serSdd_wf (embD d) i (embN n) (by rw [serSdd_emb, Array.getElem?_map, hn]; rfl)
  have lt : ∀ {p k}, SPtrLt (embP p) k → BPtrLt p k := fun {p k} h => by cases p <;> exact h
  exact ⟨lt (h _ (List.mem_cons_of_mem _ List.mem_cons_self)).2, lt (h _ List.mem_cons_self).2⟩

/-! ## vtrees -/

theorem treeOfVtreeTable_serVtree : ∀ (t : Sdd.VTree), treeOfVtreeTable (serVtree t) = t
  | .leaf v => rfl
  | .node l r => by
    simp [serVtree, treeOfVtreeTable, treeOfVtreeTable_serVtree l, treeOfVtreeTable_serVtree r]

theorem serVtree_treeOfVtreeTable : ∀ (t : SerVTree), serVtree (treeOfVtreeTable t) = t
  | .leaf v => rfl
  | .node l r => by
    simp [serVtree, treeOfVtreeTable, serVtree_treeOfVtreeTable l, serVtree_treeOfVtreeTable r]

end Ser
