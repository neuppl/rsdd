import RsddModel.Lemmas.BddStoreCond
/-!
# Lemmas: one store-level builder call, and a program, refine the tree-level ones

`stepS_sim`, `runS_sim`: every returning store-level call / program (the whole `Op` language) is
matched, with the same fuel, by the tree-level call / program on the unfolded pool, for every pair
of caches related by a `CacheSim`; the invariant `InvS` is kept, the table is only appended to and
stays reduced.  Each case of `stepS` is the `Sim` lemma of its operation pushed onto the pool
(`push_sim`), or a `Grows` fact (`push_pure`).
-/
namespace BddStore
open Bdd Scratch Spec

/-- invariant of the store-level builder state: the unique table satisfies its invariant, the
apply cache and every pointer handed out point into it -/
def InvS {CS : CacheS} (st : StS CS) : Prop :=
  StoreOK st.store ∧ CacheValid CS st.store st.cache ∧ ∀ p ∈ st.pool, p.ValidIn st.store

/-- the tree-level state a store-level state unfolds to (given a tree-level cache state) -/
def mkT {CS : CacheS} {CT : CacheImpl} (cT : CT.σ) (st : StS CS) : St CT :=
  ⟨cT, st.numVars, st.pool.map (unfold st.store)⟩

theorem invS_init (CS : CacheS) (n : Nat) : InvS (StS.init CS n) :=
  ⟨storeOK_nil, cacheValid_empty CS [], fun p hp => by simp [StS.init] at hp⟩

theorem pool_map_push {s s' : Store} (he : Extends s' s) {pool : List Ref} (hp : ∀ p ∈ pool, p.ValidIn s)
    (r : Ref) : (pool ++ [r]).map (unfold s') = pool.map (unfold s) ++ [unfold s' r] := by
  rw [List.map_append, List.map_cons, List.map_nil]
  congr 1
  exact List.map_congr_left fun p h => unfold_extends he (hp p h)

theorem getAllS_spec {s : Store} {pool : List Ref} : ∀ {is : List Nat} {ps : List Ref},
    getAllS pool is = some ps →
    getAll (pool.map (unfold s)) is = some (ps.map (unfold s)) ∧ ∀ p ∈ ps, p ∈ pool
  | [], ps, h => by
    cases h
    exact ⟨rfl, fun p hp => by cases hp⟩
  | i :: is, ps, h => by
    simp only [getAllS] at h
    split at h
    · rename_i p qs hp hqs
      cases h
      obtain ⟨h1, h2⟩ := getAllS_spec (s := s) hqs
      exact ⟨by simp [getAll, List.getElem?_map, hp, h1], fun q hq =>
        (List.mem_cons.1 hq).elim (fun e => e ▸ List.mem_of_getElem? hp) (h2 q)⟩
    · cases h

section step
variable {CS : CacheS} {CT : CacheImpl} (sim : CacheSim CS CT) (lvl : Nat → Nat) (fuel : Nat)

def StepRefines (st st' : StS CS) (op : Op) : Prop :=
  InvS st' ∧ Extends st'.store st.store ∧ (∃ r, st'.pool = st.pool ++ [r]) ∧
  ∀ cT', sim.R st'.store st'.cache cT' →
    ∃ cT, sim.R st.store st.cache cT ∧ step CT lvl fuel (mkT cT st) op = some (mkT cT' st')

/-- what one returning builder call achieves: `StepRefines`, and the table stays reduced -/
def StepSim (st st' : StS CS) (op : Op) : Prop :=
  StepRefines sim lvl fuel st st' op ∧ (StoreRed st.store → StoreRed st'.store)

theorem pool_valid_push {s s' : Store} (he : Extends s' s) {pool : List Ref} (hp : ∀ p ∈ pool, p.ValidIn s)
    {r : Ref} (hr : r.ValidIn s') : ∀ p ∈ pool ++ [r], p.ValidIn s' := by
  intro p hp'
  rcases List.mem_append.1 hp' with h | h
  · exact validIn_extends he (hp p h)
  · simp only [List.mem_singleton] at h; subst h; exact hr

/-- a call that allocates at most table nodes and does not touch the apply cache -/
theorem push_pure {st : StS CS} (hinv : InvS st) {o : Store × Ref} {P : Ptr} {n' : Nat} {op : Op}
    (hg : Grows st.store o P) (hr : StoreRed st.store → StoreRed o.1)
    (hstep : ∀ cT : CT.σ, step CT lvl fuel (mkT cT st) op =
      some ⟨cT, n', st.pool.map (unfold st.store) ++ [P]⟩) :
    StepSim sim lvl fuel st ⟨o.1, st.cache, n', st.pool ++ [o.2]⟩ op := by
  obtain ⟨hs, hc, hp⟩ := hinv
  obtain ⟨s', r⟩ := o
  obtain ⟨hs', he, hv, rfl⟩ := hg
  refine ⟨⟨⟨hs', hc.extends he, pool_valid_push he hp hv⟩, he, ⟨r, rfl⟩, fun cT' hR =>
    ⟨cT', sim.mono_back hs hs' he hc hR, ?_⟩⟩, hr⟩
  rw [hstep]; simp only [mkT, pool_map_push he hp]

/-- a call that goes through `ite`: `o` is the store-level call, `call` the tree-level one -/
theorem push_sim {st st' : StS CS} (hinv : InvS st) {o : Option ((Store × CS.σ) × Ref)} {op : Op}
    {call : CT.σ → Option (CT.σ × Ptr)} (hstep : o.map st.push = some st')
    (href : ∀ a, o = some a → Sim sim (st.store, st.cache) a.1 a.2 call)
    (hT : ∀ cT, step CT lvl fuel (mkT cT st) op =
      (call cT).map fun (c, R) => ⟨c, st.numVars, st.pool.map (unfold st.store) ++ [R]⟩) :
    StepSim sim lvl fuel st st' op := by
  simp only [Option.map_eq_some_iff] at hstep
  obtain ⟨a, ho, rfl⟩ := hstep
  obtain ⟨hs, hc, hp⟩ := hinv
  obtain ⟨⟨⟨hs', he, hc', hr⟩, hsim⟩, hred⟩ := href a ho
  simp only at hs' he hc' hr hsim
  refine ⟨⟨⟨hs', hc', pool_valid_push he hp hr⟩, he, ⟨a.2, rfl⟩, fun cT' hR => ?_⟩, hred⟩
  obtain ⟨cT, hR0, hcall⟩ := hsim cT' hR
  refine ⟨cT, hR0, ?_⟩
  rw [hT, hcall]
  simp only [Option.map_some, mkT, StS.push, pool_map_push he hp]

/-- a call that looks two arguments up in the pool and applies a binary operation to them -/
theorem bin_sim {opS : Store × CS.σ → Ref → Ref → Option ((Store × CS.σ) × Ref)}
    {opT : CT.σ → Ptr → Ptr → Option (CT.σ × Ptr)}
    (hop : BinSim sim opS opT)
    {st st' : StS CS} (hinv : InvS st) {op : Op} {i j : Nat}
    (hT : ∀ stT : St CT, step CT lvl fuel stT op =
      match stT.pool[i]?, stT.pool[j]? with
      | some p, some q => (opT stT.cache p q).map fun (s, r) => { stT with cache := s, pool := stT.pool ++ [r] }
      | _, _ => none)
    (hstep : (match st.pool[i]?, st.pool[j]? with
      | some p, some q => (opS (st.store, st.cache) p q).map st.push
      | _, _ => none) = some st') : StepSim sim lvl fuel st st' op := by
  split at hstep
  · rename_i p q hpi hqj
    refine push_sim sim lvl fuel hinv hstep (fun a => hop hinv.1 hinv.2.1
      (hinv.2.2 _ (List.mem_of_getElem? hpi)) (hinv.2.2 _ (List.mem_of_getElem? hqj)) rfl rfl) fun cT => ?_
    simp only [hT, mkT, List.getElem?_map, hpi, hqj]; rfl
  · cases hstep

/-- **one store-level builder call refines one tree-level builder call**, and keeps the table reduced -/
theorem stepS_sim (st st' : StS CS) (op : Op) (hinv : InvS st)
    (hstep : stepS CS lvl fuel st op = some st') : StepSim sim lvl fuel st st' op := by
  have ⟨hs, hc, hp⟩ := hinv
  have vAt : ∀ {i : Nat} {p : Ref}, st.pool[i]? = some p → p.ValidIn st.store :=
    fun h => hp _ (List.mem_of_getElem? h)
  cases op with
  | const b =>
    cases hstep
    cases b
    · exact push_pure sim lvl fuel hinv (o := (_, .fls)) ⟨hs, Extends.refl _, validIn_fls _, unfold_fls _⟩ id fun _ => rfl
    · exact push_pure sim lvl fuel hinv (o := (_, .tru)) ⟨hs, Extends.refl _, validIn_tru _, unfold_tru _⟩ id fun _ => rfl
  | var x pol =>
    rw [stepS] at hstep
    by_cases hx : x < st.numVars
    · rw [if_pos hx] at hstep; cases hstep
      exact push_pure sim lvl fuel hinv (varS_spec hs x pol) (varS_red · x pol) fun _ => if_pos hx
    · rw [if_neg hx] at hstep; cases hstep
  | newVar pol =>
    cases hstep
    exact push_pure sim lvl fuel hinv (varS_spec hs st.numVars pol) (varS_red · _ pol) fun _ => rfl
  | neg i =>
    simp only [stepS, Option.map_eq_some_iff] at hstep
    obtain ⟨p, hpi, rfl⟩ := hstep
    refine push_pure sim lvl fuel hinv (o := (_, negS p))
      ⟨hs, Extends.refl _, validIn_neg (vAt hpi), unfold_neg ..⟩ id fun cT => ?_
    simp only [step, mkT, List.getElem?_map, hpi, Option.map_some]
  | and i j => exact bin_sim sim lvl fuel (andS_sim sim lvl fuel) hinv (fun _ => rfl) hstep
  | or i j => exact bin_sim sim lvl fuel (orS_sim sim lvl fuel) hinv (fun _ => rfl) hstep
  | xor i j => exact bin_sim sim lvl fuel (xorS_sim sim lvl fuel) hinv (fun _ => rfl) hstep
  | iff i j => exact bin_sim sim lvl fuel (iffS_sim sim lvl fuel) hinv (fun _ => rfl) hstep
  | ite i j k =>
    simp only [stepS] at hstep
    split at hstep
    · rename_i p q r0 hpi hqj hrk
      refine push_sim sim lvl fuel hinv hstep (fun a =>
        iteS_sim sim lvl fuel (st.store, st.cache) _ _ _ _ _ hs hc (vAt hpi) (vAt hqj) (vAt hrk)) fun cT => ?_
      simp only [step, mkT, List.getElem?_map, hpi, hqj, hrk]; rfl
    · cases hstep
  | andLst is =>
    simp only [stepS] at hstep
    split at hstep
    · rename_i ps hps
      obtain ⟨hall, hmem⟩ := getAllS_spec (s := st.store) hps
      refine push_sim sim lvl fuel hinv hstep (fun a => unfold_tru st.store ▸
        foldS_sim sim (lstT := bAndLst CT lvl fuel) (fun _ _ => rfl) (fun _ _ _ _ => rfl) (fun _ _ => rfl)
          (fun _ _ _ _ => rfl) (andS_sim sim lvl fuel) ps (st := (st.store, st.cache)) hs hc (validIn_tru _)
          (fun p h => hp p (hmem p h)) rfl) fun cT => ?_
      simp only [step, mkT, hall]
    · cases hstep
  | orLst is =>
    simp only [stepS] at hstep
    split at hstep
    · rename_i ps hps
      obtain ⟨hall, hmem⟩ := getAllS_spec (s := st.store) hps
      refine push_sim sim lvl fuel hinv hstep (fun a => unfold_fls st.store ▸
        foldS_sim sim (lstT := bOrLst CT lvl fuel) (fun _ _ => rfl) (fun _ _ _ _ => rfl) (fun _ _ => rfl)
          (fun _ _ _ _ => rfl) (orS_sim sim lvl fuel) ps (st := (st.store, st.cache)) hs hc (validIn_fls _)
          (fun p h => hp p (hmem p h)) rfl) fun cT => ?_
      simp only [step, mkT, hall]
    · cases hstep
  | cond i x b =>
    simp only [stepS] at hstep
    split at hstep
    · rename_i hx
      simp only [Option.map_eq_some_iff] at hstep
      obtain ⟨p, hpi, rfl⟩ := hstep
      refine push_pure sim lvl fuel hinv (condS_spec lvl hs (vAt hpi) x b) (condS_red lvl · p x b) fun cT => ?_
      simp only [step, mkT, List.getElem?_map, if_pos hx, hpi, Option.map_some]
    · cases hstep
  | condModel i m =>
    simp only [stepS] at hstep
    split at hstep
    · rename_i hm
      simp only [Option.map_eq_some_iff] at hstep
      obtain ⟨p, hpi, rfl⟩ := hstep
      refine push_pure sim lvl fuel hinv (condModelS_spec lvl m hs (vAt hpi)) (condModelS_red lvl m · p) fun cT => ?_
      simp only [step, mkT, List.getElem?_map, hpi, Option.map_some]
      exact if_pos hm
    · cases hstep
  | exist i x =>
    simp only [stepS] at hstep
    split at hstep
    · rename_i hx
      split at hstep
      · rename_i p hpi
        refine push_sim sim lvl fuel hinv hstep (fun a =>
          existsS_sim sim lvl fuel (st := (st.store, st.cache)) x hs hc (vAt hpi) rfl) fun cT => ?_
        simp only [step, mkT, List.getElem?_map, if_pos hx, hpi]; rfl
      · cases hstep
    · cases hstep
  | compose i x j =>
    simp only [stepS] at hstep
    split at hstep
    · rename_i hx
      split at hstep
      · rename_i p q hpi hqj
        refine push_sim sim lvl fuel hinv hstep (fun a =>
          composeS_sim sim lvl fuel (st := (st.store, st.cache)) x hs hc (vAt hpi) rfl (vAt hqj) rfl) fun cT => ?_
        simp only [step, mkT, List.getElem?_map, if_pos hx, hpi, hqj]; rfl
      · cases hstep
    · cases hstep

/-- **any store-level program refines the tree-level program**, from any state satisfying the
invariant, for every pair of caches related by a `CacheSim`; the table stays reduced -/
theorem runS_sim : ∀ (ops : List Op) (st st' : StS CS), InvS st → runS CS lvl fuel st ops = some st' →
    (InvS st' ∧ Extends st'.store st.store ∧ (∃ rs, st'.pool = st.pool ++ rs) ∧
    ∀ cT', sim.R st'.store st'.cache cT' →
      ∃ cT, sim.R st.store st.cache cT ∧ run CT lvl fuel (mkT cT st) ops = some (mkT cT' st')) ∧
    (StoreRed st.store → StoreRed st'.store)
  | [], st, st', hinv, hrun => by
    cases hrun
    exact ⟨⟨hinv, Extends.refl _, ⟨[], by simp⟩, fun cT' hR => ⟨cT', hR, rfl⟩⟩, id⟩
  | op :: ops, st, st', hinv, hrun => by
    simp only [runS] at hrun
    split at hrun
    · cases hrun
    · rename_i st1 h1
      obtain ⟨⟨inv1, ext1, ⟨r, hr⟩, sim1⟩, k1⟩ := stepS_sim sim lvl fuel st st1 op hinv h1
      obtain ⟨⟨inv2, ext2, ⟨rs, hrs⟩, sim2⟩, k2⟩ := runS_sim ops st1 st' inv1 hrun
      refine ⟨⟨inv2, ext2.trans ext1, ⟨r :: rs, by rw [hrs, hr, List.append_assoc]; rfl⟩, fun cT' hR => ?_⟩, k2 ∘ k1⟩
      obtain ⟨cT1, hR1, run2⟩ := sim2 cT' hR
      obtain ⟨cT0, hR0, run1⟩ := sim1 cT1 hR1
      exact ⟨cT0, hR0, by simp only [run, run1, run2]⟩

end step

end BddStore
