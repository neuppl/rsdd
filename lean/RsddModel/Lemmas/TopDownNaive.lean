import RsddModel.Lemmas.TopDownSolver
import RsddModel.Lemmas.UnitPropHash  -- `pmDifference`: `naiveDifference` is the same function
/-!
# The naive reference solver satisfies the solver specification

`NaiveSolver` (Model/TopDown.lean) satisfies `SolverSpec`, `NewSpec`, `HashSound` and
`FreeDecide` for every CNF, so the hypotheses of the C06 theorems are jointly satisfiable and
`naiveCompile` is an unconditionally correct compiler.
-/
namespace TopDown
open Spec Bdd

/-! ## association-list models -/

theorem NModel.get_nil (v : Nat) : NModel.get [] v = none := rfl

theorem NModel.get_cons (u : Lit) (m : NModel) (v : Nat) :
    NModel.get (u :: m) v = if u.var = v then some u.pol else NModel.get m v := by
  simp only [NModel.get, List.find?_cons]
  by_cases h : u.var = v
  · simp [h]
  · have : (u.var == v) = false := by simp [h]
    simp [this, h]

theorem toP_nil : NModel.toP [] = PModel.empty := rfl

theorem toP_cons (u : Lit) (m : NModel) : NModel.toP (u :: m) = (NModel.toP m).set u.var u.pol := by
  funext v
  simp only [NModel.toP, NModel.get_cons, PModel.set]
  by_cases h : u.var = v
  · simp [h]
  · have : ¬ v = u.var := fun e => h e.symm
    simp [h, this]

/-! ## units -/

theorem unitOf_some {m : NModel} {c : Clause} {u : Lit} (h : unitOf m c = some u) :
    c.any (litTrue m.toP) = false ∧ u ∈ c ∧ m.toP u.var = none ∧
    ∀ l ∈ c, m.toP l.var = none → l = u := by
  unfold unitOf at h
  by_cases hnt : c.any (litTrue m.toP) = true
  · rw [if_pos hnt] at h; cases h
  · rw [if_neg hnt] at h
    have hmem : ∀ l, l ∈ c.filter (litUnset m.toP) ↔ l ∈ c ∧ m.toP l.var = none := fun l => by
      rw [List.mem_filter, litUnset_iff]
    cases hf : c.filter (litUnset m.toP) with
    | nil => rw [hf] at h; cases h
    | cons u' rest =>
      rw [hf] at h hmem
      dsimp only at h
      by_cases hall : rest.all (fun l => decide (l = u')) = true
      · rw [if_pos hall] at h
        cases h
        have hu := (hmem u).1 List.mem_cons_self
        refine ⟨Bool.eq_false_iff.2 hnt, hu.1, hu.2, fun l hl hlu => ?_⟩
        rcases List.mem_cons.1 ((hmem l).2 ⟨hl, hlu⟩) with e | e
        · exact e
        · exact of_decide_eq_true (List.all_eq_true.1 hall l e)
      · rw [if_neg hall] at h; cases h

theorem findUnit_cons (m : NModel) (c : Clause) (cs : Cnf) :
    findUnit m (c :: cs) = match unitOf m c with
      | some u => some u
      | none => findUnit m cs := rfl

theorem findUnit_some {m : NModel} {cnf : Cnf} {u : Lit} (h : findUnit m cnf = some u) :
    ∃ c ∈ cnf, unitOf m c = some u := by
  induction cnf with
  | nil => cases h
  | cons c cs ih =>
    rw [findUnit_cons] at h
    cases hc : unitOf m c with
    | some u' =>
      rw [hc] at h; cases h
      exact ⟨c, List.mem_cons_self, hc⟩
    | none =>
      rw [hc] at h
      obtain ⟨c', hc', hu⟩ := ih h
      exact ⟨c', List.mem_cons_of_mem _ hc', hu⟩

theorem findUnit_none_iff {m : NModel} {cnf : Cnf} : findUnit m cnf = none ↔ ∀ c ∈ cnf, unitOf m c = none := by
  induction cnf with
  | nil => exact ⟨fun _ _ hc => (nomatch hc), fun _ => rfl⟩
  | cons c cs ih =>
    rw [findUnit_cons, List.forall_mem_cons, ← ih]
    cases unitOf m c with
    | some u' => exact ⟨nofun, fun h => (nomatch h.1)⟩
    | none => exact ⟨fun h => ⟨rfl, h⟩, fun h => h.2⟩

/-! ## propagation -/

theorem propagate_induct {cnf : Cnf} (P : NModel → Prop)
    (hstep : ∀ m' u, P m' → (∃ c ∈ cnf, unitOf m' c = some u) → P (u :: m')) :
    ∀ (fuel : Nat) (m : NModel), P m → P (propagate cnf fuel m) := by
  intro fuel
  induction fuel with
  | zero => exact fun _ h => h
  | succ fuel ih =>
    intro m h
    unfold propagate
    cases hu : findUnit m cnf with
    | none => exact h
    | some u => exact ih (u :: m) (hstep m u h (findUnit_some hu))

theorem unit_entailed {cnf : Cnf} {m : NModel} {c : Clause} {u : Lit} (hc : c ∈ cnf)
    (hu : unitOf m c = some u) {a : Assign} (ha : Extends a m.toP) (hsat : cnfSat a cnf = true) :
    litSat a u = true :=
  let ⟨hnt, _, _, huniq⟩ := unitOf_some hu
  unit_sound hc hnt huniq ha hsat

theorem propagate_ext (cnf : Cnf) (fuel : Nat) (m : NModel) : PExt m.toP (propagate cnf fuel m).toP := by
  apply propagate_induct (fun m' => PExt m.toP m'.toP) _ fuel m (PExt.refl _)
  intro m' u h ⟨c, _, hu⟩
  rw [toP_cons]
  exact h.trans (PExt_set _ (unitOf_some hu).2.2.1)

theorem propagate_sound (cnf : Cnf) (fuel : Nat) (m : NModel) {a : Assign} (ha : Extends a m.toP)
    (hsat : cnfSat a cnf = true) : Extends a (propagate cnf fuel m).toP := by
  apply propagate_induct (fun m' => Extends a m'.toP) _ fuel m ha
  intro m' u h ⟨c, hc, hu⟩
  rw [toP_cons]
  apply Extends.set h
  have := unit_entailed hc hu h hsat
  simpa [litSat] using this

/-! ### the fuel is enough -/

/-- number of variable occurrences still unassigned -/
def unsetCount (cnf : Cnf) (m : NModel) : Nat := (cnfVarList cnf).countP (fun v => (m.get v).isNone)

theorem unsetCount_unit {cnf : Cnf} {m : NModel} {c : Clause} {u : Lit} (hc : c ∈ cnf)
    (hu : unitOf m c = some u) : unsetCount cnf (u :: m) < unsetCount cnf m := by
  obtain ⟨_, huc, hun, _⟩ := unitOf_some hu
  apply countP_lt_of
  · intro v _ hv
    rw [NModel.get_cons] at hv
    by_cases e : u.var = v
    · simp [e] at hv
    · simpa [e] using hv
  · refine ⟨u.var, List.mem_flatMap.2 ⟨c, hc, List.mem_map.2 ⟨u, huc, rfl⟩⟩, ?_, ?_⟩
    · have : m.get u.var = none := hun
      simp [this]
    · simp [NModel.get_cons]

theorem propagate_fix (cnf : Cnf) : ∀ (fuel : Nat) (m : NModel), unsetCount cnf m < fuel →
    findUnit (propagate cnf fuel m) cnf = none := by
  intro fuel
  induction fuel with
  | zero => exact fun _ h => absurd h (Nat.not_lt_zero _)
  | succ fuel ih =>
    intro m h
    unfold propagate
    cases hu : findUnit m cnf with
    | none => exact hu
    | some u =>
      obtain ⟨c, hc, huc⟩ := findUnit_some hu
      exact ih (u :: m) (Nat.lt_of_lt_of_le (unsetCount_unit hc huc) (Nat.le_of_lt_succ h))

theorem propagate_fix' (cnf : Cnf) (m : NModel) : findUnit (propagate cnf (propFuel cnf) m) cnf = none := by
  apply propagate_fix
  unfold propFuel unsetCount
  exact Nat.lt_succ_of_le List.countP_le_length

/-! ## `difference` -/

theorem NModel.get_some_mem {m : NModel} {v : Nat} {b : Bool} (h : m.get v = some b) :
    ∃ l ∈ m, l.var = v ∧ l.pol = b := by
  unfold NModel.get at h
  split at h
  · rename_i l hl
    cases h
    have h1 := List.find?_some hl
    simp only [beq_iff_eq] at h1
    exact ⟨l, List.mem_of_find?_eq_some hl, h1, rfl⟩
  · cases h

/-- `naiveDifference` is the `difference_iter` of the mirrored solver (`UnitProp.pmDifference`), on the
models the two association lists denote -/
theorem naiveDifference_eq (s : NaiveState) :
    naiveDifference s =
      UnitProp.pmDifference (s.top.foldl (fun n l => max n (l.var + 1)) s.numVars) s.top.toP s.prev.toP := rfl

theorem naiveDifference_nodup (s : NaiveState) : ((naiveDifference s).map (·.var)).Nodup :=
  UnitProp.pmDifference_vars_nodup _ _ _

/-! ## the specification instance -/

/-- the abstract view of one model of the stack -/
def naiveFrame (cnf : Cnf) (m : NModel) : Frame Cnf :=
  ⟨m.toP, residual cnf m.toP, cnf.all (fun c => c.any (litTrue m.toP))⟩

/-- each model of the stack extends the one below it -/
def ChainOK : List NModel → Prop
  | m1 :: m0 :: rest => PExt m0.toP m1.toP ∧ ChainOK (m0 :: rest)
  | _ => True

/-- validity of a naive state: it is a state for `cnf`; the stack is a chain; every model on it
is conflict-free; every model but the bottom one is closed under unit propagation -/
structure NaiveInv (cnf : Cnf) (s : NaiveState) : Prop where
  cnf_eq : s.cnf = cnf
  chain : ChainOK s.stack
  noconf : ∀ m ∈ s.stack, hasConflict cnf m = false
  fix : ∀ m ∈ s.stack.dropLast, findUnit m cnf = none

theorem frames_cons {cnf : Cnf} {s : NaiveState} {f : Frame Cnf} {rest : List (Frame Cnf)}
    (h : s.stack.map (naiveFrame cnf) = f :: rest) :
    ∃ m ms, s.stack = m :: ms ∧ f = naiveFrame cnf m ∧ rest = ms.map (naiveFrame cnf) :=
  let ⟨m, ms, hs, e1, e2⟩ := List.map_eq_cons_iff.1 h
  ⟨m, ms, hs, e1.symm, e2.symm⟩

theorem top_of_stack {s : NaiveState} {m : NModel} {ms : List NModel} (h : s.stack = m :: ms) : s.top = m := by
  simp [NaiveState.top, h]

theorem prev_of_stack {s : NaiveState} {m1 m0 : NModel} {ms : List NModel} (h : s.stack = m1 :: m0 :: ms) :
    s.prev = m0 := by
  simp [NaiveState.prev, h]

theorem allTrue_sat {cnf : Cnf} {m : PModel} (h : cnf.all (fun c => c.any (litTrue m)) = true)
    {a : Assign} (ha : Extends a m) : cnfSat a cnf = true := by
  rw [List.all_eq_true] at h
  simp only [cnfSat, List.all_eq_true]
  intro c hc
  exact clauseSat_of_litTrue ha (h c hc)

theorem hasConflict_mono {cnf : Cnf} {m m' : NModel} (h : PExt m.toP m'.toP) (hc : hasConflict cnf m = true) :
    hasConflict cnf m' = true :=
  let ⟨c, hcm, hf⟩ := List.any_eq_true.1 hc
  List.any_eq_true.2 ⟨c, hcm, List.all_eq_true.2 fun l hl => litFalse_mono h (List.all_eq_true.1 hf l hl)⟩

theorem noConflict_total_sat {cnf : Cnf} {m : NModel} (hnc : hasConflict cnf m = false)
    (htot : ∀ v, InCnf cnf v → m.toP v ≠ none) {a : Assign} (ha : Extends a m.toP) :
    cnfSat a cnf = true :=
  noFalsified_total_sat (fun c hc => Bool.eq_false_iff.2 fun h =>
    Bool.eq_false_iff.1 hnc (List.any_eq_true.2 ⟨c, hc, h⟩)) htot ha

/-! ## `decide` -/

theorem naiveDecide_unset {cnf : Cnf} {s : NaiveState} (hI : NaiveInv cnf s) {m : NModel} {ms : List NModel}
    (hs : s.stack = m :: ms) {l : Lit} (hl : m.get l.var = none) :
    naiveDecide s l =
      if hasConflict cnf (propagate cnf (propFuel cnf) (l :: m)) then (.unsat, s)
      else
        (if cnf.all (fun c => c.any (litTrue (propagate cnf (propFuel cnf) (l :: m)).toP)) then .sat else .unknown,
         { s with stack := propagate cnf (propFuel cnf) (l :: m) :: s.stack }) := by
  simp only [naiveDecide, top_of_stack hs, hl, hI.cnf_eq]
  rfl

theorem conflict_unsat {cnf : Cnf} {m m' : NModel}
    (hsound : ∀ a, Extends a m.toP → cnfSat a cnf = true → Extends a m'.toP)
    (hc : hasConflict cnf m' = true) : UnsatUnder cnf m.toP := by
  intro a ha
  cases hsat : cnfSat a cnf
  · rfl
  · exfalso
    have he := hsound a ha hsat
    obtain ⟨c, hcm, hcf⟩ := List.any_eq_true.1 hc
    have hcs : clauseSat a c = true := by
      simp only [cnfSat, List.all_eq_true] at hsat
      exact hsat c hcm
    obtain ⟨l, hl, hls⟩ := List.any_eq_true.1 hcs
    simp only [clauseFalsified, List.all_eq_true] at hcf
    have := litFalse_unsat he (hcf l hl)
    rw [hls] at this; cases this

theorem propagate_relevant (cnf : Cnf) (fuel : Nat) (top : NModel) (l : Lit) (hl : top.get l.var = none) :
    ∀ v, (propagate cnf fuel (l :: top)).get v ≠ none → top.get v = none →
      v = l.var ∨ InCnf (residual cnf top.toP) v := by
  have h0 : PExt top.toP (NModel.toP (l :: top)) := by rw [toP_cons]; exact PExt_set _ hl
  have := propagate_induct (cnf := cnf)
    (fun m' => PExt top.toP m'.toP ∧ ∀ v, m'.get v ≠ none → top.get v = none →
      v = l.var ∨ InCnf (residual cnf top.toP) v) ?_ fuel (l :: top) ⟨h0, ?_⟩
  · exact this.2
  · intro m' u ⟨hext, hrel⟩ ⟨c, hc, hu⟩
    obtain ⟨hnt, huc, hun, _⟩ := unitOf_some hu
    refine ⟨?_, ?_⟩
    · rw [toP_cons]; exact hext.trans (PExt_set _ hun)
    · intro v hv hv0
      rw [NModel.get_cons] at hv
      by_cases e : u.var = v
      · subst e
        right
        refine InCnf_residual.2 ⟨c, hc, ?_, u, huc, ?_, rfl⟩
        · exact Bool.eq_false_iff.2 fun h' => Bool.eq_false_iff.1 hnt (anyTrue_mono hext h')
        · have : top.toP u.var = none := hv0
          simp [litFalse, this]
      · simp only [e, if_false] at hv
        exact hrel v hv hv0
  · intro v hv hv0
    rw [NModel.get_cons] at hv
    by_cases e : l.var = v
    · exact Or.inl e.symm
    · simp only [e, if_false] at hv
      exact absurd hv0 hv

/-! ## irrelevant variables -/

theorem unitOf_congr {m m' : NModel} {c : Clause} (h : ∀ l ∈ c, m'.toP l.var = m.toP l.var) :
    unitOf m' c = unitOf m c := by
  unfold unitOf
  rw [any_congr_mem (q := litTrue m.toP) fun l hl => by rw [litTrue, litTrue, h l hl],
    List.filter_congr (q := litUnset m.toP) fun l hl => by rw [litUnset, litUnset, h l hl]]

/-! ## the instance -/

theorem naive_decide_unsat {cnf : Cnf} {s : NaiveState} (hI : NaiveInv cnf s) {m : NModel} {ms : List NModel}
    (hs : s.stack = m :: ms) {l : Lit} (hl : m.get l.var = none) (hu : (naiveDecide s l).1 = .unsat) :
    (naiveDecide s l).2 = s ∧ UnsatUnder cnf (m.toP.set l.var l.pol) := by
  rw [naiveDecide_unset hI hs hl] at hu ⊢
  by_cases hc : hasConflict cnf (propagate cnf (propFuel cnf) (l :: m)) = true
  · rw [if_pos hc]
    refine ⟨rfl, ?_⟩
    rw [← toP_cons]
    exact conflict_unsat (fun a ha hsat => propagate_sound cnf _ _ ha hsat) hc
  · rw [if_neg hc] at hu
    dsimp only at hu
    split at hu <;> cases hu

theorem naive_decide_ok {cnf : Cnf} {s : NaiveState} (hI : NaiveInv cnf s) {m : NModel} {ms : List NModel}
    (hs : s.stack = m :: ms) {l : Lit} (hl : m.get l.var = none) (hu : (naiveDecide s l).1 ≠ .unsat) :
    hasConflict cnf (propagate cnf (propFuel cnf) (l :: m)) = false ∧
    (naiveDecide s l).2 = { s with stack := propagate cnf (propFuel cnf) (l :: m) :: s.stack } ∧
    ((naiveDecide s l).1 = .sat ↔
      cnf.all (fun c => c.any (litTrue (propagate cnf (propFuel cnf) (l :: m)).toP)) = true) := by
  rw [naiveDecide_unset hI hs hl] at hu ⊢
  by_cases hc : hasConflict cnf (propagate cnf (propFuel cnf) (l :: m)) = true
  · rw [if_pos hc] at hu
    exact absurd rfl hu
  · rw [if_neg hc]
    refine ⟨Bool.eq_false_iff.2 hc, rfl, ?_⟩
    dsimp only
    by_cases h : cnf.all (fun c => c.any (litTrue (propagate cnf (propFuel cnf) (l :: m)).toP)) = true
    · rw [if_pos h]; exact ⟨fun _ => h, fun _ => rfl⟩
    · rw [if_neg h]; exact ⟨nofun, fun h' => absurd h' h⟩

theorem naiveInv_push {cnf : Cnf} {s : NaiveState} (hI : NaiveInv cnf s) {m : NModel} {ms : List NModel}
    (hs : s.stack = m :: ms) {l : Lit} (hl : m.get l.var = none)
    (hnc : hasConflict cnf (propagate cnf (propFuel cnf) (l :: m)) = false) :
    NaiveInv cnf { s with stack := propagate cnf (propFuel cnf) (l :: m) :: s.stack } where
  cnf_eq := hI.cnf_eq
  chain := by
    have hc := hI.chain
    simp only [hs] at hc ⊢
    refine ⟨?_, hc⟩
    have h0 : PExt m.toP (NModel.toP (l :: m)) := by rw [toP_cons]; exact PExt_set _ hl
    exact h0.trans (propagate_ext cnf _ _)
  noconf := by
    intro m' hm'
    rcases List.mem_cons.1 hm' with e | e
    · rw [e]; exact hnc
    · exact hI.noconf m' e
  fix := by
    intro m' hm'
    simp only [hs] at hm'
    rw [List.dropLast_cons_of_ne_nil (List.cons_ne_nil _ _)] at hm'
    rcases List.mem_cons.1 hm' with e | e
    · rw [e]; exact propagate_fix' cnf _
    · exact hI.fix m' (by rw [hs]; exact e)

theorem naiveInv_pop {cnf : Cnf} {s : NaiveState} (hI : NaiveInv cnf s) {m1 m0 : NModel} {ms : List NModel}
    (hs : s.stack = m1 :: m0 :: ms) : NaiveInv cnf { s with stack := s.stack.drop 1 } where
  cnf_eq := hI.cnf_eq
  chain := by have := hI.chain; simp only [hs] at this ⊢; exact this.2
  noconf := by
    intro m' hm'
    simp only [hs, List.drop_succ_cons, List.drop_zero] at hm'
    exact hI.noconf m' (by rw [hs]; exact List.mem_cons_of_mem _ hm')
  fix := by
    intro m' hm'
    simp only [hs, List.drop_succ_cons, List.drop_zero] at hm'
    apply hI.fix m'
    rw [hs, List.dropLast_cons_of_ne_nil (List.cons_ne_nil _ _)]
    exact List.mem_cons_of_mem _ hm'

/-- the `diff_sound` and `diff_complete` clauses: the bound of `naiveDifference` is above every
label of the top model -/
theorem naive_diff {cnf : Cnf} {s : NaiveState} (hI : NaiveInv cnf s) {m1 m0 : NModel} {ms : List NModel}
    (hs : s.stack = m1 :: m0 :: ms) :
    (∀ l ∈ naiveDifference s, m0.toP l.var = none ∧ m1.toP l.var = some l.pol) ∧
    (∀ v b, m1.toP v = some b → m0.toP v = none → (⟨v, b⟩ : Lit) ∈ naiveDifference s) := by
  have hch := hI.chain
  rw [hs] at hch
  have h := UnitProp.pmDifference_spec (n := s.top.foldl (fun n l => max n (l.var + 1)) s.numVars)
    (old := s.prev.toP) (new := s.top.toP) (by rw [top_of_stack hs, prev_of_stack hs]; exact hch.1)
  rw [← naiveDifference_eq] at h
  rw [top_of_stack hs, prev_of_stack hs] at h
  refine ⟨h.1, fun v b h1 h0 => h.2 v b ?_ h1 h0⟩
  obtain ⟨l, hl, hlv, _⟩ := NModel.get_some_mem (show m1.get v = some b from h1)
  exact hlv ▸ (foldl_max_inner m1 _).2 l hl

/-- `NaiveSolver` satisfies the solver specification, for every CNF -/
def naiveSpec (cnf : Cnf) : SolverSpec cnf NaiveSolver where
  Inv := NaiveInv cnf
  frames := fun s => s.stack.map (naiveFrame cnf)
  Var := fun _ => True
  obs_sat := by
    intro s f rest hI hfr
    obtain ⟨m, ms, hs, rfl, rfl⟩ := frames_cons hfr
    show naiveIsSat s = _
    simp [naiveIsSat, top_of_stack hs, hI.cnf_eq, naiveFrame]
  obs_hash := by
    intro s f rest hI hfr
    obtain ⟨m, ms, hs, rfl, rfl⟩ := frames_cons hfr
    show residual s.cnf s.top.toP = _
    simp [top_of_stack hs, hI.cnf_eq, naiveFrame]
  obs_set := by
    intro s f rest hI hfr v
    obtain ⟨m, ms, hs, rfl, rfl⟩ := frames_cons hfr
    show (s.top.get v).isSome = _
    simp [top_of_stack hs, naiveFrame, NModel.toP]
  sat_sound := by
    intro s f rest hI hfr hsat a ha
    obtain ⟨m, ms, hs, rfl, rfl⟩ := frames_cons hfr
    exact allTrue_sat hsat ha
  total_sound := by
    intro s f rest hI hfr htot a ha
    obtain ⟨m, ms, hs, rfl, rfl⟩ := frames_cons hfr
    exact noConflict_total_sat (hI.noconf m (by rw [hs]; exact List.mem_cons_self)) htot ha
  diff_nodup := by
    intro s f1 f0 rest hI hfr
    exact naiveDifference_nodup s
  diff_sound := by
    intro s f1 f0 rest hI hfr
    obtain ⟨m1, ms, hs, rfl, hrest⟩ := frames_cons hfr
    cases ms with
    | nil => cases hrest
    | cons m0 ms' =>
      obtain ⟨rfl, _⟩ := List.cons.inj hrest
      exact (naive_diff hI hs).1
  diff_complete := by
    intro s f1 f0 rest hI hfr
    obtain ⟨m1, ms, hs, rfl, hrest⟩ := frames_cons hfr
    cases ms with
    | nil => cases hrest
    | cons m0 ms' =>
      obtain ⟨rfl, _⟩ := List.cons.inj hrest
      exact (naive_diff hI hs).2
  decide_unsat := by
    intro s f0 rest l hI hfr _ hl hu
    obtain ⟨m, ms, hs, rfl, rfl⟩ := frames_cons hfr
    obtain ⟨h1, h2⟩ := naive_decide_unsat hI hs hl hu
    have h1' : (NaiveSolver.decide s l).2 = s := h1
    rw [h1']
    exact ⟨hI, by rw [hs]; rfl, h2⟩
  decide_ok := by
    intro s f0 rest l hI hfr _ hl hu
    obtain ⟨m, ms, hs, rfl, rfl⟩ := frames_cons hfr
    obtain ⟨hnc, h2, h3⟩ := naive_decide_ok hI hs hl hu
    have h2' : (NaiveSolver.decide s l).2 = _ := h2
    refine ⟨naiveFrame cnf (propagate cnf (propFuel cnf) (l :: m)), ?_, ?_, ?_, ?_, ?_, h3⟩
    · rw [h2']; exact naiveInv_push hI hs hl hnc
    · rw [h2']; simp only [hs]; rfl
    · show PExt (m.toP.set l.var l.pol) _
      rw [← toP_cons]; exact propagate_ext cnf _ _
    · intro v b hv _ a ha hsat
      have ha' : Extends a (NModel.toP (l :: m)) := by rw [toP_cons]; exact ha
      have := propagate_sound cnf (propFuel cnf) (l :: m) ha' hsat v b hv
      simp [litSat, this]
    · intro v hv h0
      exact propagate_relevant cnf _ m l hl v hv h0
  pop_ok := by
    intro s f1 f0 rest hI hfr _
    obtain ⟨m1, ms, hs, rfl, hrest⟩ := frames_cons hfr
    cases ms with
    | nil => cases hrest
    | cons m0 ms' =>
      refine ⟨naiveInv_pop hI hs, ?_⟩
      show (s.stack.drop 1).map (naiveFrame cnf) = _
      rw [hrest, hs]; rfl

/-! ## the hash hypotheses and `new` -/

theorem naive_modelOf (cnf : Cnf) (s : NaiveState) : (naiveSpec cnf).modelOf s = s.top.toP := by
  have e : (naiveSpec cnf).frames s = s.stack.map (naiveFrame cnf) := rfl
  unfold SolverSpec.modelOf
  rw [e]
  cases hs : s.stack with
  | nil => simp [NaiveState.top, hs, toP_nil]
  | cons m ms => simp [NaiveState.top, hs, naiveFrame]

/-- the cache key of the naive solver IS the residual formula -/
theorem naive_hashSound (cnf : Cnf) : HashSound (naiveSpec cnf) := by
  intro (s1 : NaiveState) (s2 : NaiveState) h1 h2 hk
  have hk' : residual s1.cnf s1.top.toP = residual s2.cnf s2.top.toP := hk
  rw [naive_modelOf, naive_modelOf]
  rw [(h1 : NaiveInv cnf s1).cnf_eq, (h2 : NaiveInv cnf s2).cnf_eq] at hk'
  exact hk'

theorem propagate_of_fix {cnf : Cnf} {m : NModel} (h : findUnit m cnf = none) :
    ∀ fuel, propagate cnf fuel m = m
  | 0 => rfl
  | fuel + 1 => by unfold propagate; rw [h]

theorem irrelevant_push {cnf : Cnf} {m : NModel} {v : Nat} (b : Bool) (hv : m.get v = none)
    (hirr : ¬ InCnf (residual cnf m.toP) v) (hfix : findUnit m cnf = none)
    (hnc : hasConflict cnf m = false) :
    findUnit (⟨v, b⟩ :: m) cnf = none ∧ hasConflict cnf (⟨v, b⟩ :: m) = false := by
  have hv' : m.toP v = none := hv
  constructor
  · refine findUnit_none_iff.2 fun c hc => ?_
    rcases irrelevant_cases b hv' hirr hc with h | h
    · unfold unitOf
      rw [toP_cons, if_pos (anyTrue_mono (PExt_set b hv') h)]
    · rw [unitOf_congr (m := m) fun l hl => by rw [toP_cons]; exact h l hl, findUnit_none_iff.1 hfix c hc]
  · refine Bool.eq_false_iff.2 fun hcf => ?_
    obtain ⟨c, hc, hfal⟩ := List.any_eq_true.1 hcf
    rw [toP_cons] at hfal
    rcases irrelevant_cases b hv' hirr hc with h | h
    · obtain ⟨l, hl, hlt⟩ := List.any_eq_true.1 h
      have ht := beq_iff_eq.1 (litTrue_mono (PExt_set b hv') hlt)
      rw [beq_iff_eq.1 (List.all_eq_true.1 hfal l hl)] at ht
      cases hp : l.pol <;> simp [hp] at ht
    · rw [clauseFalsified, all_congr_mem (q := litFalse m.toP) fun l hl => by rw [litFalse, litFalse, h l hl]] at hfal
      exact Bool.eq_false_iff.1 hnc (List.any_eq_true.2 ⟨c, hc, hfal⟩)

theorem naive_freeDecide (cnf : Cnf) : FreeDecide (naiveSpec cnf) := by
  intro (s : NaiveState) f0 rest v b hI hfr hrest _ hv hirr
  have hI' : NaiveInv cnf s := hI
  obtain ⟨m, ms, hs, rfl, rfl⟩ := frames_cons hfr
  have hms : ms ≠ [] := fun e => hrest (by rw [e]; rfl)
  have hfix : findUnit m cnf = none := by
    apply hI'.fix
    rw [hs, List.dropLast_cons_of_ne_nil hms]
    exact List.mem_cons_self
  have hnc := hI'.noconf m (by rw [hs]; exact List.mem_cons_self)
  have hv' : m.get v = none := hv
  obtain ⟨hfix', hnc'⟩ := irrelevant_push b hv' hirr hfix hnc
  rw [show NaiveSolver.decide s ⟨v, b⟩ = naiveDecide s ⟨v, b⟩ from rfl, naiveDecide_unset (l := ⟨v, b⟩) hI' hs hv',
    propagate_of_fix hfix', if_neg (Bool.eq_false_iff.1 hnc')]
  refine ⟨by dsimp only; split <;> nofun, ?_⟩
  intro f1 rest' hfr1
  have hfr1' : (((⟨v, b⟩ : Lit) :: m) :: s.stack).map (naiveFrame cnf) = f1 :: rest' := hfr1
  simp only [List.map_cons] at hfr1'
  obtain ⟨rfl, _⟩ := List.cons.inj hfr1'
  have hv'' : m.toP v = none := hv
  refine ⟨?_, ?_, ?_⟩
  · show NModel.toP (⟨v, b⟩ :: m) = _
    rw [toP_cons]; rfl
  · show residual cnf (NModel.toP (⟨v, b⟩ :: m)) = residual cnf m.toP
    rw [toP_cons]; exact residual_irrelevant b hv'' hirr
  · show cnf.all (fun c => c.any (litTrue (NModel.toP (⟨v, b⟩ :: m)))) = cnf.all (fun c => c.any (litTrue m.toP))
    rw [toP_cons]
    exact all_congr_mem fun c hc => (irrelevant_clause b hv'' hirr hc).1

theorem extends_empty (a : Assign) : Extends a (NModel.toP []) := by
  intro x b h; cases h

theorem naive_newSpec (cnf : Cnf) (numVars : Nat) : NewSpec (naiveSpec cnf) cnf numVars where
  none_unsat := by
    intro h a
    have h' : naiveNew cnf numVars = none := h
    unfold naiveNew at h'
    simp only at h'
    split at h'
    · rename_i hc
      exact conflict_unsat (m := []) (fun a ha hsat => propagate_sound cnf _ _ ha hsat) hc a (extends_empty a)
    · cases h'
  some_ok := by
    intro s h
    have h' : naiveNew cnf numVars = some s := h
    unfold naiveNew at h'
    simp only at h'
    split at h'
    · cases h'
    · rename_i hc
      cases h'
      have hnc : hasConflict cnf (propagate cnf (propFuel cnf) []) = false := by simpa using hc
      refine ⟨naiveFrame cnf (propagate cnf (propFuel cnf) []), naiveFrame cnf [], ?_, rfl, fun _ => rfl, ?_⟩
      · refine ⟨rfl, ⟨propagate_ext cnf _ _, trivial⟩, ?_, ?_⟩
        · intro m hm
          simp only [List.mem_cons, List.not_mem_nil, or_false] at hm
          rcases hm with e | e
          · rw [e]; exact hnc
          · -- a conflict under the empty model is a conflict under every model
            rw [e]
            exact Bool.eq_false_iff.2 fun hcf =>
              Bool.eq_false_iff.1 hnc (hasConflict_mono (propagate_ext cnf _ []) hcf)
        · intro m hm
          have hm' : m ∈ [propagate cnf (propFuel cnf) []] := hm
          rw [List.mem_singleton.1 hm']; exact propagate_fix' cnf _
      · intro v b hv a hsat
        exact propagate_sound cnf _ [] (extends_empty a) hsat v b hv

/-! ## the unconditional theorem for the reference compiler -/

theorem lt_cnfNumVars {cnf : Cnf} {v : Nat} (h : InCnf cnf v) : v < cnfNumVars cnf := by
  obtain ⟨c, hc, l, hl, e⟩ := h
  exact e ▸ var_lt_numVars hc hl

/-- **non-vacuity / reference compiler**: for EVERY CNF, `naiveCompile` (naive solver, standard
store, identity order) returns a diagram that denotes the CNF, decides no variable twice on
a path, and is the false constant iff the CNF is unsatisfiable — no hypotheses. -/
theorem naiveCompile_correct (cnf : Cnf) :
    (∀ a, (naiveCompile cnf).eval a = cnfSat a cnf) ∧ (naiveCompile cnf).free ∧
    (naiveCompile cnf = .fls ↔ ∀ a, cnfSat a cnf = false) := by
  have h := compileTopdown_post (naiveSpec cnf) standardStore_sound id (naive_hashSound cnf)
    (naive_freeDecide cnf) cnf (cnfNumVars cnf) (naive_newSpec cnf _)
    (fun v hv => ⟨v, lt_cnfNumVars hv, rfl⟩) (fun _ _ => trivial) () trivial
  exact ⟨h.1, h.2.1, h.2.2.1⟩

end TopDown
