import RsddModel.Lemmas.BddLvlCongr
import RsddModel.Model.BddCompile
import RsddModel.Model.BddWmc
import RsddModel.Lemmas.Wmc
/-!
# Lemmas: compilation and smoothing read the level map only on the variables in play

* `Compile.compileExpr_agree` — generic: two builders (`Ops`) that agree on operands satisfying an
  invariant (state `I`, diagram `G`) which their operations preserve, compile every expression over
  admissible variables to the same result;
* `Bdd.ops_agree` — the ROBDD builder under two level maps that agree below `N`, with
  `I = CacheVars C N`, `G = varsLt N` (from `ite_lvl_congr`, `ite_vars`);
* `Bdd.smoothH_lvl_congr` — the same for `smooth_helper`.
-/

namespace Compile

/-- `O` and `O'` agree on admissible operands, and `O`'s operations preserve admissibility -/
structure OpsAgree {σ P : Type} (O O' : Ops σ P) (V : Nat → Prop) (I : σ → Prop) (G : P → Prop) : Prop where
  tru : O.tru = O'.tru ∧ G O.tru
  fls : O.fls = O'.fls ∧ G O.fls
  var : ∀ x pol, V x → O.var x pol = O'.var x pol ∧ G (O.var x pol)
  neg : ∀ p, G p → O.neg p = O'.neg p ∧ G (O.neg p)
  and : ∀ s a b, I s → G a → G b → O.and s a b = O'.and s a b ∧ ∀ s' r, O.and s a b = some (s', r) → I s' ∧ G r
  or : ∀ s a b, I s → G a → G b → O.or s a b = O'.or s a b ∧ ∀ s' r, O.or s a b = some (s', r) → I s' ∧ G r
  iff : ∀ s a b, I s → G a → G b → O.iff s a b = O'.iff s a b ∧ ∀ s' r, O.iff s a b = some (s', r) → I s' ∧ G r
  xor : ∀ s a b, I s → G a → G b → O.xor s a b = O'.xor s a b ∧ ∀ s' r, O.xor s a b = some (s', r) → I s' ∧ G r
  ite : ∀ s a b c, I s → G a → G b → G c →
    O.ite s a b c = O'.ite s a b c ∧ ∀ s' r, O.ite s a b c = some (s', r) → I s' ∧ G r

variable {σ P : Type} {O O' : Ops σ P} {V : Nat → Prop} {I : σ → Prop} {G : P → Prop}

theorem agree_bind {m m' : Option (σ × P)} {k k' : σ → P → Option (σ × P)} :
    (m = m' ∧ ∀ s r, m = some (s, r) → I s ∧ G r) →
    (∀ s r, I s → G r → k s r = k' s r ∧ ∀ s' r', k s r = some (s', r') → I s' ∧ G r') →
    (match (generalizing := false) m with | none => none | some (s, r) => k s r) =
      (match (generalizing := false) m' with | none => none | some (s, r) => k' s r) ∧
    ∀ s' r', (match (generalizing := false) m with | none => none | some (s, r) => k s r) =
      some (s', r') → I s' ∧ G r' := by
  intro hm hk
  obtain ⟨rfl, hm⟩ := hm
  cases m with
  | none => exact ⟨rfl, fun _ _ h => nomatch h⟩
  | some sr => exact hk sr.1 sr.2 (hm _ _ rfl).1 (hm _ _ rfl).2

theorem agree_pure {s : σ} {r r' : P} (hs : I s) (hr : r = r' ∧ G r) :
    some (s, r) = some (s, r') ∧ ∀ s' r'', some (s, r) = some (s', r'') → I s' ∧ G r'' := by
  obtain ⟨rfl, hr⟩ := hr
  exact ⟨rfl, fun _ _ h => by cases h; exact ⟨hs, hr⟩⟩

theorem compileExpr_agree (A : OpsAgree O O' V I G) :
    ∀ (e : LogicalExpr) (s : σ), I s → e.AllVars V →
      compileExpr O s e = compileExpr O' s e ∧
      ∀ s' r, compileExpr O s e = some (s', r) → I s' ∧ G r := by
  intro e
  induction e with
  | lit x pol => exact fun s hs hv => agree_pure hs (A.var x pol hv)
  | not e ih =>
    exact fun s hs hv => agree_bind (ih s hs hv) fun _ r1 i1 g1 => agree_pure i1 (A.neg r1 g1)
  | and l r ihl ihr =>
    exact fun s hs hv => agree_bind (ihl s hs hv.1) fun s1 r1 i1 g1 =>
      agree_bind (ihr s1 i1 hv.2) fun s2 r2 i2 g2 => A.and s2 r1 r2 i2 g1 g2
  | or l r ihl ihr =>
    exact fun s hs hv => agree_bind (ihl s hs hv.1) fun s1 r1 i1 g1 =>
      agree_bind (ihr s1 i1 hv.2) fun s2 r2 i2 g2 => A.or s2 r1 r2 i2 g1 g2
  | iff l r ihl ihr =>
    exact fun s hs hv => agree_bind (ihl s hs hv.1) fun s1 r1 i1 g1 =>
      agree_bind (ihr s1 i1 hv.2) fun s2 r2 i2 g2 => A.iff s2 r1 r2 i2 g1 g2
  | xor l r ihl ihr =>
    exact fun s hs hv => agree_bind (ihl s hs hv.1) fun s1 r1 i1 g1 =>
      agree_bind (ihr s1 i1 hv.2) fun s2 r2 i2 g2 => A.xor s2 r1 r2 i2 g1 g2
  | ite g t e ihg iht ihe =>
    exact fun s hs hv => agree_bind (ihg s hs hv.1) fun s1 r1 i1 g1 =>
      agree_bind (iht s1 i1 hv.2.1) fun s2 r2 i2 g2 =>
        agree_bind (ihe s2 i2 hv.2.2) fun s3 r3 i3 g3 => A.ite s3 r1 r2 r3 i3 g1 g2 g3

theorem compilePlan_agree (A : OpsAgree O O' V I G) :
    ∀ (e : Plan) (s : σ), I s → e.AllVars V →
      compilePlan O s e = compilePlan O' s e ∧
      ∀ s' r, compilePlan O s e = some (s', r) → I s' ∧ G r := by
  intro e
  induction e with
  | lit x pol => exact fun s hs hv => agree_pure hs (A.var x pol hv)
  | constTrue => exact fun s hs _ => agree_pure hs A.tru
  | constFalse => exact fun s hs _ => agree_pure hs A.fls
  | not e ih =>
    exact fun s hs hv => agree_bind (ih s hs hv) fun _ r1 i1 g1 => agree_pure i1 (A.neg r1 g1)
  | and l r ihl ihr =>
    exact fun s hs hv => agree_bind (ihl s hs hv.1) fun s1 r1 i1 g1 =>
      agree_bind (ihr s1 i1 hv.2) fun s2 r2 i2 g2 => A.and s2 r1 r2 i2 g1 g2
  | or l r ihl ihr =>
    exact fun s hs hv => agree_bind (ihl s hs hv.1) fun s1 r1 i1 g1 =>
      agree_bind (ihr s1 i1 hv.2) fun s2 r2 i2 g2 => A.or s2 r1 r2 i2 g1 g2
  | iff l r ihl ihr =>
    exact fun s hs hv => agree_bind (ihl s hs hv.1) fun s1 r1 i1 g1 =>
      agree_bind (ihr s1 i1 hv.2) fun s2 r2 i2 g2 => A.iff s2 r1 r2 i2 g1 g2
  | ite g t e ihg iht ihe =>
    exact fun s hs hv => agree_bind (ihg s hs hv.1) fun s1 r1 i1 g1 =>
      agree_bind (iht s1 i1 hv.2.1) fun s2 r2 i2 g2 =>
        agree_bind (ihe s2 i2 hv.2.2) fun s3 r3 i3 g3 => A.ite s3 r1 r2 r3 i3 g1 g2 g3

end Compile

namespace Bdd
open Spec

section
variable {N : Nat} {lvl lvl' : Nat → Nat} (hag : AgreeLt N lvl lvl')
include hag

omit hag in
theorem varsLt_fls : Ptr.varsLt N .fls := trivial

theorem ite_agree (C : CacheImpl) (fuel : Nat) {s : C.σ} {a b c : Ptr} (hs : CacheVars C N s)
    (va : a.varsLt N) (vb : b.varsLt N) (vc : c.varsLt N) :
    ite C lvl fuel s a b c = ite C lvl' fuel s a b c ∧
      ∀ s' r, ite C lvl fuel s a b c = some (s', r) → CacheVars C N s' ∧ r.varsLt N :=
  ⟨ite_lvl_congr hag C fuel s a b c hs va vb vc,
   fun s' r h => ite_vars C lvl N fuel s a b c s' r hs va vb vc h⟩

theorem bOr_lvl_congr (C : CacheImpl) (fuel : Nat) (s : C.σ) {a b : Ptr} (hs : CacheVars C N s)
    (va : a.varsLt N) (vb : b.varsLt N) :
    bOr C lvl fuel s a b = bOr C lvl' fuel s a b ∧
      ∀ s' r, bOr C lvl fuel s a b = some (s', r) → CacheVars C N s' ∧ r.varsLt N := by
  obtain ⟨e, hv⟩ := ite_agree hag C fuel hs (varsLt_neg va) (varsLt_neg vb) varsLt_fls
  unfold bOr bAnd
  rw [← e]
  refine ⟨rfl, fun s' r h => ?_⟩
  cases hc : ite C lvl fuel s a.neg b.neg .fls with
  | none => rw [hc] at h; cases h
  | some sr =>
    rw [hc] at h
    cases h
    exact ⟨(hv _ _ hc).1, varsLt_neg (hv _ _ hc).2⟩

/-- the ROBDD builder under two level maps that agree below `N` -/
theorem ops_agree (C : CacheImpl) (fuel : Nat) :
    Compile.OpsAgree (ops C lvl fuel) (ops C lvl' fuel) (· < N) (CacheVars C N) (Ptr.varsLt N) where
  tru := ⟨rfl, trivial⟩
  fls := ⟨rfl, trivial⟩
  var := fun _ pol hx => ⟨rfl, mkVar_varsLt pol hx⟩
  neg := fun _ hp => ⟨rfl, varsLt_neg hp⟩
  and := fun _ _ _ hs va vb => ite_agree hag C fuel hs va vb varsLt_fls
  or := fun s _ _ hs va vb => bOr_lvl_congr hag C fuel s hs va vb
  iff := fun _ _ _ hs va vb => ite_agree hag C fuel hs va vb (varsLt_neg vb)
  xor := fun _ _ _ hs va vb => ite_agree hag C fuel hs va (varsLt_neg vb) vb
  ite := fun _ _ _ _ hs va vb vc => ite_agree hag C fuel hs va vb vc

/-- `smooth_helper` reads the level map only at the variables of the diagram -/
theorem smoothH_lvl_congr (varAt : Nat → Nat) :
    ∀ (n cur : Nat) (p : Ptr), p.varsLt N → smoothH lvl varAt n cur p = smoothH lvl' varAt n cur p := by
  intro n
  induction n with
  | zero => intro cur p _; cases p <;> rfl
  | succ n ih =>
    intro cur p vp
    cases p with
    | tru => simp only [smoothH]; rw [ih (cur + 1) .tru trivial]
    | fls => simp only [smoothH]; rw [ih (cur + 1) .fls trivial]
    | node c v lo hi =>
      simp only [smoothH]
      rw [hag v vp.1, ih (cur + 1) lo vp.2.1, ih (cur + 1) hi vp.2.2,
        ih (cur + 1) (.node false v lo hi) ⟨vp.1, vp.2.1, vp.2.2⟩]

theorem smooth_lvl_congr (varAt : Nat → Nat) (p : Ptr) (n : Nat) (vp : p.varsLt N) :
    smooth lvl varAt p n = smooth lvl' varAt p n := smoothH_lvl_congr hag varAt n 0 p vp

end

theorem mem_vars_of_varsLt {N : Nat} : ∀ {p : Ptr}, p.varsLt N → ∀ v ∈ p.vars, v < N
  | .tru, _, v, hv => by simp [Ptr.vars] at hv
  | .fls, _, v, hv => by simp [Ptr.vars] at hv
  | .node _ x lo hi, h, v, hv => by
    simp only [Ptr.vars, List.mem_cons, List.mem_append] at hv
    rcases hv with rfl | hv | hv
    · exact h.1
    · exact mem_vars_of_varsLt h.2.1 v hv
    · exact mem_vars_of_varsLt h.2.2 v hv

end Bdd
