import RsddModel.Lemmas.BddStore
import RsddModel.Lemmas.BddWF
/-!
# Lemmas: the store-level `ite` refines the tree-level `ite`

* `IteS.new_map`: `Ite::new` over references, with the order read through the store, unfolds to
  `Bdd.Ite.new` over trees with `Bdd.ordP` (every test of `Ite::new` — `==`, `is_true`, `is_false`,
  `is_neg`, the order closure — gives the same answer on valid references and on their trees; for
  `==` this is injectivity of `unfold`);
* `condEssentialS_img`, `firstEssentialS_map`: cofactors and the first essential variable;
* `CacheSim`: what relates an apply cache keyed by references to an apply cache keyed by trees
  (stated backwards, so that a tree-level cache that must *follow* what the reference-level
  cache forgets — `Lemmas/BddStoreCache.lean`, `ScriptedCache` with `scriptedSim` — is an instance);
* `Sim`: the one postcondition of a returning store-level call (`Refines`, and the table stays
  reduced), with `Sim.seq` (two calls one after the other), `Sim.after` (an allocation before a
  call), `Sim.keep` (old references keep their unfolding);
* `iteS_sim`, and from it `iteS_refines`: **for every pair of caches related by a `CacheSim`**, a
  returning call of the store-level `iteS` keeps `StoreOK`, only appends to the store, returns a
  valid reference, and the tree-level `Bdd.ite` with the same fuel on the unfolded arguments
  returns exactly the unfolding of that reference;
* the derived operations (`andS`, `orS`, `xorS`, `iffS`, `andLstS`, `orLstS`), each with
  conclusion `Sim`.
-/
namespace BddStore
open Bdd Scratch Spec

/-! ## triples -/

def IteS.map (u : Ref → Ptr) : IteS → Ite
  | .choice f g h => .choice (u f) (u g) (u h)
  | .complChoice f g h => .complChoice (u f) (u g) (u h)
  | .const p => .const (u p)

def IteS.ValidIn (s : Store) : IteS → Prop
  | .choice f g h | .complChoice f g h => f.ValidIn s ∧ g.ValidIn s ∧ h.ValidIn s
  | .const p => p.ValidIn s

/-- all three components point into the store -/
def V3 (s : Store) (t : Ref × Ref × Ref) : Prop := t.1.ValidIn s ∧ t.2.1.ValidIn s ∧ t.2.2.ValidIn s
/-- componentwise unfolding -/
def u3 (s : Store) (t : Ref × Ref × Ref) : Ptr × Ptr × Ptr := (unfold s t.1, unfold s t.2.1, unfold s t.2.2)

theorem V3.extends {s' s : Store} (he : Extends s' s) {t} (h : V3 s t) : V3 s' t :=
  ⟨validIn_extends he h.1, validIn_extends he h.2.1, validIn_extends he h.2.2⟩

theorem u3_extends {s' s : Store} (he : Extends s' s) {t} (h : V3 s t) : u3 s' t = u3 s t := by
  simp only [u3, unfold_extends he h.1, unfold_extends he h.2.1, unfold_extends he h.2.2]

theorem IteS.ValidIn.extends {s' s : Store} (he : Extends s' s) {k : IteS} (h : k.ValidIn s) : k.ValidIn s' := by
  cases k with
  | const p => exact validIn_extends he h
  | _ f g h' => exact V3.extends he (t := (f, g, h')) h

theorem IteS.map_extends {s' s : Store} (he : Extends s' s) {k : IteS} (h : k.ValidIn s) :
    k.map (unfold s') = k.map (unfold s) := by
  cases k with
  | const p => simp only [IteS.map, unfold_extends he h]
  | _ f g h' => simp only [IteS.map, unfold_extends he h.1, unfold_extends he h.2.1, unfold_extends he h.2.2]

/-! ## the four stages of `Ite::new` -/

/-- `a` is well formed and `b` is its image.  Each stage of `Ite::new` is a cascade of tests; the
stage on references and the stage on trees are related by `Img` because every test gives the
same answer on both sides and every branch is related (`ite_rel`). -/
def Img {α β : Type} (valid : α → Prop) (u : α → β) (a : α) (b : β) : Prop := valid a ∧ u a = b

theorem ite_rel {α β : Type} {R : α → β → Prop} {c c' : Prop} [Decidable c] [Decidable c'] {a b : α}
    {a' b' : β} (hc : c ↔ c') (ha : R a a') (hb : R b b') :
    R (if c then a else b) (if c' then a' else b') := by
  by_cases h : c
  · rw [if_pos h, if_pos (hc.1 h)]; exact ha
  · rw [if_neg h, if_neg (fun h' => h (hc.2 h'))]; exact hb

theorem unfold_eq_neg_iff {s : Store} (hs : StoreOK s) {a b : Ref} (ha : a.ValidIn s) (hb : b.ValidIn s) :
    unfold s a = (unfold s b).neg ↔ a = b.neg := by
  rw [← unfold_neg]; exact unfold_eq_iff hs ha (validIn_neg hb)

section stages
variable {s : Store} (hs : StoreOK s) {f g h : Ref} (hf : f.ValidIn s) (hg : g.ValidIn s) (hh : h.ValidIn s)
include hs hf hg hh

theorem introConstS_img :
    Img (V3 s) (u3 s) (introConstS f g h) (introConst (unfold s f) (unfold s g) (unfold s h)) := by
  refine ite_rel (unfold_eq_iff hs hf hh).symm ⟨⟨hf, hg, validIn_fls s⟩, by simp only [u3, unfold_fls]⟩ ?_
  refine ite_rel (unfold_eq_neg_iff hs hf hh).symm ⟨⟨hf, hg, validIn_tru s⟩, by simp only [u3, unfold_tru]⟩ ?_
  exact ite_rel (unfold_eq_neg_iff hs hf hg).symm ⟨⟨hf, validIn_fls s, hh⟩, by simp only [u3, unfold_fls]⟩
    ⟨⟨hf, hg, hh⟩, rfl⟩

theorem terminalS_img :
    Img (fun o : Option Ref => ∀ r, o = some r → r.ValidIn s) (Option.map (unfold s))
      (terminalS? f g h) (terminal? (unfold s f) (unfold s g) (unfold s h)) := by
  have some_img : ∀ {r : Ref}, r.ValidIn s →
      Img (fun o : Option Ref => ∀ r, o = some r → r.ValidIn s) (Option.map (unfold s)) (some r)
        (some (unfold s r)) := fun hr => ⟨fun _ e => Option.some.inj e ▸ hr, rfl⟩
  refine ite_rel (by rw [isTrue_unfold hs hf]) (some_img hg) ?_
  refine ite_rel (by rw [isFalse_unfold hs hf]) (some_img hh) ?_
  refine ite_rel (by rw [isTrue_unfold hs hg, isFalse_unfold hs hh]) (some_img hf) ?_
  refine ite_rel (by rw [isFalse_unfold hs hg, isTrue_unfold hs hh]) (unfold_neg s f ▸ some_img (validIn_neg hf)) ?_
  exact ite_rel (unfold_eq_iff hs hh hg).symm (some_img hg) ⟨fun _ e => (nomatch e), rfl⟩

theorem standardiseS_img :
    Img (IteS.ValidIn s) (IteS.map (unfold s)) (standardiseS f g h)
      (standardise (unfold s f) (unfold s g) (unfold s h)) := by
  have nf := validIn_neg hf
  have ng := validIn_neg hg
  have nh := validIn_neg hh
  have ef := isNeg_unfold hs hf
  have eg := isNeg_unfold hs hg
  have eh := isNeg_unfold hs hh
  refine ite_rel (by rw [ef, eh]) ⟨⟨nf, hh, hg⟩, by simp only [IteS.map, unfold_neg]⟩ ?_
  refine ite_rel (by rw [ef, eg]) ⟨⟨hf, ng, nh⟩, by simp only [IteS.map, unfold_neg]⟩ ?_
  exact ite_rel (by rw [ef, eh]) ⟨⟨nf, nh, ng⟩, by simp only [IteS.map, unfold_neg]⟩ ⟨⟨hf, hg, hh⟩, rfl⟩

variable (ordT : Ptr → Ptr → Bool) (ord : Ref → Ref → Bool)
  (hord : ∀ a b, ordT (unfold s a) (unfold s b) = ord a b)
include hord

theorem reorderS_img :
    Img (V3 s) (u3 s) (reorderS ord f g h) (reorder ordT (unfold s f) (unfold s g) (unfold s h)) := by
  have nf := validIn_neg hf
  have ng := validIn_neg hg
  have nh := validIn_neg hh
  refine ite_rel (by rw [isTrue_unfold hs hg, hord]) ⟨⟨hh, hg, hf⟩, rfl⟩ ?_
  refine ite_rel (by rw [isFalse_unfold hs hh, hord]) ⟨⟨hg, hf, hh⟩, rfl⟩ ?_
  refine ite_rel (by rw [isTrue_unfold hs hh, hord]) ⟨⟨ng, nf, hh⟩, by simp only [u3, unfold_neg]⟩ ?_
  refine ite_rel (by rw [isFalse_unfold hs hg, hord]) ⟨⟨nh, hg, nf⟩, by simp only [u3, unfold_neg]⟩ ?_
  exact ite_rel (by simp only [unfold_eq_neg_iff hs hg hh, hord]) ⟨⟨hg, hf, nf⟩, by simp only [u3, unfold_neg]⟩
    ⟨⟨hf, hg, hh⟩, rfl⟩

/-- **`Ite::new` on references is `Ite::new` on trees** -/
theorem IteS.new_img :
    Img (IteS.ValidIn s) (IteS.map (unfold s)) (IteS.new ord f g h)
      (Ite.new ordT (unfold s f) (unfold s g) (unfold s h)) := by
  obtain ⟨v1, m1⟩ := introConstS_img hs hf hg hh
  simp only [IteS.new, Ite.new]
  rw [← m1]
  generalize introConstS f g h = t at v1
  obtain ⟨f1, g1, h1⟩ := t
  obtain ⟨tv, tm⟩ := terminalS_img hs v1.1 v1.2.1 v1.2.2
  obtain ⟨v2, m2⟩ := reorderS_img hs v1.1 v1.2.1 v1.2.2 ordT ord hord
  simp only [u3] at tm m2 ⊢
  rw [← tm, ← m2]
  cases ht : terminalS? f1 g1 h1 with
  | some r => exact ⟨tv r ht, rfl⟩
  | none =>
    generalize reorderS ord f1 g1 h1 = t2 at v2
    exact standardiseS_img hs v2.1 v2.2.1 v2.2.2

theorem IteS.new_map :
    (IteS.new ord f g h).map (unfold s) = Ite.new ordT (unfold s f) (unfold s g) (unfold s h) :=
  (IteS.new_img hs hf hg hh ordT ord hord).2

end stages

/-! ## the order closure, `first_essential`, `condition_essential` -/

theorem ordP_top (lvl : Nat → Nat) (P Q : Ptr) : ordP lvl P Q =
    match P.top?, Q.top? with
    | none, _ => true
    | _, none => false
    | some va, some vb => decide (lvl va < lvl vb) := by
  cases P <;> cases Q <;> rfl

theorem ordS_map (lvl : Nat → Nat) (s : Store) (a b : Ref) :
    ordP lvl (unfold s a) (unfold s b) = ordS lvl s a b := by
  rw [ordP_top, top?_unfold, top?_unfold]; rfl

theorem firstS_map (lvl : Nat → Nat) (s : Store) (a b : Ref) :
    first lvl (unfold s a) (unfold s b) = unfold s (firstS lvl s a b) := by
  simp only [first, firstS, top?_unfold]
  cases varOf s a <;> cases varOf s b <;> simp only []
  split <;> rfl

theorem firstEssentialS_map (lvl : Nat → Nat) (s : Store) (a b c : Ref) :
    firstEssential lvl (unfold s a) (unfold s b) (unfold s c) = firstEssentialS lvl s a b c := by
  simp only [firstEssential, firstEssentialS, firstS_map, top?_unfold]

theorem condEssentialS_node {s : Store} {f : Ref} {i : Nat} {n : Node} (hi : f.idx? = some i)
    (hn : nodeAt s i = some n) (x : Nat) (v : Bool) :
    condEssentialS s f x v =
      if n.var ≠ x then f else if f.isNeg then (if v then n.hi else n.lo).neg else if v then n.hi else n.lo := by
  simp only [condEssentialS, hi, hn]

theorem condEssentialS_img {s : Store} (hs : StoreOK s) {f : Ref} (hf : f.ValidIn s) (x : Nat) (v : Bool) :
    Img (·.ValidIn s) (unfold s) (condEssentialS s f x v) (condEssential (unfold s f) x v) := by
  rcases valid_cases hs hf with rfl | rfl | ⟨i, n, hi, hn, cl, ch, hu⟩
  · rw [unfold_tru]; exact ⟨hf, unfold_tru s⟩
  · rw [unfold_fls]; exact ⟨hf, unfold_fls s⟩
  · rw [condEssentialS_node hi hn, hu, condEssential, ← hu]
    refine ite_rel Iff.rfl ⟨hf, rfl⟩ ⟨validIn_ite (validIn_neg (validIn_ite ch cl)) (validIn_ite ch cl), ?_⟩
    simp only [apply_ite (unfold s), unfold_neg]

/-! ## caches -/

/-- every entry a lookup can return has its key and its value in the store -/
def CacheValid (C : CacheS) (s : Store) (c : C.σ) : Prop :=
  ∀ k v, C.get c k = some v → V3 s k ∧ v.ValidIn s

theorem cacheValid_empty (C : CacheS) (s : Store) : CacheValid C s C.empty := by
  intro k v h; rw [C.empty_get] at h; cases h

theorem CacheValid.extends {C : CacheS} {s' s : Store} (he : Extends s' s) {c : C.σ}
    (h : CacheValid C s c) : CacheValid C s' c :=
  fun k v hk => ⟨(h k v hk).1.extends he, validIn_extends he (h k v hk).2⟩

theorem CacheValid.insert {C : CacheS} {s : Store} {c : C.σ} (h : CacheValid C s c) {k : Ref × Ref × Ref}
    {v : Ref} (hk : V3 s k) (hv : v.ValidIn s) : CacheValid C s (C.insert c k v) := by
  intro k' v' hget
  rcases C.lawful _ _ _ _ _ hget with ⟨rfl, rfl⟩ | hold
  · exact ⟨hk, hv⟩
  · exact h k' v' hold

theorem cacheInsertS_valid {C : CacheS} {s : Store} {c : C.σ} (h : CacheValid C s c) {key : IteS}
    {r : Ref} (hk : key.ValidIn s) (hr : r.ValidIn s) : CacheValid C s (cacheInsertS C c key r) := by
  cases key with
  | choice f g h' => exact h.insert (k := (f, g, h')) hk hr
  | complChoice f g h' => exact h.insert (k := (f, g, h')) hk (validIn_neg hr)
  | const p => exact h

theorem cacheGetS_valid {C : CacheS} {s : Store} {c : C.σ} (h : CacheValid C s c) {key : IteS}
    (hk : key.ValidIn s) {v : Ref} (hv : cacheGetS C c key = some v) : v.ValidIn s := by
  cases key with
  | choice f g h' => exact (h _ _ hv).2
  | complChoice f g h' =>
    simp only [cacheGetS, Option.map_eq_some_iff] at hv
    obtain ⟨w, hw, rfl⟩ := hv
    exact validIn_neg (h _ _ hw).2
  | const p => cases hv; exact hk

/-- A simulation between an apply cache keyed by references (`CS`) and one keyed by trees (`CT`),
relative to a store.  `R s c cT`: in store `s`, the tree-level state `cT` is an image of the
reference-level state `c`.  Lookups agree through `unfold`; an insertion at the reference level
is matched by the insertion of the unfolded key and value (backwards: every image of the state
after is the result of inserting into an image of the state before); growing the store changes
no image. -/
structure CacheSim (CS : CacheS) (CT : CacheImpl) where
  R : Store → CS.σ → CT.σ → Prop
  get_eq : ∀ {s : Store} {c : CS.σ} {cT : CT.σ} {k : Ref × Ref × Ref}, StoreOK s → CacheValid CS s c →
    R s c cT → V3 s k → CT.get cT (u3 s k) = (CS.get c k).map (unfold s)
  insert_back : ∀ {s : Store} {c : CS.σ} {cT' : CT.σ} {k : Ref × Ref × Ref} {v : Ref}, StoreOK s →
    CacheValid CS s c → V3 s k → v.ValidIn s → R s (CS.insert c k v) cT' →
    ∃ cT, R s c cT ∧ CT.insert cT (u3 s k) (unfold s v) = cT'
  mono_back : ∀ {s s' : Store} {c : CS.σ} {cT : CT.σ}, StoreOK s → StoreOK s' → Extends s' s →
    CacheValid CS s c → R s' c cT → R s c cT

section sim
variable {CS : CacheS} {CT : CacheImpl} (sim : CacheSim CS CT)

theorem cacheGet_map {s : Store} {c : CS.σ} {cT : CT.σ} (hs : StoreOK s) (hc : CacheValid CS s c)
    (hR : sim.R s c cT) {key : IteS} (hk : key.ValidIn s) :
    cacheGet CT cT (key.map (unfold s)) = (cacheGetS CS c key).map (unfold s) := by
  cases key with
  | choice f g h => exact sim.get_eq hs hc hR (k := (f, g, h)) hk
  | complChoice f g h =>
    have := sim.get_eq hs hc hR (k := (f, g, h)) hk
    simp only [u3] at this
    simp only [cacheGet, cacheGetS, IteS.map, this, Option.map_map]
    congr 1
    funext v; simp [unfold_neg]
  | const p => rfl

theorem cacheInsert_back {s : Store} {c : CS.σ} {cT' : CT.σ} (hs : StoreOK s) (hc : CacheValid CS s c)
    {key : IteS} (hk : key.ValidIn s) {r : Ref} (hr : r.ValidIn s)
    (hR : sim.R s (cacheInsertS CS c key r) cT') :
    ∃ cT, sim.R s c cT ∧ cacheInsert CT cT (key.map (unfold s)) (unfold s r) = cT' := by
  cases key with
  | choice f g h => exact sim.insert_back hs hc (k := (f, g, h)) hk hr hR
  | complChoice f g h =>
    obtain ⟨cT, h1, h2⟩ := sim.insert_back hs hc (k := (f, g, h)) hk (validIn_neg hr) hR
    refine ⟨cT, h1, ?_⟩
    simp only [cacheInsert, IteS.map, ← unfold_neg]; exact h2
  | const p => exact ⟨cT', hR, rfl⟩

end sim

/-! ## the refinement -/

/-- what a returning store-level call achieves: the table invariant is kept, the table and so
every old reference is untouched (`Extends`), the cache still points into the table, the result
is a valid reference; and for every tree-level image `cT'` of the final cache state there is an
image `cT` of the initial one from which the tree-level call `call` returns `cT'` and exactly the
unfolding of the result.  The simulation is backward: to obtain a tree-level run, choose the final
image and receive the initial one (for `scriptedSim`: apply the second component to
`(img CS s' c', tail)` with `rfl`, as `iteS_refines_lawful` in `Props/C02Store.lean` does). -/
def Refines {CS : CacheS} {CT : CacheImpl} (sim : CacheSim CS CT) (st st' : Store × CS.σ) (r : Ref)
    (call : CT.σ → Option (CT.σ × Ptr)) : Prop :=
  (StoreOK st'.1 ∧ Extends st'.1 st.1 ∧ CacheValid CS st'.1 st'.2 ∧ r.ValidIn st'.1) ∧
  ∀ cT', sim.R st'.1 st'.2 cT' → ∃ cT, sim.R st.1 st.2 cT ∧ call cT = some (cT', unfold st'.1 r)

/-! ## one postcondition, one rule for sequencing -/

section
variable {CS : CacheS} {CT : CacheImpl} (sim : CacheSim CS CT)

/-- what a returning store-level call achieves, in full: `Refines`, and the table stays reduced.
Every operation below has ONE lemma, with this conclusion; `seq` is the only place where two calls
are chained (`Extends.trans`, the two backward simulations one after the other). -/
def Sim (st st' : Store × CS.σ) (r : Ref) (call : CT.σ → Option (CT.σ × Ptr)) : Prop :=
  Refines sim st st' r call ∧ (StoreRed st.1 → StoreRed st'.1)

variable {sim} {st st1 st2 : Store × CS.σ} {r r1 r2 : Ref} {call call1 call2 : CT.σ → Option (CT.σ × Ptr)}

theorem Sim.ok (h : Sim sim st st1 r call) : StoreOK st1.1 := h.1.1.1
theorem Sim.ext (h : Sim sim st st1 r call) : Extends st1.1 st.1 := h.1.1.2.1
theorem Sim.cache (h : Sim sim st st1 r call) : CacheValid CS st1.1 st1.2 := h.1.1.2.2.1
theorem Sim.valid (h : Sim sim st st1 r call) : r.ValidIn st1.1 := h.1.1.2.2.2

/-- the frame: what was valid before the call is valid after it and unfolds to the same tree -/
theorem Sim.keep (h : Sim sim st st1 r call) {p : Ref} (hp : p.ValidIn st.1) :
    p.ValidIn st1.1 ∧ unfold st1.1 p = unfold st.1 p :=
  ⟨validIn_extends h.ext hp, unfold_extends h.ext hp⟩

/-- **sequencing**: `call` is "`call1`, then `call2` on what `call1` returned" -/
theorem Sim.seq (h1 : Sim sim st st1 r1 call1) (h2 : Sim sim st1 st2 r2 call2)
    (hcall : ∀ cT c1, sim.R st.1 st.2 cT → call1 cT = some (c1, unfold st1.1 r1) → call cT = call2 c1) :
    Sim sim st st2 r2 call := by
  obtain ⟨⟨⟨_, a2, _, _⟩, s1⟩, k1⟩ := h1
  obtain ⟨⟨⟨b1, b2, b3, b4⟩, s2⟩, k2⟩ := h2
  refine ⟨⟨⟨b1, b2.trans a2, b3, b4⟩, fun cT' hR => ?_⟩, k2 ∘ k1⟩
  obtain ⟨cT1, hR1, run2⟩ := s2 cT' hR
  obtain ⟨cT0, hR0, run1⟩ := s1 cT1 hR1
  exact ⟨cT0, hR0, (hcall _ _ hR0 run1).trans run2⟩

/-- **an allocation before a call** (`varS`, `condS`): the apply cache is not touched on either side,
so nothing changes at tree level -/
theorem Sim.after {s : Store} {c : CS.σ} (hs : StoreOK s) (hc : CacheValid CS s c) {o : Store × Ref} {P : Ptr}
    (hg : Grows s o P) (hr : StoreRed s → StoreRed o.1) (h2 : Sim sim (o.1, c) st2 r2 call) :
    Sim sim (s, c) st2 r2 call := by
  obtain ⟨⟨⟨b1, b2, b3, b4⟩, s2⟩, k2⟩ := h2
  refine ⟨⟨⟨b1, b2.trans hg.ext, b3, b4⟩, fun cT' hR => ?_⟩, k2 ∘ hr⟩
  obtain ⟨cT, hR0, run⟩ := s2 cT' hR
  exact ⟨cT, sim.mono_back hs hg.ok hg.ext hc hR0, run⟩

/-- the same call, its result negated -/
theorem Sim.neg (h : Sim sim st st1 r call) :
    Sim sim st st1 r.neg (fun cT => match call cT with
      | some (c, R) => some (c, R.neg)
      | none => none) := by
  obtain ⟨⟨⟨a1, a2, a3, a4⟩, s1⟩, k1⟩ := h
  refine ⟨⟨⟨a1, a2, a3, validIn_neg a4⟩, fun cT' hR => ?_⟩, k1⟩
  obtain ⟨cT, hR0, run⟩ := s1 cT' hR
  exact ⟨cT, hR0, by simp only [run, unfold_neg]⟩

end

/-! ## `ite_helper` -/

/-- `ite_helper` at store level: it refines the tree-level one (`Refines`) and keeps the table
reduced, for every pair of caches related by a `CacheSim`, every level map and every fuel -/
theorem iteS_sim {CS : CacheS} {CT : CacheImpl} (sim : CacheSim CS CT) (lvl : Nat → Nat) :
    ∀ (fuel : Nat) (st : Store × CS.σ) (f g h : Ref) (st' : Store × CS.σ) (r : Ref),
      StoreOK st.1 → CacheValid CS st.1 st.2 → f.ValidIn st.1 → g.ValidIn st.1 → h.ValidIn st.1 →
      iteS CS lvl fuel st f g h = some (st', r) →
      Sim sim st st' r (fun cT => ite CT lvl fuel cT (unfold st.1 f) (unfold st.1 g) (unfold st.1 h)) := by
  intro fuel
  induction fuel with
  | zero => intro st f g h st' r _ _ _ _ _ hrun; simp [iteS] at hrun
  | succ n ih =>
    /- The standard triple, the cache lookup, the first essential variable and the cofactors are the
    images of their tree-level counterparts, so both sides take the same branch.  The simulation
    runs backward: given an image `cT'` of the final cache, `cacheInsert_back` (and `mono_back` over
    the node just allocated) yields an image of the cache after the second recursive call, the
    simulation of that call (`simE`) an image of the cache after the first, the simulation of the
    first (`simT`) an image `cT0` of the initial cache; from `cT0` the tree-level `ite` replays the
    same steps forward (`ite_succ_eq`). -/
    intro st f g h st' r hs hc hf hg hh hrun
    obtain ⟨s, c⟩ := st
    simp only at hs hc hf hg hh
    unfold Sim Refines
    simp only
    obtain ⟨hkV, hkT⟩ := IteS.new_img hs hf hg hh (ordP lvl) (ordS lvl s) (ordS_map lvl s)
    simp only [iteS] at hrun
    generalize IteS.new (ordS lvl s) f g h = key at hrun hkT hkV
    split at hrun
    · -- constant triple
      rename_i r0
      cases hrun
      refine ⟨⟨⟨hs, Extends.refl _, hc, hkV⟩, fun cT' hR => ⟨cT', hR, ?_⟩⟩, id⟩
      exact ite_succ_const hkT.symm
    · rename_i hnc
      have hncT : ∀ R, key.map (unfold s) = .const R → False := by
        intro R hR
        cases key with
        | const p => exact hnc p rfl
        | choice _ _ _ => cases hR
        | complChoice _ _ _ => cases hR
      split at hrun
      · -- cache hit
        rename_i v hv
        cases hrun
        refine ⟨⟨⟨hs, Extends.refl _, hc, cacheGetS_valid hc hkV hv⟩, fun cT' hR => ⟨cT', hR, ?_⟩⟩, id⟩
        rw [ite_succ_eq hkT.symm hncT, cacheGet_map sim hs hc hR hkV, hv]
        rfl
      · rename_i hmiss
        split at hrun
        · cases hrun
        · rename_i x hx
          split at hrun
          · cases hrun
          · rename_i st1 t ht
            split at hrun
            · cases hrun
            · rename_i st2 e he
              obtain ⟨s1, c1⟩ := st1
              obtain ⟨s2, c2⟩ := st2
              simp only at hx ht he hrun hmiss
              -- the two recursive calls
              have cof := fun {p : Ref} (hp : p.ValidIn s) (v : Bool) => condEssentialS_img hs hp x v
              obtain ⟨⟨⟨hs1, ext1, hc1, tv⟩, simT⟩, kT⟩ := ih (s, c) _ _ _ _ _ hs hc (cof hf true).1 (cof hg true).1
                (cof hh true).1 ht
              obtain ⟨⟨⟨hs2, ext2, hc2, ev⟩, simE⟩, kE⟩ := ih (s1, c1) _ _ _ _ _ hs1 hc1
                (validIn_extends ext1 (cof hf false).1) (validIn_extends ext1 (cof hg false).1)
                (validIn_extends ext1 (cof hh false).1) he
              simp only at hs2 ext2 hc2 ev simE hs1 ext1 hc1 tv simT kT kE
              rw [unfold_extends ext1 (cof hf false).1, unfold_extends ext1 (cof hg false).1,
                unfold_extends ext1 (cof hh false).1] at simE
              simp only [(cof hf _).2, (cof hg _).2, (cof hh _).2] at simT simE
              have tv2 : t.ValidIn s2 := validIn_extends ext2 tv
              have hte : (unfold s1 t = unfold s2 e) ↔ t = e := by
                rw [← unfold_extends ext2 tv]; exact unfold_eq_iff hs2 tv2 ev
              have hfe : firstEssential lvl (unfold s f) (unfold s g) (unfold s h) = some x := by
                rw [firstEssentialS_map]; exact hx
              split at hrun
              · -- both branches equal: no node
                rename_i hEq
                cases hrun
                refine ⟨⟨⟨hs2, ext2.trans ext1, hc2, tv2⟩, fun cT' hR => ?_⟩, kE ∘ kT⟩
                obtain ⟨cT1, hR1, run2⟩ := simE cT' hR
                obtain ⟨cT0, hR0, run1⟩ := simT cT1 hR1
                refine ⟨cT0, hR0, ?_⟩
                rw [ite_succ_eq hkT.symm hncT, cacheGet_map sim hs hc hR0 hkV, hmiss]
                simp only [Option.map_none, hfe, run1, run2, if_pos (hte.2 hEq)]
                rw [unfold_extends ext2 tv]
              · -- a new node
                rename_i hNe
                cases hrun
                obtain ⟨hs3, ext3, rv, ru⟩ := getOrInsert_spec hs2 (x := x) ev tv2
                have ext03 := ext3.trans (ext2.trans ext1)
                have hc3 : CacheValid CS (mkNodeS s2 x e t).1 c2 := hc2.extends ext3
                have hkV3 := hkV.extends ext03
                refine ⟨⟨⟨hs3, ext03, cacheInsertS_valid hc3 hkV3 rv, rv⟩, fun cT' hR => ?_⟩,
                  fun hr => getOrInsert_red (kE (kT hr)) fun e' => hNe e'.symm⟩
                simp only [mkNodeS] at hR hc3 ⊢
                obtain ⟨cT2, hR2, hins⟩ := cacheInsert_back sim hs3 hc3 hkV3 rv hR
                have hR2' := sim.mono_back hs2 hs3 ext3 hc2 hR2
                obtain ⟨cT1, hR1, run2⟩ := simE cT2 hR2'
                obtain ⟨cT0, hR0, run1⟩ := simT cT1 hR1
                refine ⟨cT0, hR0, ?_⟩
                rw [ite_succ_eq hkT.symm hncT, cacheGet_map sim hs hc hR0 hkV, hmiss]
                simp only [Option.map_none, hfe, run1, run2, if_neg (fun e' => hNe (hte.1 e'))]
                rw [IteS.map_extends ext03 hkV, ru, unfold_extends ext2 tv] at hins
                rw [ru, unfold_extends ext2 tv, hins]

/-- **the store-level `ite_helper` refines the tree-level one**, for every pair of caches related
by a `CacheSim`, every level map and every fuel -/
theorem iteS_refines {CS : CacheS} {CT : CacheImpl} (sim : CacheSim CS CT) (lvl : Nat → Nat) :
    ∀ (fuel : Nat) (st : Store × CS.σ) (f g h : Ref) (st' : Store × CS.σ) (r : Ref),
      StoreOK st.1 → CacheValid CS st.1 st.2 → f.ValidIn st.1 → g.ValidIn st.1 → h.ValidIn st.1 →
      iteS CS lvl fuel st f g h = some (st', r) →
      Refines sim st st' r (fun cT => ite CT lvl fuel cT (unfold st.1 f) (unfold st.1 g) (unfold st.1 h)) :=
  fun fuel st f g h st' r hs hc hf hg hh hrun => (iteS_sim sim lvl fuel st f g h st' r hs hc hf hg hh hrun).1

/-! ## the derived operations -/

section ops
variable {CS : CacheS} {CT : CacheImpl} (sim : CacheSim CS CT) (lvl : Nat → Nat) (fuel : Nat)

/-- the tree-level arguments are named, so that a caller holding references of an older table gives
their unfoldings there -/
def BinSim (opS : Store × CS.σ → Ref → Ref → Option ((Store × CS.σ) × Ref))
    (opT : CT.σ → Ptr → Ptr → Option (CT.σ × Ptr)) : Prop :=
  ∀ {st st' : Store × CS.σ} {f g r : Ref} {F G : Ptr}, StoreOK st.1 → CacheValid CS st.1 st.2 →
    f.ValidIn st.1 → g.ValidIn st.1 → unfold st.1 f = F → unfold st.1 g = G → opS st f g = some (st', r) →
    Sim sim st st' r (fun cT => opT cT F G)

theorem andS_sim : BinSim sim (andS CS lvl fuel) (bAnd CT lvl fuel) := by
  rintro st st' f g r _ _ hs hc hf hg rfl rfl hrun
  simpa only [unfold_fls, bAnd] using iteS_sim sim lvl fuel _ _ _ _ _ _ hs hc hf hg (validIn_fls _) hrun

theorem iffS_sim : BinSim sim (iffS CS lvl fuel) (bIff CT lvl fuel) := by
  rintro st st' f g r _ _ hs hc hf hg rfl rfl hrun
  simpa only [unfold_neg, bIff] using iteS_sim sim lvl fuel _ _ _ _ _ _ hs hc hf hg (validIn_neg hg) hrun

theorem xorS_sim : BinSim sim (xorS CS lvl fuel) (bXor CT lvl fuel) := by
  rintro st st' f g r _ _ hs hc hf hg rfl rfl hrun
  simpa only [unfold_neg, bXor] using iteS_sim sim lvl fuel _ _ _ _ _ _ hs hc hf (validIn_neg hg) hg hrun

theorem orS_sim : BinSim sim (orS CS lvl fuel) (bOr CT lvl fuel) := by
  rintro st st' f g r _ _ hs hc hf hg rfl rfl hrun
  simp only [orS] at hrun
  split at hrun
  · cases hrun
    rename_i h1
    exact (andS_sim sim lvl fuel hs hc (validIn_neg hf) (validIn_neg hg) (unfold_neg ..) (unfold_neg ..) h1).neg
  · cases hrun

/-- `and_lst`, `or_lst` -/
theorem foldS_sim
    {opS : Store × CS.σ → Ref → Ref → Option ((Store × CS.σ) × Ref)}
    {opT : CT.σ → Ptr → Ptr → Option (CT.σ × Ptr)}
    {lstS : Store × CS.σ → Ref → List Ref → Option ((Store × CS.σ) × Ref)}
    {lstT : CT.σ → Ptr → List Ptr → Option (CT.σ × Ptr)}
    (hS0 : ∀ st acc, lstS st acc [] = some (st, acc))
    (hS1 : ∀ st acc p ps, lstS st acc (p :: ps) =
      match opS st acc p with
      | none => none
      | some (st', r) => lstS st' r ps)
    (hT0 : ∀ cT acc, lstT cT acc [] = some (cT, acc))
    (hT1 : ∀ cT acc p ps, lstT cT acc (p :: ps) =
      match opT cT acc p with
      | none => none
      | some (cT', r) => lstT cT' r ps)
    (hop : BinSim sim opS opT) :
    ∀ (ps : List Ref) {st st' : Store × CS.σ} {acc r : Ref} {Ps : List Ptr}, StoreOK st.1 →
      CacheValid CS st.1 st.2 → acc.ValidIn st.1 → (∀ p ∈ ps, p.ValidIn st.1) → ps.map (unfold st.1) = Ps →
      lstS st acc ps = some (st', r) →
      Sim sim st st' r (fun cT => lstT cT (unfold st.1 acc) Ps)
  | [], st, st', acc, r, _, hs, hc, ha, _, rfl, hrun => by
    rw [hS0] at hrun; cases hrun
    exact ⟨⟨⟨hs, .refl _, hc, ha⟩, fun cT' hR => ⟨cT', hR, hT0 ..⟩⟩, id⟩
  | p :: ps, st, st', acc, r, _, hs, hc, ha, hps, rfl, hrun => by
    rw [hS1] at hrun
    split at hrun
    · cases hrun
    · rename_i st1 r1 h1
      have s1 := hop hs hc ha (hps p (List.mem_cons_self ..)) rfl rfl h1
      have hps' := fun q hq => hps q (List.mem_cons_of_mem _ hq)
      refine s1.seq (foldS_sim hS0 hS1 hT0 hT1 hop ps s1.ok s1.cache s1.valid (fun q hq => (s1.keep (hps' q hq)).1)
        (List.map_congr_left fun q hq => (s1.keep (hps' q hq)).2) hrun) fun cT c1 _ run1 => ?_
      simp only [List.map_cons, hT1, run1]

end ops


/-! ## nodes, variables, negation -/

/-- the reducing constructor: the pointer test `lo == hi` is the tree test `lo = hi` -/
theorem mkReducedS_spec {s : Store} (hs : StoreOK s) {x : Nat} {lo hi : Ref}
    (hl : lo.ValidIn s) (hh : hi.ValidIn s) :
    StoreOK (mkReducedS s x lo hi).1 ∧ Extends (mkReducedS s x lo hi).1 s ∧
    (mkReducedS s x lo hi).2.ValidIn (mkReducedS s x lo hi).1 ∧
    unfold (mkReducedS s x lo hi).1 (mkReducedS s x lo hi).2 =
      (if unfold s lo = unfold s hi then unfold s lo else mkNode x (unfold s lo) (unfold s hi)) := by
  simp only [mkReducedS, unfold_eq_iff hs hl hh]
  split
  · exact ⟨hs, Extends.refl _, hl, rfl⟩
  · exact getOrInsert_spec hs hl hh

theorem negS_spec (s : Store) (r : Ref) : unfold s (negS r) = (unfold s r).neg := unfold_neg s r

theorem varS_spec {s : Store} (hs : StoreOK s) (x : Nat) (pol : Bool) :
    Grows s (varS s x pol) (mkVar x pol) := by
  obtain ⟨h1, h2, h3, h4⟩ := getOrInsert_spec hs (x := x) (validIn_fls s) (validIn_tru s)
  rw [unfold_fls, unfold_tru] at h4
  cases pol
  · exact ⟨h1, h2, validIn_neg h3, (unfold_neg ..).trans (congrArg Ptr.neg h4)⟩
  · exact ⟨h1, h2, h3, h4⟩

theorem varS_red {s : Store} (hr : StoreRed s) (x : Nat) (pol : Bool) : StoreRed (varS s x pol).1 := by
  simp only [varS, mkNodeS]
  exact getOrInsert_red hr (by decide)

#print axioms IteS.new_map
#print axioms iteS_refines
end BddStore
