import RsddModel.Lemmas.CnfNorm
import RsddModel.Lemmas.Wmc
/-!
# Lemmas for the CNF-side utilities (property C15)

Part 1: normalisation (`Cnf::new`), `num_vars`, `eval`, `is_sat_partial`, `condition`.
Part 2: `AssignmentIter` and the brute-force count.
-/
namespace CnfUtil
open Spec

/-! ## the derived `BEq` on literals is lawful -/

theorem lit_beq_iff (a b : Lit) : (a == b) = true ↔ a = b := by
  cases a with | mk av ap => cases b with | mk bv bp =>
  show (instBEqLit.beq _ _) = true ↔ _
  simp [instBEqLit.beq]

instance : LawfulBEq Lit where
  eq_of_beq := fun h => (lit_beq_iff _ _).mp h
  rfl := (lit_beq_iff _ _).mpr rfl

/-! ## Part 1a: `Cnf::new` (the clause normalisation itself is in `Lemmas/CnfNorm.lean`) -/

@[simp] theorem normClause_nil : normClause [] = [] := rfl

@[simp] theorem cnfNew_clauses (cs : List (List Lit)) : (cnfNew cs).clauses = cs.map normClause := rfl
@[simp] theorem cnfNew_numVars (cs : List (List Lit)) :
    (cnfNew cs).numVars = numVarsOf (cs.map normClause) := rfl
@[simp] theorem cnfNew_hasher (cs : List (List Lit)) :
    (cnfNew cs).hasher = CnfHasher.new (cs.map normClause) (numVarsOf (cs.map normClause)) := rfl

/-! ## Part 1c: `num_vars` -/

theorem foldl_max_le_iff : ∀ (l : List Nat) (m n : Nat),
    l.foldl max m ≤ n ↔ m ≤ n ∧ ∀ x ∈ l, x ≤ n
  | [], m, n => by simp
  | x :: l, m, n => by
    simp only [List.foldl_cons, foldl_max_le_iff l, Nat.max_le, List.mem_cons, forall_eq_or_imp,
      and_assoc]

theorem foldl_max_eq (l : List Nat) (m : Nat) : l.foldl max m = max m (l.foldl max 0) := by
  rw [← List.foldl_assoc (op := max), Nat.max_zero]

theorem clauseMax_le_iff (c : List Lit) (n : Nat) : clauseMax c ≤ n ↔ ∀ l ∈ c, l.var < n := by
  simp only [clauseMax, foldl_max_le_iff, List.forall_mem_map, Nat.zero_le, true_and]
  exact Iff.rfl

theorem numVarsOf_le_iff (cs : List (List Lit)) (n : Nat) :
    numVarsOf cs ≤ n ↔ ∀ c ∈ cs, ∀ l ∈ c, l.var < n := by
  simp only [numVarsOf, foldl_max_le_iff, List.forall_mem_map, Nat.zero_le, true_and,
    clauseMax_le_iff]

theorem numVarsOf_map_normClause (cs : List (List Lit)) :
    numVarsOf (cs.map normClause) = numVarsOf cs := by
  have h : ∀ n, numVarsOf (cs.map normClause) ≤ n ↔ numVarsOf cs ≤ n := fun n => by
    simp only [numVarsOf_le_iff, List.forall_mem_map, mem_normClause]
  exact Nat.le_antisymm ((h _).mpr (Nat.le_refl _)) ((h _).mp (Nat.le_refl _))

theorem cnfNumVars_aux (c : List Lit) (m : Nat) :
    c.foldl (fun m l => max m (l.var + 1)) m = max m (clauseMax c) := by
  rw [clauseMax, ← foldl_max_eq, List.foldl_map]

theorem numVarsOf_eq_spec (cs : List (List Lit)) : numVarsOf cs = cnfNumVars cs := by
  simp only [cnfNumVars, numVarsOf, cnfNumVars_aux, List.foldl_map]

theorem numVarsOf_attained : ∀ (cs : List (List Lit)),
    numVarsOf cs = 0 ∨ ∃ c ∈ cs, ∃ l ∈ c, l.var + 1 = numVarsOf cs := by
  intro cs
  by_cases h0 : numVarsOf cs = 0
  · exact Or.inl h0
  · -- otherwise every label would be below `num_vars - 1`
    refine Or.inr (Classical.byContradiction fun hne => ?_)
    refine Nat.not_le_of_gt (Nat.sub_one_lt h0) ((numVarsOf_le_iff cs _).mpr fun c hc l hl => ?_)
    exact Nat.lt_sub_of_add_lt (Nat.lt_of_le_of_ne
      ((numVarsOf_le_iff cs _).mp (Nat.le_refl _) c hc l hl) fun e => hne ⟨c, hc, l, hl, e⟩)

/-! ## Part 1d: `eval` -/

/-- the assignment function of a vector (`false` beyond its end) -/
def asgFn (v : List Bool) : Assign := fun x => v.getD x false

theorem eval_eq (c : CnfM) (v : List Bool) (h : c.numVars ≤ v.length) :
    eval c v = some (cnfSat (asgFn v) c.clauses) := by
  have : ¬ v.length < c.numVars := by omega
  simp only [eval, this, if_false, cnfSat]
  congr 1
  apply List.all_congr rfl; intro cl
  apply List.any_congr rfl; intro l
  exact Bool.beq_comm

theorem eval_none_iff (c : CnfM) (v : List Bool) : eval c v = none ↔ v.length < c.numVars := by
  rw [eval]
  by_cases h : v.length < c.numVars
  · rw [if_pos h]; exact iff_of_true rfl h
  · rw [if_neg h]; exact iff_of_false nofun h

theorem evalStrict_clauseLoop (v : List Bool) : ∀ (cl : List Lit) (sat : Bool),
    (∀ l ∈ cl, l.var < v.length) →
    evalStrict.clauseLoop v cl sat = some (sat || cl.any fun l => l.pol == v.getD l.var false)
  | [], sat, _ => by simp [evalStrict.clauseLoop]
  | l :: r, sat, h => by
    have hl : l.var < v.length := h l List.mem_cons_self
    have hget : v[l.var]? = some (v.getD l.var false) := by
      rw [List.getD_eq_getElem?_getD, List.getElem?_eq_getElem hl]; rfl
    simp only [evalStrict.clauseLoop, hget]
    rw [evalStrict_clauseLoop v r _ (fun x hx => h x (List.mem_cons_of_mem _ hx))]
    simp only [List.any_cons]
    generalize (r.any fun l => l.pol == v.getD l.var false) = R
    generalize (l.pol == v.getD l.var false) = B
    cases sat <;> cases B <;> cases R <;> rfl

theorem evalStrict_cnfLoop (v : List Bool) : ∀ (cs : List (List Lit)),
    (∀ c ∈ cs, ∀ l ∈ c, l.var < v.length) →
    evalStrict.cnfLoop v cs = some (cs.all fun cl => cl.any fun l => l.pol == v.getD l.var false)
  | [], _ => by simp [evalStrict.cnfLoop]
  | c :: cs, h => by
    simp only [evalStrict.cnfLoop]
    rw [evalStrict_clauseLoop v c false (h c List.mem_cons_self)]
    simp only [Bool.false_or, List.all_cons]
    cases hc : (c.any fun l => l.pol == v.getD l.var false)
    · rfl
    · simp only [Bool.true_and]
      exact evalStrict_cnfLoop v cs (fun c' hc' => h c' (List.mem_cons_of_mem _ hc'))

/-! ## Part 1e: `is_sat_partial` -/

theorem litImplied_eq (m : PartialModel) (l : Lit) : m.litImplied l = litTrue m.toSpec l := by
  simp only [PartialModel.litImplied, litTrue, PartialModel.toSpec]
  cases m.get l.var <;> simp

theorem litNegImplied_eq (m : PartialModel) (l : Lit) : m.litNegImplied l = litFalse m.toSpec l := by
  simp only [PartialModel.litNegImplied, litFalse, PartialModel.toSpec]
  cases h : m.get l.var with
  | none => simp
  | some b => cases b <;> cases l.pol <;> simp

theorem isSatPartial_eq (c : CnfM) (m : PartialModel) :
    isSatPartial c m = c.clauses.all fun cl => cl.any (litTrue m.toSpec) := by
  simp only [isSatPartial]
  apply List.all_congr rfl; intro cl
  apply List.any_congr rfl; intro l
  simp only [litTrue, PartialModel.toSpec]
  cases m.get l.var with
  | none => simp
  | some b => cases b <;> cases l.pol <;> simp

/-- a clause that does not contain a literal together with its negation -/
def NoCompl (c : List Lit) : Prop := ∀ l ∈ c, l.neg ∉ c

/-! ## Part 1f: `condition` -/

theorem condClause_eq (lit : Lit) : ∀ (c acc : List Lit),
    condClause lit c acc =
      if c.any (fun l => l.var == lit.var && l.pol == lit.pol) then none
      else some (acc ++ c.filter (fun l => !(l.var == lit.var)))
  | [], acc => by simp [condClause]
  | l :: r, acc => by
    rw [condClause, condClause_eq lit r acc, condClause_eq lit r (acc ++ [l]), List.any_cons,
      List.filter_cons, bne]
    generalize (l.var == lit.var) = bv
    generalize (l.pol == lit.pol) = bp
    cases bv <;> cases bp <;>
      simp only [Bool.and_true, Bool.and_false, Bool.true_or, Bool.false_or, Bool.not_true, Bool.not_false, if_true, if_false, Bool.false_eq_true,
        List.append_assoc, List.singleton_append]

theorem any_same_iff_mem (lit : Lit) (c : List Lit) :
    c.any (fun l => l.var == lit.var && l.pol == lit.pol) = c.contains lit := by
  rw [Bool.eq_iff_iff]
  simp only [List.any_eq_true, Bool.and_eq_true, beq_iff_eq, List.contains_iff_mem]
  show _ ↔ lit ∈ c
  constructor
  · rintro ⟨l, hl, h1, h2⟩
    have : l = lit := by cases l; cases lit; simp_all
    exact this ▸ hl
  · intro h; exact ⟨lit, h, rfl, rfl⟩

/-- what `condition` hands to `Cnf::new`: the clauses containing the literal are dropped, the
literals over its variable are removed from the others (a clause consisting only of the
negated literal becomes the empty clause) -/
theorem condClauses_eq (cs : List (List Lit)) (lit : Lit) :
    condClauses cs lit =
      (cs.filter fun c => !c.contains lit).map fun c => c.filter fun l => !(l.var == lit.var) := by
  induction cs with
  | nil => rfl
  | cons c cs ih =>
    simp only [condClauses, List.filterMap_cons, List.filter_cons] at ih ⊢
    rw [condClause_eq, any_same_iff_mem]
    cases hc : c.contains lit
    · simp [ih]
    · simp [ih]

theorem clauseSat_upd_of_mem (a : Assign) (lit : Lit) (c : List Lit) (h : lit ∈ c) :
    clauseSat (upd a lit.var lit.pol) c = true := by
  simp only [clauseSat, List.any_eq_true]
  exact ⟨lit, h, by simp [litSat]⟩

theorem litSat_upd_of_ne (a : Assign) {lit l : Lit} (h : l ≠ lit) :
    litSat (upd a lit.var lit.pol) l = (!(l.var == lit.var) && litSat a l) := by
  by_cases hv : l.var = lit.var
  · have hp : l.pol ≠ lit.pol := fun e => h (by cases l; cases lit; cases hv; cases e; rfl)
    rw [litSat, hv, upd_same, beq_self_eq_true, Bool.not_true, Bool.false_and]
    exact beq_false_of_ne (Ne.symm hp)
  · rw [litSat, upd_other a lit.pol hv, beq_false_of_ne hv]
    rfl

theorem clauseSat_upd_of_not_mem (a : Assign) (lit : Lit) (c : List Lit) (h : lit ∉ c) :
    clauseSat (upd a lit.var lit.pol) c = clauseSat a (c.filter fun l => !(l.var == lit.var)) := by
  rw [clauseSat, clauseSat, List.any_filter]
  exact any_congr_left fun l hl => litSat_upd_of_ne a fun e => h (e ▸ hl)

theorem cnfSat_condClauses (a : Assign) (lit : Lit) : ∀ (cs : List (List Lit)),
    cnfSat a (condClauses cs lit) = cnfSat (upd a lit.var lit.pol) cs := by
  intro cs
  rw [condClauses_eq]
  induction cs with
  | nil => rfl
  | cons c cs ih =>
    simp only [cnfSat, List.filter_cons, List.all_cons] at ih ⊢
    cases hc : c.contains lit
    · have hnm : lit ∉ c := by simpa using hc
      simp only [Bool.not_false, if_true, List.map_cons, List.all_cons, ih]
      rw [clauseSat_upd_of_not_mem a lit c hnm]
    · have hm : lit ∈ c := by simpa using hc
      simp only [Bool.not_true, Bool.false_eq_true, if_false, ih, clauseSat_upd_of_mem a lit c hm,
        Bool.true_and]

/-! ## Part 2a: `AssignmentIter` counts in binary, index 0 least significant -/

/-- the `n` low bits of `i`, least significant first -/
def bits : Nat → Nat → List Bool
  | 0, _ => []
  | n + 1, i => (i % 2 == 1) :: bits n (i / 2)

@[simp] theorem bits_length : ∀ (n i : Nat), (bits n i).length = n
  | 0, _ => rfl
  | n + 1, i => by simp [bits, bits_length n]

theorem bits_zero : ∀ (n : Nat), bits n 0 = List.replicate n false
  | 0 => rfl
  | n + 1 => by simp [bits, bits_zero n, List.replicate_succ]

theorem bits_cons (n j : Nat) (b : Bool) : bits (n + 1) (2 * j + b.toNat) = b :: bits n j := by
  have hb : b.toNat < 2 := Bool.toNat_lt b
  rw [bits, Nat.mul_add_mod, Nat.mul_add_div (by decide), Nat.mod_eq_of_lt hb,
    Nat.div_eq_of_lt hb, Nat.add_zero]
  cases b <;> rfl

theorem bits_double (n j : Nat) : bits (n + 1) (2 * j) = false :: bits n j := bits_cons n j false
theorem bits_double_succ (n j : Nat) : bits (n + 1) (2 * j + 1) = true :: bits n j := bits_cons n j true

theorem incr_false : ∀ (v : List Bool), incr v false = (v, false)
  | [] => rfl
  | b :: v => by simp [incr, incr_false v]

theorem toNat_mod_two_beq (i : Nat) : (i % 2 == 1).toNat = i % 2 := by
  rcases Nat.mod_two_eq_zero_or_one i with h | h <;> rw [h] <;> rfl

theorem even_or_odd (i : Nat) : ∃ j, i = 2 * j ∨ i = 2 * j + 1 := by
  have e := (Nat.div_add_mod i 2).symm
  rcases Nat.mod_two_eq_zero_or_one i with h | h <;> rw [h] at e
  · exact ⟨_, .inl e⟩
  · exact ⟨_, .inr e⟩

theorem half_lt {n i : Nat} (h : i < 2 ^ (n + 1)) : i / 2 < 2 ^ n :=
  Nat.div_lt_of_lt_mul (Nat.pow_succ' ▸ h)

theorem incr_bits : ∀ (n i : Nat), i < 2 ^ n →
    incr (bits n i) true = (bits n (i + 1), decide (i + 1 = 2 ^ n))
  | 0, i, h => by
    have : i = 0 := Nat.lt_one_iff.mp h
    subst this; rfl
  | n + 1, i, h => by
    have hp : 2 ^ (n + 1) = 2 * 2 ^ n := Nat.pow_succ'
    obtain ⟨j, rfl | rfl⟩ := even_or_odd i
    · -- no carry: the lowest bit flips
      rw [bits_double, bits_double_succ, incr, Bool.false_and, incr_false,
        decide_eq_false (by omega)]
      rfl
    · -- carry into the bits of `j`
      rw [bits_double_succ, incr, Bool.true_and, incr_bits n j
        (Nat.lt_of_mul_lt_mul_left (Nat.lt_of_succ_lt (hp ▸ h)))]
      show _ = (bits (n + 1) (2 * (j + 1)), decide (2 * (j + 1) = 2 ^ (n + 1)))
      rw [bits_double, hp, decide_eq_decide.mpr (Nat.mul_right_inj (by decide))]
      rfl

theorem iterFrom_bits (n : Nat) : ∀ (k fuel i : Nat), i + k + 1 = 2 ^ n → k < fuel →
    bits n i :: iterFrom fuel (bits n i) = (List.range' i (k + 1)).map (bits n)
  | 0, fuel + 1, i, h, _ => by
    rw [iterFrom, incr_bits n i (Nat.lt_of_lt_of_eq (Nat.lt_succ_self i) h),
      if_pos (decide_eq_true h)]
    rfl
  | k + 1, fuel + 1, i, h, hf => by
    have hi : i < 2 ^ n := Nat.lt_of_lt_of_eq (Nat.lt_succ_of_le (Nat.le_add_right i (k + 1))) h
    have hne : ¬ decide (i + 1 = 2 ^ n) = true := fun e => Nat.ne_of_lt
      (h ▸ Nat.succ_lt_succ (Nat.lt_add_of_pos_right (Nat.succ_pos k))) (of_decide_eq_true e)
    rw [iterFrom, incr_bits n i hi, if_neg hne,
      iterFrom_bits n k fuel (i + 1) (by rw [← h, Nat.add_right_comm i 1 k]; rfl)
        (Nat.lt_of_succ_lt_succ hf)]
    rfl

/-- `AssignmentIter::new(n)` yields the `n`-bit vectors of `0, 1, …, 2^n - 1` in this order -/
theorem assignmentIter_eq (n : Nat) : assignmentIter n = (List.range (2 ^ n)).map (bits n) := by
  have hpos : 0 < 2 ^ n := Nat.two_pow_pos n
  have h := iterFrom_bits n (2 ^ n - 1) (2 ^ n) 0 (by omega) (by omega)
  rw [Nat.sub_add_cancel hpos] at h
  rw [assignmentIter, ← bits_zero, h, List.range_eq_range']

theorem bits_inj : ∀ (n i j : Nat), i < 2 ^ n → j < 2 ^ n → bits n i = bits n j → i = j
  | 0, i, j, hi, hj, _ => by rw [Nat.lt_one_iff.mp hi, Nat.lt_one_iff.mp hj]
  | n + 1, i, j, hi, hj, h => by
    obtain ⟨h1, h2⟩ := List.cons.inj h
    rw [← Nat.div_add_mod i 2, ← Nat.div_add_mod j 2, ← toNat_mod_two_beq i, ← toNat_mod_two_beq j,
      h1, bits_inj n (i / 2) (j / 2) (half_lt hi) (half_lt hj) h2]

theorem bits_surj : ∀ (n : Nat) (v : List Bool), v.length = n → ∃ i, i < 2 ^ n ∧ bits n i = v
  | 0, [], _ => ⟨0, Nat.one_pos, rfl⟩
  | n + 1, b :: v, h => by
    have hp : 2 ^ (n + 1) = 2 * 2 ^ n := Nat.pow_succ'
    obtain ⟨i, hi, hv⟩ := bits_surj n v (Nat.succ.inj h)
    refine ⟨2 * i + b.toNat, ?_, by rw [bits_cons, hv]⟩
    rw [hp]
    exact Nat.lt_of_lt_of_le (Nat.add_lt_add_left (Bool.toNat_lt b) _) (Nat.mul_le_mul_left 2 hi)

theorem bits_getD : ∀ (n i x : Nat), x < n → (bits n i).getD x false = assignOfNat i x
  | n + 1, i, 0, _ => by simp [bits, assignOfNat]
  | n + 1, i, x + 1, h => by
    have ih := bits_getD n (i / 2) x (by omega)
    simp only [bits, List.getD_cons_succ, ih, assignOfNat]
    rw [Nat.shiftRight_succ_inside]

theorem mem_assignmentIter {n : Nat} {v : List Bool} : v ∈ assignmentIter n ↔ v.length = n := by
  rw [assignmentIter_eq, List.mem_map]
  constructor
  · rintro ⟨i, _, rfl⟩; exact bits_length n i
  · intro h
    obtain ⟨i, hi, hv⟩ := bits_surj n v h
    exact ⟨i, List.mem_range.mpr hi, hv⟩

theorem assignmentIter_nodup (n : Nat) : (assignmentIter n).Nodup := by
  rw [assignmentIter_eq, List.Nodup, List.pairwise_map]
  refine List.Pairwise.imp_of_mem ?_ (List.pairwise_lt_range (n := 2 ^ n))
  intro i j hi hj hlt heq
  have := bits_inj n i j (List.mem_range.mp hi) (List.mem_range.mp hj) heq
  omega

theorem assignmentIter_length (n : Nat) : (assignmentIter n).length = 2 ^ n := by
  rw [assignmentIter_eq]; simp

/-! ## Part 2b: the brute-force count is the weighted sum -/

section wmc
open Bdd
variable {α : Type} {S : SROps α}

/-- `a` overridden from position `k` on by the entries of `v` -/
def ovr : Assign → Nat → List Bool → Assign
  | a, _, [] => a
  | a, k, b :: v => ovr (upd a k b) (k + 1) v

theorem ovr_of_lt : ∀ (v : List Bool) (a : Assign) {k x : Nat}, x < k → ovr a k v x = a x
  | [], _, _, _, _ => rfl
  | b :: v, a, k, x, h => by
    rw [ovr, ovr_of_lt v _ (Nat.lt_succ_of_lt h), upd_other a b (Nat.ne_of_lt h)]

theorem ovr_add : ∀ (v : List Bool) (a : Assign) (k y : Nat), y < v.length →
    ovr a k v (k + y) = v.getD y false
  | b :: v, a, k, 0, _ => by
    show ovr (upd a k b) (k + 1) v k = b
    rw [ovr_of_lt v _ (Nat.lt_add_one k), upd_same]
  | b :: v, a, k, y + 1, h => by
    rw [ovr, show k + (y + 1) = k + 1 + y from (Nat.add_right_comm k 1 y).symm,
      ovr_add v _ (k + 1) y (Nat.lt_of_succ_lt_succ h)]
    rfl

/-- right-nested product of the chosen weights, variables `k, k+1, …` -/
def wprod (S : SROps α) (w : Weights α) : Nat → List Bool → α
  | _, [] => S.one
  | k, b :: v => S.mul (if b then (w k).2 else (w k).1) (wprod S w (k + 1) v)

def wterm (S : SROps α) (w : Weights α) (f : BoolFn) (a : Assign) (k : Nat) (v : List Bool) : α :=
  if f (ovr a k v) then wprod S w k v else S.zero

theorem wterm_cons (hS : S.Laws) (w : Weights α) (f : BoolFn) (a : Assign) (k : Nat) (b : Bool)
    (v : List Bool) :
    wterm S w f a k (b :: v) =
      S.mul (if b then (w k).2 else (w k).1) (wterm S w f (upd a k b) (k + 1) v) := by
  by_cases h : f (ovr (upd a k b) (k + 1) v) = true <;> simp [wterm, ovr, wprod, h, hS.mul_zero]

theorem sumList_map_add (hS : S.Laws) {β : Type} (g h : β → α) : ∀ (l : List β),
    sumList S (l.map fun b => S.add (g b) (h b)) = S.add (sumList S (l.map g)) (sumList S (l.map h))
  | [] => by simp [sumList, hS.add_zero]
  | x :: l => by
    have := sumList_map_add hS g h l
    simp only [sumList, List.map_cons, List.foldr_cons] at this ⊢
    rw [this, sr_add4 hS]

theorem sumList_range_double (hS : S.Laws) (h : Nat → α) : ∀ (m : Nat),
    sumList S ((List.range (2 * m)).map h) =
      sumList S ((List.range m).map fun j => S.add (h (2 * j)) (h (2 * j + 1)))
  | 0 => rfl
  | m + 1 => by
    have e : 2 * (m + 1) = 2 * m + 1 + 1 := Nat.mul_succ 2 m
    rw [e, List.range_succ, List.range_succ, List.range_succ (n := m)]
    simp only [List.map_append, List.map_cons, List.map_nil, List.append_assoc]
    rw [sumList_append hS, sumList_append hS (l := (List.range m).map _), sumList_range_double hS h m]
    simp only [sumList, List.cons_append, List.nil_append, List.foldr_cons, List.foldr_nil,
      hS.add_zero]

/-- the sum over all `n`-bit vectors, taken in counting order, is the variable-by-variable sum
`wsum` over `k, …, k+n-1`: the numbers `2j` and `2j+1` differ in the lowest bit only, so pairing
them splits off variable `k` (`sumList_range_double`, `bits_double`) and leaves the same sum over
the bits of `j` for the remaining variables -/
theorem sum_bits (hS : S.Laws) (w : Weights α) : ∀ (n k : Nat) (f : BoolFn) (a : Assign),
    sumList S ((List.range (2 ^ n)).map fun j => wterm S w f a k (bits n j)) =
      wsum S (List.range' k n) w f a
  | 0, k, f, a => by
    simp [sumList, wterm, bits, ovr, wprod, wsum, hS.add_zero]
  | n + 1, k, f, a => by
    rw [Nat.pow_succ', sumList_range_double hS]
    have e : ∀ j, S.add (wterm S w f a k (bits (n + 1) (2 * j)))
          (wterm S w f a k (bits (n + 1) (2 * j + 1))) =
        S.add (S.mul (w k).1 (wterm S w f (upd a k false) (k + 1) (bits n j)))
          (S.mul (w k).2 (wterm S w f (upd a k true) (k + 1) (bits n j))) := by
      intro j
      rw [bits_double, bits_double_succ, wterm_cons hS, wterm_cons hS]
      rfl
    simp only [e]
    rw [sumList_map_add hS, sumList_map_mul hS, sumList_map_mul hS, sum_bits hS w n (k + 1),
      sum_bits hS w n (k + 1), List.range'_succ]
    rfl

theorem asgWeightFrom_eq (hS : S.Laws) (w : Weights α) : ∀ (v : List Bool) (i : Nat) (acc : α),
    asgWeightFrom S w v i acc = S.mul acc (wprod S w i v)
  | [], i, acc => by simp [asgWeightFrom, wprod, hS.mul_one]
  | b :: v, i, acc => by
    rw [asgWeightFrom, asgWeightFrom_eq hS w v, wprod, hS.mul_assoc]

theorem asgWeight_eq (hS : S.Laws) (w : Weights α) (v : List Bool) :
    asgWeight S w v = wprod S w 0 v := by
  rw [asgWeight, asgWeightFrom_eq hS, sr_one_mul hS]

/-- the body of the `for` loop of `Cnf::wmc` -/
def wmcStep (S : SROps α) (c : CnfM) (w : Weights α) (total : Option α) (asg : List Bool) : Option α :=
  match total, eval c asg with
  | some t, some true => some (S.add t (asgWeight S w asg))
  | some t, some false => some t
  | _, _ => none

theorem wmcStep_eq (hS : S.Laws) (c : CnfM) (w : Weights α) (t : α) {v : List Bool}
    (hv : c.numVars ≤ v.length) :
    wmcStep S c w (some t) v =
      some (S.add t (if cnfSat (asgFn v) c.clauses then asgWeight S w v else S.zero)) := by
  unfold wmcStep
  rw [eval_eq c v hv]
  cases cnfSat (asgFn v) c.clauses
  · exact congrArg some (hS.add_zero t).symm
  · rfl

theorem wmc_fold (hS : S.Laws) (c : CnfM) (w : Weights α) : ∀ (L : List (List Bool)) (t : α),
    (∀ v ∈ L, c.numVars ≤ v.length) →
    L.foldl (wmcStep S c w) (some t) =
      some (S.add t (sumList S (L.map fun v =>
        if cnfSat (asgFn v) c.clauses then asgWeight S w v else S.zero)))
  | [], t, _ => congrArg some (hS.add_zero t).symm
  | v :: L, t, h => by
    rw [List.foldl_cons, wmcStep_eq hS c w t (h v List.mem_cons_self),
      wmc_fold hS c w L _ fun v hv => h v (List.mem_cons_of_mem _ hv)]
    exact congrArg some (hS.add_assoc _ _ _)

end wmc

end CnfUtil
