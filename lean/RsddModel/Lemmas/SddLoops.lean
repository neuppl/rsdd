import RsddModel.Lemmas.SddBasic
/-!
# Lemmas: `ite` and the operand lookups of `step` read backwards; what the operation language keeps

The element loops of the builder are walked forward, by the rules of `Lemmas/SddRules.lean`; here is
only what they hand on (`LoopRes.mapElems`).  *If* `ite` returned, the standard triple was a
constant, or the cache was hit, or missed with three calls that returned (`bIte_some`); with it the
two facts about the ite cache that every "all stored results satisfy `Q`" invariant needs, and the
operand lookups of `step`.  Last section: what `and` and `condition` keep, the derived operations and
the operation language keep (`Keeps`).
-/
namespace Sdd

/-- what a loop does with the result of its own continuation: an early exit is passed on, an
element list gets the elements of this round in front -/
def LoopRes.mapElems (f : List Elem → List Elem) : LoopRes → LoopRes
  | .early r => .early r
  | .elems l => .elems (f l)

/-! ## `ite` -/
section
variable {A : CacheImpl (Ptr × Ptr)} {I : CacheImpl (Ptr × Ptr × Ptr)} {cfg : Config} {fuel : Nat}

/-- an `ite` that returned: the standard triple is a constant (the result), or a cache hit, or a
miss followed by `(f ∧ g) ∨ (¬f ∧ h)` and a cache insert -/
theorem bIte_some {s s' : A.σ × I.σ} {f g h r : Ptr}
    (hr : bIte A I cfg fuel s f g h = some (s', r)) :
    (Ite.new (primeOrd cfg.vt) f g h = .const r ∧ s' = s) ∨
    ∃ key, Ite.new (primeOrd cfg.vt) f g h = key ∧ (∀ p, key ≠ .const p) ∧
      ((iteCacheGet I s.2 key = some r ∧ s' = s) ∨
       (iteCacheGet I s.2 key = none ∧ ∃ a1 fg a2 nfh a3,
         bAnd A cfg fuel s.1 f g = some (a1, fg) ∧ bAnd A cfg fuel a1 f.neg h = some (a2, nfh) ∧
         bOr A cfg fuel a2 fg nfh = some (a3, r) ∧ s' = (a3, iteCacheInsert I s.2 key r))) := by
  unfold bIte at hr
  generalize hk : Ite.new (primeOrd cfg.vt) f g h = key at hr
  have miss : (∀ p, key ≠ .const p) →
      (match iteCacheGet I s.2 key with
        | some v => some (s, v)
        | none =>
          match bAnd A cfg fuel s.1 f g with
          | none => none
          | some (a1, fg) =>
            match bAnd A cfg fuel a1 f.neg h with
            | none => none
            | some (a2, nfh) =>
              match bOr A cfg fuel a2 fg nfh with
              | none => none
              | some (a3, r) => some ((a3, iteCacheInsert I s.2 key r), r)) = some (s', r) →
      (iteCacheGet I s.2 key = some r ∧ s' = s) ∨
       (iteCacheGet I s.2 key = none ∧ ∃ a1 fg a2 nfh a3,
         bAnd A cfg fuel s.1 f g = some (a1, fg) ∧ bAnd A cfg fuel a1 f.neg h = some (a2, nfh) ∧
         bOr A cfg fuel a2 fg nfh = some (a3, r) ∧ s' = (a3, iteCacheInsert I s.2 key r)) := by
    intro _ hr
    split at hr
    · rename_i v hget
      cases hr
      exact .inl ⟨hget, rfl⟩
    · rename_i hget
      refine .inr ⟨hget, ?_⟩
      split at hr
      · cases hr
      · rename_i a1 fg h1
        split at hr
        · cases hr
        · rename_i a2 nfh h2
          split at hr
          · cases hr
          · rename_i a3 r3 h3
            cases hr
            exact ⟨a1, fg, a2, nfh, a3, h1, h2, h3, rfl⟩
  cases key with
  | const p => cases hr; exact .inl ⟨rfl, rfl⟩
  | choice f' g' h' => exact .inr ⟨_, rfl, nofun, miss nofun hr⟩
  | complChoice f' g' h' => exact .inr ⟨_, rfl, nofun, miss nofun hr⟩

variable {Q : Ptr → Prop} (hneg : ∀ p, Q p → Q p.neg) {s : I.σ}
  (hs : ∀ k r, I.get s k = some r → Q r) {key : Ite}
include hneg hs

/-- a hit in an ite cache whose stored results satisfy `Q` satisfies `Q` (the table stores the
result of the regular triple and answers a complemented one with the negation) -/
theorem iteCacheGet_of {v : Ptr} (hk : ∀ p, key ≠ .const p) (h : iteCacheGet I s key = some v) :
    Q v := by
  cases key with
  | choice f g h' => exact hs _ _ h
  | complChoice f g h' =>
    obtain ⟨v0, h0, rfl⟩ := Option.map_eq_some_iff.1 h
    exact hneg _ (hs _ _ h0)
  | const p => exact absurd rfl (hk p)

theorem iteCacheInsert_of {r : Ptr} (qr : Q r) :
    ∀ k r', I.get (iteCacheInsert I s key r) k = some r' → Q r' := by
  cases key with
  | choice f g h' =>
    intro k r' h
    rcases I.lawful _ _ _ _ _ h with ⟨_, rfl⟩ | h'
    · exact qr
    · exact hs _ _ h'
  | complChoice f g h' =>
    intro k r' h
    rcases I.lawful _ _ _ _ _ h with ⟨_, rfl⟩ | h'
    · exact hneg _ qr
    · exact hs _ _ h'
  | const p => exact hs

end

/-! ## the operand lookups of `step`, with the call as a variable -/

theorem pool1_some {β : Type} {x : Option Ptr} {F : Ptr → Option β} {r : β}
    (h : (match x with | some p => F p | none => none) = some r) :
    ∃ p, x = some p ∧ F p = some r := by
  cases x with
  | none => cases h
  | some p => exact ⟨p, rfl, h⟩

theorem pool2_some {β : Type} {x y : Option Ptr} {F : Ptr → Ptr → Option β} {r : β}
    (h : (match x, y with | some p, some q => F p q | _, _ => none) = some r) :
    ∃ p q, x = some p ∧ y = some q ∧ F p q = some r := by
  cases x with
  | none => cases h
  | some p =>
    cases y with
    | none => cases h
    | some q => exact ⟨p, q, rfl, rfl, h⟩

/-! ## the derived operations keep what `and` and `condition` keep

`or`, `ite` (`iff`, `xor`), `exists`, `compose` and the operation language are built from `and`,
`condition`, negation and the ite cache alone.  So a predicate `G` on pointers that holds of the
constants and of the literals of the vtree, is closed under negation and is kept by `and` and
`condition` (together with a predicate `PA` on apply-cache states) holds of every pool entry. -/

structure Keeps (A : CacheImpl (Ptr × Ptr)) (cfg : Config) (fuel : Nat) (PA : A.σ → Prop)
    (G : Ptr → Prop) : Prop where
  tru : G .tru
  fls : G .fls
  lit : ∀ x pol, cfg.vt.hasVar x = true → G (.lit x pol)
  neg : ∀ p, G p → G p.neg
  and : ∀ st a b st' r, PA st → G a → G b → bAnd A cfg fuel st a b = some (st', r) → PA st' ∧ G r
  cond : ∀ st f x v st' r, PA st → G f → bCond A cfg fuel st f x v = some (st', r) → PA st' ∧ G r

/-- the invariant of the operation language: `PA` of the apply cache, `G` of every result stored in
the ite cache and of every pool entry -/
def InvG {A : CacheImpl (Ptr × Ptr)} {I : CacheImpl (Ptr × Ptr × Ptr)} (PA : A.σ → Prop)
    (G : Ptr → Prop) (st : St A I) : Prop :=
  PA st.app ∧ (∀ k r, I.get st.ite k = some r → G r) ∧ ∀ p ∈ st.pool, G p

section
variable {A : CacheImpl (Ptr × Ptr)} {I : CacheImpl (Ptr × Ptr × Ptr)} {cfg : Config} {fuel : Nat}
  {PA : A.σ → Prop} {G : Ptr → Prop} (K : Keeps A cfg fuel PA G)
include K

theorem Keeps.or {st a b st' r} (hP : PA st) (ga : G a) (gb : G b)
    (h : bOr A cfg fuel st a b = some (st', r)) : PA st' ∧ G r := by
  unfold bOr orF at h
  split at h
  · rename_i st1 r1 h1
    cases h
    obtain ⟨hp, gr⟩ := K.and _ _ _ _ _ hP (K.neg _ ga) (K.neg _ gb) h1
    exact ⟨hp, K.neg _ gr⟩
  · cases h

theorem Keeps.ite {s s' : A.σ × I.σ} {f g h r : Ptr} (hA : PA s.1)
    (hI : ∀ k r, I.get s.2 k = some r → G r) (gf : G f) (gg : G g) (gh : G h)
    (hr : bIte A I cfg fuel s f g h = some (s', r)) :
    PA s'.1 ∧ (∀ k r, I.get s'.2 k = some r → G r) ∧ G r := by
  rcases bIte_some hr with ⟨hk, rfl⟩ | ⟨key, _, hnc, ⟨hget, rfl⟩ |
    ⟨_, a1, fg, a2, nfh, a3, h1, h2, h3, rfl⟩⟩
  · exact ⟨hA, hI, iteNew_const_of K.neg K.tru K.fls gf gg gh hk⟩
  · exact ⟨hA, hI, iteCacheGet_of K.neg hI hnc hget⟩
  · obtain ⟨hA1, gfg⟩ := K.and _ _ _ _ _ hA gf gg h1
    obtain ⟨hA2, gnfh⟩ := K.and _ _ _ _ _ hA1 (K.neg _ gf) gh h2
    obtain ⟨hA3, gr⟩ := K.or hA2 gfg gnfh h3
    exact ⟨hA3, iteCacheInsert_of K.neg hI gr, gr⟩

theorem Keeps.exists {st st' : A.σ} {f r : Ptr} {x : Nat} (hP : PA st) (gf : G f)
    (h : bExists A cfg fuel st f x = some (st', r)) : PA st' ∧ G r := by
  unfold bExists at h
  split at h
  · cases h
  · rename_i s1 v1 h1
    obtain ⟨hP1, g1⟩ := K.cond _ _ _ _ _ _ hP gf h1
    split at h
    · cases h
    · rename_i s2 v2 h2
      obtain ⟨hP2, g2⟩ := K.cond _ _ _ _ _ _ hP1 gf h2
      exact K.or hP2 g1 g2 h

theorem Keeps.compose {s s' : A.σ × I.σ} {f g r : Ptr} {x : Nat} (hA : PA s.1)
    (hI : ∀ k r, I.get s.2 k = some r → G r) (hx : cfg.vt.hasVar x = true) (gf : G f) (gg : G g)
    (hr : bCompose A I cfg fuel s f x g = some (s', r)) :
    PA s'.1 ∧ (∀ k r, I.get s'.2 k = some r → G r) ∧ G r := by
  unfold bCompose at hr
  split at hr
  · cases hr
  · rename_i s1 i h1
    obtain ⟨hA1, hI1, gi⟩ := K.ite hA hI (K.lit x true hx) gg (K.neg _ gg) h1
    split at hr
    · cases hr
    · rename_i a2 c h2
      obtain ⟨hA2, gc⟩ := K.and _ _ _ _ _ hA1 gi gf h2
      split at hr
      · cases hr
      · rename_i a3 r3 h3
        cases hr
        obtain ⟨hA3, gr⟩ := K.exists hA2 gc h3
        exact ⟨hA3, hI1, gr⟩

omit K in
theorem InvG.push {st : St A I} {a : A.σ} {i : I.σ} {r : Ptr} (ha : PA a)
    (hi : ∀ k r, I.get i k = some r → G r) (gr : G r) (hpool : ∀ p ∈ st.pool, G p) :
    InvG PA G (st.push a i r) :=
  ⟨ha, hi, fun p hp => (List.mem_append.1 hp).elim (hpool p)
    fun h => List.mem_singleton.1 h ▸ gr⟩

theorem Keeps.step {st st' : St A I} {op : Op} (hinv : InvG PA G st)
    (hstep : step A I cfg fuel st op = some st') : InvG PA G st' := by
  obtain ⟨hA, hI, hpool⟩ := hinv
  have at' : ∀ {i p}, st.pool[i]? = some p → G p := fun h => hpool _ (List.mem_of_getElem? h)
  cases op with
  | const b =>
    cases hstep
    exact .push hA hI (by cases b; exact K.fls; exact K.tru) hpool
  | var x pol =>
    by_cases hx : cfg.vt.hasVar x = true
    · simp only [Sdd.step, if_pos hx] at hstep; cases hstep
      exact .push hA hI (K.lit x pol hx) hpool
    · simp only [Sdd.step, if_neg hx] at hstep; cases hstep
  | neg i =>
    obtain ⟨p, hp, rfl⟩ := Option.map_eq_some_iff.1 hstep
    exact .push hA hI (K.neg _ (at' hp)) hpool
  | and i j =>
    obtain ⟨p, q, hp, hq, h⟩ := pool2_some hstep
    obtain ⟨⟨s, r⟩, hrun, rfl⟩ := Option.map_eq_some_iff.1 h
    obtain ⟨hs, gr⟩ := K.and _ _ _ _ _ hA (at' hp) (at' hq) hrun
    exact .push hs hI gr hpool
  | or i j =>
    obtain ⟨p, q, hp, hq, h⟩ := pool2_some hstep
    obtain ⟨⟨s, r⟩, hrun, rfl⟩ := Option.map_eq_some_iff.1 h
    obtain ⟨hs, gr⟩ := K.or hA (at' hp) (at' hq) hrun
    exact .push hs hI gr hpool
  | xor i j =>
    obtain ⟨p, q, hp, hq, h⟩ := pool2_some hstep
    obtain ⟨⟨s, r⟩, hrun, rfl⟩ := Option.map_eq_some_iff.1 h
    obtain ⟨hs, hi, gr⟩ := K.ite (s := (st.app, st.ite)) hA hI (at' hp) (K.neg _ (at' hq))
      (at' hq) hrun
    exact .push hs hi gr hpool
  | iff i j =>
    obtain ⟨p, q, hp, hq, h⟩ := pool2_some hstep
    obtain ⟨⟨s, r⟩, hrun, rfl⟩ := Option.map_eq_some_iff.1 h
    obtain ⟨hs, hi, gr⟩ := K.ite (s := (st.app, st.ite)) hA hI (at' hp) (at' hq)
      (K.neg _ (at' hq)) hrun
    exact .push hs hi gr hpool
  | ite i j k =>
    simp only [Sdd.step] at hstep
    split at hstep
    · rename_i p q r0 hp hq hr0
      obtain ⟨⟨s, r⟩, hrun, rfl⟩ := Option.map_eq_some_iff.1 hstep
      obtain ⟨hs, hi, gr⟩ := K.ite (s := (st.app, st.ite)) hA hI (at' hp) (at' hq) (at' hr0) hrun
      exact .push hs hi gr hpool
    · cases hstep
  | cond i x b =>
    obtain ⟨p, hp, h⟩ := pool1_some hstep
    obtain ⟨⟨s, r⟩, hrun, rfl⟩ := Option.map_eq_some_iff.1 h
    obtain ⟨hs, gr⟩ := K.cond _ _ _ _ _ _ hA (at' hp) hrun
    exact .push hs hI gr hpool
  | exist i x =>
    obtain ⟨p, hp, h⟩ := pool1_some hstep
    obtain ⟨⟨s, r⟩, hrun, rfl⟩ := Option.map_eq_some_iff.1 h
    obtain ⟨hs, gr⟩ := K.exists hA (at' hp) hrun
    exact .push hs hI gr hpool
  | compose i x j =>
    by_cases hx : cfg.vt.hasVar x = true
    · simp only [Sdd.step, if_pos hx] at hstep
      obtain ⟨p, q, hp, hq, h⟩ := pool2_some hstep
      obtain ⟨⟨s, r⟩, hrun, rfl⟩ := Option.map_eq_some_iff.1 h
      obtain ⟨hs, hi, gr⟩ := K.compose (s := (st.app, st.ite)) hA hI hx (at' hp) (at' hq) hrun
      exact .push hs hi gr hpool
    · simp only [Sdd.step, if_neg hx] at hstep; cases hstep

theorem Keeps.runFrom : ∀ (ops : List Op) {st st' : St A I}, InvG PA G st →
    runFrom A I cfg fuel st ops = some st' → InvG PA G st'
  | [], st, st', hinv, hrun => by cases hrun; exact hinv
  | op :: ops, st, st', hinv, hrun => by
    rw [Sdd.runFrom] at hrun
    split at hrun
    · cases hrun
    · rename_i st1 h1
      exact Keeps.runFrom ops (K.step hinv h1) hrun

theorem Keeps.run (hempty : PA A.empty) {ops : List Op} {st : St A I}
    (h : Sdd.runFrom A I cfg fuel (St.init A I) ops = some st) : ∀ p ∈ st.pool, G p := by
  refine (K.runFrom ops ⟨hempty, fun k r hk => ?_, fun p hp => ?_⟩ h).2.2
  · have e : I.get I.empty k = some r := hk
    rw [I.empty_get] at e; cases e
  · cases hp

end

end Sdd
