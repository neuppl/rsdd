import RsddModel.Lemmas.SddLoopSem
/-!
# Lemmas: one rule per loop of the SDD builder, for every invariant

Every invariant of the builder is proved as "if the recursive call `andF` meets a contract, so does `andBody andF`", and
walks the same loops.  Here each loop is walked once.

* `W N x Q`: the run `x` meets `Q` if it returns, and `N` holds if it does not.  `N := True` is partial correctness
  (`W.partial`), `N := False` says that the run returns (`W.total`); one proof serves both.  A `match` on the result of a
  call is entered by a bind rule.  A rule stated for `Option (α × β)` would not apply: Lean compares matchers as closed
  terms, so there is one rule for each type the builder matches on (`W.call`, `W.call'`, `W.list`, `W.triple`, `W.loop`,
  `W.res`).
* `CallsW N P G R andF`: on operands in `G` the call keeps the state predicate `P`, returns a pointer in `G`, related to
  the operands by `R`.  `Calls` is its partial reading, written so that the contracts the invariants were stated with
  (`AndOK`, `AndOKs`) are instances by unfolding.  `Calls.side` (for any `N`: `CallsW.side`) adds a predicate that `R`
  carries from operands to result (dependence on one side of the vtree node, variables in a set, a range of vtree
  indices).
* The loop rules take one contract for the predicate `Gp` on primes and one for `Gs` on subs, and `N`, what is known of a
  prime that passed the `is_false` test.  They return the elements in `ElemG Gp Gs N` together with the semantic fact of
  `SddLoopSem`, which needs nothing of the calls but `IsAnd`.
* `compressInner_w`, `compressOuter_w`: the output is drawn from the input (so every predicate on elements carries over),
  kept subs differ from the merged one; per invariant they need the contract of `orF` on the predicate on primes.
-/
namespace Sdd
open Spec

/-- `x` meets `Q` if it returns; `N` is what is asked of a run that does not -/
def W (N : Prop) {α : Type} (x : Option α) (Q : α → Prop) : Prop :=
  match x with
  | none => N
  | some y => Q y

theorem W.mono {N : Prop} {α : Type} {x : Option α} {Q Q' : α → Prop} (h : W N x Q)
    (hQ : ∀ y, Q y → Q' y) : W N x Q' := by
  cases x with
  | none => exact h
  | some y => exact hQ y h

theorem W.partial {α : Type} {x : Option α} {Q : α → Prop} (h : W True x Q) {y : α}
    (hx : x = some y) : Q y := by subst hx; exact h

theorem W.of_partial {α : Type} {x : Option α} {Q : α → Prop} (h : ∀ y, x = some y → Q y) :
    W True x Q := by
  cases x with
  | none => trivial
  | some y => exact h y rfl

theorem W.of_some {N : Prop} {α : Type} {x : Option α} {Q : α → Prop} {y : α} (hx : x = some y)
    (h : Q y) : W N x Q := by subst hx; exact h

theorem W.total {α : Type} {x : Option α} {Q : α → Prop} (h : W False x Q) :
    ∃ y, x = some y ∧ Q y := by
  cases x with
  | none => exact h.elim
  | some y => exact ⟨y, rfl, h⟩

section bind
variable {σ γ : Type} {N : Prop} {Q : γ → Prop}

theorem W.call {X : Option (σ × Ptr)} {K : σ → Ptr → Option γ} {Q0 : σ × Ptr → Prop}
    (hX : W N X Q0) (hK : ∀ a b, Q0 (a, b) → W N (K a b) Q) :
    W N (match X with | none => none | some (a, b) => K a b) Q := by
  rcases X with _ | ⟨a, b⟩
  · exact hX
  · exact hK a b hX

/-- the `match` of `orF` lists `some` first -/
theorem W.call' {X : Option (σ × Ptr)} {K : σ → Ptr → Option γ} {Q0 : σ × Ptr → Prop}
    (hX : W N X Q0) (hK : ∀ a b, Q0 (a, b) → W N (K a b) Q) :
    W N (match X with | some (a, b) => K a b | none => none) Q := by
  rcases X with _ | ⟨a, b⟩
  · exact hX
  · exact hK a b hX

theorem W.list {X : Option (σ × List Elem)} {K : σ → List Elem → Option γ}
    {Q0 : σ × List Elem → Prop} (hX : W N X Q0) (hK : ∀ a b, Q0 (a, b) → W N (K a b) Q) :
    W N (match X with | none => none | some (a, b) => K a b) Q := by
  rcases X with _ | ⟨a, b⟩
  · exact hX
  · exact hK a b hX

theorem W.triple {X : Option (σ × Ptr × List Elem)} {K : σ → Ptr → List Elem → Option γ}
    {Q0 : σ × Ptr × List Elem → Prop} (hX : W N X Q0)
    (hK : ∀ a b c, Q0 (a, b, c) → W N (K a b c) Q) :
    W N (match X with | none => none | some (a, b, c) => K a b c) Q := by
  rcases X with _ | ⟨a, b, c⟩
  · exact hX
  · exact hK a b c hX

/-- a loop passing on the result of its continuation (`LoopRes.mapElems`) -/
theorem W.loop {X : Option (σ × LoopRes)} {f : List Elem → List Elem} {Q0 Q : σ × LoopRes → Prop}
    (hX : W N X Q0) (hK : ∀ a res, Q0 (a, res) → Q (a, res.mapElems f)) :
    W N (match X with
      | none => none
      | some (st2, .early r) => some (st2, .early r)
      | some (st2, .elems l) => some (st2, .elems (f l))) Q := by
  rcases X with _ | ⟨a, r | l⟩
  · exact hX
  · exact hK a _ hX
  · exact hK a _ hX

/-- after a loop: one continuation for an early exit, one for the elements -/
theorem W.res {X : Option (σ × LoopRes)} {E : σ → Ptr → Option γ} {L : σ → List Elem → Option γ}
    {Q0 : σ × LoopRes → Prop} (hX : W N X Q0) (hE : ∀ a x, Q0 (a, .early x) → W N (E a x) Q)
    (hL : ∀ a l, Q0 (a, .elems l) → W N (L a l) Q) :
    W N (match X with
      | none => none
      | some (a, .early x) => E a x
      | some (a, .elems l) => L a l) Q := by
  rcases X with _ | ⟨a, x | l⟩
  · exact hX
  · exact hE a x hX
  · exact hL a l hX

end bind

/-! ## contracts of the recursive calls -/

def IsAnd (a b r : Ptr) : Prop := ∀ asg, r.eval asg = (a.eval asg && b.eval asg)
def IsOr (a b r : Ptr) : Prop := ∀ asg, r.eval asg = (a.eval asg || b.eval asg)
def IsCond (x : Nat) (v : Bool) (f r : Ptr) : Prop := ∀ a, r.eval a = f.eval (upd a x v)

section contracts
variable {σ : Type} {N : Prop} {P : σ → Prop} {G S : Ptr → Prop} {R : Ptr → Ptr → Ptr → Prop}
  {C : Ptr → Ptr → Prop} {andF : AndF σ} {condF : σ → Ptr → Option (σ × Ptr)}

def CallsW (N : Prop) (P : σ → Prop) (G : Ptr → Prop) (R : Ptr → Ptr → Ptr → Prop)
    (andF : AndF σ) : Prop :=
  ∀ st a b, P st → G a → G b → W N (andF st a b) fun y => P y.1 ∧ G y.2 ∧ R a b y.2

def Calls (P : σ → Prop) (G : Ptr → Prop) (R : Ptr → Ptr → Ptr → Prop) (andF : AndF σ) : Prop :=
  ∀ st a b st' r, P st → G a → G b → andF st a b = some (st', r) → P st' ∧ G r ∧ R a b r

theorem Calls.w (h : Calls P G R andF) : CallsW True P G R andF := fun _ _ _ hP ga gb =>
  W.of_partial fun _ hx => h _ _ _ _ _ hP ga gb hx

theorem Calls.side (h : Calls P G R andF) (hS : ∀ a b r, S a → S b → R a b r → S r) :
    Calls P (fun p => G p ∧ S p) R andF := fun _ _ _ _ _ hP ga gb hr =>
  have ⟨hP', gr, rr⟩ := h _ _ _ _ _ hP ga.1 gb.1 hr
  ⟨hP', ⟨gr, hS _ _ _ ga.2 gb.2 rr⟩, rr⟩

theorem CallsW.side (h : CallsW N P G R andF) (hS : ∀ a b r, S a → S b → R a b r → S r) :
    CallsW N P (fun p => G p ∧ S p) R andF := fun st a b hP ga gb =>
  (h st a b hP ga.1 gb.1).mono fun _ ⟨hP', gr, rr⟩ => ⟨hP', ⟨gr, hS _ _ _ ga.2 gb.2 rr⟩, rr⟩

/-- the recursive `condition` call, related to its operand by `C` -/
def CallsCW (N : Prop) (P : σ → Prop) (G : Ptr → Prop) (C : Ptr → Ptr → Prop)
    (condF : σ → Ptr → Option (σ × Ptr)) : Prop :=
  ∀ st f, P st → G f → W N (condF st f) fun y => P y.1 ∧ G y.2 ∧ C f y.2

def CallsC (P : σ → Prop) (G : Ptr → Prop) (C : Ptr → Ptr → Prop)
    (condF : σ → Ptr → Option (σ × Ptr)) : Prop :=
  ∀ st f st' r, P st → G f → condF st f = some (st', r) → P st' ∧ G r ∧ C f r

theorem CallsC.w (h : CallsC P G C condF) : CallsCW True P G C condF := fun _ _ hP gf =>
  W.of_partial fun _ hx => h _ _ _ _ hP gf hx

theorem CallsC.side (h : CallsC P G C condF) (hS : ∀ f r, S f → C f r → S r) :
    CallsC P (fun p => G p ∧ S p) C condF := fun _ _ _ _ hP gf hr =>
  have ⟨hP', gr, cr⟩ := h _ _ _ _ hP gf.1 hr
  ⟨hP', ⟨gr, hS _ _ gf.2 cr⟩, cr⟩

theorem CallsCW.side (h : CallsCW N P G C condF) (hS : ∀ f r, S f → C f r → S r) :
    CallsCW N P (fun p => G p ∧ S p) C condF := fun st f hP gf =>
  (h st f hP gf.1).mono fun _ ⟨hP', gr, cr⟩ => ⟨hP', ⟨gr, hS _ _ gf.2 cr⟩, cr⟩

/-- two calls in a row, joined by `F` (the binary shortcut of `and_sub_desc` and `and_cartesian`) -/
theorem CallsW.two (h : CallsW N P G R andF) {F : Ptr → Ptr → Ptr} {st : σ} {a1 b1 a2 b2 : Ptr}
    (hP : P st) (g1 : G a1) (g1' : G b1) (g2 : G a2) (g2' : G b2) :
    W N (match andF st a1 b1 with
      | none => none
      | some (st1, lr) =>
        match andF st1 a2 b2 with
        | none => none
        | some (st2, hr) => some (st2, F lr hr)) fun y =>
      ∃ lr hr, y.2 = F lr hr ∧ P y.1 ∧ (G lr ∧ R a1 b1 lr) ∧ G hr ∧ R a2 b2 hr :=
  W.call (h st a1 b1 hP g1 g1') fun st1 lr ⟨hP1, r1⟩ =>
    W.call (h st1 a2 b2 hP1 g2 g2') fun _ hr ⟨hP2, r2⟩ => ⟨lr, hr, rfl, hP2, r1, r2⟩

/-- `or` by De Morgan, for a contract whose pointer predicate is closed under negation -/
theorem orF_w (h : CallsW N P G R andF) (hneg : ∀ p, G p → G p.neg)
    (hR : ∀ a b r, R a b r → IsAnd a b r) (st : σ) (a b : Ptr) (hP : P st) (ga : G a) (gb : G b) :
    W N (orF andF st a b) fun y => P y.1 ∧ G y.2 ∧ IsOr a b y.2 := by
  rw [orF]
  refine W.call' (h st a.neg b.neg hP (hneg a ga) (hneg b gb)) fun st1 r ⟨hP1, gr, rr⟩ =>
    ⟨hP1, hneg r gr, fun asg => ?_⟩
  rw [eval_neg, hR _ _ _ rr, eval_neg, eval_neg]; cases a.eval asg <;> cases b.eval asg <;> rfl

end contracts

/-! ## what the loops hand back -/

def ElemG (Gp Gs N : Ptr → Prop) (e : Elem) : Prop := Gp e.1 ∧ Gs e.2 ∧ N e.1

/-- the result of a loop with an early `return`: elements in `E`, or a pointer in `Er` -/
def LoopG (E : Elem → Prop) (Er : Ptr → Prop) : LoopRes → Prop
  | .elems l => ∀ e ∈ l, E e
  | .early r => Er r

theorem LoopG.append {E : Elem → Prop} {Er : Ptr → Prop} {l1 : List Elem} (h1 : ∀ e ∈ l1, E e)
    {res : LoopRes} (h : LoopG E Er res) : LoopG E Er (res.mapElems (l1 ++ ·)) := by
  cases res with
  | early r => exact h
  | elems l => exact fun e he => (List.mem_append.1 he).elim (h1 e) (h e)

theorem LoopG.cons {E : Elem → Prop} {Er : Ptr → Prop} {e : Elem} (h1 : E e)
    {res : LoopRes} (h : LoopG E Er res) : LoopG E Er (res.mapElems (e :: ·)) :=
  LoopG.append (l1 := [e]) (List.forall_mem_singleton.2 h1) h

theorem LoopG.mono {E E' : Elem → Prop} {Er Er' : Ptr → Prop} (hE : ∀ e, E e → E' e)
    (hr : ∀ r, Er r → Er' r) : ∀ {res : LoopRes}, LoopG E Er res → LoopG E' Er' res
  | .early r, h => hr r h
  | .elems _, h => fun e he => hE e (h e he)

theorem find?_prime {eb : List Elem} {p1 q s2 : Ptr}
    (h : eb.find? (fun e => decide (e.1 = p1)) = some (q, s2)) : q = p1 ∧ (q, s2) ∈ eb := by
  have h1 := List.find?_some h
  exact ⟨of_decide_eq_true h1, List.mem_of_find?_eq_some h⟩

/-! ## the loops of `and_cartesian`, `and_prime_desc`, `and_sub_desc` -/

section loops
variable {σ : Type} {N : Prop} {P : σ → Prop} {Gp Gs Nn Nb : Ptr → Prop}
  {R : Ptr → Ptr → Ptr → Prop} {andF : AndF σ}
  (hp : CallsW N P Gp R andF) (hs : CallsW N P Gs R andF) (hR : ∀ a b r, R a b r → IsAnd a b r)
  (hN : ∀ p, p.isFalse = false → Nn p)
include hp hs hR hN

theorem innerLoop_w (brk : Bool) {p1 s1 : Ptr} (g1 : Gp p1) (g2 : Gs s1) :
    ∀ (eb : List Elem) (st : σ), P st → (∀ e ∈ eb, ElemG Gp Gs Nb e) →
    W N (innerLoop andF brk p1 s1 st eb) fun y =>
      P y.1 ∧ LoopG (ElemG Gp Gs Nn) (· = .tru) y.2 ∧ InnerSem p1 s1 eb y.2
  | [], st, hP, _ => ⟨hP, nofun, innerSem_nil⟩
  | (p2, s2) :: rest, st, hP, hok => by
    obtain ⟨gp2, gs2, _⟩ := hok (p2, s2) (List.mem_cons_self ..)
    have ih := fun st hP => innerLoop_w brk g1 g2 rest st hP fun e he => hok e (List.mem_cons_of_mem _ he)
    rw [innerLoop]
    refine W.call (hp st p1 p2 hP g1 gp2) fun st1 p ⟨hP1, gp, rp⟩ => ?_
    have ep := hR _ _ _ rp
    by_cases hpf : p.isFalse = true
    · -- the product prime is the false constant: skip
      rw [if_pos hpf]
      exact (ih st1 hP1).mono fun y ⟨h1, h2, h3⟩ =>
        ⟨h1, h2, innerSem_skip (fun a => by rw [← ep a]; exact isFalse_eval hpf a) h3⟩
    · rw [if_neg hpf]
      refine W.call (hs st1 s1 s2 hP1 g2 gs2) fun st2 s ⟨hP2, gs, rs⟩ => ?_
      have es := hR _ _ _ rs
      have hel : ElemG Gp Gs Nn (p, s) := ⟨gp, gs, hN p (Bool.eq_false_iff.2 hpf)⟩
      by_cases c1 : (p.isTrue && s.isTrue) = true
      · -- early exit: both are the true constant
        rw [if_pos c1]
        have hts := Bool.and_eq_true_iff.1 c1
        exact ⟨hP2, rfl, innerSem_true (fun a => by rw [← ep a]; exact isTrue_eval hts.1 a)
          (fun a => by rw [← es a]; exact isTrue_eval hts.2 a)⟩
      · rw [if_neg c1]
        by_cases c2 : (brk && decide (p1 = p)) = true
        · -- implied prime: stop
          rw [if_pos c2]
          have hpp : p1 = p := of_decide_eq_true (Bool.and_eq_true_iff.1 c2).2
          exact ⟨hP2, List.forall_mem_singleton.2 hel, innerSem_stop ep es (fun a => by rw [← hpp])⟩
        · rw [if_neg c2]
          exact W.loop (ih st2 hP2) fun st3 res' ⟨hP3, hres, hsem⟩ =>
            ⟨hP3, hres.cons hel, innerSem_cons ep es hsem⟩

theorem prodLoop_w (cart : Bool) {eb : List Elem} (hokb : ∀ e ∈ eb, ElemG Gp Gs Nb e)
    (hpb : Partition eb) :
    ∀ (ea : List Elem) (st : σ), P st → (∀ e ∈ ea, ElemG Gp Gs Nn e) →
    W N (prodLoop andF cart eb st ea) fun y =>
      P y.1 ∧ LoopG (ElemG Gp Gs Nn) (· = .tru) y.2 ∧ ProdSem ea eb y.2
  | [], st, hP, _ => ⟨hP, nofun, prodSem_nil⟩
  | (p1, s1) :: rest, st, hP, hok => by
    obtain ⟨gp1, gs1, n1⟩ := hok (p1, s1) (List.mem_cons_self ..)
    have ih := fun st hP => prodLoop_w cart hokb hpb rest st hP fun e he => hok e (List.mem_cons_of_mem _ he)
    rw [prodLoop]
    generalize hf : (if cart = true then eb.find? (fun e => decide (e.1 = p1)) else none) = o
    rcases o with _ | ⟨q, s2⟩
    · refine W.res (innerLoop_w hp hs hR hN cart gp1 gs1 eb st hP hokb)
        (fun st1 r ⟨hP1, hres, hsem⟩ => ⟨hP1, hres, prodSem_inner_early hsem⟩)
        fun st1 l1 ⟨hP1, hl1, hsem1⟩ => ?_
      exact W.loop (ih st1 hP1) fun st2 res' ⟨hP2, hres, hsem⟩ =>
        ⟨hP2, hres.append hl1, prodSem_inner hpb hsem1 hsem⟩
    · -- equal prime found in `b`
      have hc : cart = true := by cases cart <;> simp_all
      rw [hc, if_pos rfl] at hf
      obtain ⟨rfl, hmem⟩ := find?_prime hf
      refine W.call (hs st s1 s2 hP gs1 (hokb _ hmem).2.1) fun st1 s ⟨hP1, gs, rs⟩ => ?_
      exact W.loop (ih st1 hP1) fun st2 res' ⟨hP2, hres, hsem⟩ =>
        ⟨hP2, hres.cons (e := (q, s)) ⟨gp1, gs, n1⟩,
          prodSem_found hpb hmem (fun _ => rfl) (hR _ _ _ rs) hsem⟩

omit hp hN in
theorem subDescLoop_w {d : Ptr} (gd : Gs d) :
    ∀ (es : List Elem) (st : σ), P st → (∀ e ∈ es, ElemG Gp Gs Nn e) →
    W N (subDescLoop andF d st es) fun y => P y.1 ∧ (∀ e ∈ y.2, ElemG Gp Gs Nn e) ∧
      ∀ a, cnt a y.2 = cnt a es ∧ evalElems a y.2 = (evalElems a es && d.eval a)
  | [], st, hP, _ => ⟨hP, nofun, fun a => ⟨rfl, rfl⟩⟩
  | (p, s) :: rest, st, hP, hok => by
    obtain ⟨gp, gs, n⟩ := hok (p, s) (List.mem_cons_self ..)
    rw [subDescLoop]
    refine W.call (hs st s d hP gs gd) fun st1 ns ⟨hP1, gns, rns⟩ => ?_
    refine W.list (subDescLoop_w gd rest st1 hP1 fun e he => hok e (List.mem_cons_of_mem _ he))
      fun st2 v ⟨hP2, hv, hsem⟩ => ?_
    exact ⟨hP2, List.forall_mem_cons.2 ⟨⟨gp, gns, n⟩, hv⟩, subDescSem_cons (hR _ _ _ rns) hsem⟩

end loops

/-! ## the element loop of `condition` -/

theorem condLoop_w {σ : Type} {N : Prop} {P : σ → Prop} {Gp Gs Nn Nb : Ptr → Prop}
    {C : Ptr → Ptr → Prop} {x : Nat} {v : Bool} {condF : σ → Ptr → Option (σ × Ptr)}
    (hp : CallsCW N P Gp C condF) (hs : CallsCW N P Gs C condF)
    (hC : ∀ f r, C f r → IsCond x v f r) (hN : ∀ p, p.isFalse = false → Nn p) :
    ∀ (es : List Elem) (st : σ), P st → (∀ e ∈ es, ElemG Gp Gs Nb e) →
    W N (condLoop condF st es) fun y =>
      P y.1 ∧ LoopG (ElemG Gp Gs Nn) Gs y.2 ∧ CondSem x v es y.2
  | [], st, hP, _ => ⟨hP, nofun, condSem_nil⟩
  | (p, s) :: rest, st, hP, hok => by
    obtain ⟨gp, gs, _⟩ := hok (p, s) (List.mem_cons_self ..)
    have ih := fun st hP => condLoop_w hp hs hC hN rest st hP fun e he => hok e (List.mem_cons_of_mem _ he)
    rw [condLoop]
    refine W.call (hp st p hP gp) fun st1 newp ⟨hP1, gnp, cnp⟩ => ?_
    have enp := hC _ _ cnp
    by_cases hf : newp.isFalse = true
    · rw [if_pos hf]
      exact (ih st1 hP1).mono fun y ⟨h1, h2, h3⟩ =>
        ⟨h1, h2, condSem_skip (fun a => by rw [← enp a]; exact isFalse_eval hf a) h3⟩
    · rw [if_neg hf]
      refine W.call (hs st1 s hP1 gs) fun st2 news ⟨hP2, gns, cns⟩ => ?_
      have ens := hC _ _ cns
      by_cases ht : newp.isTrue = true
      · rw [if_pos ht]
        exact ⟨hP2, gns, condSem_true (fun a => by rw [← enp a]; exact isTrue_eval ht a) ens⟩
      · rw [if_neg ht]
        exact W.loop (ih st2 hP2) fun st3 res' ⟨hP3, hres, hsem⟩ =>
          ⟨hP3, hres.cons ⟨gnp, gns, hN _ (Bool.eq_false_iff.2 hf)⟩, condSem_cons enp ens hsem⟩

/-! ## `compress` -/

section compress
variable {σ : Type} {N : Prop} {P : σ → Prop} {Gp : Ptr → Prop} {andF : AndF σ}
  (hor : ∀ st p q, P st → Gp p → Gp q → W N (orF andF st p q) fun y => P y.1 ∧ Gp y.2 ∧ IsOr p q y.2)
include hor

theorem compressInner_w (s : Ptr) : ∀ (n : Nat) (st : σ) (p : Ptr) (done rem : List Elem),
    P st → Gp p → (∀ e ∈ rem, Gp e.1) →
    W N (compressInner andF s n st p done rem) fun y =>
      P y.1 ∧ Gp y.2.1 ∧ (∀ e ∈ y.2.2, e ∈ done ++ rem) ∧
      (rem.length ≤ n → ∀ e ∈ y.2.2, e ∈ done ∨ e.2 ≠ s) ∧
      y.2.2.length ≤ done.length + rem.length ∧
      ∀ a, cnt a ((p, s) :: (done ++ rem)) ≤ 1 →
        cnt a ((y.2.1, s) :: y.2.2) = cnt a ((p, s) :: (done ++ rem)) ∧
        evalElems a ((y.2.1, s) :: y.2.2) = evalElems a ((p, s) :: (done ++ rem))
  | 0, st, p, done, rem, hP, gp, _ => by
    rw [compressInner]
    refine ⟨hP, gp, fun _ h => h, fun hl e he => ?_, by simp, fun a _ => ⟨rfl, rfl⟩⟩
    rw [List.length_eq_zero_iff.1 (Nat.le_zero.1 hl), List.append_nil] at he
    exact Or.inl he
  | n + 1, st, p, done, [], hP, gp, _ => by
    rw [compressInner]
    exact ⟨hP, gp, fun e he => by simpa using he, fun _ e he => Or.inl he, by simp,
      fun a _ => by rw [List.append_nil]; exact ⟨rfl, rfl⟩⟩
  | n + 1, st, p, done, (q, t) :: rest, hP, gp, hrem => by
    have hrest : ∀ e ∈ rest, Gp e.1 := fun e he => hrem e (List.mem_cons_of_mem _ he)
    rw [compressInner]
    by_cases hst : s = t
    · -- equal subs: merge the primes; the last element takes the place of this one
      subst hst
      rw [if_pos rfl]
      refine W.call (hor st p q hP gp (hrem _ (List.mem_cons_self ..))) fun st1 p1 ⟨hP1, gp1, ep1⟩ => ?_
      refine (compressInner_w s n st1 p1 done (swapRemoveHead ((q, s) :: rest)) hP1 gp1
        fun e he => hrest e (swapRemoveHead_mem he)).mono fun y ⟨a1, a2, a3, a4, a5, a6⟩ => ?_
      rw [swapRemoveHead_length] at a4 a5
      refine ⟨a1, a2, fun e he => ?_, fun hl => a4 (Nat.le_of_succ_le_succ hl),
        Nat.le_trans a5 (by simp only [List.length_cons]; omega), fun a ha => ?_⟩
      · rcases List.mem_append.1 (a3 e he) with h' | h'
        · exact List.mem_append.2 (Or.inl h')
        · exact List.mem_append.2 (Or.inr (List.mem_cons_of_mem _ (swapRemoveHead_mem h')))
      · obtain ⟨e1, e2⟩ := compressMerge_sem (ep1 a) ha
        obtain ⟨h1, h2⟩ := a6 a (by rw [e1]; exact ha)
        exact ⟨h1.trans e1, h2.trans e2⟩
    · rw [if_neg hst]
      refine (compressInner_w s n st p (done ++ [(q, t)]) rest hP gp hrest).mono
        fun y ⟨a1, a2, a3, a4, a5, a6⟩ => ?_
      rw [List.append_assoc] at a3 a6
      refine ⟨a1, a2, a3, fun hl e he => ?_,
        by simp only [List.length_append, List.length_cons, List.length_nil] at a5 ⊢; omega, a6⟩
      rcases a4 (Nat.le_of_succ_le_succ hl) e he with h' | h'
      · rcases List.mem_append.1 h' with h'' | h''
        · exact Or.inl h''
        · rw [List.mem_singleton.1 h'']; exact Or.inr fun e => hst e.symm
      · exact Or.inr h'

theorem compressOuter_w : ∀ (n : Nat) (st : σ) (l : List Elem), P st → (∀ e ∈ l, Gp e.1) →
    W N (compressOuter andF n st l) fun y =>
      P y.1 ∧ (∀ e ∈ y.2, Gp e.1 ∧ ∃ e' ∈ l, e.2 = e'.2) ∧
      (l.length ≤ n → (y.2.map (·.2)).Nodup) ∧ (l ≠ [] → y.2 ≠ []) ∧
      ∀ a, cnt a l ≤ 1 → cnt a y.2 = cnt a l ∧ evalElems a y.2 = evalElems a l
  | 0, st, l, hP, hl => by
    rw [compressOuter]
    refine ⟨hP, fun e he => ⟨hl e he, e, he, rfl⟩, fun h => ?_, id, fun a _ => ⟨rfl, rfl⟩⟩
    rw [List.length_eq_zero_iff.1 (Nat.le_zero.1 h)]; exact List.nodup_nil
  | n + 1, st, [], hP, _ => by
    rw [compressOuter]
    exact ⟨hP, nofun, fun _ => List.nodup_nil, id, fun a _ => ⟨rfl, rfl⟩⟩
  | n + 1, st, (p, s) :: rest, hP, hl => by
    have hrest : ∀ e ∈ rest, Gp e.1 := fun e he => hl e (List.mem_cons_of_mem _ he)
    rw [compressOuter]
    refine W.triple (compressInner_w hor s rest.length st p [] rest hP (hl _ (List.mem_cons_self ..)) hrest)
      fun st1 p' rest' ⟨hP1, gp', hmem1, hne1, hlen1, hsem1⟩ => ?_
    simp only [List.nil_append, List.length_nil, Nat.zero_add] at hmem1 hlen1 hsem1
    refine W.list (compressOuter_w n st1 rest' hP1 fun e he => hrest e (hmem1 e he))
      fun st2 out2 ⟨hP2, hout2, hnd2, _, hsem2⟩ => ?_
    refine ⟨hP2, fun e he => ?_, fun hlen => ?_, fun _ => List.cons_ne_nil _ _, fun a ha => ?_⟩
    · rcases List.mem_cons.1 he with rfl | h'
      · exact ⟨gp', (p, s), List.mem_cons_self .., rfl⟩
      · obtain ⟨g, e', he', hee⟩ := hout2 e h'
        exact ⟨g, e', List.mem_cons_of_mem _ (hmem1 e' he'), hee⟩
    · -- the subs kept by the inner loop differ from `s`; those after them are distinct by induction
      simp only [List.length_cons] at hlen
      refine List.nodup_cons.2 ⟨fun hm => ?_, hnd2 (by omega)⟩
      obtain ⟨e, he, hes⟩ := List.mem_map.1 hm
      obtain ⟨_, e', he', hee⟩ := hout2 e he
      rcases hne1 (Nat.le_refl _) e' he' with h' | h'
      · cases h'
      · exact h' (by rw [← hee]; exact hes)
    · obtain ⟨c1, v1⟩ := hsem1 a ha
      obtain ⟨c2, v2⟩ := hsem2 a (by rw [cnt_cons] at c1; omega)
      exact ⟨by rw [← c1, cnt_cons, cnt_cons, c2], by rw [← v1, evalElems_cons, evalElems_cons, v2]⟩

end compress

end Sdd
