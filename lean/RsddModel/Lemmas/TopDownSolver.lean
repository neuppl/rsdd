import RsddModel.Lemmas.TopDown
/-!
# Lemmas: the solver specification and the correctness of `topdownH` / `compileTopdown`

`SolverSpec cnf S` lists what the compiler needs from a `SATSolver`, phrased over an abstract
view of the state stack (`frames`: one `(model, hash, sat-flag)` per pushed state, top first)
and a validity predicate `Inv`.  Two further hypotheses are kept separate because they are
about the *hash* and hold for the real solver only conditionally / by a finer argument:

* `HashSound`  — equal cache keys ⇒ equal residual formulas (fails on `u128` wrap-around; for the
  real solver it holds of the NON-tautological clauses only, which is why `NewSpec` and
  `compileTopdown_post` distinguish the clause list `cnf0` the solver is built on from the clause
  list `cnf` the specification talks about);
* `FreeDecide` — deciding an unassigned variable that does not occur in the residual formula
  propagates nothing and leaves hash and sat-flag unchanged.  This is what guarantees that a
  diagram put into the cache only tests variables of the residual, hence only variables that
  are unassigned under *every* model with the same cache key (see `GoodM.transfer`).
-/
namespace TopDown
open Spec Bdd

/-- abstract view of one `SatState` -/
structure Frame (κ : Type) where
  model : PModel
  hash : κ
  sat : Bool

/-- what `topdown_h` needs from the solver.

Three points are deliberately weak, because the real `SATSolver` does not satisfy more
(witnesses in `Lemmas/UpSolverSpec.lean`): `decide` is only specified for the variables in `Var`
(labels in range: the Rust code indexes vectors with the label); `pop` is only specified for a
state above the two-frame stack of `SATSolver::new` (below it sits the dummy bottom state, on
which the propagator is not a sound solver: unit clauses are not watched); and the clause list
`cnf` of the specification need not be the one the solver was built on (see `NewSpec`). -/
structure SolverSpec (cnf : Cnf) (S : Solver) where
  /-- validity of a concrete state (watch-list invariants etc.) -/
  Inv : S.σ → Prop
  /-- the state stack, top first -/
  frames : S.σ → List (Frame S.κ)
  /-- the variables that may be decided (labels in range) -/
  Var : Nat → Prop
  /-- the observers read the top frame -/
  obs_sat : ∀ s f rest, Inv s → frames s = f :: rest → S.isSat s = f.sat
  obs_hash : ∀ s f rest, Inv s → frames s = f :: rest → S.curHash s = f.hash
  obs_set : ∀ s f rest, Inv s → frames s = f :: rest → ∀ v, S.isSet s v = (f.model v).isSome
  /-- (d) `is_sat` ⇒ the formula is true on every extension of the model -/
  sat_sound : ∀ s f rest, Inv s → frames s = f :: rest → f.sat = true →
    ∀ a, Extends a f.model → cnfSat a cnf = true
  /-- (c) a valid state that assigns every variable of the formula satisfies it -/
  total_sound : ∀ s f rest, Inv s → frames s = f :: rest → (∀ v, InCnf cnf v → f.model v ≠ none) →
    ∀ a, Extends a f.model → cnfSat a cnf = true
  /-- `difference_iter` lists exactly the literals of the top model that the model below it
  does not assign, each once -/
  diff_nodup : ∀ s f1 f0 rest, Inv s → frames s = f1 :: f0 :: rest →
    ((S.difference s).map (·.var)).Nodup
  diff_sound : ∀ s f1 f0 rest, Inv s → frames s = f1 :: f0 :: rest →
    ∀ l ∈ S.difference s, f0.model l.var = none ∧ f1.model l.var = some l.pol
  diff_complete : ∀ s f1 f0 rest, Inv s → frames s = f1 :: f0 :: rest →
    ∀ v b, f1.model v = some b → f0.model v = none → (⟨v, b⟩ : Lit) ∈ S.difference s
  /-- (b) `decide` = UNSAT: nothing is pushed, and no extension of model + literal is a model -/
  decide_unsat : ∀ s f0 rest l, Inv s → frames s = f0 :: rest → Var l.var → f0.model l.var = none →
    (S.decide s l).1 = .unsat →
    Inv (S.decide s l).2 ∧ frames (S.decide s l).2 = f0 :: rest ∧
    UnsatUnder cnf (f0.model.set l.var l.pol)
  /-- (a) `decide` ≠ UNSAT: one frame is pushed; its model extends model + literal; every newly
  assigned literal is entailed and (other than the decision) occurs in the residual formula;
  the result is SAT exactly when the new sat-flag is set -/
  decide_ok : ∀ s f0 rest l, Inv s → frames s = f0 :: rest → Var l.var → f0.model l.var = none →
    (S.decide s l).1 ≠ .unsat →
    ∃ f1, Inv (S.decide s l).2 ∧ frames (S.decide s l).2 = f1 :: f0 :: rest ∧
      PExt (f0.model.set l.var l.pol) f1.model ∧
      (∀ v b, f1.model v = some b → f0.model v = none →
        Entails cnf (f0.model.set l.var l.pol) ⟨v, b⟩) ∧
      (∀ v, f1.model v ≠ none → f0.model v = none → v = l.var ∨ InCnf (residual cnf f0.model) v) ∧
      ((S.decide s l).1 = .sat ↔ f1.sat = true)
  /-- (e) `pop` of a state pushed by `decide` removes the top frame and leaves a valid state -/
  pop_ok : ∀ s f1 f0 rest, Inv s → frames s = f1 :: f0 :: rest → rest ≠ [] →
    Inv (S.pop s) ∧ frames (S.pop s) = f0 :: rest

variable {cnf : Cnf} {S : Solver}

/-- the partial model of the top state -/
def SolverSpec.modelOf (spec : SolverSpec cnf S) (s : S.σ) : PModel :=
  match spec.frames s with
  | f :: _ => f.model
  | [] => PModel.empty

theorem SolverSpec.modelOf_eq (spec : SolverSpec cnf S) {s : S.σ} {f : Frame S.κ} {rest}
    (h : spec.frames s = f :: rest) : spec.modelOf s = f.model := by
  simp [SolverSpec.modelOf, h]

/-- (f) cache-key soundness, the hash clause: equal keys ⇒ equal residual formulas -/
def HashSound (spec : SolverSpec cnf S) : Prop :=
  ∀ s1 s2, spec.Inv s1 → spec.Inv s2 → S.curHash s1 = S.curHash s2 →
    residual cnf (spec.modelOf s1) = residual cnf (spec.modelOf s2)

/-- deciding an unassigned variable (in range) that does not occur in the residual formula is never
UNSAT, assigns only that variable, and keeps the hash and the sat-flag.  The compiler needs it for
the component cache: both branches of such a decision must return the same pointer (the second is
a cache hit on the entry of the first), so that no cached diagram tests a variable outside its
residual formula.  Only required of states with at least two frames (the bottom frame of `SATSolver::new` is the
empty model, which is not closed under unit propagation). -/
def FreeDecide (spec : SolverSpec cnf S) : Prop :=
  ∀ s f0 rest v b, spec.Inv s → spec.frames s = f0 :: rest → rest ≠ [] → spec.Var v → f0.model v = none →
    ¬ InCnf (residual cnf f0.model) v →
    (S.decide s ⟨v, b⟩).1 ≠ .unsat ∧
    ∀ f1 rest', spec.frames (S.decide s ⟨v, b⟩).2 = f1 :: rest' →
      f1.model = f0.model.set v b ∧ f1.hash = f0.hash ∧ f1.sat = f0.sat

/-! ## one branch of a decision -/

/-- what one `decide` block of `topdown_h` returns for the decision `v := b` under model `m` -/
structure BranchGood (cnf : Cnf) (m : PModel) (v : Nat) (b : Bool) (r : Ptr) : Prop where
  sem : ∀ a, Extends a (m.set v b) → r.eval a = cnfSat a cnf
  free : r.free
  vars : ∀ x ∈ r.vars, InCnf (residual cnf m) x ∧ x ≠ v
  nonfalse : r ≠ .fls → ∃ a, Extends a (m.set v b) ∧ r.eval a = true

theorem PModel.set_none {m : PModel} {v x : Nat} {b : Bool} (h : (m.set v b) x = none) : x ≠ v ∧ m x = none := by
  by_cases e : x = v
  · simp [PModel.set, e] at h
  · exact ⟨e, by simpa [PModel.set, e] using h⟩

/-- `conjoin_implied(lits, sub)` where `sub` is correct under `m1 ⊇ m`, what `m1` adds to `m` is
entailed by the formula under `m`, and `lits` are literals of `m1`, among them all that `m` lacks: the
result is correct under `m`.  (An assignment extending `m` extends `m1` iff it satisfies `lits`.) -/
theorem conjoinImplied_spec {NS : NodeStore} {inv : NS.τ → Prop} (hNS : NS.Sound inv)
    {m m1 : PModel} {lits : List Lit} {sub : Ptr} {t : NS.τ} (hmm : PExt m m1)
    (hent : ∀ x c, m1 x = some c → m x = none → ∀ a, Extends a m → cnfSat a cnf = true → a x = c)
    (hnd : (lits.map (·.var)).Nodup) (hsound : ∀ l ∈ lits, m1 l.var = some l.pol)
    (hcomplete : ∀ x c, m1 x = some c → m x = none → (⟨x, c⟩ : Lit) ∈ lits)
    (hsub : GoodM cnf m1 sub) (ht : inv t) :
    (∀ a, Extends a m → (conjoinImplied NS t lits sub).1.eval a = cnfSat a cnf) ∧
    (conjoinImplied NS t lits sub).1.free ∧
    (∀ x ∈ (conjoinImplied NS t lits sub).1.vars, x ∈ sub.vars ∨ ∃ l ∈ lits, l.var = x) ∧
    ((conjoinImplied NS t lits sub).1 ≠ .fls → ∃ a, Extends a m1 ∧ (conjoinImplied NS t lits sub).1.eval a = true) ∧
    inv (conjoinImplied NS t lits sub).2 := by
  have hall : ∀ a, Extends a m1 → lits.all (litSat a) = true := fun a he =>
    List.all_eq_true.2 fun l hl => beq_iff_eq.2 (he _ _ (hsound l hl))
  -- an extension of `m` that is right on what `m1` adds extends `m1`
  have ext : ∀ a, Extends a m → (∀ x c, m1 x = some c → m x = none → a x = c) → Extends a m1 := by
    intro a ha h x c hx
    cases hm : m x with
    | some c' => rw [hmm x c' hm] at hx; cases hx; exact ha x _ hm
    | none => exact h x c hx hm
  have key : ∀ a, Extends a m → (lits.all (litSat a) && sub.eval a) = cnfSat a cnf := by
    intro a ha
    by_cases he : Extends a m1
    · rw [hall a he, hsub.sem a he, Bool.true_and]
    · have hsat : cnfSat a cnf = false :=
        Bool.eq_false_iff.2 fun h => he (ext a ha fun x c hx hm => hent x c hx hm a ha h)
      have : lits.all (litSat a) = false := Bool.eq_false_iff.2 fun h =>
        he (ext a ha fun x c hx hm => beq_iff_eq.1 (List.all_eq_true.1 h _ (hcomplete x c hx hm)))
      rw [this, hsat, Bool.false_and]
  unfold conjoinImplied
  by_cases hfalse : sub.isFalse = true
  · rw [if_pos hfalse]
    refine ⟨fun a ha => ?_, trivial, nofun, fun h => absurd rfl h, ht⟩
    rw [← key a ha, isFalse_iff.1 hfalse]
    exact (Bool.and_false _).symm
  · rw [if_neg hfalse]
    have hns : ∀ l ∈ lits, l.var ∉ sub.vars := fun l hl hx => by
      have := residual_unset (hsub.vars _ hx)
      rw [hsound l hl] at this; cases this
    obtain ⟨h1, h2, h3, h4⟩ := implyChain_spec hNS lits t sub ht hsub.free hnd hns
    refine ⟨fun a ha => (h2 a).trans (key a ha), h4, h3, fun _ => ?_, h1⟩
    obtain ⟨a, ha, he⟩ := hsub.nonfalse fun e => hfalse (isFalse_iff.2 e)
    exact ⟨a, ha, by rw [h2, hall a ha, he]; rfl⟩

/-- the two branches of a decision make a correct diagram: whatever stands in for the node over
them (the node itself, or the common pointer when both are equal) is good under `m` -/
theorem node_good {m : PModel} {v : Nat} {hi lo r : Ptr} (hv : m v = none)
    (hhi : BranchGood cnf m v true hi) (hlo : BranchGood cnf m v false lo)
    (hr : Agrees (.node false v lo hi) r) (hvr : v ∈ r.vars → InCnf (residual cnf m) v)
    (hnf : r ≠ .fls → hi ≠ .fls ∨ lo ≠ .fls) : GoodM cnf m r := by
  have ev : ∀ a, r.eval a = if a v then hi.eval a else lo.eval a := fun a => by
    rw [hr.1]; exact Bool.false_xor _
  refine ⟨fun a ha => ?_,
    hr.2.2 ⟨fun h => (hlo.vars v h).2 rfl, fun h => (hhi.vars v h).2 rfl, hlo.free, hhi.free⟩,
    fun x hx => ?_, fun hne => ?_⟩
  · rw [ev]
    cases hav : a v
    · exact hlo.sem a (Extends.set ha hav)
    · exact hhi.sem a (Extends.set ha hav)
  · have := hr.2.1 x hx
    simp only [Ptr.vars, List.mem_cons, List.mem_append] at this
    rcases this with e | h | h
    · subst e; exact hvr hx
    · exact (hlo.vars x h).1
    · exact (hhi.vars x h).1
  · rcases hnf hne with h | h
    · obtain ⟨a, ha, he⟩ := hhi.nonfalse h
      refine ⟨a, Extends.of_PExt (PExt_set true hv) ha, ?_⟩
      rw [ev, ha v true (by simp [PModel.set]), he]; rfl
    · obtain ⟨a, ha, he⟩ := hlo.nonfalse h
      refine ⟨a, Extends.of_PExt (PExt_set false hv) ha, ?_⟩
      rw [ev, ha v false (by simp [PModel.set]), he]; rfl


/-! ## the recursion -/

section
variable (spec : SolverSpec cnf S) {NS : NodeStore} (inv : NS.τ → Prop)

/-- the component-cache invariant: every entry is a correct diagram for some partial model
whose residual formula is the residual of every valid state with that key -/
def CacheOK (cache : Cache S.κ) : Prop :=
  ∀ k r, (k, r) ∈ cache → ∃ m0, GoodM cnf m0 r ∧
    ∀ s, spec.Inv s → S.curHash s = k → residual cnf (spec.modelOf s) = residual cnf m0

/-- post-condition of `topdown_h` called on a state whose frames are `f0 :: rest` -/
def Post (f0 : Frame S.κ) (rest : List (Frame S.κ)) (res : HRes S NS) : Prop :=
  GoodM cnf f0.model res.1 ∧ spec.Inv res.2.1 ∧ spec.frames res.2.1 = f0 :: rest ∧
  CacheOK spec res.2.2.1 ∧ inv res.2.2.2

theorem CacheOK_nil : CacheOK spec ([] : Cache S.κ) := fun _ _ h => by cases h

end

theorem conjoinImplied_nil (NS : NodeStore) (t : NS.τ) (sub : Ptr) : conjoinImplied NS t [] sub = (sub, t) := by
  unfold conjoinImplied
  split
  · rename_i h; rw [isFalse_iff.1 h]
  · rfl

section
variable (spec : SolverSpec cnf S) {NS : NodeStore} {inv : NS.τ → Prop} (hNS : NS.Sound inv)
include hNS

/-- after a successful `decide(v := b)` that pushed `f1`: given the diagram for the pushed state,
`conjoin_implied(difference \ {v}, sub)` and `pop` (a `SAT` answer is a recursive call that returned ⊤) -/
theorem chain_correct {v : Nat} {b : Bool} {f1 f0 : Frame S.κ} {rest : List (Frame S.κ)} (hrest : rest ≠ [])
    (hv0 : f0.model v = none) (hext : PExt (f0.model.set v b) f1.model)
    (hent : ∀ x c, f1.model x = some c → f0.model x = none → Entails cnf (f0.model.set v b) ⟨x, c⟩)
    (hrel : ∀ x, f1.model x ≠ none → f0.model x = none → x = v ∨ InCnf (residual cnf f0.model) x)
    (res : HRes S NS) (hp : Post spec inv f1 (f0 :: rest) res) :
    BranchGood cnf f0.model v b
      (conjoinImplied NS res.2.2.2 ((S.difference res.2.1).filter (fun x => x.var != v)) res.1).1 ∧
    spec.Inv (S.pop res.2.1) ∧ spec.frames (S.pop res.2.1) = f0 :: rest ∧ CacheOK spec res.2.2.1 ∧
    inv (conjoinImplied NS res.2.2.2 ((S.difference res.2.1).filter (fun x => x.var != v)) res.1).2 := by
  obtain ⟨sub, s2, c1, t1⟩ := res
  obtain ⟨hsub, hI, hfr, hc1, ht⟩ := hp
  obtain ⟨hp1, hp2⟩ := spec.pop_ok s2 f1 f0 rest hI hfr hrest
  have hds := spec.diff_sound s2 f1 f0 rest hI hfr
  have hlits : ∀ l ∈ (S.difference s2).filter (fun x => x.var != v), l ∈ S.difference s2 ∧ l.var ≠ v :=
    fun l hl => by simpa using hl
  obtain ⟨hsem, hfree, hvars, hnf, hinv⟩ := conjoinImplied_spec hNS (t := t1) hext
    (fun x c hx hm a ha hsat => beq_iff_eq.1 (hent x c hx (PModel.set_none hm).2 a ha hsat))
    (List.Nodup.sublist (List.Sublist.map _ List.filter_sublist) (spec.diff_nodup s2 f1 f0 rest hI hfr))
    (fun l hl => (hds l (hlits l hl).1).2)
    (fun x c hx hm => List.mem_filter.2
      ⟨spec.diff_complete s2 f1 f0 rest hI hfr x c hx (PModel.set_none hm).2, by simpa using (PModel.set_none hm).1⟩)
    hsub ht
  refine ⟨⟨hsem, hfree, fun x hx => ?_, fun h => (hnf h).imp fun a ha => ⟨Extends.of_PExt hext ha.1, ha.2⟩⟩,
    hp1, hp2, hc1, hinv⟩
  rcases hvars x hx with h | ⟨l, hl, rfl⟩
  · have hr := hsub.vars x h
    refine ⟨residual_mono ((PExt_set b hv0).trans hext) hr, fun e => ?_⟩
    have := residual_unset hr
    rw [e, hext v b (by simp [PModel.set])] at this; cases this
  · have hs := hds l (hlits l hl).1
    exact ⟨(hrel l.var (by rw [hs.2]; nofun) hs.1).resolve_left (hlits l hl).2, (hlits l hl).2⟩

end

section
variable (spec : SolverSpec cnf S) {NS : NodeStore} {inv : NS.τ → Prop} (hNS : NS.Sound inv)
  (recur : S.σ → Cache S.κ → NS.τ → HRes S NS) (v : Nat) (b : Bool)
  (s : S.σ) (cache : Cache S.κ) (t : NS.τ) (f0 : Frame S.κ) (rest : List (Frame S.κ))
  (hI : spec.Inv s) (hfr : spec.frames s = f0 :: rest) (hrest : rest ≠ []) (hvar : spec.Var v)
  (hv0 : f0.model v = none) (ht : inv t) (hc : CacheOK spec cache)
  (hrec : ∀ s' c' t' f' rest', spec.Inv s' → spec.frames s' = f' :: rest' → rest' ≠ [] → inv t' →
    CacheOK spec c' → PExt (f0.model.set v b) f'.model → Post spec inv f' rest' (recur s' c' t'))
include hI hfr hrest hvar hv0 ht hc hrec

include hNS in
theorem branch_spec :
    BranchGood cnf f0.model v b (branch S NS recur s cache t ⟨v, b⟩).1 ∧
    spec.Inv (branch S NS recur s cache t ⟨v, b⟩).2.1 ∧
    spec.frames (branch S NS recur s cache t ⟨v, b⟩).2.1 = f0 :: rest ∧
    CacheOK spec (branch S NS recur s cache t ⟨v, b⟩).2.2.1 ∧
    inv (branch S NS recur s cache t ⟨v, b⟩).2.2.2 := by
  have hun := spec.decide_unsat s f0 rest ⟨v, b⟩ hI hfr hvar hv0
  have hok := spec.decide_ok s f0 rest ⟨v, b⟩ hI hfr hvar hv0
  unfold branch
  generalize S.decide s ⟨v, b⟩ = d at hun hok ⊢
  obtain ⟨tag, s1⟩ := d
  by_cases hu : tag = .unsat
  · subst hu
    obtain ⟨hI1, hfr1, huns⟩ := hun rfl
    exact ⟨⟨fun a ha => (huns a ha).symm, trivial, nofun, fun h => absurd rfl h⟩, hI1, hfr1, hc, ht⟩
  · obtain ⟨f1, hI1, hfr1, hext, hent, hrel, hsat⟩ := hok hu
    have fin := chain_correct spec hNS hrest hv0 hext hent hrel
    cases tag
    · exact fin (.tru, s1, cache, t)
        ⟨GoodM.tru_of (spec.sat_sound s1 f1 _ hI1 hfr1 (hsat.1 rfl)), hI1, hfr1, hc, ht⟩
    · exact absurd rfl hu
    · exact fin _ (hrec s1 cache t f1 (f0 :: rest) hI1 hfr1 (List.cons_ne_nil _ _) ht hc hext)

/-- a decision on a variable outside the residual formula: `branch` is just the recursive call -/
theorem branch_irrelevant (hfree : FreeDecide spec) (hirr : ¬ InCnf (residual cnf f0.model) v)
    (hs0 : f0.sat = false) :
    ∃ f1, spec.Inv (S.decide s ⟨v, b⟩).2 ∧ spec.frames (S.decide s ⟨v, b⟩).2 = f1 :: f0 :: rest ∧
      f1.model = f0.model.set v b ∧ f1.hash = f0.hash ∧ f1.sat = f0.sat ∧
      branch S NS recur s cache t ⟨v, b⟩ =
        ((recur (S.decide s ⟨v, b⟩).2 cache t).1, S.pop (recur (S.decide s ⟨v, b⟩).2 cache t).2.1,
         (recur (S.decide s ⟨v, b⟩).2 cache t).2.2.1, (recur (S.decide s ⟨v, b⟩).2 cache t).2.2.2) := by
  obtain ⟨hne, hfd⟩ := hfree s f0 rest v b hI hfr hrest hvar hv0 hirr
  obtain ⟨f1, hI1, hfr1, _, _, _, hsat⟩ := spec.decide_ok s f0 rest ⟨v, b⟩ hI hfr hvar hv0 hne
  obtain ⟨hm, hh, hs⟩ := hfd f1 _ hfr1
  refine ⟨f1, hI1, hfr1, hm, hh, hs, ?_⟩
  have hnsat : (S.decide s ⟨v, b⟩).1 ≠ .sat := by
    intro e; have := hsat.1 e; rw [hs, hs0] at this; cases this
  obtain ⟨_, hI2, hfr2, _⟩ := hrec _ cache t f1 _ hI1 hfr1 (List.cons_ne_nil _ _) ht hc (hm ▸ PExt.refl _)
  unfold branch
  generalize S.decide s ⟨v, b⟩ = d at hne hnsat hI2 hfr2 ⊢
  obtain ⟨tag, s1⟩ := d
  cases tag
  · exact absurd rfl hnsat
  · exact absurd rfl hne
  · simp only at hI2 hfr2 ⊢
    generalize recur s1 cache t = res at hI2 hfr2 ⊢
    obtain ⟨sub, s2, c1, t1⟩ := res
    simp only at hI2 hfr2 ⊢
    have : (S.difference s2).filter (fun x => x.var != v) = [] := by
      rw [List.filter_eq_nil_iff]
      intro l hl
      have := spec.diff_sound s2 f1 f0 rest hI2 hfr2 l hl
      simp only [bne_iff_ne, ne_eq, Decidable.not_not]
      apply Classical.byContradiction
      intro hne'
      rw [hm] at this
      simp [PModel.set, hne', this.1] at this
    rw [this, conjoinImplied_nil]

end

section
variable (spec : SolverSpec cnf S) {NS : NodeStore} {inv : NS.τ → Prop} (hNS : NS.Sound inv)
  (varAt : Nat → Nat)

omit spec hNS in
theorem levels_assigned {level : Nat} {m m' : PModel} {b : Bool}
    (hlev : ∀ i, i < level → m (varAt i) ≠ none) (h : PExt (m.set (varAt level) b) m') :
    ∀ i, i < level + 1 → m' (varAt i) ≠ none := by
  intro i hi
  cases hm : (m.set (varAt level) b) (varAt i) with
  | some c => rw [h _ c hm]; nofun
  | none =>
    obtain ⟨e, hm⟩ := PModel.set_none hm
    exact absurd hm (hlev i (Nat.lt_of_le_of_ne (Nat.le_of_lt_succ hi) fun ei => e (ei ▸ rfl)))

omit spec in
theorem decideNode_eq (recur : S.σ → Cache S.κ → NS.τ → HRes S NS) (v : Nat) (k : S.κ)
    (s : S.σ) (c : Cache S.κ) (t : NS.τ) {hi lo : Ptr} {s1 s2 : S.σ} {c1 c2 : Cache S.κ} {t1 t2 : NS.τ}
    (hhi : branch S NS recur s c t ⟨v, true⟩ = (hi, s1, c1, t1))
    (hlo : branch S NS recur s1 c1 t1 ⟨v, false⟩ = (lo, s2, c2, t2)) :
    decideNode S NS recur v k s c t =
      if hi = lo then (hi, s2, (k, hi) :: c2, t2)
      else ((NS.getOrInsert t2 v lo hi).1, s2, (k, (NS.getOrInsert t2 v lo hi).1) :: c2,
        (NS.getOrInsert t2 v lo hi).2) := by
  simp only [decideNode, hhi, hlo]
  split <;> rfl

include hNS

/-- the cache-miss part of `topdown_h`, for any recursive call that meets the post-condition above
the decision and that, run a second time on a state that looks the same, hits its own cache entry -/
theorem decideNode_spec (hhash : HashSound spec) (hfree : FreeDecide spec)
    (recur : S.σ → Cache S.κ → NS.τ → HRes S NS) (v : Nat)
    (s : S.σ) (cache : Cache S.κ) (t : NS.τ) (f0 : Frame S.κ) (rest : List (Frame S.κ))
    (hI : spec.Inv s) (hfr : spec.frames s = f0 :: rest) (hrest : rest ≠ []) (ht : inv t)
    (hc : CacheOK spec cache) (hvar : spec.Var v) (hv0 : f0.model v = none) (hs0 : f0.sat = false)
    (hrecB : ∀ b s' c' t' f' rest', spec.Inv s' → spec.frames s' = f' :: rest' → rest' ≠ [] → inv t' →
      CacheOK spec c' → PExt (f0.model.set v b) f'.model → Post spec inv f' rest' (recur s' c' t'))
    (hhit : ∀ s c t s' t', ObsEq S s s' →
      recur s' (recur s c t).2.2.1 t' = ((recur s c t).1, s', (recur s c t).2.2.1, t')) :
    Post spec inv f0 rest (decideNode S NS recur v (S.curHash s) s cache t) := by
  have hb1 := branch_spec spec hNS recur v true s cache t f0 rest hI hfr hrest hvar hv0 ht hc (hrecB true)
  rcases hhi : branch S NS recur s cache t ⟨v, true⟩ with ⟨hi, s1, c1, t1⟩
  rw [hhi] at hb1
  obtain ⟨hb1, hI1, hfr1, hc1, ht1⟩ := hb1
  have hb2 := branch_spec spec hNS recur v false s1 c1 t1 f0 rest hI1 hfr1 hrest hvar hv0 ht1 hc1 (hrecB false)
  rcases hlo : branch S NS recur s1 c1 t1 ⟨v, false⟩ with ⟨lo, s2, c2, t2⟩
  rw [hlo] at hb2
  obtain ⟨hb2, hI2, hfr2, hc2, ht2⟩ := hb2
  -- whatever good pointer is returned, the new cache entry is sound: the hash determines the residual
  have post : ∀ r t3, GoodM cnf f0.model r → inv t3 →
      Post spec inv f0 rest (r, s2, (S.curHash s, r) :: c2, t3) := by
    intro r t3 hg ht3
    refine ⟨hg, hI2, hfr2, fun k r' hkr => ?_, ht3⟩
    rcases List.mem_cons.1 hkr with e | h
    · cases e
      exact ⟨f0.model, hg, fun s' hs' hk => by rw [hhash s' s hs' hI hk, spec.modelOf_eq hfr]⟩
    · exact hc2 k r' h
  rw [decideNode_eq recur v _ s cache t hhi hlo]
  by_cases e : hi = lo
  · rw [if_pos e]
    exact post hi t2 (node_good hv0 hb1 hb2 (by rw [← e]; exact Agrees.node_self v hi)
      (fun h => absurd rfl (hb1.vars v h).2) Or.inl) ht2
  · rw [if_neg e]
    refine post _ _ (node_good hv0 hb1 hb2 (hNS.agrees ht2 v lo hi)
      (fun _ => Classical.byContradiction fun hirr => e ?_)
      (fun _ => Classical.not_and_iff_not_or_not.1 fun h => e (h.1.trans h.2.symm))) (hNS.inv_step t2 ht2 v lo hi)
    -- both branches are the recursive call; the second one hits the cache entry of the first
    obtain ⟨f1, hIa, hfra, hma, hha, hsa, hbra⟩ :=
      branch_irrelevant spec recur v true s cache t f0 rest hI hfr hrest hvar hv0 ht hc (hrecB true) hfree hirr hs0
    obtain ⟨f1', hIb, hfrb, hmb, hhb, hsb, hbrb⟩ :=
      branch_irrelevant spec recur v false s1 c1 t1 f0 rest hI1 hfr1 hrest hvar hv0 ht1 hc1 (hrecB false)
        hfree hirr hs0
    rw [hhi] at hbra
    rw [hlo] at hbrb
    simp only [Prod.mk.injEq] at hbra hbrb
    have hobs : ObsEq S (S.decide s ⟨v, true⟩).2 (S.decide s1 ⟨v, false⟩).2 := by
      refine ⟨?_, fun x => ?_, ?_⟩
      · rw [spec.obs_sat _ _ _ hIa hfra, spec.obs_sat _ _ _ hIb hfrb, hsa, hsb]
      · rw [spec.obs_set _ _ _ hIa hfra, spec.obs_set _ _ _ hIb hfrb, hma, hmb]
        by_cases ex : x = v <;> simp [PModel.set, ex]
      · rw [spec.obs_hash _ _ _ hIa hfra, spec.obs_hash _ _ _ hIb hfrb, hha, hhb]
    rw [hbra.1, hbrb.1, hbra.2.2.1, hhit _ cache t _ t1 hobs]

/-- **correctness of `topdown_h`** (any node store satisfying the contract, any solver satisfying
the specification, the two hash hypotheses): called at `level` on a valid state whose model
assigns all variables of earlier levels, with a sound cache, it returns a diagram that agrees with
the CNF on every extension of the current model, is free, tests only variables of the residual
formula; the solver stack is as before; the cache is still sound.  (`hrange`: the order maps the
levels into the variables `decide` is specified for.) -/
theorem topdownH_post (hhash : HashSound spec) (hfree : FreeDecide spec) (numVars : Nat)
    (hvarAt : ∀ v, InCnf cnf v → ∃ i, i < numVars ∧ varAt i = v)
    (hrange : ∀ i, i < numVars → spec.Var (varAt i)) :
    ∀ (rem level : Nat) (s : S.σ) (cache : Cache S.κ) (t : NS.τ) (f0 : Frame S.κ) (rest : List (Frame S.κ)),
      level + rem = numVars → spec.Inv s → spec.frames s = f0 :: rest → rest ≠ [] → inv t →
      CacheOK spec cache →
      (∀ i, i < level → f0.model (varAt i) ≠ none) →
      Post spec inv f0 rest (topdownH S NS varAt rem level s cache t) := by
  intro rem
  induction rem with
  | zero =>
    intro level s cache t f0 rest hl hI hfr _ ht hc hlev
    rw [topdownH_zero]
    refine ⟨GoodM.tru_of (spec.total_sound s f0 rest hI hfr ?_), hI, hfr, hc, ht⟩
    intro v hv
    obtain ⟨i, hi, e⟩ := hvarAt v hv
    rw [← e]; exact hlev i (by omega)
  | succ rem ih =>
    intro level s cache t f0 rest hl hI hfr hrest ht hc hlev
    have IH := fun s cache t f0 rest h1 h2 h2' h3 h4 h5 =>
      ih (level + 1) s cache t f0 rest (by omega) h1 h2 h2' h3 h4 h5
    rw [topdownH_succ, spec.obs_sat s f0 rest hI hfr, spec.obs_set s f0 rest hI hfr]
    by_cases hsat : f0.sat = true
    · rw [if_pos hsat]
      exact ⟨GoodM.tru_of (spec.sat_sound s f0 rest hI hfr hsat), hI, hfr, hc, ht⟩
    rw [if_neg hsat]
    cases hm : f0.model (varAt level) with
    | some c =>
      rw [if_pos (Option.isSome_some : (some c).isSome = true)]
      exact IH s cache t f0 rest hI hfr hrest ht hc fun i hi =>
        (Nat.lt_succ_iff_lt_or_eq.1 hi).elim (hlev i) fun h => by rw [h, hm]; nofun
    | none =>
      rw [if_neg (Bool.eq_false_iff.1 Option.isSome_none)]
      cases hg : Cache.get cache (S.curHash s) with
      | some r =>
        obtain ⟨m0, hgood, hres⟩ := hc _ _ (Cache.get_mem hg)
        have := hres s hI rfl
        rw [spec.modelOf_eq hfr] at this
        exact ⟨hgood.transfer this, hI, hfr, hc, ht⟩
      | none =>
        exact decideNode_spec spec hNS hhash hfree _ _ s cache t f0 rest hI hfr hrest ht hc
          (hrange level (by omega)) hm (Bool.eq_false_iff.2 hsat)
          (fun b s' c' t' f' rest' h1 h2 h2' h3 h4 h5 =>
            IH s' c' t' f' rest' h1 h2 h2' h3 h4 (levels_assigned varAt hlev h5))
          (topdownH_hit_after S NS varAt rem (level + 1))

end

/-! ## `compile_cnf_topdown` -/

/-- what `SATSolver::new` has to satisfy: `None` only for unsatisfiable formulas; otherwise a
valid two-frame stack, the lower model empty, the upper one consisting of entailed literals.
The solver is built on `cnf0`; the specification is about `cnf` (for the reference solver the
two are the same; for the real solver `cnf` is the non-tautological part of `cnf0`). -/
structure NewSpec (spec : SolverSpec cnf S) (cnf0 : Cnf) (numVars : Nat) : Prop where
  none_unsat : S.new cnf0 numVars = none → ∀ a, cnfSat a cnf = false
  some_ok : ∀ s, S.new cnf0 numVars = some s → ∃ f1 f0, spec.Inv s ∧ spec.frames s = [f1, f0] ∧
    (∀ v, f0.model v = none) ∧ ∀ v b, f1.model v = some b → ∀ a, cnfSat a cnf = true → a v = b

section
variable (spec : SolverSpec cnf S) {NS : NodeStore} {inv : NS.τ → Prop} (hNS : NS.Sound inv)
  (varAt : Nat → Nat)
include hNS

omit hNS in
theorem compileTopdown_none {cnf0 : Cnf} {numVars : Nat} (h : S.new cnf0 numVars = none) (t : NS.τ) :
    compileTopdown S NS varAt cnf0 numVars t = (.fls, t) := by
  unfold compileTopdown; rw [h]

omit hNS in
/-- the root loop of `compile_cnf_topdown` with its `is_false` test is `conjoin_implied` -/
theorem compileTopdown_some {cnf0 : Cnf} {numVars : Nat} {s : S.σ} (h : S.new cnf0 numVars = some s) (t : NS.τ) :
    compileTopdown S NS varAt cnf0 numVars t =
      conjoinImplied NS (topdownH S NS varAt numVars 0 s [] t).2.2.2
        (S.difference (topdownH S NS varAt numVars 0 s [] t).2.1) (topdownH S NS varAt numVars 0 s [] t).1 := by
  unfold compileTopdown conjoinImplied; rw [h]

/-- **correctness of `compile_cnf_topdown`** (as repaired; solver built on `cnf0`, specification
about `cnf`): the result denotes the CNF on ALL
assignments, is free, and is the false constant exactly when the CNF is unsatisfiable -/
theorem compileTopdown_post (hhash : HashSound spec) (hfree : FreeDecide spec) (cnf0 : Cnf) (numVars : Nat)
    (hnew : NewSpec spec cnf0 numVars)
    (hvarAt : ∀ v, InCnf cnf v → ∃ i, i < numVars ∧ varAt i = v)
    (hrange : ∀ i, i < numVars → spec.Var (varAt i)) (t : NS.τ) (ht : inv t) :
    (∀ a, (compileTopdown S NS varAt cnf0 numVars t).1.eval a = cnfSat a cnf) ∧
    (compileTopdown S NS varAt cnf0 numVars t).1.free ∧
    ((compileTopdown S NS varAt cnf0 numVars t).1 = .fls ↔ ∀ a, cnfSat a cnf = false) ∧
    inv (compileTopdown S NS varAt cnf0 numVars t).2 := by
  cases hn : S.new cnf0 numVars with
  | none =>
    have := hnew.none_unsat hn
    rw [compileTopdown_none varAt hn]
    exact ⟨fun a => (this a).symm, trivial, ⟨fun _ => this, fun _ => rfl⟩, ht⟩
  | some s =>
    obtain ⟨f1, f0, hI, hfr, hf0, hent⟩ := hnew.some_ok s hn
    obtain ⟨hgood, hI1, hfr1, _, ht1⟩ :=
      topdownH_post spec hNS varAt hhash hfree numVars hvarAt hrange numVars 0 s [] t f1 [f0]
        (by omega) hI hfr (List.cons_ne_nil _ _) ht (CacheOK_nil spec) (fun i hi => absurd hi (Nat.not_lt_zero i))
    rw [compileTopdown_some varAt hn]
    generalize topdownH S NS varAt numVars 0 s [] t = res at hgood hI1 hfr1 ht1 ⊢
    -- the root chain is built over the empty model, which every assignment extends
    have hall : ∀ a, Extends a f0.model := fun a x b h => by rw [hf0 x] at h; cases h
    obtain ⟨hsem, hfree, _, hnf, hinv⟩ := conjoinImplied_spec hNS (m := f0.model)
      (fun x b h => by rw [hf0 x] at h; cases h) (fun x c hx _ a _ hsat => hent x c hx a hsat)
      (spec.diff_nodup _ f1 f0 [] hI1 hfr1) (fun l hl => (spec.diff_sound _ f1 f0 [] hI1 hfr1 l hl).2)
      (fun x c hx hm => spec.diff_complete _ f1 f0 [] hI1 hfr1 x c hx hm) hgood ht1
    refine ⟨fun a => hsem a (hall a), hfree, ⟨fun e a => ?_, fun hun => ?_⟩, hinv⟩
    · rw [← hsem a (hall a), e]; rfl
    · apply Classical.byContradiction
      intro hne
      obtain ⟨a, _, he⟩ := hnf hne
      rw [hsem a (hall a), hun a] at he
      cases he

end

end TopDown
