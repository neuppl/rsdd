import RsddModel.Model.Sdd
/-!
# SDD lemmas: evaluation, partitions (pointwise counting), standard triples, vtree facts,
and the case analyses of the builder's definitions
-/
namespace Sdd
open Spec

/-! ## evaluation -/

@[simp] theorem eval_tru (a : Assign) : Ptr.tru.eval a = true := by simp [Ptr.eval]
@[simp] theorem eval_fls (a : Assign) : Ptr.fls.eval a = false := by simp [Ptr.eval]
theorem eval_lit (a : Assign) (v p) : (Ptr.lit v p).eval a = (if p then a v else !(a v)) := by
  simp [Ptr.eval]
theorem eval_bdd (a : Assign) (c l i lo hi) :
    (Ptr.bdd c l i lo hi).eval a = xor c (if a l then hi.eval a else lo.eval a) := by
  simp [Ptr.eval]
theorem eval_dec (a : Assign) (c i es) : (Ptr.dec c i es).eval a = xor c (evalElems a es) := by
  simp [Ptr.eval]
@[simp] theorem evalElems_nil (a : Assign) : evalElems a [] = false := by simp [evalElems]
@[simp] theorem evalElems_cons (a : Assign) (e : Elem) (es) :
    evalElems a (e :: es) = ((e.1.eval a && e.2.eval a) || evalElems a es) := by
  obtain ⟨p, s⟩ := e; simp [evalElems]

@[simp] theorem eval_neg (a : Assign) (p : Ptr) : p.neg.eval a = !(p.eval a) := by
  cases p with
  | lit v pol => cases pol <;> simp [Ptr.neg, Ptr.eval]
  | _ => simp [Ptr.neg, Ptr.eval]

@[simp] theorem neg_neg (p : Ptr) : p.neg.neg = p := by
  cases p <;> simp [Ptr.neg]

theorem isTrue_eq {p : Ptr} (h : p.isTrue = true) : p = .tru := by
  cases p <;> simp_all [Ptr.isTrue]
theorem isFalse_eq {p : Ptr} (h : p.isFalse = true) : p = .fls := by
  cases p <;> simp_all [Ptr.isFalse]
theorem isTrue_eval {p : Ptr} (h : p.isTrue = true) (a) : p.eval a = true := by
  rw [isTrue_eq h]; simp
theorem isFalse_eval {p : Ptr} (h : p.isFalse = true) (a) : p.eval a = false := by
  rw [isFalse_eq h]; simp

theorem evalElems_append (a : Assign) (l1 l2 : List Elem) :
    evalElems a (l1 ++ l2) = (evalElems a l1 || evalElems a l2) := by
  induction l1 with
  | nil => simp
  | cons e l ih => simp [ih, Bool.or_assoc]

/-! ## partitions, pointwise: `cnt a es` = number of elements whose prime is true under `a`.
The primes of `es` are pairwise exclusive and exhaustive iff `cnt a es = 1` for every `a`. -/

def cnt (a : Assign) (es : List Elem) : Nat := es.countP (fun e => e.1.eval a)

@[simp] theorem cnt_nil (a : Assign) : cnt a [] = 0 := rfl
theorem cnt_cons (a : Assign) (e : Elem) (es) :
    cnt a (e :: es) = (if e.1.eval a then 1 else 0) + cnt a es := by
  simp only [cnt, List.countP_cons]; omega
theorem cnt_append (a : Assign) (l1 l2 : List Elem) : cnt a (l1 ++ l2) = cnt a l1 + cnt a l2 := by
  simp [cnt, List.countP_append]

/-- primes pairwise exclusive and exhaustive -/
def Partition (es : List Elem) : Prop := ∀ a, cnt a es = 1

theorem evalElems_of_cnt_zero {a : Assign} {es : List Elem} (h : cnt a es = 0) :
    evalElems a es = false := by
  induction es with
  | nil => simp
  | cons e l ih =>
    rw [cnt_cons] at h
    cases hp : e.1.eval a
    · simp [hp] at h; simp [hp, ih h]
    · simp [hp] at h

theorem cnt_negSubs (a : Assign) (es : List Elem) : cnt a (negSubs es) = cnt a es := by
  induction es with
  | nil => rfl
  | cons e l ih =>
    have : negSubs (e :: l) = (e.1, e.2.neg) :: negSubs l := rfl
    rw [this, cnt_cons, cnt_cons, ih]

/-- under a partition the complement of `⋁ pᵢ ∧ sᵢ` is `⋁ pᵢ ∧ ¬sᵢ` -/
theorem evalElems_negSubs {a : Assign} {es : List Elem} (h : cnt a es = 1) :
    evalElems a (negSubs es) = !(evalElems a es) := by
  induction es with
  | nil => simp at h
  | cons e l ih =>
    have e1 : negSubs (e :: l) = (e.1, e.2.neg) :: negSubs l := rfl
    rw [cnt_cons] at h
    rw [e1, evalElems_cons, evalElems_cons]
    cases hp : e.1.eval a
    · simp [hp] at h; simp [hp, ih h]
    · simp [hp] at h
      have h0 : cnt a (negSubs l) = 0 := by rw [cnt_negSubs]; exact h
      simp [hp, evalElems_of_cnt_zero h, evalElems_of_cnt_zero h0]

theorem cnt_pos_of_mem {a : Assign} {es : List Elem} {e : Elem}
    (he : e ∈ es) (hp : e.1.eval a = true) : 1 ≤ cnt a es := by
  induction es with
  | nil => cases he
  | cons y l ih =>
    rw [cnt_cons]
    rcases List.mem_cons.1 he with rfl | hm
    · simp [hp]
    · have := ih hm; omega

/-- the selected element decides the value -/
theorem evalElems_of_mem {a : Assign} {es : List Elem} {e : Elem} (h : cnt a es = 1)
    (he : e ∈ es) (hp : e.1.eval a = true) : evalElems a es = e.2.eval a := by
  induction es with
  | nil => cases he
  | cons x l ih =>
    rw [cnt_cons] at h
    rcases List.mem_cons.1 he with rfl | hm
    · simp [hp] at h
      simp [hp, evalElems_of_cnt_zero h]
    · cases hx : x.1.eval a
      · simp [hx] at h; simp [hx, ih h hm]
      · simp [hx] at h
        have := cnt_pos_of_mem hm hp
        omega

theorem evalElems_true_of_mem {a : Assign} {es : List Elem} {e : Elem}
    (he : e ∈ es) (hp : (e.1.eval a && e.2.eval a) = true) : evalElems a es = true := by
  induction es with
  | nil => cases he
  | cons y l ih =>
    rcases List.mem_cons.1 he with rfl | hm
    · simp [hp]
    · simp [ih hm]

/-! ## sorting keeps counts and values -/

theorem cnt_insertByPrime (a : Assign) (x : Elem) (l : List Elem) :
    cnt a (insertByPrime x l) = cnt a (x :: l) := by
  induction l with
  | nil => rfl
  | cons y ys ih =>
    simp only [insertByPrime]
    split
    · rw [cnt_cons, ih, cnt_cons, cnt_cons, cnt_cons]; omega
    · rfl

theorem evalElems_insertByPrime (a : Assign) (x : Elem) (l : List Elem) :
    evalElems a (insertByPrime x l) = evalElems a (x :: l) := by
  induction l with
  | nil => rfl
  | cons y ys ih =>
    simp only [insertByPrime]
    split
    · rw [evalElems_cons, ih, evalElems_cons, evalElems_cons, evalElems_cons]
      cases (x.1.eval a && x.2.eval a) <;> cases (y.1.eval a && y.2.eval a) <;> simp
    · rfl

theorem mem_insertByPrime {x e : Elem} {l : List Elem} :
    e ∈ insertByPrime x l ↔ e = x ∨ e ∈ l := by
  induction l with
  | nil => simp [insertByPrime]
  | cons y ys ih =>
    simp only [insertByPrime]
    split
    · simp only [List.mem_cons, ih]
      constructor
      · rintro (h | h | h)
        · exact Or.inr (Or.inl h)
        · exact Or.inl h
        · exact Or.inr (Or.inr h)
      · rintro (h | h | h)
        · exact Or.inr (Or.inl h)
        · exact Or.inl h
        · exact Or.inr (Or.inr h)
    · simp

theorem cnt_sortByPrime (a : Assign) (l : List Elem) : cnt a (sortByPrime l) = cnt a l := by
  induction l with
  | nil => rfl
  | cons x xs ih => simp only [sortByPrime]; rw [cnt_insertByPrime, cnt_cons, cnt_cons, ih]

theorem evalElems_sortByPrime (a : Assign) (l : List Elem) :
    evalElems a (sortByPrime l) = evalElems a l := by
  induction l with
  | nil => rfl
  | cons x xs ih =>
    simp only [sortByPrime]; rw [evalElems_insertByPrime, evalElems_cons, evalElems_cons, ih]

theorem mem_sortByPrime {e : Elem} {l : List Elem} : e ∈ sortByPrime l ↔ e ∈ l := by
  induction l with
  | nil => simp [sortByPrime]
  | cons x xs ih => simp only [sortByPrime, mem_insertByPrime, ih, List.mem_cons]

/-! ## `Ite::new` is sound for every order predicate -/

def Ite.eval (a : Assign) : Ite → Bool
  | .choice f g h => iteB (f.eval a) (g.eval a) (h.eval a)
  | .complChoice f g h => !(iteB (f.eval a) (g.eval a) (h.eval a))
  | .const p => p.eval a

theorem introConst_cases (f g h : Ptr) :
    f = h ∧ introConst f g h = (f, g, .fls) ∨ f = h.neg ∧ introConst f g h = (f, g, .tru) ∨
      f = g.neg ∧ introConst f g h = (f, .fls, h) ∨ introConst f g h = (f, g, h) := by
  unfold introConst
  by_cases c1 : f = h
  · rw [if_pos c1]; exact .inl ⟨c1, rfl⟩
  rw [if_neg c1]
  by_cases c2 : f = h.neg
  · rw [if_pos c2]; exact .inr (.inl ⟨c2, rfl⟩)
  rw [if_neg c2]
  by_cases c3 : f = g.neg
  · rw [if_pos c3]; exact .inr (.inr (.inl ⟨c3, rfl⟩))
  · rw [if_neg c3]; exact .inr (.inr (.inr rfl))

theorem introConst_sound (f g h : Ptr) (a : Assign) :
    let r := introConst f g h
    iteB (r.1.eval a) (r.2.1.eval a) (r.2.2.eval a) = iteB (f.eval a) (g.eval a) (h.eval a) := by
  rcases introConst_cases f g h with ⟨rfl, e⟩ | ⟨rfl, e⟩ | ⟨rfl, e⟩ | e <;> rw [e] <;>
    simp only [iteB, eval_neg, eval_tru, eval_fls]
  · cases f.eval a <;> rfl
  · cases h.eval a <;> rfl
  · cases g.eval a <;> rfl

theorem terminal?_eq_some {f g h r : Ptr} (hr : terminal? f g h = some r) :
    f = .tru ∧ r = g ∨ f = .fls ∧ r = h ∨ g = .tru ∧ h = .fls ∧ r = f ∨
      g = .fls ∧ h = .tru ∧ r = f.neg ∨ h = g ∧ r = g := by
  unfold terminal? at hr
  by_cases c1 : f.isTrue = true
  · rw [if_pos c1] at hr; cases hr; exact .inl ⟨isTrue_eq c1, rfl⟩
  rw [if_neg c1] at hr
  by_cases c2 : f.isFalse = true
  · rw [if_pos c2] at hr; cases hr; exact .inr (.inl ⟨isFalse_eq c2, rfl⟩)
  rw [if_neg c2] at hr
  by_cases c3 : (g.isTrue && h.isFalse) = true
  · rw [if_pos c3] at hr; cases hr
    have c := Bool.and_eq_true_iff.1 c3
    exact .inr (.inr (.inl ⟨isTrue_eq c.1, isFalse_eq c.2, rfl⟩))
  rw [if_neg c3] at hr
  by_cases c4 : (g.isFalse && h.isTrue) = true
  · rw [if_pos c4] at hr; cases hr
    have c := Bool.and_eq_true_iff.1 c4
    exact .inr (.inr (.inr (.inl ⟨isFalse_eq c.1, isTrue_eq c.2, rfl⟩)))
  rw [if_neg c4] at hr
  by_cases c5 : h = g
  · rw [if_pos c5] at hr; cases hr; exact .inr (.inr (.inr (.inr ⟨c5, rfl⟩)))
  · rw [if_neg c5] at hr; cases hr

theorem terminal_sound (f g h r : Ptr) (a : Assign) (hr : terminal? f g h = some r) :
    r.eval a = iteB (f.eval a) (g.eval a) (h.eval a) := by
  rcases terminal?_eq_some hr with ⟨rfl, rfl⟩ | ⟨rfl, rfl⟩ | ⟨rfl, rfl, rfl⟩ | ⟨rfl, rfl, rfl⟩ |
      ⟨rfl, rfl⟩ <;>
    simp only [iteB, eval_neg, eval_tru, eval_fls]
  · rfl
  · rfl
  · cases r.eval a <;> rfl
  · cases f.eval a <;> rfl
  · cases f.eval a <;> rfl

theorem reorder_sound (ord) (f g h : Ptr) (a : Assign) :
    let r := reorder ord f g h
    iteB (r.1.eval a) (r.2.1.eval a) (r.2.2.eval a) = iteB (f.eval a) (g.eval a) (h.eval a) := by
  unfold reorder
  by_cases c1 : (g.isTrue && ord h f) = true
  · rw [if_pos c1, isTrue_eq (Bool.and_eq_true_iff.1 c1).1]
    simp only [iteB, eval_tru]; cases f.eval a <;> cases h.eval a <;> rfl
  rw [if_neg c1]
  by_cases c2 : (h.isFalse && ord g f) = true
  · rw [if_pos c2, isFalse_eq (Bool.and_eq_true_iff.1 c2).1]
    simp only [iteB, eval_fls]; cases f.eval a <;> cases g.eval a <;> rfl
  rw [if_neg c2]
  by_cases c3 : (h.isTrue && ord g f) = true
  · rw [if_pos c3, isTrue_eq (Bool.and_eq_true_iff.1 c3).1]
    simp only [iteB, eval_neg, eval_tru]; cases f.eval a <;> cases g.eval a <;> rfl
  rw [if_neg c3]
  by_cases c4 : (g.isFalse && ord h f) = true
  · rw [if_pos c4, isFalse_eq (Bool.and_eq_true_iff.1 c4).1]
    simp only [iteB, eval_neg, eval_fls]; cases f.eval a <;> cases h.eval a <;> rfl
  rw [if_neg c4]
  by_cases c5 : (decide (g = h.neg) && ord g f) = true
  · rw [if_pos c5, of_decide_eq_true (Bool.and_eq_true_iff.1 c5).1]
    simp only [iteB, eval_neg]; cases f.eval a <;> cases h.eval a <;> rfl
  · rw [if_neg c5]

theorem standardise_cases (f g h : Ptr) :
    standardise f g h = .choice f.neg h g ∨ standardise f g h = .complChoice f g.neg h.neg ∨
      standardise f g h = .complChoice f.neg h.neg g.neg ∨ standardise f g h = .choice f g h := by
  unfold standardise
  by_cases c1 : (f.isNeg && !h.isNeg) = true
  · rw [if_pos c1]; exact .inl rfl
  rw [if_neg c1]
  by_cases c2 : (!f.isNeg && g.isNeg) = true
  · rw [if_pos c2]; exact .inr (.inl rfl)
  rw [if_neg c2]
  by_cases c3 : (f.isNeg && h.isNeg) = true
  · rw [if_pos c3]; exact .inr (.inr (.inl rfl))
  · rw [if_neg c3]; exact .inr (.inr (.inr rfl))

theorem standardise_sound (f g h : Ptr) (a : Assign) :
    (standardise f g h).eval a = iteB (f.eval a) (g.eval a) (h.eval a) := by
  rcases standardise_cases f g h with e | e | e | e <;> rw [e] <;>
    simp only [Ite.eval, iteB, eval_neg] <;> cases f.eval a <;> simp

/-- `Ite::new` is sound for EVERY order predicate -/
theorem iteNew_sound (ord) (f g h : Ptr) (a : Assign) :
    (Ite.new ord f g h).eval a = iteB (f.eval a) (g.eval a) (h.eval a) := by
  have h1 := introConst_sound f g h a
  simp only [Ite.new]
  generalize introConst f g h = t at h1 ⊢
  obtain ⟨f1, g1, h1'⟩ := t
  simp only at h1 ⊢
  split
  · rename_i r hr; simp [Ite.eval, terminal_sound _ _ _ _ a hr, h1]
  · have h2 := reorder_sound ord f1 g1 h1' a
    generalize reorder ord f1 g1 h1' = t2 at h2 ⊢
    obtain ⟨f2, g2, h2'⟩ := t2
    simp only at h2 ⊢
    rw [standardise_sound, h2, h1]


/-- a constant answer of `Ite::new` comes from `terminal?` after `introConst` (`standardise` never
answers with a constant), so it is one of the operands, a negation of one, or a constant: every
predicate that holds of these holds of it -/
theorem iteNew_const_of {Q : Ptr → Prop} (hneg : ∀ p, Q p → Q p.neg) (htru : Q .tru)
    (hfls : Q .fls) {ord} {f g h r : Ptr} (qf : Q f) (qg : Q g) (qh : Q h)
    (hr : Ite.new ord f g h = .const r) : Q r := by
  have hi : Q (introConst f g h).1 ∧ Q (introConst f g h).2.1 ∧ Q (introConst f g h).2.2 := by
    rcases introConst_cases f g h with ⟨_, e⟩ | ⟨_, e⟩ | ⟨_, e⟩ | e <;> rw [e]
    · exact ⟨qf, qg, hfls⟩
    · exact ⟨qf, qg, htru⟩
    · exact ⟨qf, hfls, qh⟩
    · exact ⟨qf, qg, qh⟩
  unfold Ite.new at hr
  generalize introConst f g h = t at hr hi
  obtain ⟨f1, g1, h1⟩ := t
  cases ht : terminal? f1 g1 h1 with
  | none =>
    simp only [ht] at hr
    rcases standardise_cases (reorder ord f1 g1 h1).1 (reorder ord f1 g1 h1).2.1
      (reorder ord f1 g1 h1).2.2 with e | e | e | e <;> rw [e] at hr <;> cases hr
  | some r0 =>
    simp only [ht] at hr
    cases hr
    rcases terminal?_eq_some ht with ⟨_, e⟩ | ⟨_, e⟩ | ⟨_, _, e⟩ | ⟨_, _, e⟩ | ⟨_, e⟩ <;> rw [e]
    · exact hi.2.1
    · exact hi.2.2
    · exact hi.1
    · exact hneg _ hi.1
    · exact hi.2.1


/-! ## vtree facts (in-order indices, structural `lca`) -/

theorem VTree.size_pos (t : VTree) : 0 < t.size := by cases t <;> simp [VTree.size]; omega

theorem VTree.sub?_range {t : VTree} {off i : Nat} {s : VTree} (h : t.sub? off i = some s) :
    off ≤ i ∧ i < off + t.size := by
  induction t generalizing off with
  | leaf v =>
    simp only [VTree.sub?] at h
    split at h
    · subst_vars; simp [VTree.size]
    · cases h
  | node l r ihl ihr =>
    simp only [VTree.sub?] at h
    split at h
    · have := ihl h; simp only [VTree.size]; omega
    · split at h
      · simp only [VTree.size]; omega
      · have := ihr h; simp only [VTree.size]; omega

theorem VTree.sub?_node_lt {l r : VTree} {off i : Nat} (h : i < off + l.size) :
    (VTree.node l r).sub? off i = l.sub? off i := by
  simp [VTree.sub?, h]
theorem VTree.sub?_node_eq (l r : VTree) (off : Nat) :
    (VTree.node l r).sub? off (off + l.size) = some (.node l r) := by
  simp [VTree.sub?]
theorem VTree.sub?_node_gt {l r : VTree} {off i : Nat} (h : off + l.size < i) :
    (VTree.node l r).sub? off i = r.sub? (off + l.size + 1) i := by
  have h1 : ¬ i < off + l.size := by omega
  have h2 : ¬ i = off + l.size := by omega
  simp [VTree.sub?, h1, h2]

theorem VTree.varIndex?_sub {t : VTree} {off v i : Nat} (h : t.varIndex? off v = some i) :
    t.sub? off i = some (.leaf v) := by
  induction t generalizing off with
  | leaf w =>
    simp only [VTree.varIndex?] at h
    split at h
    · cases h; subst_vars; simp [VTree.sub?]
    · cases h
  | node l r ihl ihr =>
    simp only [VTree.varIndex?] at h
    split at h
    · rename_i j hj; cases h
      have h1 := ihl hj
      rw [VTree.sub?_node_lt (VTree.sub?_range h1).2]; exact h1
    · have h1 := ihr h
      rw [VTree.sub?_node_gt (by have := (VTree.sub?_range h1).1; omega)]; exact h1

/-- the left child of node `i+1`, when a leaf, is the node with index `i` -/
theorem VTree.sub?_leftLeaf {t : VTree} {off i w : Nat} {r : VTree}
    (h : t.sub? off (i + 1) = some (.node (.leaf w) r)) : t.sub? off i = some (.leaf w) := by
  induction t generalizing off with
  | leaf v =>
    simp only [VTree.sub?] at h
    split at h <;> cases h
  | node l r0 ihl ihr =>
    by_cases h1 : i + 1 < off + l.size
    · rw [VTree.sub?_node_lt h1] at h
      rw [VTree.sub?_node_lt (by omega)]; exact ihl h
    · by_cases h2 : i + 1 = off + l.size
      · rw [h2, VTree.sub?_node_eq] at h
        cases h
        simp only [VTree.size] at h2
        have : i = off := by omega
        subst this
        simp [VTree.sub?, VTree.size]
      · rw [VTree.sub?_node_gt (by omega)] at h
        have h3 := ihr h
        have := (VTree.sub?_range h3).1
        rw [VTree.sub?_node_gt (by omega)]; exact h3

theorem VTree.lca_range (t : VTree) (off i j : Nat) :
    off ≤ t.lca off i j ∧ t.lca off i j < off + t.size := by
  induction t generalizing off with
  | leaf v => simp [VTree.lca, VTree.size]
  | node l r ihl ihr =>
    simp only [VTree.lca, VTree.size]
    split
    · have := ihl off; omega
    · split
      · have := ihr (off + l.size + 1); omega
      · omega

/-- if the lca of `i < j` is a right-linear node different from `i`, then `i` is its left leaf -/
theorem VTree.lca_rl {t : VTree} {off i j w : Nat} {r : VTree} (hoff : off ≤ i) (hij : i < j)
    (hk : t.lca off i j ≠ i) (hs : t.sub? off (t.lca off i j) = some (.node (.leaf w) r)) :
    i + 1 = t.lca off i j := by
  induction t generalizing off with
  | leaf v =>
    simp only [VTree.lca, VTree.sub?] at hs
    simp at hs
  | node l r0 ihl ihr =>
    simp only [VTree.lca] at hk hs ⊢
    split at hs
    · rename_i hc
      simp only [hc, and_self, if_true] at hk ⊢
      have hr := (VTree.lca_range l off i j).2
      rw [VTree.sub?_node_lt hr] at hs
      exact ihl hoff hk hs
    · rename_i hc
      simp only [hc, if_false] at hk ⊢
      split at hs
      · rename_i hc2
        simp only [hc2, and_self, if_true] at hk ⊢
        have hr := (VTree.lca_range r0 (off + l.size + 1) i j).1
        rw [VTree.sub?_node_gt (by omega)] at hs
        exact ihr (by omega) hk hs
      · rename_i hc2
        simp only [hc2, if_false] at hk ⊢
        rw [VTree.sub?_node_eq] at hs
        cases hs
        simp only [VTree.size] at hc hc2 hk ⊢
        omega

/-- the lca of two distinct nodes of the tree is an internal node -/
theorem VTree.lca_internal {t : VTree} {off i j : Nat} {si sj : VTree}
    (hi : t.sub? off i = some si) (hj : t.sub? off j = some sj) (hne : i ≠ j) :
    ∃ l r, t.sub? off (t.lca off i j) = some (.node l r) := by
  induction t generalizing off with
  | leaf v =>
    have := VTree.sub?_range hi; have := VTree.sub?_range hj
    simp only [VTree.size] at *; omega
  | node l r ihl ihr =>
    simp only [VTree.lca]
    split
    · rename_i hc
      rw [VTree.sub?_node_lt hc.1] at hi; rw [VTree.sub?_node_lt hc.2] at hj
      obtain ⟨l', r', h⟩ := ihl hi hj
      exact ⟨l', r', by rw [VTree.sub?_node_lt (VTree.lca_range l off i j).2]; exact h⟩
    · split
      · rename_i hc
        rw [VTree.sub?_node_gt hc.1] at hi; rw [VTree.sub?_node_gt hc.2] at hj
        obtain ⟨l', r', h⟩ := ihr hi hj
        refine ⟨l', r', ?_⟩
        rw [VTree.sub?_node_gt (by have := (VTree.lca_range r (off + l.size + 1) i j).1; omega)]
        exact h
      · exact ⟨l, r, VTree.sub?_node_eq l r off⟩

theorem VTree.lca_self {t : VTree} {off i : Nat} {s : VTree} (hi : t.sub? off i = some s) :
    t.lca off i i = i := by
  induction t generalizing off with
  | leaf v =>
    have := VTree.sub?_range hi
    simp only [VTree.size] at this
    simp only [VTree.lca]; omega
  | node l r ihl ihr =>
    simp only [VTree.lca]
    split
    · rename_i hc; rw [VTree.sub?_node_lt hc.1] at hi; exact ihl hi
    · split
      · rename_i hc; rw [VTree.sub?_node_gt hc.1] at hi; exact ihr hi
      · omega

/-! ## case principles for the builder

Apply the motive-style ones with the motive written out,
`refine andBody_cases (motive := fun o => o = some (st', r) → …) ?_ … h`: a `_` inside the motive is
elaborated before the result is known and unifies wrongly. -/

theorem uniqueBdd_cases {l i : Nat} {lo hi : Ptr} {motive : Ptr → Prop}
    (same : hi = lo → motive hi)
    (neg_lit : hi = .fls → lo = .tru → motive (.lit l false))
    (pos_lit : hi = .tru → lo = .fls → motive (.lit l true))
    (compl : hi ≠ lo → ¬(hi = .fls ∧ lo = .tru) → ¬(hi = .tru ∧ lo = .fls) →
      (hi.isNeg || hi.isFalse || hi.isNegVar) = true → motive (.bdd true l i lo.neg hi.neg))
    (plain : hi ≠ lo → ¬(hi = .fls ∧ lo = .tru) → ¬(hi = .tru ∧ lo = .fls) →
      (hi.isNeg || hi.isFalse || hi.isNegVar) = false → motive (.bdd false l i lo hi)) :
    motive (uniqueBdd l lo hi i) := by
  unfold uniqueBdd
  by_cases h1 : hi = lo
  · rw [if_pos h1]; exact same h1
  rw [if_neg h1]
  by_cases h2 : (hi.isFalse && lo.isTrue) = true
  · rw [if_pos h2]
    rw [Bool.and_eq_true] at h2
    exact neg_lit (isFalse_eq h2.1) (isTrue_eq h2.2)
  rw [if_neg h2]
  by_cases h3 : (hi.isTrue && lo.isFalse) = true
  · rw [if_pos h3]
    rw [Bool.and_eq_true] at h3
    exact pos_lit (isTrue_eq h3.1) (isFalse_eq h3.2)
  rw [if_neg h3]
  have c2 : ¬(hi = .fls ∧ lo = .tru) := fun ⟨e1, e2⟩ => h2 (by rw [e1, e2]; rfl)
  have c3 : ¬(hi = .tru ∧ lo = .fls) := fun ⟨e1, e2⟩ => h3 (by rw [e1, e2]; rfl)
  by_cases h4 : (hi.isNeg || hi.isFalse || hi.isNegVar) = true
  · rw [if_pos h4]; exact compl h1 c2 c3 h4
  · rw [if_neg h4]; exact plain h1 c2 c3 (eq_false_of_ne_true h4)

theorem canonBase?_eq_some {es : List Elem} {r : Ptr} (h : canonBase? es = some r) :
    es = [] ∧ r = .tru ∨ es = [(.tru, r)] ∨ (∃ p, es = [(p, .fls)] ∧ r = .fls) ∨
      (∃ p1, es = [(r, .tru), (p1, .fls)]) ∨ ∃ p0, es = [(p0, .fls), (r, .tru)] := by
  match es, h with
  | [], h => cases h; exact .inl ⟨rfl, rfl⟩
  | [(p, s)], h =>
    dsimp only [canonBase?] at h
    by_cases c1 : p.isTrue = true
    · rw [if_pos c1] at h; cases h; rw [isTrue_eq c1]; exact .inr (.inl rfl)
    rw [if_neg c1] at h
    by_cases c2 : s.isFalse = true
    · rw [if_pos c2] at h; cases h; rw [isFalse_eq c2]; exact .inr (.inr (.inl ⟨p, rfl, rfl⟩))
    · rw [if_neg c2] at h; cases h
  | [(p0, s0), (p1, s1)], h =>
    dsimp only [canonBase?] at h
    by_cases c1 : (s0.isTrue && s1.isFalse) = true
    · rw [if_pos c1] at h; cases h
      rw [Bool.and_eq_true] at c1
      rw [isTrue_eq c1.1, isFalse_eq c1.2]; exact .inr (.inr (.inr (.inl ⟨p1, rfl⟩)))
    rw [if_neg c1] at h
    by_cases c2 : (s0.isFalse && s1.isTrue) = true
    · rw [if_pos c2] at h; cases h
      rw [Bool.and_eq_true] at c2
      rw [isFalse_eq c2.1, isTrue_eq c2.2]; exact .inr (.inr (.inr (.inr ⟨p0, rfl⟩)))
    · rw [if_neg c2] at h; cases h
  | _ :: _ :: _ :: _, h => cases h

theorem andBody_cases {A : CacheImpl (Ptr × Ptr)} {vt : VTree} {cmpr : Bool} {andF : AndF A.σ}
    {st : A.σ} {a b : Ptr} {motive : Option (A.σ × Ptr) → Prop}
    (tru_l : a.isTrue = true → motive (some (st, b)))
    (tru_r : b.isTrue = true → motive (some (st, a)))
    (fls_l : a.isFalse = true → motive (some (st, .fls)))
    (fls_r : b.isFalse = true → motive (some (st, .fls)))
    (same : a = b → motive (some (st, a)))
    (opp : a = b.neg → motive (some (st, .fls)))
    (core : a.isTrue = false → b.isTrue = false → a.isFalse = false → b.isFalse = false →
      a ≠ b → a ≠ b.neg → vtreeIndex vt a = vtreeIndex vt b ∨ vtreeIndex vt a < vtreeIndex vt b →
      motive (andCore A vt cmpr andF st a b))
    (core_swap : a.isTrue = false → b.isTrue = false → a.isFalse = false → b.isFalse = false →
      a ≠ b → a ≠ b.neg → vtreeIndex vt b < vtreeIndex vt a →
      motive (andCore A vt cmpr andF st b a)) :
    motive (andBody A vt cmpr andF st a b) := by
  unfold andBody
  by_cases ha1 : a.isTrue = true
  · rw [if_pos ha1]; exact tru_l ha1
  rw [if_neg ha1]
  by_cases hb1 : b.isTrue = true
  · rw [if_pos hb1]; exact tru_r hb1
  rw [if_neg hb1]
  by_cases ha2 : a.isFalse = true
  · rw [if_pos ha2]; exact fls_l ha2
  rw [if_neg ha2]
  by_cases hb2 : b.isFalse = true
  · rw [if_pos hb2]; exact fls_r hb2
  rw [if_neg hb2]
  by_cases hab : a = b
  · rw [if_pos hab]; exact same hab
  rw [if_neg hab]
  by_cases habn : a = b.neg
  · rw [if_pos habn]; exact opp habn
  rw [if_neg habn]
  have ha1 := eq_false_of_ne_true ha1
  have hb1 := eq_false_of_ne_true hb1
  have ha2 := eq_false_of_ne_true ha2
  have hb2 := eq_false_of_ne_true hb2
  by_cases hle : vtreeIndex vt a = vtreeIndex vt b ∨ vtreeIndex vt a < vtreeIndex vt b
  · rw [if_pos hle]; exact core ha1 hb1 ha2 hb2 hab habn hle
  · rw [if_neg hle]; exact core_swap ha1 hb1 ha2 hb2 hab habn (by omega)

theorem andCore_cases {A : CacheImpl (Ptr × Ptr)} {vt : VTree} {cmpr : Bool} {andF : AndF A.σ}
    {st : A.σ} {a b : Ptr} {motive : Option (A.σ × Ptr) → Prop}
    (hit : ∀ x, A.get st (a, b) = some x → motive (some (st, x)))
    (cart : A.get st (a, b) = none → vtreeIndex vt a = vtreeIndex vt b →
      motive ((andCartesian vt cmpr andF st a b (vt.lca 0 (vtreeIndex vt a) (vtreeIndex vt b))).map
        fun p => (A.insert p.1 (a, b) p.2, p.2)))
    (sub : A.get st (a, b) = none → vtreeIndex vt a ≠ vtreeIndex vt b →
      vt.lca 0 (vtreeIndex vt a) (vtreeIndex vt b) = vtreeIndex vt a →
      motive ((andSubDesc cmpr andF st a b).map fun p => (A.insert p.1 (a, b) p.2, p.2)))
    (prime : A.get st (a, b) = none → vtreeIndex vt a ≠ vtreeIndex vt b →
      vt.lca 0 (vtreeIndex vt a) (vtreeIndex vt b) ≠ vtreeIndex vt a →
      vt.lca 0 (vtreeIndex vt a) (vtreeIndex vt b) = vtreeIndex vt b →
      motive ((andPrimeDesc cmpr andF st b a).map fun p => (A.insert p.1 (a, b) p.2, p.2)))
    (indep : A.get st (a, b) = none → vtreeIndex vt a ≠ vtreeIndex vt b →
      vt.lca 0 (vtreeIndex vt a) (vtreeIndex vt b) ≠ vtreeIndex vt a →
      vt.lca 0 (vtreeIndex vt a) (vtreeIndex vt b) ≠ vtreeIndex vt b →
      motive ((andIndep vt a b (vt.lca 0 (vtreeIndex vt a) (vtreeIndex vt b))).map
        fun r => (A.insert st (a, b) r, r))) :
    motive (andCore A vt cmpr andF st a b) := by
  have ins : ∀ o : Option (A.σ × Ptr), motive (o.map fun p => (A.insert p.1 (a, b) p.2, p.2)) →
      motive (match o with
        | none => none
        | some (st', r) => some (A.insert st' (a, b) r, r)) := by
    intro o; rcases o with _ | ⟨st1, r1⟩ <;> exact id
  unfold andCore
  cases hget : A.get st (a, b) with
  | some x => exact hit x hget
  | none =>
    dsimp only
    by_cases heq : vtreeIndex vt a = vtreeIndex vt b
    · rw [if_pos heq]; exact ins _ (cart hget heq)
    rw [if_neg heq]
    by_cases hka : vt.lca 0 (vtreeIndex vt a) (vtreeIndex vt b) = vtreeIndex vt a
    · rw [if_pos hka]; exact ins _ (sub hget heq hka)
    rw [if_neg hka]
    by_cases hkb : vt.lca 0 (vtreeIndex vt a) (vtreeIndex vt b) = vtreeIndex vt b
    · rw [if_pos hkb]; exact ins _ (prime hget heq hka hkb)
    rw [if_neg hkb]
    refine ins _ ?_
    rw [Option.map_map]
    exact indep hget heq hka hkb

/-- a `match` on a loop's result that returned: the loop returned, and the branch of its result
did (the tail of every loop round, and of `and_cartesian`, `and_prime_desc`, `condition`) -/
theorem res_inv {σ γ : Type} {X : Option (σ × LoopRes)} {E : σ → Ptr → Option γ}
    {L : σ → List Elem → Option γ} {r : γ}
    (h : (match X with
      | none => none
      | some (a, .early x) => E a x
      | some (a, .elems l) => L a l) = some r) :
    ∃ a res, X = some (a, res) ∧
      (match res with | .early x => E a x | .elems l => L a l) = some r := by
  rcases X with _ | ⟨a, x | l⟩
  · cases h
  · exact ⟨a, _, rfl, h⟩
  · exact ⟨a, _, rfl, h⟩

theorem andCartesian_cases {σ : Type} {vt : VTree} {cmpr : Bool} {andF : AndF σ} {st : σ}
    {a b : Ptr} {lca : Nat} {motive : Option (σ × Ptr) → Prop}
    (bdd : ∀ c l i lo hi c' l' i' lo' hi', vt.isRLAt lca = true → a = .bdd c l i lo hi →
      b = .bdd c' l' i' lo' hi' →
      motive (match andF st (if c then lo.neg else lo) (if c' then lo'.neg else lo') with
        | none => none
        | some (st1, lr) =>
          match andF st1 (if c then hi.neg else hi) (if c' then hi'.neg else hi') with
          | none => none
          | some (st2, hr) => some (st2, uniqueBdd l lr hr lca)))
    (bdd_none : vt.isRLAt lca = true → a.isBdd = true → b.isBdd = false → motive none)
    (prod : ∀ ea eb, vt.isRLAt lca = false ∨ a.isBdd = false → a.elems? = some ea →
      b.elems? = some eb →
      motive (match prodLoop andF true eb st ea with
        | none => none
        | some (st', .early x) => some (st', x)
        | some (st', .elems l) => canonicalize cmpr andF st' l lca))
    (prod_none : vt.isRLAt lca = false ∨ a.isBdd = false → a.elems? = none ∨ b.elems? = none →
      motive none) :
    motive (andCartesian vt cmpr andF st a b lca) := by
  have other : vt.isRLAt lca = false ∨ a.isBdd = false →
      motive (match a.elems?, b.elems? with
        | some ea, some eb =>
          match prodLoop andF true eb st ea with
          | none => none
          | some (st', .early x) => some (st', x)
          | some (st', .elems l) => canonicalize cmpr andF st' l lca
        | _, _ => none) := by
    intro h
    cases hea : a.elems? with
    | none => exact prod_none h (.inl hea)
    | some ea =>
      cases heb : b.elems? with
      | none => exact prod_none h (.inr heb)
      | some eb => exact prod ea eb h hea heb
  unfold andCartesian
  cases hrl : vt.isRLAt lca with
  | false => exact other (.inl hrl)
  | true =>
    cases a with
    | bdd c l i lo hi =>
      cases b with
      | bdd c' l' i' lo' hi' => exact bdd c l i lo hi c' l' i' lo' hi' hrl rfl rfl
      | _ => exact bdd_none hrl rfl rfl
    | _ => exact other (.inr rfl)

/-- `condition` on a node: the loop over its elements, then `canonicalize` at the node's index -/
theorem condition_node {σ : Type} (vt : VTree) {cmpr : Bool} {andF : AndF σ} {x : Nat} {v : Bool}
    {n : Nat} {st : σ} {f : Ptr} {es : List Elem} (hes : f.elems? = some es) :
    condition cmpr andF x v (n + 1) st f =
      match condLoop (condition cmpr andF x v n) st es with
      | none => none
      | some (st', .early r) => some (st', r)
      | some (st', .elems es') => canonicalize cmpr andF st' es' (vtreeIndex vt f) := by
  cases f <;> first | (cases hes; rfl) | cases hes

/-- `and_prime_desc` that returned: `r` is a node, and the result is that of the product loop against
`d` followed by `canonicalize` at the index of `r` (which the definition reads off by cases on `r`) -/
theorem andPrimeDesc_some {σ : Type} (vt : VTree) {cmpr : Bool} {andF : AndF σ} {st : σ}
    {r d : Ptr} {y : σ × Ptr} (h : andPrimeDesc cmpr andF st r d = some y) :
    ∃ er, r.elems? = some er ∧
      (match prodLoop andF false [(d, .tru), (d.neg, .fls)] st er with
      | none => none
      | some (st', .early x) => some (st', x)
      | some (st', .elems l) => canonicalize cmpr andF st' l (vtreeIndex vt r)) = some y := by
  cases r <;> first | cases h | exact ⟨_, rfl, h⟩

end Sdd
