import RsddModel.Lemmas.UnitPropSolver
/-!
# The default fuel always suffices (C09): the model never runs out of fuel

On CNFs in `Cnf::new` normal form, the watcher loop terminates as soon as
`unset variables * (2 * #clauses + 2) + 2 * |current watch list| < fuel + watcher_idx`, which
holds of `defaultFuel`. Hence `Solver.new` never answers "fuel" and `decide` never answers `error`
on a reachable state: the partial-correctness theorems of `Props/C09.lean` apply to every history.
-/
namespace UnitProp
open Spec

/-- pigeonhole: a duplicate-free list of clause indices has at most `#clauses` entries -/
theorem TwoWatch.length_le {cnf : Cnf} {wl : WL} (h2 : TwoWatch cnf wl) (p : Bool) (v : Nat) :
    (wl.get p v).length ≤ cnf.length := by
  have := (h2.nodup p v).length_le_of_subset (l₂ := List.range cnf.length)
    (fun i hi => List.mem_range.mpr (h2.only i ⟨v, p⟩ hi).1)
  rwa [List.length_range] at this

/-- number of unassigned variables among the first `n` -/
def unsetCount (n : Nat) (m : PModel) : Nat := (List.range n).countP (fun x => (m x).isNone)

theorem unsetCount_mono {n : Nat} {m m' : PModel} (h : PExt m m') : unsetCount n m' ≤ unsetCount n m := by
  unfold unsetCount
  apply List.countP_mono_left
  intro x _ hx
  cases hm : m x with
  | none => rfl
  | some b => rw [h x b hm] at hx; cases hx

theorem unsetCount_set {n : Nat} {m : PModel} {x : Nat} (b : Bool) (hx : x < n) (hm : m x = none) :
    unsetCount n (m.set x b) + 1 ≤ unsetCount n m := by
  refine countP_lt_of (fun y _ hy => ?_) ⟨x, List.mem_range.mpr hx, by rw [hm]; rfl, by rw [pset_same]; rfl⟩
  by_cases e : y = x
  · subst e; rw [hm]; rfl
  · rwa [pset_other _ _ e] at hy

/-- a freed round `2 * C + 2` pays for the whole watch list (`Lu ≤ C` entries) of a new unit -/
theorem budget_unit {A A' C Lu f : Nat} (hA : A' + (2 * C + 2) ≤ A) (hLu : Lu ≤ C) (hf : A < f) :
    A' + 2 * Lu < f :=
  Nat.lt_of_lt_of_le (Nat.add_lt_add_left
    (Nat.lt_of_le_of_lt (Nat.mul_le_mul_left 2 hLu) (Nat.lt_add_of_pos_right (by decide))) A')
    (Nat.le_trans hA (Nat.le_of_lt hf))

/-- **Termination of the watcher loop within the fuel bound.** The budget is one round of
`2 * #clauses + 2` steps per unassigned variable plus twice the length of the current watch list;
it has to stay below `fuel + watcher_idx`. Skipping a clause advances `watcher_idx`, moving a watch
shortens the list, and a new unit spends a round, which pays for its own list. -/
theorem loop_total {cnf : Cnf} (hN : CnfNormal cnf) :
    ∀ (fuel : Nat) (wl : WL) (m : PModel) (l : Lit) (idx : Nat),
      TwoWatch cnf wl → m l.var = some l.pol → idx ≤ (wl.get (!l.pol) l.var).length →
      unsetCount (cnfNumVars cnf) m * (2 * cnf.length + 2)
        + 2 * (wl.get (!l.pol) l.var).length < fuel + idx →
      ∃ out, loop cnf true fuel wl m l idx = some out := by
  intro fuel
  induction fuel with
  | zero =>
    intro wl m l idx _ _ hidx h
    rw [Nat.zero_add] at h
    exact absurd (Nat.lt_of_lt_of_le h hidx) (Nat.not_lt.mpr
      (Nat.le_trans (Nat.le_mul_of_pos_left _ (by decide)) (Nat.le_add_left _ _)))
  | succ f ih =>
    intro wl m l idx h2 hl _ hΦ
    have hB : unsetCount (cnfNumVars cnf) m * (2 * cnf.length + 2)
        + 2 * (wl.get (!l.pol) l.var).length ≤ f + idx := by
      rw [Nat.add_right_comm] at hΦ; exact Nat.le_of_lt_succ hΦ
    -- a new unit `u` frees a round, and the call for it returns
    have unit : ∀ u, idx < (wl.get (!l.pol) l.var).length →
        (curClause cnf wl l idx).filter (litUnset m) = [u] →
        unsetCount (cnfNumVars cnf) (m.set u.var u.pol) * (2 * cnf.length + 2)
          + (2 * cnf.length + 2) ≤ unsetCount (cnfNumVars cnf) m * (2 * cnf.length + 2)
        ∧ ∃ out, loop cnf true f wl (m.set u.var u.pol) u 0 = some out := by
      intro u hlt hf
      have humem : u ∈ curClause cnf wl l idx := mem_of_filter_unset hf
      have hmul : unsetCount (cnfNumVars cnf) (m.set u.var u.pol) * (2 * cnf.length + 2)
          + (2 * cnf.length + 2) ≤ unsetCount (cnfNumVars cnf) m * (2 * cnf.length + 2) := by
        rw [← Nat.succ_mul]
        exact Nat.mul_le_mul_right _ (unsetCount_set u.pol
          (var_lt_numVars (curClause_mem h2.valid hlt) humem) (mem_filter_unset hf))
      exact ⟨hmul, ih wl (m.set u.var u.pol) u 0 h2 (pset_same _ _ _) (Nat.zero_le _)
        (budget_unit hmul (h2.length_le (!u.pol) u.var) (Nat.lt_of_add_lt_add_right
          (Nat.lt_of_lt_of_le (Nat.add_lt_add_left
            (Nat.lt_of_lt_of_le hlt (Nat.le_mul_of_pos_left _ (by decide))) _) hB)))⟩
    refine loop_cases (P := fun o => ∃ out, o = some out) ?_ ?_ ?_ ?_ ?_ ?_ ?_
    · intro _; exact ⟨_, rfl⟩
    · intro hlt _; exact ih wl m l (idx + 1) h2 hl hlt (Nat.lt_succ_of_le hB)
    · intro _ _ _; exact ⟨_, rfl⟩
    · intro u hlt _ hf hnone
      obtain ⟨_, out, ho⟩ := unit u hlt hf
      rw [hnone] at ho; cases ho
    · intro u wl' _ _ _ _; exact ⟨_, rfl⟩
    · intro u wl1 m1 hlt _ hf ho
      have hu : m u.var = none := mem_filter_unset hf
      have hrel := loop_rel cnf true f _ _ _ _ _ ho
      have hext1 : PExt (m.set u.var u.pol) m1 := hrel.ext
      have hne : l.var ≠ u.var := by intro e; rw [e, hu] at hl; cases hl
      have hframe : wl1.get (!l.pol) l.var = wl.get (!l.pol) l.var :=
        hrel.frame _ _ (by rw [pset_other _ _ hne, hl]; simp) (fun e => hne e.2)
      -- the budget of `m1` is at most that of `m`
      have hle := Nat.le_trans (Nat.mul_le_mul_right (2 * cnf.length + 2)
        (unsetCount_mono (n := cnfNumVars cnf) hext1))
        (Nat.le_trans (Nat.le_add_right _ _) (unit u hlt hf).1)
      refine ih wl1 m1 l (idx + 1) (hrel.twoWatch hN (pset_same _ _ _) h2)
        (hext1 _ _ (by rw [pset_other _ _ hne]; exact hl)) ?_ ?_ <;> rw [hframe]
      · exact hlt
      · exact Nat.lt_succ_of_le (Nat.le_trans (Nat.add_le_add_right hle _) hB)
    · intro cand second rest hlt _ hf
      have hnl := pickWatch_unset (rep := true) (wl := wl) (l := l) (ci := curIdx wl l idx) hf
      have hne : (pickWatch true wl l (curIdx wl l idx) cand second).var ≠ l.var := by
        intro e; rw [e, hl] at hnl; cases hnl.1
      have hlen := swapRemove_length _ _ hlt
      refine ih _ m l idx (h2.move hN hl hlt hf) hl ?_ ?_ <;> rw [moveWatch_get_self hne, hlen]
      · exact Nat.le_sub_one_of_lt hlt
      · exact Nat.lt_of_lt_of_le (Nat.add_lt_add_left (Nat.mul_lt_mul_of_pos_left
          (Nat.sub_one_lt (Nat.ne_of_gt (Nat.zero_lt_of_lt hlt))) (by decide)) _) hB

theorem fuel_bound {n U L K K' : Nat} (hU : U ≤ n) (hL : L < K) (hK : K ≤ K') :
    U * K + 2 * L < (n + 2) * K' :=
  calc U * K + 2 * L < n * K + 2 * K := Nat.add_lt_add_of_le_of_lt (Nat.mul_le_mul_right K hU)
        (Nat.mul_lt_mul_of_pos_left hL (by decide))
    _ = (n + 2) * K := (Nat.add_mul n 2 K).symm
    _ ≤ (n + 2) * K' := Nat.mul_le_mul_left _ hK

theorem unsetCount_le (n : Nat) (m : PModel) : unsetCount n m ≤ n := by
  unfold unsetCount
  have := List.countP_le_length (p := fun x => (m x).isNone) (l := List.range n)
  simpa using this

theorem decideK_total {cnf : Cnf} (hN : CnfNormal cnf) {wl : WL} (h2 : TwoWatch cnf wl)
    (m : PModel) (l : Lit) :
    ∃ out, decideK (loop cnf true (defaultFuel cnf)) wl m l = some out := by
  unfold decideK
  cases hm : m l.var with
  | some v => simp only []; split <;> exact ⟨_, rfl⟩
  | none =>
    exact loop_total hN _ _ _ _ _ h2 (pset_same _ _ _) (Nat.zero_le _)
      (fuel_bound (unsetCount_le _ _)
        (Nat.lt_of_le_of_lt (Nat.le_trans (h2.length_le _ _) (Nat.le_mul_of_pos_left _ (by decide)))
          (Nat.lt_add_of_pos_right (by decide)))
        (Nat.add_le_add (Nat.le_trans (Nat.mul_le_mul_right cnf.length (by decide : 2 ≤ 4))
          (Nat.le_add_right _ (totalLits cnf))) (by decide)))

theorem decideAll_total {cnf : Cnf} (hN : CnfNormal cnf) : ∀ (us : List Lit) (wl : WL) (m : PModel),
    TwoWatch cnf wl →
    ∃ out, decideAll (decideK (loop cnf true (defaultFuel cnf))) us wl m = some out
  | [], wl, m, _ => ⟨_, rfl⟩
  | u :: us, wl, m, h2 => by
    obtain ⟨out, ho⟩ := decideK_total hN h2 m u
    unfold decideAll
    rw [ho]
    obtain ⟨wl1, r1⟩ := out
    cases r1 with
    | none => exact ⟨_, rfl⟩
    | some m1 => exact decideAll_total hN us wl1 m1 ((decide_rel ho).twoWatch hN h2)

/-- **`SATSolver::new` never runs out of fuel** (on clause lists in `Cnf::new` normal form) -/
theorem new_total {cnf : Cnf} (hN : CnfNormal cnf) : ∃ o, Solver.new cnf = some o := by
  have hup : ∃ out, upNew cnf true (defaultFuel cnf) = some out := by
    unfold upNew
    split
    · exact ⟨_, rfl⟩
    · exact decideAll_total hN _ _ _ (initWatches_twoWatch cnf hN)
  obtain ⟨out, ho⟩ := hup
  exact ⟨_, by rw [new_eq, ho]; rfl⟩

/-- **`SATSolver::decide` never runs out of fuel and never finds an empty stack** on a state
satisfying the invariant -/
theorem decide_total {s : Solver} {ds : List Lit} (hI : Inv s ds) (hN : CnfNormal s.cnf) (l : Lit) :
    ∃ s' r, s.decide l = .ok s' r := by
  obtain ⟨top, rest, hst, _, _⟩ := hI.stack.top
  obtain ⟨out, ho⟩ := decideK_total hN (hI.two hN) top.model l
  unfold Solver.decide Solver.decideWith
  rw [hst]
  simp only []
  rw [hI.fuel, ho]
  obtain ⟨wl1, r1⟩ := out
  cases r1 with
  | none => exact ⟨_, _, rfl⟩
  | some m1 => exact ⟨_, _, rfl⟩

/-- `SATSolver::new` of the model always answers (a solver or the Rust `None`) -/
theorem new_total_normal {cnf : Cnf} (hN : CnfNormal cnf) : ∃ o, Solver.new cnf = some o :=
  new_total hN

/-- after any history, `decide` of any literal answers `SAT`, `UNSAT` or `Unknown` — never the
model's `error` (fuel exhausted / empty stack) -/
theorem history_decide_total {cnf : Cnf} (hN : CnfNormal cnf) {s : Solver} {ds : List Lit}
    (h : Reach cnf s ds) (l : Lit) : ∃ s' r, s.decide l = .ok s' r := by
  obtain ⟨hI, rfl⟩ := reach_inv h
  exact decide_total hI hN l

end UnitProp
