import RsddModel.Lemmas.BddStoreIte
/-!
# Lemmas: the store-level `cond_with_alloc` refines the tree-level one

`Scratch.condAlloc` (memo `HashMap<BddPtr, BddPtr>` keyed by references) against
`Bdd.condWithAlloc` (memo keyed by trees), in lockstep: the tree-level memo is the reference-level
memo mapped through `unfold` (`memoT`), every pointer test (`l == h`, `l != low_raw`, the memo
lookup) agrees by injectivity of `unfold`.  Then `condS`, `condModelS` (allocation only: `Grows`)
and `existsS`, `composeS` (conclusion `Sim`, chained with `Sim.seq`/`Sim.after`).
-/
namespace BddStore
open Bdd Scratch Spec

/-! ## memos -/

/-- the tree-level memo a reference-level memo unfolds to -/
def memoT (s : Store) (m : CondCache) : Memo := m.map fun e => (unfold s e.1, unfold s e.2)

def MemoValid (s : Store) (m : CondCache) : Prop := ∀ e ∈ m, e.1.ValidIn s ∧ e.2.ValidIn s

theorem memoValid_nil (s : Store) : MemoValid s [] := by intro e he; cases he

theorem MemoValid.extends {s' s : Store} (he : Extends s' s) {m : CondCache} (h : MemoValid s m) :
    MemoValid s' m := fun e hm => ⟨validIn_extends he (h e hm).1, validIn_extends he (h e hm).2⟩

theorem MemoValid.cons {s : Store} {m : CondCache} (h : MemoValid s m) {k v : Ref} (hk : k.ValidIn s)
    (hv : v.ValidIn s) : MemoValid s ((k, v) :: m) := List.forall_mem_cons.2 ⟨⟨hk, hv⟩, h⟩

theorem memoT_cons (s : Store) (k v : Ref) (m : CondCache) :
    memoT s ((k, v) :: m) = (unfold s k, unfold s v) :: memoT s m := rfl

theorem memoT_extends {s' s : Store} (he : Extends s' s) {m : CondCache} (h : MemoValid s m) :
    memoT s' m = memoT s m :=
  List.map_congr_left fun e hm => by
    rw [unfold_extends he (h e hm).1, unfold_extends he (h e hm).2]

theorem memo_get_map {s : Store} (hs : StoreOK s) {r : Ref} (hr : r.ValidIn s) :
    ∀ {m : CondCache}, MemoValid s m →
      Memo.get (memoT s m) (unfold s r) = (CondCache.get m r).map (unfold s) ∧
      ∀ v, CondCache.get m r = some v → v.ValidIn s
  | [], _ => ⟨rfl, fun v h => by simp [CondCache.get] at h⟩
  | (k, v) :: m, hm => by
    obtain ⟨hk, hm'⟩ := List.forall_mem_cons.1 hm
    obtain ⟨ih1, ih2⟩ := memo_get_map hs hr hm'
    have e1 : (unfold s k = unfold s r) ↔ k = r := unfold_eq_iff hs hk.1 hr
    simp only [memoT, List.map_cons, Memo.get, CondCache.get, List.find?_cons, e1]
    by_cases hkr : k = r
    · subst hkr
      simp only [beq_self_eq_true, if_true, Option.map_some]
      exact ⟨trivial, fun v' h => by cases h; exact hk.2⟩
    · have : (k == r) = false := by simpa using hkr
      simp only [this, if_neg hkr]
      exact ⟨ih1, ih2⟩

/-! ## `cond_with_alloc` -/

theorem unfold_ite (s : Store) (c : Bool) (a b : Ref) :
    unfold s (if c then a else b) = if c then unfold s a else unfold s b := by cases c <;> rfl

/-- the tail of `Bdd.condWithAlloc` at the node `.node c y lo hi`, given the memo after and the
results `l`, `h` of the two recursive calls (the counterpart of `Scratch.condNode`) -/
def condNodeT (c : Bool) (y : Nat) (lo hi : Ptr) (m2 : Memo) (l h : Ptr) : Memo × Ptr :=
  if l = h then (m2, if c then l.neg else l)
  else
    let res := if l ≠ lo ∨ h ≠ hi then (if c then (mkNode y l h).neg else mkNode y l h) else .node c y lo hi
    ((.node c y lo hi, if c then res.neg else res) :: m2, res)

theorem condWithAlloc_node (lvl : Nat → Nat) (x : Nat) (b c : Bool) (y : Nat) (lo hi : Ptr) (m : Memo) :
    condWithAlloc lvl x b (.node c y lo hi) m =
      if lvl x < lvl y then (m, .node c y lo hi)
      else if y = x then (m, if c then (if b then hi else lo).neg else if b then hi else lo)
      else match Memo.get m (.node c y lo hi) with
        | some v => (m, if c then v.neg else v)
        | none => condNodeT c y lo hi (condWithAlloc lvl x b hi (condWithAlloc lvl x b lo m).1).1
            (condWithAlloc lvl x b lo m).2 (condWithAlloc lvl x b hi (condWithAlloc lvl x b lo m).1).2 := by
  simp only [condWithAlloc]; rfl

/-- the store-level outcome `o` (result, table, memo) of a call started in table `cur` is matched
by the tree-level outcome `O` (memo, result) -/
def CondSim (cur : Store) (o : Ref × Store × CondCache) (O : Memo × Ptr) : Prop :=
  StoreOK o.2.1 ∧ Extends o.2.1 cur ∧ o.1.ValidIn o.2.1 ∧ MemoValid o.2.1 o.2.2 ∧
    O = (memoT o.2.1 o.2.2, unfold o.2.1 o.1)

/-- a call that returns `v` up to the sign `c` and changes nothing -/
theorem CondSim.signed {cur : Store} {m : CondCache} (hs : StoreOK cur) (hm : MemoValid cur m) (c : Bool)
    {v : Ref} (hv : v.ValidIn cur) :
    CondSim cur (if c then v.neg else v, cur, m) (memoT cur m, if c then (unfold cur v).neg else unfold cur v) :=
  ⟨hs, Extends.refl _, validIn_ite (validIn_neg hv) hv, hm, by rw [unfold_ite, unfold_neg]⟩

theorem condSim_leaf (lvl : Nat → Nat) (x : Nat) (b : Bool) {cur : Store} {m : CondCache} {r : Ref}
    (hs : StoreOK cur) (hm : MemoValid cur m) (hi : r.idx? = none) :
    CondSim cur (r, cur, m) (condWithAlloc lvl x b (unfold cur r) (memoT cur m)) := by
  cases r with
  | tru => exact ⟨hs, Extends.refl _, validIn_tru _, hm, by rw [unfold_tru, condWithAlloc]⟩
  | fls => exact ⟨hs, Extends.refl _, validIn_fls _, hm, by rw [unfold_fls, condWithAlloc]⟩
  | reg i => cases hi
  | compl i => cases hi

theorem condNode_sim {s : Store} (hs : StoreOK s) {n : Node} {r : Ref} {i : Nat} (hi : r.idx? = some i)
    (hn : nodeAt s i = some n) {l h : Ref} (hl : l.ValidIn s) (hh : h.ValidIn s) {m : CondCache}
    (hm : MemoValid s m) (st1 : Store × CondCache) :
    CondSim s (condNode n r (l, st1) (h, (s, m)))
      (condNodeT r.isNeg n.var (unfold s n.lo) (unfold s n.hi) (memoT s m) (unfold s l) (unfold s h)) := by
  obtain ⟨lo, hi'⟩ := hs.child_valid hn
  have hr : r.ValidIn s := fun j hj => by rw [hi] at hj; cases hj; exact nodeAt_lt hn
  have hu := unfold_of_nodeAt hs hi hn
  refine ite_rel (R := CondSim s) (unfold_eq_iff hs hl hh).symm ?_ ?_
  · exact CondSim.signed hs hm _ hl
  · simp only [ne_eq, unfold_eq_iff hs hl lo, unfold_eq_iff hs hh hi', ← hu]
    by_cases hch : ¬l = n.lo ∨ ¬h = n.hi
    · simp only [if_pos hch]
      obtain ⟨s3ok, e3, av, au⟩ := getOrInsert_spec hs (x := n.var) hl hh
      generalize getOrInsert s ⟨n.var, l, h⟩ = a at s3ok e3 av au ⊢
      have resv : (if r.isNeg then a.2.neg else a.2).ValidIn a.1 := validIn_ite (validIn_neg av) av
      refine ⟨s3ok, e3, resv, (hm.extends e3).cons (validIn_extends e3 hr) (validIn_ite (validIn_neg resv) resv), ?_⟩
      rw [memoT_cons, memoT_extends e3 hm, unfold_extends e3 hr]
      simp only [unfold_ite, unfold_neg, au]
    · simp only [if_neg hch]
      refine ⟨hs, Extends.refl _, hr, hm.cons hr (validIn_ite (validIn_neg hr) hr), ?_⟩
      simp only [memoT_cons, unfold_ite, unfold_neg]

/-- **the store-level `cond_with_alloc` refines the tree-level one, memo included** -/
theorem condAlloc_refines (lvl : Nat → Nat) (x : Nat) (b : Bool) :
    ∀ (view : Store) (r : Ref) (cur : Store) (m : CondCache),
      StoreOK cur → Extends cur view → r.ValidIn view → MemoValid cur m →
      CondSim cur (condAlloc (ltOf lvl) x b view r (cur, m))
        (condWithAlloc lvl x b (unfold cur r) (memoT cur m))
  | [], r, cur, m, hs, _, hr, hm => by
    rw [condAlloc_none _ _ _ _ (validIn_nil hr)]; exact condSim_leaf lvl x b hs hm (validIn_nil hr)
  | n :: rest, r, cur, m, hs, he, hr, hm => by
    have heRest : Extends cur rest := he.trans (Extends.cons n rest)
    cases hi : r.idx? with
    | none => rw [condAlloc_none _ _ _ _ hi]; exact condSim_leaf lvl x b hs hm hi
    | some i =>
      by_cases hne : i = rest.length
      · subst hne
        -- the node `r` points to
        have hnode : nodeAt cur rest.length = some n := nodeAt_extends he (nodeAt_cons_self n rest)
        obtain ⟨nlo, nhi⟩ : n.lo.ValidIn rest ∧ n.hi.ValidIn rest := hs.child_lt hnode
        have loC : n.lo.ValidIn cur := validIn_extends heRest nlo
        have hiC : n.hi.ValidIn cur := validIn_extends heRest nhi
        have rC : r.ValidIn cur := validIn_extends he hr
        have hu := unfold_of_nodeAt hs hi hnode
        rw [condAlloc_cons_eq _ _ _ n rest hi, hu, condWithAlloc_node, ← hu]
        -- passed the variable; the conditioned variable
        refine ite_rel (R := CondSim cur) (by simp only [ltOf, decide_eq_true_eq]) ⟨hs, Extends.refl _, rC, hm, rfl⟩ ?_
        refine ite_rel Iff.rfl ?_ ?_
        · have := CondSim.signed hs hm r.isNeg (validIn_ite (c := b) hiC loC)
          rwa [unfold_ite] at this
        obtain ⟨hget, hgetv⟩ := memo_get_map hs rC hm
        rw [hget]
        cases hg : CondCache.get m r with
        | some v =>
          exact CondSim.signed hs hm _ (hgetv v hg)
        | none =>
          -- the two recursive calls, then the node step in the table they leave
          have ih1 := condAlloc_refines lvl x b rest n.lo cur m hs heRest nlo hm
          generalize condAlloc (ltOf lvl) x b rest n.lo (cur, m) = o1 at ih1 ⊢
          obtain ⟨l, s1, m1⟩ := o1
          obtain ⟨s1ok, e1, lv, m1v, run1⟩ := ih1
          have ih2 := condAlloc_refines lvl x b rest n.hi s1 m1 s1ok (e1.trans heRest) nhi m1v
          rw [unfold_extends e1 hiC] at ih2
          generalize condAlloc (ltOf lvl) x b rest n.hi (s1, m1) = o2 at ih2 ⊢
          obtain ⟨h, s2, m2⟩ := o2
          obtain ⟨s2ok, e2, hv, m2v, run2⟩ := ih2
          simp only at s1ok e1 lv m1v run1 s2ok e2 hv m2v run2
          have e02 := e2.trans e1
          simp only [Option.map_none, run1, run2]
          rw [← unfold_extends e2 lv, ← unfold_extends e02 loC, ← unfold_extends e02 hiC]
          obtain ⟨c1, c2, c3⟩ := condNode_sim s2ok hi (nodeAt_extends e02 hnode) (validIn_extends e2 lv) hv m2v (s1, m1)
          exact ⟨c1, c2.trans e02, c3⟩
      · -- `r` points below the head of the view
        have hr' : r.ValidIn rest := fun j hj => by
          rw [hi] at hj; cases hj
          exact Nat.lt_of_le_of_ne (Nat.le_of_lt_succ (hr i hi)) hne
        rw [condAlloc_cons_ne _ _ _ n rest hi hne]
        exact condAlloc_refines lvl x b rest r cur m hs heRest hr' hm

/-! ## the table stays reduced -/

theorem condAlloc_red (lt : Nat → Nat → Bool) (x : Nat) (b : Bool) (view : Store) (r : Ref)
    (st : Store × CondCache) (h : StoreRed st.1) : StoreRed (condAlloc lt x b view r st).2.1 :=
  condAlloc_store_rel lt x b (fun s' s => StoreRed s → StoreRed s') (fun _ h => h)
    (fun h1 h2 h => h1 (h2 h)) (fun _ _ _ _ hne hr => getOrInsert_red hr hne) view r st h

theorem condS_red (lvl : Nat → Nat) {s : Store} (h : StoreRed s) (r : Ref) (x : Nat) (b : Bool) :
    StoreRed (condS lvl s r x b).1 := condAlloc_red _ x b s r (s, []) h

theorem condModelS_red (lvl : Nat → Nat) : ∀ (mdl : List (Nat × Bool)) {s : Store}, StoreRed s →
    ∀ (r : Ref), StoreRed (condModelS lvl s r mdl).1
  | [], _, h, _ => h
  | (x, b) :: rest, _, h, r => condModelS_red lvl rest (condS_red lvl h r x b) _

/-! ## `condition`, `cond_model`, `exists`, `compose` -/

/-- **`condition` at store level is `condition` at tree level** -/
theorem condS_spec (lvl : Nat → Nat) {s : Store} (hs : StoreOK s) {r : Ref} (hr : r.ValidIn s)
    (x : Nat) (b : Bool) : Grows s (condS lvl s r x b) (condition lvl (unfold s r) x b) := by
  obtain ⟨h1, h2, h3, _, h5⟩ := condAlloc_refines lvl x b s r s [] hs (Extends.refl s) hr (memoValid_nil s)
  exact ⟨h1, h2, h3, (congrArg Prod.snd h5).symm⟩

theorem condModelS_spec (lvl : Nat → Nat) : ∀ (mdl : List (Nat × Bool)) {s : Store}, StoreOK s →
    ∀ {r : Ref}, r.ValidIn s → Grows s (condModelS lvl s r mdl) (condModel lvl (unfold s r) mdl)
  | [], s, hs, r, hr => ⟨hs, Extends.refl s, hr, rfl⟩
  | (x, b) :: rest, s, hs, r, hr => by
    obtain ⟨a1, a2, a3, a4⟩ := condS_spec lvl hs hr x b
    obtain ⟨b1, b2, b3, b4⟩ := condModelS_spec lvl rest a1 a3
    simp only [condModelS, condModel]
    exact ⟨b1, b2.trans a2, b3, by rw [b4, a4]⟩

section ops
variable {CS : CacheS} {CT : CacheImpl} (sim : CacheSim CS CT) (lvl : Nat → Nat) (fuel : Nat)
  {st st' : Store × CS.σ} {f g r : Ref} {F G : Ptr} (x : Nat) (hs : StoreOK st.1) (hc : CacheValid CS st.1 st.2)
  (hf : f.ValidIn st.1) (hF : unfold st.1 f = F)
include hs hc hf hF

theorem existsS_sim (hrun : existsS CS lvl fuel st f x = some (st', r)) :
    Sim sim st st' r (fun cT => bExists CT lvl fuel cT F x) := by
  subst hF
  have g1 := condS_spec lvl hs hf x true
  have g2 := condS_spec lvl g1.ok (g1.keep hf).1 x false
  rw [(g1.keep hf).2] at g2
  exact Sim.after hs hc g1 (condS_red lvl · f x true) <|
    Sim.after g1.ok (hc.extends g1.ext) g2 (condS_red lvl · f x false) <|
    orS_sim sim lvl fuel g2.ok (hc.extends (g2.ext.trans g1.ext)) (g2.keep g1.valid).1 g2.valid
      ((g2.keep g1.valid).2.trans g1.unfold) g2.unfold hrun

theorem composeS_sim (hg : g.ValidIn st.1) (hG : unfold st.1 g = G)
    (hrun : composeS CS lvl fuel st f x g = some (st', r)) :
    Sim sim st st' r (fun cT => bCompose CT lvl fuel cT F x G) := by
  simp only [composeS] at hrun
  split at hrun
  · cases hrun
  · rename_i st1 i h1
    split at hrun
    · cases hrun
    · rename_i st2 a h2
      have gv := varS_spec hs x true
      have si := iffS_sim sim lvl fuel (st := ((varS st.1 x true).1, st.2)) gv.ok (hc.extends gv.ext) gv.valid
        (gv.keep hg).1 gv.unfold ((gv.keep hg).2.trans hG) h1
      have hf1 := si.keep (gv.keep hf).1
      have sa := andS_sim sim lvl fuel si.ok si.cache si.valid hf1.1 rfl (hf1.2.trans ((gv.keep hf).2.trans hF)) h2
      have se := existsS_sim sim lvl fuel x sa.ok sa.cache sa.valid rfl hrun
      -- `and` then `exists` is what `bCompose` does after its `iff`
      refine Sim.after hs hc gv (varS_red · x true) <| si.seq (sa.seq (call := fun c1 =>
          match bAnd CT lvl fuel c1 (unfold st1.1 i) F with
          | none => none
          | some (s2, a) => bExists CT lvl fuel s2 a x) se fun _ _ _ h => by simp only [h])
        fun _ _ _ h => by simp only [bCompose, h]; rfl

end ops

#print axioms condAlloc_refines
#print axioms condS_spec
end BddStore
