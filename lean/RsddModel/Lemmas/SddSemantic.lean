import RsddModel.Model.SddSemantic
import RsddModel.Lemmas.SddDep
import RsddModel.Lemmas.SddLoopSem
/-!
# Lemmas: the semantic-hash SDD builder

* ground truth: `equivB` decides equality of the denoted functions for pointers over the vtree;
* the invariant `WFd vt p` of the semantic builder (`Lemmas/SddDep.lean`): `WF` (C03) plus
  *semantic* variable sides — the primes of a node depend only on the variables of the left child
  of its vtree index, the subs only on those of the right child.  (Syntactic sides, as in `WFs`,
  are not maintained: a table lookup may return, for the requested node, a stored node of another
  vtree index that denotes the same function.)  `WFd → WF`, `WFd → DD` (so the hash of every pointer handed out is the
  weighted sum of its function), `WFs → WFd`;
* one walk over the builder, relating the run with the collision detector on (`π`) to the builder
  as shipped (`π.off`): `Run x x' Q` says that if the checked computation `x` returns `y`, the
  unchecked `x'` returns `y` too and `Q y` holds.  Every operation has one statement `*_run` of
  this form — it returns `WFd` pointers denoting the right function and keeps the tables well
  formed — for EVERY hash function `h`: with the detector on, a run that returns made only
  judgements that agree with the truth tables.  `Run` is a congruence for the shapes of `match`
  the builder is written with (`Run.judge`, `Run.pair`, `Run.loop`, …), so each proof follows its
  definition: one rule per `match`, the `none` branches need nothing, each returning branch carries
  its justification.

`C11.semantic_never_splits` adds: for `h = hashTree P w` (normalised weights below `P`), pointers
that denote the same function have the same hash, so `sdd_eq` never separates them.
-/
namespace SddSem
open Sdd Spec

/-! ## ground truth -/

theorem allAssignments_complete : ∀ (vars : List Nat) (base asg : Assign),
    ∃ b ∈ allAssignments vars base, ∀ v ∈ vars, b v = asg v
  | [], base, _ => ⟨base, by simp [allAssignments], fun _ h => by cases h⟩
  | v :: vs, base, asg => by
    obtain ⟨b, hb, hv⟩ := allAssignments_complete vs (upd base v (asg v)) asg
    refine ⟨b, ?_, ?_⟩
    · simp only [allAssignments, List.mem_append]
      cases h : asg v
      · left; rw [h] at hb; exact hb
      · right; rw [h] at hb; exact hb
    · intro u hu
      by_cases huv : u ∈ vs
      · exact hv u huv
      · have : u = v := by
          rcases List.mem_cons.1 hu with h | h
          · exact h
          · exact absurd h huv
        subst this
        rw [allAssignments_outside vs _ b hb u huv, upd_same]

/-- a property of assignments that only looks at the vtree's variables holds everywhere once it
holds on the listed assignments -/
theorem assignments_all {vt : VTree} {f : Assign → Bool}
    (hf : ∀ a a' : Assign, (∀ v ∈ vt.leaves, a v = a' v) → f a = f a') :
    (assignments vt).all f = true ↔ ∀ asg, f asg = true := by
  constructor
  · intro h asg
    obtain ⟨b, hb, hv⟩ := allAssignments_complete vt.leaves (fun _ => false) asg
    rw [← hf b asg hv]
    exact List.all_eq_true.1 h b hb
  · intro h
    exact List.all_eq_true.2 fun b _ => h b

theorem equivB_iff {vt : VTree} {a b : Ptr} (ha : ∀ v ∈ a.vars, v ∈ vt.leaves)
    (hb : ∀ v ∈ b.vars, v ∈ vt.leaves) :
    equivB vt a b = true ↔ ∀ asg, a.eval asg = b.eval asg := by
  unfold equivB
  rw [assignments_all]
  · simp
  · intro x x' hx
    rw [eval_congr a (fun v hv => hx v (ha v hv)), eval_congr b (fun v hv => hx v (hb v hv))]

theorem equivAndB_iff {vt : VTree} {r a b : Ptr} (hr : ∀ v ∈ r.vars, v ∈ vt.leaves)
    (ha : ∀ v ∈ a.vars, v ∈ vt.leaves) (hb : ∀ v ∈ b.vars, v ∈ vt.leaves) :
    equivAndB vt r a b = true ↔ ∀ asg, r.eval asg = (a.eval asg && b.eval asg) := by
  unfold equivAndB
  rw [assignments_all]
  · simp
  · intro x x' hx
    rw [eval_congr r (fun v hv => hx v (hr v hv)), eval_congr a (fun v hv => hx v (ha v hv)),
      eval_congr b (fun v hv => hx v (hb v hv))]

/-! ## checked run and unchecked run -/

/-- the builder as shipped: detector off -/
def Params.off (π : Params) : Params := { π with chk := false }

@[simp] theorem off_vt (π : Params) : π.off.vt = π.vt := rfl
@[simp] theorem off_h (π : Params) : π.off.h = π.h := rfl
@[simp] theorem off_negH (π : Params) : π.off.negH = π.negH := rfl
@[simp] theorem off_mulH (π : Params) : π.off.mulH = π.mulH := rfl
@[simp] theorem off_chk (π : Params) : π.off.chk = false := rfl

/-- if `x` returns `y`, then `x'` returns `y` too and `Q y`; below `x` is a computation with the
detector on and `x'` the same computation with the detector off -/
def Run {α : Type} (x x' : Option α) (Q : α → Prop) : Prop := ∀ y, x = some y → x' = some y ∧ Q y

namespace Run
variable {α β : Type} {Q Q' : α → Prop}

theorem pure {y : α} (h : Q y) : Run (some y) (some y) Q := fun _ e => ⟨e, Option.some.inj e ▸ h⟩

theorem fail {x' : Option α} : Run .none x' Q := fun _ e => nomatch e

theorem mono {x x' : Option α} (h : Run x x' Q) (hq : ∀ y, Q y → Q' y) : Run x x' Q' :=
  fun y e => ⟨(h y e).1, hq y (h y e).2⟩

theorem ite {c : Prop} [Decidable c] {A B A' B' : Option α} (hA : c → Run A A' Q) (hB : ¬c → Run B B' Q) :
    Run (if c then A else B) (if c then A' else B') Q := by
  split
  · exact hA ‹_›
  · exact hB ‹_›

/-- sequencing, for any way `F`, `F'` of continuing after `x`, `x'` that fails when they fail.  The rules
below are this one at the shapes of `match` the builder is written with; they are stated for the
discriminant types of `Model/SddSemantic.lean`, not for type variables: a `match` below unifies with
one of the model only when the two auxiliary matchers take the same arguments. -/
theorem bind {γ : Type} {x x' : Option γ} {X : γ → Prop} {F F' : Option γ → Option α} (hx : Run x x' X)
    (h0 : F .none = .none) (hF : ∀ v, X v → Run (F (some v)) (F' (some v)) Q) : Run (F x) (F' x') Q := by
  intro y h
  cases x with
  | none => rw [h0] at h; cases h
  | some v => rw [(hx v rfl).1]; exact hF v (hx v rfl).2 y h

theorem map {x x' : Option α} {X : α → Prop} {Q : β → Prop} (f : α → β) (hx : Run x x' X)
    (hf : ∀ y, X y → Q (f y)) : Run (x.map f) (x'.map f) Q :=
  bind hx rfl fun v hv => pure (hf v hv)

theorem judge {x x' : Option Bool} {J : Bool → Prop} {A B A' B' : Option α} (hx : Run x x' J)
    (hA : J true → Run A A' Q) (hB : J false → Run B B' Q) :
    Run (match (motive := Option Bool → Option α) x with | .none => .none | some true => A | some false => B)
      (match (motive := Option Bool → Option α) x' with
        | .none => .none | some true => A' | some false => B') Q := by
  apply bind hx
  · rfl
  · intro b hb
    cases b
    · exact hB hb
    · exact hA hb

theorem pair {x x' : Option (St × Ptr)} {X : St × Ptr → Prop} {K K' : St → Ptr → Option α}
    (hx : Run x x' X) (hK : ∀ st r, X (st, r) → Run (K st r) (K' st r) Q) :
    Run (match (motive := Option (St × Ptr) → Option α) x with | .none => .none | some (st, r) => K st r)
      (match (motive := Option (St × Ptr) → Option α) x' with
        | .none => .none | some (st, r) => K' st r) Q := by
  apply bind hx
  · rfl
  · exact fun v hv => hK v.1 v.2 hv

theorem pairE {x x' : Option (St × List Elem)} {X : St × List Elem → Prop} {K K' : St → List Elem → Option α}
    (hx : Run x x' X) (hK : ∀ st l, X (st, l) → Run (K st l) (K' st l) Q) :
    Run (match (motive := Option (St × List Elem) → Option α) x with
        | .none => .none | some (st, l) => K st l)
      (match (motive := Option (St × List Elem) → Option α) x' with
        | .none => .none | some (st, l) => K' st l) Q := by
  apply bind hx
  · rfl
  · exact fun v hv => hK v.1 v.2 hv

theorem pairL {x x' : Option (St × List Ptr)} {X : St × List Ptr → Prop} {K K' : St → List Ptr → Option α}
    (hx : Run x x' X) (hK : ∀ st l, X (st, l) → Run (K st l) (K' st l) Q) :
    Run (match (motive := Option (St × List Ptr) → Option α) x with
        | .none => .none | some (st, l) => K st l)
      (match (motive := Option (St × List Ptr) → Option α) x' with
        | .none => .none | some (st, l) => K' st l) Q := by
  apply bind hx
  · rfl
  · exact fun v hv => hK v.1 v.2 hv

theorem pairO {x x' : Option (St × Option Ptr)} {X : St × Option Ptr → Prop} {K K' : St → Option Ptr → Option α}
    (hx : Run x x' X) (hK : ∀ st o, X (st, o) → Run (K st o) (K' st o) Q) :
    Run (match (motive := Option (St × Option Ptr) → Option α) x with
        | .none => .none | some (st, o) => K st o)
      (match (motive := Option (St × Option Ptr) → Option α) x' with
        | .none => .none | some (st, o) => K' st o) Q := by
  apply bind hx
  · rfl
  · exact fun v hv => hK v.1 v.2 hv

theorem loop {x x' : Option (St × LoopRes)} {X : St × LoopRes → Prop} {E E' : St → Ptr → Option α}
    {L L' : St → List Elem → Option α} (hx : Run x x' X)
    (hE : ∀ st r, X (st, .early r) → Run (E st r) (E' st r) Q)
    (hL : ∀ st l, X (st, .elems l) → Run (L st l) (L' st l) Q) :
    Run (match (motive := Option (St × LoopRes) → Option α) x with
        | .none => .none | some (st, .early r) => E st r | some (st, .elems l) => L st l)
      (match (motive := Option (St × LoopRes) → Option α) x' with
        | .none => .none | some (st, .early r) => E' st r | some (st, .elems l) => L' st l) Q := by
  apply bind hx
  · rfl
  · intro (st, res) hv
    cases res
    · exact hE st _ hv
    · exact hL st _ hv

/-- `find` in `and_cartesian` -/
theorem found {x x' : Option (Option Elem)} {X : Option Elem → Prop} {A A' : Ptr → Ptr → Option α}
    {B B' : Option α} (hx : Run x x' X) (hA : ∀ q s, X (some (q, s)) → Run (A q s) (A' q s) Q)
    (hB : X .none → Run B B' Q) :
    Run (match (motive := Option (Option Elem) → Option α) x with
        | .none => .none | some (some (q, s)) => A q s | some .none => B)
      (match (motive := Option (Option Elem) → Option α) x' with
        | .none => .none | some (some (q, s)) => A' q s | some .none => B') Q := by
  apply bind hx
  · rfl
  · intro o ho
    cases o
    · exact hB ho
    · exact hA _ _ ho

/-- the apply-cache lookup -/
theorem hit {x x' : Option (Option Ptr)} {X : Option Ptr → Prop} {A A' : Ptr → Option α}
    {B B' : Option α} (hx : Run x x' X) (hA : ∀ v, X (some v) → Run (A v) (A' v) Q)
    (hB : X .none → Run B B' Q) :
    Run (match (motive := Option (Option Ptr) → Option α) x with
        | .none => .none | some (some v) => A v | some .none => B)
      (match (motive := Option (Option Ptr) → Option α) x' with
        | .none => .none | some (some v) => A' v | some .none => B') Q := by
  apply bind hx
  · rfl
  · intro o ho
    cases o
    · exact hB ho
    · exact hA _ ho

end Run

/-! ## judgements with the detector on -/

theorem guardJ_some {α : Type} {π : Params} {ok : Bool} {x y : α} (h : guardJ π ok x = some y) :
    y = x ∧ (π.chk = true → ok = true) := by
  unfold guardJ at h
  split at h
  · cases h
  · rename_i hc
    cases h
    refine ⟨rfl, fun hchk => ?_⟩
    cases ok
    · simp [hchk] at hc
    · rfl

theorem eqJ_val {π : Params} {a b : Ptr} {r : Bool} (h : eqJ π a b = some r) :
    r = (π.h a == π.h b) := (guardJ_some h).1

theorem eqJ_true {π : Params} (hc : π.chk = true) {a b : Ptr} (wa : WFd π.vt a) (wb : WFd π.vt b)
    (h : eqJ π a b = some true) : ∀ asg, a.eval asg = b.eval asg := by
  obtain ⟨h1, h2⟩ := guardJ_some h
  have := h2 hc
  rw [← h1] at this
  simp only [beq_iff_eq] at this
  exact (equivB_iff (WFd_vars a wa) (WFd_vars b wb)).1 this.symm

/-- the constants are recognised (whatever the hash function) -/
theorem isTrueJ_false_ne {π : Params} {a : Ptr} (h : isTrueJ π a = some false) : a.isTrue = false := by
  cases a with
  | tru => have := eqJ_val h; simp at this
  | _ => rfl

theorem isFalseJ_false_ne {π : Params} {a : Ptr} (h : isFalseJ π a = some false) : a.isFalse = false := by
  cases a with
  | fls => have := eqJ_val h; simp at this
  | _ => rfl

/-! ## judgements, checked against unchecked -/
section
variable {π : Params} (hc : π.chk = true)
include hc

theorem guardJ_run {α : Type} (ok : Bool) (x : α) :
    Run (guardJ π ok x) (guardJ π.off ok x) fun y => y = x ∧ ok = true := fun y h =>
  ⟨by rw [(guardJ_some h).1]; simp [guardJ], (guardJ_some h).1, (guardJ_some h).2 hc⟩

/-- a judgement that came out `true` is true of the functions (a `false` tells nothing about them) -/
theorem eqJ_run {a b : Ptr} (wa : WFd π.vt a) (wb : WFd π.vt b) :
    Run (eqJ π a b) (eqJ π.off a b) fun r => cond r (∀ asg, a.eval asg = b.eval asg) True := fun r h =>
  ⟨(guardJ_run hc _ _ r h).1, by
    cases r
    · exact trivial
    · exact eqJ_true hc wa wb h⟩

theorem isTrueJ_run {a : Ptr} (wa : WFd π.vt a) :
    Run (isTrueJ π a) (isTrueJ π.off a) fun r => cond r (∀ asg, a.eval asg = true) (a.isTrue = false) :=
  fun r h => ⟨(guardJ_run hc _ _ r h).1, by
    cases r
    · exact isTrueJ_false_ne h
    · exact fun asg => by rw [eqJ_true hc wa (WFd_tru _) h asg]; simp⟩

theorem isFalseJ_run {a : Ptr} (wa : WFd π.vt a) :
    Run (isFalseJ π a) (isFalseJ π.off a) fun r => cond r (∀ asg, a.eval asg = false) (a.isFalse = false) :=
  fun r h => ⟨(guardJ_run hc _ _ r h).1, by
    cases r
    · exact isFalseJ_false_ne h
    · exact fun asg => by rw [eqJ_true hc wa (WFd_fls _) h asg]; simp⟩

omit hc in
theorem andJ_run {x y x' y' : Option Bool} {X Y : Bool → Prop} (hx : Run x x' X) (hy : Run y y' Y) :
    Run (andJ x y) (andJ x' y') fun r => cond r (X true ∧ Y true) True := by
  apply Run.bind hx
  · rfl
  · intro b hb
    cases b
    · exact .pure trivial
    · refine hy.mono fun r hr => ?_
      cases r
      · exact trivial
      · exact ⟨hb, hr⟩

/-- nothing is learnt from this judgement: it only chooses which of a node and its negation is stored -/
theorem flipJ_run (s : Ptr) : Run (flipJ π s) (flipJ π.off s) fun _ => True := fun r h => by
  refine ⟨?_, trivial⟩
  unfold flipJ isFalseJ at h ⊢
  split at h
  · rwa [if_pos ‹_›]
  · rw [if_neg ‹_›]
    cases hj : eqJ π s .fls with
    | none => rw [hj] at h; cases h
    | some c =>
      rw [show eqJ π.off s .fls = some c from (guardJ_run hc _ _ c hj).1]
      rwa [hj] at h

end

/-! ## state invariant: every stored pointer is well formed -/

def Inv (π : Params) (st : St) : Prop :=
  (∀ k m, ListCache.get st.tbl k = some m → WFd π.vt m) ∧
  (∀ k r, ListCache.get st.app k = some r → WFd π.vt r)

theorem inv_init (π : Params) : Inv π St.init :=
  ⟨fun _ _ h => (by cases h), fun _ _ h => (by cases h)⟩

theorem listGet_cons {k k' : Nat} {v v' : Ptr} {s : List (Nat × Ptr)}
    (h : ListCache.get ((k, v) :: s) k' = some v') : (k' = k ∧ v' = v) ∨ ListCache.get s k' = some v' :=
  (ListCache Nat).lawful s k v k' v' h

theorem shared_wfd {π : Params} {st : St} (hinv : Inv π st) {x : Nat} {r : Ptr}
    (h : shared st x = some r) : WFd π.vt r := by
  unfold shared at h
  split at h
  · cases h; exact WFd_fls _
  · split at h
    · cases h; exact WFd_tru _
    · exact hinv.1 _ _ h

section
variable {π : Params} (hc : π.chk = true)
include hc

theorem getOrInsert_run {st : St} {node : Ptr} (hinv : Inv π st) (wn : WFd π.vt node) :
    Run (getOrInsert π st node) (getOrInsert π.off st node) fun y =>
      Inv π y.1 ∧ WFd π.vt y.2 ∧ ∀ asg, y.2.eval asg = node.eval asg := by
  have fin : ∀ {res : St × Ptr}, Inv π res.1 → WFd π.vt res.2 →
      Run (guardJ π (equivB π.vt res.2 node) res) (guardJ π.off (equivB π.vt res.2 node) res) fun y =>
        Inv π y.1 ∧ WFd π.vt y.2 ∧ ∀ asg, y.2.eval asg = node.eval asg := fun i1 w1 =>
    (guardJ_run hc _ _).mono fun _ ⟨e, hok⟩ =>
      e ▸ ⟨i1, w1, (equivB_iff (WFd_vars _ w1) (WFd_vars node wn)).1 hok⟩
  simp only [getOrInsert, off_h, off_negH, off_vt]
  cases hs : shared st (π.h node) with
  | some x => exact fin hinv (shared_wfd hinv hs)
  | none =>
    cases hs2 : shared st (π.negH (π.h node)) with
    | some x => exact fin hinv (WFd_neg (shared_wfd hinv hs2))
    | none =>
      refine fin (res := (⟨(π.h node, node) :: st.tbl, st.app⟩, node)) ⟨fun k m hk => ?_, hinv.2⟩ wn
      rcases listGet_cons hk with ⟨_, rfl⟩ | hk'
      · exact wn
      · exact hinv.1 _ _ hk'

theorem appGet_run {st : St} {a b : Ptr} (hinv : Inv π st) (wa : WFd π.vt a) (wb : WFd π.vt b) :
    Run (appGet π st a b) (appGet π.off st a b) fun o =>
      ∀ x, o = some x → WFd π.vt x ∧ ∀ asg, x.eval asg = (a.eval asg && b.eval asg) := by
  have e : appKey π.off a b = appKey π a b := rfl
  simp only [appGet, e, off_vt]
  split
  · exact .pure fun _ h => nomatch h
  · rename_i y hy
    have wy : WFd π.vt y := by
      split at hy
      · cases hy; exact WFd_fls _
      · split at hy
        · cases hy; exact WFd_tru _
        · exact hinv.2 _ _ hy
    exact (guardJ_run hc _ _).mono fun _ ⟨e, hok⟩ x hx => by
      cases e.symm.trans hx
      exact ⟨wy, (equivAndB_iff (WFd_vars y wy) (WFd_vars a wa) (WFd_vars b wb)).1 hok⟩

end

theorem appInsert_inv {π : Params} {st : St} {a b r : Ptr} (hinv : Inv π st) (wr : WFd π.vt r) :
    Inv π (appInsert π st a b r) := by
  unfold appInsert
  split
  · refine ⟨hinv.1, fun k x hk => ?_⟩
    rcases listGet_cons hk with ⟨_, rfl⟩ | hk'
    · exact wr
    · exact hinv.2 _ _ hk'
  · exact hinv

/-! ## unique_bdd / unique_or -/
section
variable {π : Params} (hc : π.chk = true)

theorem appInsert_off (st : St) (a b r : Ptr) : appInsert π.off st a b r = appInsert π st a b r := rfl

include hc

theorem uniqueBdd_run {st : St} {l idx : Nat} {lo hi : Ptr}
    (hinv : Inv π st) (hint : Internal π.vt idx) (hl : l ∈ π.vt.leftVars idx)
    (wlo : WFd π.vt lo) (whi : WFd π.vt hi)
    (dlo : DepIn (π.vt.rightVars idx) lo) (dhi : DepIn (π.vt.rightVars idx) hi) :
    Run (uniqueBdd π st l lo hi idx) (uniqueBdd π.off st l lo hi idx)
      fun y => Inv π y.1 ∧ WFd π.vt y.2 ∧ ∀ a, y.2.eval a = if a l then hi.eval a else lo.eval a :=
  have hlv : l ∈ π.vt.leaves := leftVars_leaves hl
  .judge (eqJ_run hc whi wlo) (fun he => .pure ⟨hinv, whi, fun a => by rw [he a]; simp⟩) fun _ =>
  .judge (andJ_run (isFalseJ_run hc whi) (isTrueJ_run hc wlo))
    (fun h => .pure ⟨hinv, hlv, fun a => by simp [eval_lit, h.1 a, h.2 a]⟩) fun _ =>
  .judge (andJ_run (isTrueJ_run hc whi) (isFalseJ_run hc wlo))
    (fun h => .pure ⟨hinv, hlv, fun a => by simp [eval_lit, h.1 a, h.2 a]⟩) fun _ =>
  .judge (flipJ_run hc hi)
    (fun _ => .pair (getOrInsert_run hc hinv (node := .bdd false l idx lo.neg hi.neg)
        ⟨hint, hl, depIn_neg dlo, depIn_neg dhi, WFd_neg wlo, WFd_neg whi⟩) fun st1 r1 ⟨i1, w1, e1⟩ =>
      .pure ⟨i1, WFd_neg w1, fun a => by rw [eval_neg, e1, eval_bdd]; cases a l <;> simp⟩)
    fun _ => (getOrInsert_run hc hinv (node := .bdd false l idx lo hi) ⟨hint, hl, dlo, dhi, wlo, whi⟩).mono
      fun _ ⟨i1, w1, e1⟩ => ⟨i1, w1, fun a => by rw [e1, eval_bdd]; simp⟩

theorem uniqueOr_run {st : St} {es : List Elem} {table : Nat}
    (hinv : Inv π st) (hint : Internal π.vt table) (hpart : Partition es)
    (hok : ElemsOKd π.vt (π.vt.leftVars table) (π.vt.rightVars table) es) :
    Run (uniqueOr π st es table) (uniqueOr π.off st es table) fun y =>
      Inv π y.1 ∧ WFd π.vt y.2 ∧ ∀ a, y.2.eval a = evalElems a es := by
  unfold uniqueOr
  split
  · rename_i l lo hi hb
    obtain ⟨x, pol, p1, s0, s1, rfl, rfl, rfl⟩ := asBdd?_some hb
    obtain ⟨rfl, rfl⟩ := partition_two_lits hpart
    obtain ⟨_, ws0, _, ds0⟩ := hok _ (List.mem_cons_self ..)
    obtain ⟨_, ws1, dl1, ds1⟩ := hok _ (List.mem_cons_of_mem _ (List.mem_cons_self ..))
    have hl := depIn_lit_mem dl1
    -- `x = l` and the first literal is `¬p1`: which sub is the low child depends on `p1` only
    cases p1
    · exact (uniqueBdd_run hc hinv hint hl ws1 ws0 ds1 ds0).mono fun _ ⟨i1, w1, e1⟩ =>
        ⟨i1, w1, fun a => by rw [e1 a]; cases h1 : a x <;> simp [eval_lit, h1]⟩
    · exact (uniqueBdd_run hc hinv hint hl ws0 ws1 ds0 ds1).mono fun _ ⟨i1, w1, e1⟩ =>
        ⟨i1, w1, fun a => by rw [e1 a]; cases h1 : a x <;> simp [eval_lit, h1]⟩
  · split
    · exact .fail
    · rename_i p0 s0 rest hs
      have hcnt : ∀ a, cnt a ((p0, s0) :: rest) = 1 := fun a => by rw [← hs, cnt_sortByPrime]; exact hpart a
      have hev : ∀ a, evalElems a ((p0, s0) :: rest) = evalElems a es := fun a => by
        rw [← hs, evalElems_sortByPrime]
      have hok' : ElemsOKd π.vt (π.vt.leftVars table) (π.vt.rightVars table) ((p0, s0) :: rest) :=
        fun e he => hok e (mem_sortByPrime.1 (hs ▸ he))
      have wn : WFd π.vt (.dec false table ((p0, s0) :: rest)) := WFd_dec.2 ⟨hint, hcnt, hok'⟩
      have wn' : WFd π.vt (.dec false table (negSubs ((p0, s0) :: rest))) :=
        WFd_dec.2 ⟨hint, fun a => by rw [cnt_negSubs]; exact hcnt a, ElemsOKd_negSubs hok'⟩
      exact .judge (flipJ_run hc s0)
        (fun _ => .pair (getOrInsert_run hc hinv wn') fun st1 r1 ⟨i1, w1, e1⟩ =>
          .pure ⟨i1, WFd_neg w1, fun a => by
            rw [eval_neg, e1, eval_dec, evalElems_negSubs (hcnt a), ← hev a]; simp⟩)
        fun _ => (getOrInsert_run hc hinv wn).mono fun _ ⟨i1, w1, e1⟩ =>
          ⟨i1, w1, fun a => by rw [e1, eval_dec, ← hev a]; simp⟩

/-! ## the recursive call, abstractly -/

def AndRun (π : Params) (andF andF' : AndF) : Prop :=
  ∀ st a b, Inv π st → WFd π.vt a → WFd π.vt b →
    Run (andF st a b) (andF' st a b) fun y =>
      Inv π y.1 ∧ WFd π.vt y.2 ∧ ∀ asg, y.2.eval asg = (a.eval asg && b.eval asg)

variable {andF andF' : AndF} {L R : List Nat}

/-- the invariant half of a loop's postcondition (the semantic half is `InnerSem` / `ProdSem` /
`CondSem`) -/
def ResOKd (π : Params) (L R : List Nat) : LoopRes → Prop
  | .elems l => ElemsOKd π.vt L R l
  | .early r => WFd π.vt r

omit hc in
theorem subDescLoop_run (hand : AndRun π andF andF') {d : Ptr} (wd : WFd π.vt d) (dd : DepIn R d) :
    ∀ (es : List Elem) (st : St), Inv π st → ElemsOKd π.vt L R es →
    Run (subDescLoop andF d st es) (subDescLoop andF' d st es) fun y =>
      Inv π y.1 ∧ ElemsOKd π.vt L R y.2 ∧ ∀ a, cnt a y.2 = cnt a es ∧
        evalElems a y.2 = (evalElems a es && d.eval a)
  | [], _, hP, hok => .pure ⟨hP, hok, fun _ => ⟨rfl, rfl⟩⟩
  | (p, s) :: rest, st, hP, hok => by
    obtain ⟨hx, hrest⟩ := List.forall_mem_cons.1 hok
    rw [subDescLoop, subDescLoop]
    exact .pair (hand _ _ _ hP hx.2.1 wd) fun st1 ns ⟨hP1, wns, ens⟩ =>
      .pairE (subDescLoop_run hand wd dd rest st1 hP1 hrest) fun st2 v ⟨hP', hok', hsem⟩ =>
        .pure ⟨hP', List.forall_mem_cons.2 ⟨⟨hx.1, wns, hx.2.2.1, depIn_and hx.2.2.2 dd ens⟩, hok'⟩,
          subDescSem_cons ens hsem⟩

theorem innerLoop_run (hand : AndRun π andF andF') (brk : Bool) {p1 s1 : Ptr}
    (wp1 : WFd π.vt p1) (ws1 : WFd π.vt s1) (dp1 : DepIn L p1) (ds1 : DepIn R s1) :
    ∀ (eb : List Elem) (st : St), Inv π st → ElemsOKd π.vt L R eb →
    Run (innerLoop π andF brk p1 s1 st eb) (innerLoop π.off andF' brk p1 s1 st eb) fun y =>
      Inv π y.1 ∧ ResOKd π L R y.2 ∧ InnerSem p1 s1 eb y.2
  | [], _, hP, hok => .pure ⟨hP, hok, innerSem_nil⟩
  | (p2, s2) :: rest, st, hP, hok => by
    obtain ⟨hx, hrest⟩ := List.forall_mem_cons.1 hok
    rw [innerLoop, innerLoop]
    refine .pair (hand _ _ _ hP wp1 hx.1) fun st1 p ⟨hP1, wp, ep⟩ =>
      .judge (isFalseJ_run hc wp)
        (fun hpf => (innerLoop_run hand brk wp1 ws1 dp1 ds1 rest st1 hP1 hrest).mono fun _ h =>
          ⟨h.1, h.2.1, innerSem_skip (fun a => by rw [← ep a]; exact hpf a) h.2.2⟩)
        fun _ => .pair (hand _ _ _ hP1 ws1 hx.2.1) fun st2 s ⟨hP2, ws, es⟩ => ?_
    have hps : WFd π.vt p ∧ WFd π.vt s ∧ DepIn L p ∧ DepIn R s :=
      ⟨wp, ws, depIn_and dp1 hx.2.2.1 ep, depIn_and ds1 hx.2.2.2 es⟩
    exact .judge (andJ_run (isTrueJ_run hc wp) (isTrueJ_run hc ws))
      (fun ht => .pure ⟨hP2, WFd_tru π.vt, innerSem_true (fun a => by rw [← ep a]; exact ht.1 a)
        (fun a => by rw [← es a]; exact ht.2 a)⟩)
      fun _ => .judge (J := fun r => cond r (∀ a, p1.eval a = p.eval a) True)
        (.ite (fun _ => eqJ_run hc wp1 wp) fun _ => .pure trivial)
        (fun hpp => .pure ⟨hP2, List.forall_mem_cons.2 ⟨hps, List.forall_mem_nil _⟩, innerSem_stop ep es hpp⟩)
        fun _ => .loop (innerLoop_run hand brk wp1 ws1 dp1 ds1 rest st2 hP2 hrest)
          (fun st3 r ⟨hP', hok', hsem⟩ => .pure ⟨hP', hok', innerSem_cons ep es hsem⟩)
          fun st3 l ⟨hP', hok', hsem⟩ => .pure ⟨hP', List.forall_mem_cons.2 ⟨hps, hok'⟩, innerSem_cons ep es hsem⟩

theorem findJ_run {p1 : Ptr} (wp1 : WFd π.vt p1) : ∀ (eb : List Elem), (∀ e ∈ eb, WFd π.vt e.1) →
    Run (findJ π p1 eb) (findJ π.off p1 eb) fun o =>
      ∀ e, o = some e → e ∈ eb ∧ ∀ a, e.1.eval a = p1.eval a
  | [], _ => .pure fun _ h => nomatch h
  | e :: rest, hw => by
    rw [findJ, findJ]
    exact .judge (eqJ_run hc (hw e List.mem_cons_self) wp1)
      (fun he => .pure fun _ h => Option.some.inj h ▸ ⟨List.mem_cons_self, he⟩)
      fun _ => (findJ_run wp1 rest fun e he => hw e (List.mem_cons_of_mem _ he)).mono fun _ h e' he' =>
        ⟨List.mem_cons_of_mem _ (h e' he').1, (h e' he').2⟩

theorem prodLoop_run (hand : AndRun π andF andF') (cart : Bool) {eb : List Elem}
    (hokb : ElemsOKd π.vt L R eb) (hpb : Partition eb) :
    ∀ (ea : List Elem) (st : St), Inv π st → ElemsOKd π.vt L R ea →
    Run (prodLoop π andF cart eb st ea) (prodLoop π.off andF' cart eb st ea) fun y =>
      Inv π y.1 ∧ ResOKd π L R y.2 ∧ ProdSem ea eb y.2
  | [], _, hP, hok => .pure ⟨hP, hok, prodSem_nil⟩
  | (p1, s1) :: rest, st, hP, hok => by
    obtain ⟨hx, hrest⟩ := List.forall_mem_cons.1 hok
    rw [prodLoop, prodLoop]
    refine .found (X := fun o => ∀ e, o = some e → e ∈ eb ∧ ∀ a, e.1.eval a = p1.eval a)
      (.ite (fun _ => findJ_run hc hx.1 eb fun e he => (hokb e he).1) fun _ => .pure fun _ h => nomatch h)
      (fun q s2 hq => ?_) fun _ => ?_
    · -- a prime of `b` judged equal to `p1`
      obtain ⟨hmem, hqe⟩ := hq _ rfl
      have hy := hokb _ hmem
      exact .pair (hand _ _ _ hP hx.2.1 hy.2.1) fun st1 s ⟨hP1, ws, es⟩ =>
        .loop (prodLoop_run hand cart hokb hpb rest st1 hP1 hrest)
          (fun st2 r ⟨hP', hok', hsem⟩ => .pure ⟨hP', hok', prodSem_found hpb hmem hqe es hsem⟩)
          fun st2 l ⟨hP', hok', hsem⟩ => .pure ⟨hP', List.forall_mem_cons.2
            ⟨⟨hx.1, ws, hx.2.2.1, depIn_and hx.2.2.2 hy.2.2.2 es⟩, hok'⟩, prodSem_found hpb hmem hqe es hsem⟩
    · exact .loop (innerLoop_run hc hand cart hx.1 hx.2.1 hx.2.2.1 hx.2.2.2 eb st hP hokb)
        (fun st1 r ⟨hP1, hok1, hsem1⟩ => .pure ⟨hP1, hok1, prodSem_inner_early hsem1⟩)
        fun st1 l1 ⟨hP1, hok1, hsem1⟩ => .loop (prodLoop_run hand cart hokb hpb rest st1 hP1 hrest)
          (fun st2 r ⟨hP', hok', hsem⟩ => .pure ⟨hP', hok', prodSem_inner hpb hsem1 hsem⟩)
          fun st2 l ⟨hP', hok', hsem⟩ =>
            .pure ⟨hP', List.forall_mem_append.2 ⟨hok1, hok'⟩, prodSem_inner hpb hsem1 hsem⟩

/-! ## the four vtree cases -/

theorem andBdd_run (hand : AndRun π andF andF') {st : St} {l i : Nat} {lo hi dlo dhi : Ptr}
    (hP : Inv π st) (hint : Internal π.vt i) (hl : l ∈ π.vt.leftVars i)
    (wlo : WFd π.vt lo ∧ DepIn (π.vt.rightVars i) lo) (whi : WFd π.vt hi ∧ DepIn (π.vt.rightVars i) hi)
    (wdlo : WFd π.vt dlo ∧ DepIn (π.vt.rightVars i) dlo)
    (wdhi : WFd π.vt dhi ∧ DepIn (π.vt.rightVars i) dhi) :
    Run (match (motive := Option (St × Ptr) → Option (St × Ptr)) andF st lo dlo with
        | none => none
        | some (st1, lr) =>
          match (motive := Option (St × Ptr) → Option (St × Ptr)) andF st1 hi dhi with
          | none => none
          | some (st2, hr) => uniqueBdd π st2 l lr hr i)
      (match (motive := Option (St × Ptr) → Option (St × Ptr)) andF' st lo dlo with
        | none => none
        | some (st1, lr) =>
          match (motive := Option (St × Ptr) → Option (St × Ptr)) andF' st1 hi dhi with
          | none => none
          | some (st2, hr) => uniqueBdd π.off st2 l lr hr i) fun y =>
      Inv π y.1 ∧ WFd π.vt y.2 ∧
        ∀ a, y.2.eval a = if a l then (hi.eval a && dhi.eval a) else (lo.eval a && dlo.eval a) :=
  .pair (hand _ _ _ hP wlo.1 wdlo.1) fun st1 lr ⟨hP1, wlr, elr⟩ =>
  .pair (hand _ _ _ hP1 whi.1 wdhi.1) fun st2 hr ⟨hP2, whr, ehr⟩ =>
  (uniqueBdd_run hc hP2 hint hl wlr whr (depIn_and wlo.2 wdlo.2 elr) (depIn_and whi.2 wdhi.2 ehr)).mono
    fun _ ⟨h1, h2, h3⟩ => ⟨h1, h2, fun a => by rw [h3, elr, ehr]⟩

theorem andSubDesc_run (hand : AndRun π andF andF') {st : St} {r d : Ptr}
    (hP : Inv π st) (wr : WFd π.vt r) (wd : WFd π.vt d)
    (dd : DepIn (π.vt.rightVars (vtreeIndex π.vt r)) d) :
    Run (andSubDesc π andF st r d) (andSubDesc π.off andF' st r d) fun y =>
      Inv π y.1 ∧ WFd π.vt y.2 ∧ ∀ a, y.2.eval a = (r.eval a && d.eval a) := by
  cases r with
  | bdd c l i lo hi =>
    obtain ⟨wlo, whi, ev⟩ := bdd_cofactors wr
    exact (andBdd_run hc hand hP wr.1 wr.2.1 wlo whi ⟨wd, dd⟩ ⟨wd, dd⟩).mono fun _ ⟨h1, h2, h3⟩ =>
      ⟨h1, h2, fun a => by rw [h3, ev]; cases a l <;> rfl⟩
  | dec c i es =>
    have hok := elems?_okd wr (es := if c then negSubs es else es) rfl
    obtain ⟨hpart, hint, hev⟩ := elems?_sem wr (es := if c then negSubs es else es) rfl
    exact .pairE (subDescLoop_run hand wd dd _ _ hP hok) fun st1 v ⟨hP1, hokv, hsem⟩ =>
      (uniqueOr_run hc hP1 hint (fun a => by rw [(hsem a).1]; exact hpart a) hokv).mono fun _ ⟨h1, h2, h3⟩ =>
        ⟨h1, h2, fun a => by rw [h3, (hsem a).2, hev]⟩
  | _ => exact .fail

theorem andProd_run (hand : AndRun π andF andF') (cart : Bool) {st : St} {ea eb : List Elem} {i : Nat}
    (hP : Inv π st) (hint : Internal π.vt i)
    (hoka : ElemsOKd π.vt (π.vt.leftVars i) (π.vt.rightVars i) ea) (hpa : Partition ea)
    (hokb : ElemsOKd π.vt (π.vt.leftVars i) (π.vt.rightVars i) eb) (hpb : Partition eb)
    {g : Assign → Bool} (hg : ∀ a, (evalElems a ea && evalElems a eb) = g a) :
    Run (match (motive := Option (St × LoopRes) → Option (St × Ptr)) prodLoop π andF cart eb st ea with
        | none => none | some (st', .early x) => some (st', x) | some (st', .elems l) => uniqueOr π st' l i)
      (match (motive := Option (St × LoopRes) → Option (St × Ptr)) prodLoop π.off andF' cart eb st ea with
        | none => none | some (st', .early x) => some (st', x) | some (st', .elems l) => uniqueOr π.off st' l i)
      fun y => Inv π y.1 ∧ WFd π.vt y.2 ∧ ∀ a, y.2.eval a = g a :=
  .loop (prodLoop_run hc hand cart hokb hpb ea st hP hoka)
    (fun st1 x ⟨hP1, hok, hsem⟩ => .pure ⟨hP1, hok, fun a => by rw [← hg, hsem.1, hsem.2 a]; rfl⟩)
    fun st1 l ⟨hP1, hok, hsem⟩ =>
      (uniqueOr_run hc hP1 hint (fun a => by rw [(hsem a).1]; exact hpa a) hok).mono fun _ ⟨h1, h2, h3⟩ =>
        ⟨h1, h2, fun a => by rw [h3, (hsem a).2, hg]⟩

theorem andPrimeDesc_run (hand : AndRun π andF andF') {st : St} {r d : Ptr}
    (hP : Inv π st) (wr : WFd π.vt r) (wd : WFd π.vt d)
    (dd : DepIn (π.vt.leftVars (vtreeIndex π.vt r)) d) :
    Run (andPrimeDesc π andF st r d) (andPrimeDesc π.off andF' st r d) fun y =>
      Inv π y.1 ∧ WFd π.vt y.2 ∧ ∀ a, y.2.eval a = (r.eval a && d.eval a) := by
  unfold andPrimeDesc
  split
  · exact .fail
  · rename_i er her
    obtain ⟨hpart, hint, hev⟩ := elems?_sem wr her
    obtain ⟨hokd, hpd, hevd⟩ := pairD_okd (R := π.vt.rightVars (vtreeIndex π.vt r)) wd dd
    have fin := andProd_run hc hand false hP hint (elems?_okd wr her) hpart hokd hpd
      (g := fun a => r.eval a && d.eval a) fun a => by rw [hev, hevd]
    cases r <;> first | exact fin | cases her

theorem andIndep_run {st : St} {a b : Ptr} {k : Nat}
    (hP : Inv π st) (wa : WFd π.vt a) (wb : WFd π.vt b) (hint : Internal π.vt k)
    (da : DepIn (π.vt.leftVars k) a) (db : DepIn (π.vt.rightVars k) b) :
    Run (andIndep π st a b k) (andIndep π.off st a b k) fun y =>
      Inv π y.1 ∧ WFd π.vt y.2 ∧ ∀ asg, y.2.eval asg = (a.eval asg && b.eval asg) := by
  obtain ⟨hok, hpart, hev⟩ := pairS_okd wa wb da db
  refine .ite (fun _ => ?_) fun _ => (uniqueOr_run hc hP hint hpart hok).mono fun _ ⟨h1, h2, h3⟩ =>
    ⟨h1, h2, fun asg => by rw [h3, hev]⟩
  cases a with
  | lit l pol =>
    cases pol
    · exact (uniqueBdd_run hc hP hint (depIn_lit_mem da) wb (WFd_fls _) db (depIn_fls _)).mono
        fun _ ⟨h1, h2, h3⟩ => ⟨h1, h2, fun asg => by rw [h3, eval_lit]; cases asg l <;> simp⟩
    · exact (uniqueBdd_run hc hP hint (depIn_lit_mem da) (WFd_fls _) wb (depIn_fls _) db).mono
        fun _ ⟨h1, h2, h3⟩ => ⟨h1, h2, fun asg => by rw [h3, eval_lit]; cases asg l <;> simp⟩
  | _ => exact .fail

theorem andCartesian_run (hand : AndRun π andF andF') {st : St} {a b : Ptr}
    (hP : Inv π st) (wa : WFd π.vt a) (wb : WFd π.vt b)
    (hidx : vtreeIndex π.vt a = vtreeIndex π.vt b) :
    Run (andCartesian π andF st a b (vtreeIndex π.vt a)) (andCartesian π.off andF' st a b (vtreeIndex π.vt a))
      fun y => Inv π y.1 ∧ WFd π.vt y.2 ∧ ∀ asg, y.2.eval asg = (a.eval asg && b.eval asg) := by
  unfold andCartesian
  rw [off_vt]
  split
  · -- both binary at a right-linear node
    rename_i c l i lo hi hm
    have hrl : π.vt.isRLAt (vtreeIndex π.vt a) = true := by
      cases hr : π.vt.isRLAt (vtreeIndex π.vt a)
      · rw [hr] at hm; simp at hm
      · rfl
    rw [hrl] at hm
    simp only [if_true] at hm
    subst hm
    split
    · rename_i bl bh hbl hbh
      cases b with
      | bdd c' l' i' lo' hi' =>
        cases hbl
        cases hbh
        simp only [vtreeIndex] at hidx hrl ⊢
        subst hidx
        obtain ⟨wlo, whi, ev⟩ := bdd_cofactors wa
        obtain ⟨wlo', whi', ev'⟩ := bdd_cofactors wb
        have hl : l ∈ π.vt.leftVars i := wa.2.1
        -- both labels are the single variable of the left leaf
        obtain ⟨w, hw0⟩ := isRLAt_leftLeaf.1 hrl
        have hll : l' = l := by
          have hl' := wb.2.1
          rw [leftLeaf_leftVars hw0, List.mem_singleton] at hl hl'
          rw [hl, hl']
        exact (andBdd_run hc hand hP wa.1 hl wlo whi wlo' whi').mono fun _ ⟨h1, h2, h3⟩ =>
          ⟨h1, h2, fun asg => by rw [h3, ev, ev', hll]; cases asg l <;> rfl⟩
      | _ => simp [Ptr.low?] at hbl
    · exact .fail
  · split
    · rename_i ea eb hea heb
      obtain ⟨hpa, hinta, heva⟩ := elems?_sem wa hea
      obtain ⟨hpb, _, hevb⟩ := elems?_sem wb heb
      exact andProd_run hc hand true hP hinta (elems?_okd wa hea) hpa (hidx ▸ elems?_okd wb heb) hpb
        fun asg => by rw [heva, hevb]
    · exact .fail
/-! ## `and` -/

theorem andCore_run (hand : AndRun π andF andF') {st : St} {x y : Ptr}
    (hP : Inv π st) (wx : WFd π.vt x) (wy : WFd π.vt y)
    (hx1 : x.isTrue = false) (hx2 : x.isFalse = false)
    (hy1 : y.isTrue = false) (hy2 : y.isFalse = false)
    (hle : vtreeIndex π.vt x = vtreeIndex π.vt y ∨ vtreeIndex π.vt x < vtreeIndex π.vt y) :
    Run (andCore π andF st x y) (andCore π.off andF' st x y) fun r =>
      Inv π r.1 ∧ WFd π.vt r.2 ∧ ∀ a, r.2.eval a = (x.eval a && y.eval a) := by
  simp only [andCore, off_vt]
  refine .hit (X := fun o => ∀ v, o = some v → WFd π.vt v ∧ ∀ a, v.eval a = (x.eval a && y.eval a))
      (appGet_run hc hP wx wy)
      (fun v hv => .pure ⟨hP, hv v rfl⟩) fun _ =>
    .pair (X := fun r => Inv π r.1 ∧ WFd π.vt r.2 ∧ ∀ a, r.2.eval a = (x.eval a && y.eval a)) ?_
      fun st1 r1 ⟨h1, h2, h3⟩ => .pure ⟨appInsert_inv h1 h2, h2, h3⟩
  refine .ite (fun heq => ?_) fun hne => ?_
  · -- same vtree node
    obtain ⟨sx, hsx⟩ := vtreeIndex_sub (WFd_WF x wx) hx1 hx2
    rw [← heq, VTree.lca_self hsx]
    exact andCartesian_run hc hand hP wx wy heq
  · obtain ⟨hint, dl, dr⟩ := lca_depIn wx wy hx1 hx2 hy1 hy2 (hle.resolve_left hne)
    -- the ancestor is `x`'s node: `y` lives in its right child; `y`'s node: `x` lives in its left child
    exact .ite (fun hka => andSubDesc_run hc hand hP wx wy (hka ▸ dr fun e => hne (hka.symm.trans e)))
      fun hna => .ite (fun hkb => (andPrimeDesc_run hc hand hP wy wx (hkb ▸ dl hna)).mono
          fun _ ⟨h1, h2, h3⟩ => ⟨h1, h2, fun a => by rw [h3, Bool.and_comm]⟩)
        fun hnb => andIndep_run hc hP wx wy hint (dl hna) (dr hnb)

theorem andBody_run (hand : AndRun π andF andF') : AndRun π (andBody π andF) (andBody π.off andF') :=
  fun st a b hP wa wb =>
  .judge (isTrueJ_run hc wa) (fun h => .pure ⟨hP, wb, fun asg => by simp [h asg]⟩) fun a1 =>
  .judge (isTrueJ_run hc wb) (fun h => .pure ⟨hP, wa, fun asg => by simp [h asg]⟩) fun b1 =>
  .judge (isFalseJ_run hc wa) (fun h => .pure ⟨hP, WFd_fls _, fun asg => by simp [h asg]⟩) fun a2 =>
  .judge (isFalseJ_run hc wb) (fun h => .pure ⟨hP, WFd_fls _, fun asg => by simp [h asg]⟩) fun b2 =>
  .judge (eqJ_run hc wa wb) (fun h => .pure ⟨hP, wa, fun asg => by simp [h asg]⟩) fun _ =>
  .judge (eqJ_run hc wa (WFd_neg wb))
    (fun h => .pure ⟨hP, WFd_fls _, fun asg => by have := h asg; rw [eval_neg] at this; rw [this]; simp⟩) fun _ =>
  .ite (fun hle => andCore_run hc hand hP wa wb a1 a2 b1 b2 hle)
    fun hle => (andCore_run hc hand hP wb wa b1 b2 a1 a2 (by omega)).mono fun _ ⟨h1, h2, h3⟩ =>
      ⟨h1, h2, fun asg => by rw [h3, Bool.and_comm]⟩

/-- **`and`**: a checked run that returns is an unchecked run, keeps the tables well formed and computes
the conjunction — for every hash function, every vtree, every fuel -/
theorem and_run : ∀ fuel, AndRun π (and π fuel) (and π.off fuel)
  | 0 => fun _ _ _ _ _ _ => .fail
  | fuel + 1 => andBody_run hc (and_run fuel)

/-! ## `condition`'s loop -/

def CondRun (π : Params) (x : Nat) (v : Bool) (condF condF' : St → Ptr → Option (St × Ptr)) : Prop :=
  ∀ st f, Inv π st → WFd π.vt f → Run (condF st f) (condF' st f) fun y =>
    Inv π y.1 ∧ WFd π.vt y.2 ∧ ∀ a, y.2.eval a = f.eval (upd a x v)

theorem condLoop_run {x : Nat} {v : Bool} {condF condF' : St → Ptr → Option (St × Ptr)}
    (hcf : CondRun π x v condF condF') :
    ∀ (es : List Elem) (st : St), Inv π st → ElemsOKd π.vt L R es →
    Run (condLoop π condF st es) (condLoop π.off condF' st es) fun y =>
      Inv π y.1 ∧ ResOKd π L R y.2 ∧ CondSem x v es y.2
  | [], _, hP, hok => .pure ⟨hP, hok, condSem_nil⟩
  | (p, s) :: rest, st, hP, hok => by
    obtain ⟨hx, hrest⟩ := List.forall_mem_cons.1 hok
    rw [condLoop, condLoop]
    exact .pair (hcf _ _ hP hx.1) fun st1 newp ⟨hP1, wnp, enp⟩ =>
      .judge (isFalseJ_run hc wnp)
        (fun hf => (condLoop_run hcf rest st1 hP1 hrest).mono fun _ h =>
          ⟨h.1, h.2.1, condSem_skip (fun a => by rw [← enp a]; exact hf a) h.2.2⟩)
        fun _ => .pair (hcf _ _ hP1 hx.2.1) fun st2 news ⟨hP2, wns, ens⟩ =>
          .judge (isTrueJ_run hc wnp)
            (fun ht => .pure ⟨hP2, wns, condSem_true (fun a => by rw [← enp a]; exact ht a) ens⟩)
            fun _ => .loop (condLoop_run hcf rest st2 hP2 hrest)
              (fun st3 r ⟨hP', hok', hsem⟩ => .pure ⟨hP', hok', condSem_cons enp ens hsem⟩)
              fun st3 l ⟨hP', hok', hsem⟩ => .pure ⟨hP', List.forall_mem_cons.2
                ⟨⟨wnp, wns, depIn_cond hx.2.2.1 enp, depIn_cond hx.2.2.2 ens⟩, hok'⟩,
                condSem_cons enp ens hsem⟩

theorem condition_run (x : Nat) (v : Bool) : ∀ n, CondRun π x v (condition π x v n) (condition π.off x v n)
  | 0 => fun _ _ _ _ => .fail
  | n + 1 => fun st f hP wf => by
    have node : ∀ (es : List Elem), f.elems? = some es →
        Run (match (motive := Option (St × LoopRes) → Option (St × Ptr)) condLoop π (condition π x v n) st es with
            | none => none | some (st', .early r) => some (st', r)
            | some (st', .elems es') => uniqueOr π st' es' (vtreeIndex π.vt f))
          (match (motive := Option (St × LoopRes) → Option (St × Ptr))
              condLoop π.off (condition π.off x v n) st es with
            | none => none | some (st', .early r) => some (st', r)
            | some (st', .elems es') => uniqueOr π.off st' es' (vtreeIndex π.vt f)) fun y =>
          Inv π y.1 ∧ WFd π.vt y.2 ∧ ∀ a, y.2.eval a = f.eval (upd a x v) := fun es hes =>
      have hok := elems?_okd wf hes
      have ⟨hpart, hint, hev⟩ := elems?_sem wf hes
      .loop (condLoop_run hc (condition_run x v n) es st hP hok)
        (fun st1 r1 ⟨hP1, wr1, hsem⟩ =>
          .pure ⟨hP1, wr1, fun a => by rw [hsem.2 a (Nat.le_of_eq (hpart _)), hev]⟩)
        fun st1 l ⟨hP1, hokl, hpost⟩ =>
          have hsem := fun a => hpost a (Nat.le_of_eq (hpart _))
          (uniqueOr_run hc hP1 hint (fun a => by rw [(hsem a).1]; exact hpart _) hokl).mono
            fun _ ⟨h1, h2, h3⟩ => ⟨h1, h2, fun a => by rw [h3, (hsem a).2, hev]⟩
    cases f with
    | tru => exact .pure ⟨hP, WFd_tru _, fun a => by simp⟩
    | fls => exact .pure ⟨hP, WFd_fls _, fun a => by simp⟩
    | lit l p =>
      refine .pure ⟨hP, ?_, fun a => ?_⟩
      · split
        · split
          · exact WFd_tru _
          · exact WFd_fls _
        · exact wf
      · split
        · rename_i hl; subst hl
          cases p <;> cases v <;> simp [eval_lit]
        · rename_i hl; simp [eval_lit, upd, hl]
    | bdd c l i lo hi => exact node _ rfl
    | dec c i es => exact node _ rfl
/-! ## the derived operations -/

omit hc in
theorem orF_run (hand : AndRun π andF andF') {st : St} {a b : Ptr} (hP : Inv π st) (wa : WFd π.vt a)
    (wb : WFd π.vt b) : Run (orF andF st a b) (orF andF' st a b) fun y =>
      Inv π y.1 ∧ WFd π.vt y.2 ∧ ∀ asg, y.2.eval asg = (a.eval asg || b.eval asg) := by
  intro y h
  unfold orF at h ⊢
  split at h
  · rename_i st1 r1 h1
    obtain ⟨e, hp, wr, er⟩ := hand _ _ _ hP (WFd_neg wa) (WFd_neg wb) _ h1
    rw [e]
    cases h
    refine ⟨rfl, hp, WFd_neg wr, fun asg => ?_⟩
    rw [eval_neg, er, eval_neg, eval_neg]; cases a.eval asg <;> cases b.eval asg <;> rfl
  · cases h

theorem bExists_run (fuel : Nat) {st : St} {f : Ptr} {x : Nat} (hP : Inv π st) (wf : WFd π.vt f) :
    Run (bExists π fuel st f x) (bExists π.off fuel st f x) fun y =>
      Inv π y.1 ∧ WFd π.vt y.2 ∧ ∀ a, y.2.eval a = (f.eval (upd a x true) || f.eval (upd a x false)) :=
  .pair (condition_run hc x true fuel st f hP wf) fun s1 v1 ⟨hP1, w1, e1⟩ =>
  .pair (condition_run hc x false fuel s1 f hP1 wf) fun s2 v2 ⟨hP2, w2, e2⟩ =>
  (orF_run (and_run hc fuel) hP2 w1 w2).mono fun _ ⟨h1, h2, h3⟩ => ⟨h1, h2, fun a => by rw [h3, e1, e2]⟩

/-! ## `compile_cnf` -/

omit hc in
theorem lit_eval (a : Assign) (l : Lit) : (Ptr.lit l.var l.pol).eval a = litSat a l := by
  simp only [eval_lit, litSat]; cases l.pol <;> cases a l.var <;> rfl

theorem clauseLoop_run (fuel : Nat) : ∀ (ls : List Lit) (st : St) (acc : Ptr), Inv π st → WFd π.vt acc →
    (∀ l ∈ ls, l.var ∈ π.vt.leaves) →
    Run (clauseLoop π fuel st acc ls) (clauseLoop π.off fuel st acc ls) fun y =>
      Inv π y.1 ∧ WFd π.vt y.2 ∧ ∀ a, y.2.eval a = (acc.eval a || clauseSat a ls)
  | [], _, _, hP, wa, _ => .pure ⟨hP, wa, fun a => by simp [clauseSat]⟩
  | l :: ls, st, acc, hP, wa, hl => by
    rw [clauseLoop, clauseLoop]
    have wl : WFd π.vt (.lit l.var l.pol) := hl l List.mem_cons_self
    exact .pair (orF_run (and_run hc fuel) hP wa wl) fun st1 r1 ⟨hP1, w1, e1⟩ =>
      (clauseLoop_run fuel ls st1 r1 hP1 w1 fun x hx => hl x (List.mem_cons_of_mem _ hx)).mono
        fun _ ⟨h1, h2, h3⟩ => ⟨h1, h2, fun a => by rw [h3, e1, lit_eval]; simp [clauseSat, Bool.or_assoc]⟩

theorem compileClause_run (fuel : Nat) {c : Clause} {st : St} (hP : Inv π st)
    (hl : ∀ l ∈ c, l.var ∈ π.vt.leaves) :
    Run (compileClause π fuel st c) (compileClause π.off fuel st c) fun y =>
      Inv π y.1 ∧ WFd π.vt y.2 ∧ ∀ a, y.2.eval a = clauseSat a c := by
  cases c with
  | nil => exact .fail
  | cons l ls =>
    exact (clauseLoop_run hc fuel _ _ (.lit l.var l.pol) hP (hl l List.mem_cons_self) hl).mono fun _ ⟨h1, h2, h3⟩ =>
      ⟨h1, h2, fun a => by
        rw [h3, lit_eval]; simp only [clauseSat, List.any_cons]; cases litSat a l <;> simp⟩

theorem compileClauses_run (fuel : Nat) : ∀ (cs : List Clause) (st : St), Inv π st →
    (∀ c ∈ cs, ∀ l ∈ c, l.var ∈ π.vt.leaves) →
    Run (compileClauses π fuel st cs) (compileClauses π.off fuel st cs) fun y =>
      Inv π y.1 ∧ (∀ p ∈ y.2, WFd π.vt p) ∧ ∀ a, y.2.all (fun p => p.eval a) = cnfSat a cs
  | [], _, hP, _ => .pure ⟨hP, fun _ hp => (nomatch hp), fun a => by simp [cnfSat]⟩
  | c :: cs, st, hP, hl => by
    rw [compileClauses, compileClauses]
    exact .pair (compileClause_run hc fuel hP (hl c List.mem_cons_self)) fun st1 p ⟨hP1, w1, e1⟩ =>
      .pairL (compileClauses_run fuel cs st1 hP1 fun c' hc' => hl c' (List.mem_cons_of_mem _ hc'))
        fun st2 ps2 ⟨hP2, w2, e2⟩ => .pure ⟨hP2, fun q hq => (List.mem_cons.1 hq).elim (· ▸ w1) (w2 q),
          fun a => by simp only [List.all_cons, cnfSat, e1 a]; rw [e2 a]; rfl⟩
/-- the value of an optional conjunct (`None` = the empty conjunction) -/
def evalO (a : Assign) : Option Ptr → Bool
  | none => true
  | some x => x.eval a

theorem cnfHelper_run (fuel : Nat) : ∀ (n : Nat) (st : St) (v : List Ptr), Inv π st → (∀ p ∈ v, WFd π.vt p) →
    Run (cnfHelper π fuel n st v) (cnfHelper π.off fuel n st v) fun y =>
      Inv π y.1 ∧ (∀ x, y.2 = some x → WFd π.vt x) ∧ ∀ a, evalO a y.2 = v.all (fun p => p.eval a)
  | 0, _, _, _, _ => .fail
  | n + 1, _, [], hP, _ => .pure ⟨hP, nofun, fun _ => rfl⟩
  | n + 1, _, [x], hP, hw => .pure ⟨hP, fun _ hx => Option.some.inj hx ▸ hw x List.mem_cons_self,
      fun a => by simp [evalO]⟩
  | n + 1, st, x :: y :: rest, hP, hw => by
    simp only [cnfHelper]
    refine .pairO (cnfHelper_run fuel n st _ hP fun p hp => hw p (List.mem_of_mem_take hp))
      fun st1 l ⟨hP1, w1, e1⟩ =>
      .pairO (cnfHelper_run fuel n st1 _ hP1 fun p hp => hw p (List.mem_of_mem_drop hp))
        fun st2 r ⟨hP2, w2, e2⟩ => ?_
    have hsplit : ∀ a, (evalO a l && evalO a r) = (x :: y :: rest).all (fun p => p.eval a) := fun a => by
      rw [e1 a, e2 a, ← List.all_append, List.take_append_drop]
    match l, r with
    | none, none => exact .pure ⟨hP2, w2, fun a => by rw [← hsplit a]; rfl⟩
    | none, some _ => exact .pure ⟨hP2, w2, fun a => by rw [← hsplit a]; rfl⟩
    | some _, none => exact .pure ⟨hP2, w1, fun a => by rw [← hsplit a]; exact (Bool.and_true _).symm⟩
    | some xv, some yv =>
      exact .pair (and_run hc fuel _ _ _ hP2 (w1 _ rfl) (w2 _ rfl)) fun st3 z ⟨hP3, w3, e3⟩ =>
        .pure ⟨hP3, fun _ hx => Option.some.inj hx ▸ w3, fun a => by rw [← hsplit a]; exact e3 a⟩

theorem compileCnf_run (fuel : Nat) {cnf : Cnf} {st : St} (hP : Inv π st)
    (hl : ∀ c ∈ cnf, ∀ l ∈ c, l.var ∈ π.vt.leaves) :
    Run (compileCnf π fuel st cnf) (compileCnf π.off fuel st cnf) fun y =>
      Inv π y.1 ∧ WFd π.vt y.2 ∧ ∀ a, y.2.eval a = cnfSat a cnf := by
  unfold compileCnf
  refine .ite (fun he => .pure ⟨hP, WFd_tru _, fun a => ?_⟩) fun _ =>
    .ite (fun he => .pure ⟨hP, WFd_fls _, fun a => ?_⟩) fun _ =>
    .pairL (compileClauses_run hc fuel cnf st hP hl) fun st1 ps ⟨hP1, w1, e1⟩ => ?_
  · cases cnf with
    | nil => simp [cnfSat]
    | cons c cs => simp at he
  · simp only [eval_fls, cnfSat]
    symm
    rw [Bool.eq_false_iff]
    intro hall
    rw [List.any_eq_true] at he
    obtain ⟨c, hc', hce⟩ := he
    have := List.all_eq_true.1 hall c hc'
    cases c with
    | nil => simp [clauseSat] at this
    | cons l ls => simp at hce
  · -- the last `match` has a shape of its own
    intro y h
    split at h
    · cases h
    · rename_i st2 h2
      obtain ⟨e, hP2, _, e2⟩ := cnfHelper_run hc fuel _ _ _ hP1 w1 _ h2
      rw [e]; cases h
      exact ⟨rfl, hP2, WFd_tru _, fun a => by rw [← e1 a, ← e2 a]; rfl⟩
    · rename_i st2 x h2
      obtain ⟨e, hP2, w2, e2⟩ := cnfHelper_run hc fuel _ _ _ hP1 w1 _ h2
      rw [e]; cases h
      exact ⟨rfl, hP2, w2 _ rfl, fun a => by rw [← e1 a, ← e2 a]; rfl⟩

end

end SddSem
