import RsddModel.Model.SemiringOps
/-!
# Lemmas: laws derived from `SROps.Laws`

Nothing here is about BDDs: the names are in `namespace Bdd` because the BDD count of `Lemmas/Wmc` was their
first user, and `SddWmc`, `SddHash`, `CnfUtil`, `Semirings`, `Optim` and `C15` use them under these names.
-/
namespace Bdd
variable {α : Type} {S : SROps α}

theorem sr_zero_add (h : S.Laws) (a : α) : S.add S.zero a = a := by rw [h.add_comm, h.add_zero]
theorem sr_one_mul (h : S.Laws) (a : α) : S.mul S.one a = a := by rw [h.mul_comm, h.mul_one]
theorem sr_right_distrib (h : S.Laws) (a b c : α) :
    S.mul (S.add a b) c = S.add (S.mul a c) (S.mul b c) := by
  rw [h.mul_comm, h.left_distrib, h.mul_comm c a, h.mul_comm c b]
theorem sr_add_left_comm (h : S.Laws) (a b c : α) : S.add a (S.add b c) = S.add b (S.add a c) := by
  rw [← h.add_assoc, h.add_comm a b, h.add_assoc]
theorem sr_mul_left_comm (h : S.Laws) (a b c : α) : S.mul a (S.mul b c) = S.mul b (S.mul a c) := by
  rw [← h.mul_assoc, h.mul_comm a b, h.mul_assoc]
/-- `(p + q) + (r + s) = (p + r) + (q + s)` -/
theorem sr_add4 (h : S.Laws) (p q r s : α) :
    S.add (S.add p q) (S.add r s) = S.add (S.add p r) (S.add q s) := by
  rw [h.add_assoc, h.add_assoc, sr_add_left_comm h q r s]

end Bdd
