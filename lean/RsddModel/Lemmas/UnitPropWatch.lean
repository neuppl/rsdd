import RsddModel.Lemmas.UnitProp
/-!
# The two-watched-literal structure and the fixpoint property (C09)

* `NormalClause` / `CnfNormal`: the shape `Cnf::new` gives every clause (sorted by label, no two
  adjacent equal literals); `cnfNew_normal`.
* `TwoWatch`: every clause of length ≥ 2 is in exactly two watch lists, those of two different
  literals of the clause; no list has a repeated entry; no other clause is watched. Preserved by
  the repaired loop (`LoopRel.twoWatch`) on normal CNFs.
* `fixpoint_of_watch`: `TwoWatch` + `WatchOK` + unit clauses true + no empty clause give
  "no clause falsified, no clause unit".
-/
namespace UnitProp
open Spec

/-! ## normal form of clauses -/

def noAdjDup : List Lit → Prop
  | [] => True
  | [_] => True
  | a :: b :: t => a ≠ b ∧ noAdjDup (b :: t)

theorem noAdjDup_tail {a : Lit} {t : List Lit} (h : noAdjDup (a :: t)) : noAdjDup t := by
  cases t with
  | nil => trivial
  | cons b t => exact h.2

/-- sorted by label and without adjacent duplicates: what `Cnf::new` produces -/
def NormalClause (c : Clause) : Prop := c.Pairwise (fun a b => a.var ≤ b.var) ∧ noAdjDup c

def CnfNormal (cnf : Cnf) : Prop := ∀ c, c ∈ cnf → NormalClause c

/-- in a normal clause the first two unassigned literals are different literals: were they equal,
every literal between them would have their label, hence be unassigned, so they are adjacent -/
theorem first_two_ne (m : PModel) : ∀ (c : Clause) (x y : Lit) (rest : List Lit), NormalClause c →
    c.filter (litUnset m) = x :: y :: rest → x ≠ y
  | [], _, _, _, _, hf => by simp at hf
  | a :: t, x, y, rest, hn, hf => by
    by_cases ha : litUnset m a = true
    · rw [List.filter_cons_of_pos ha] at hf
      injection hf with e1 e2
      subst e1
      intro exy
      cases t with
      | nil => simp at e2
      | cons b t' =>
        have hsorted := hn.1
        have hnd := hn.2
        have hy : y ∈ (b :: t').filter (litUnset m) := by rw [e2]; simp
        have hymem := (List.mem_filter.mp hy).1
        have hab : a.var ≤ b.var := (List.pairwise_cons.mp hsorted).1 b (by simp)
        have hby : b.var ≤ y.var := by
          rcases List.mem_cons.mp hymem with e | h'
          · rw [e]; exact Nat.le_refl _
          · exact (List.pairwise_cons.mp (List.pairwise_cons.mp hsorted).2).1 y h'
        have hbv : b.var = a.var := by rw [← exy] at hby; omega
        have hb : litUnset m b = true := by
          rw [litUnset_iff] at *; rw [hbv]; exact ha
        rw [List.filter_cons_of_pos hb] at e2
        injection e2 with e3 _
        exact hnd.1 (by rw [exy, e3])
    · rw [List.filter_cons_of_neg ha] at hf
      exact first_two_ne m t x y rest ⟨(List.pairwise_cons.mp hn.1).2, noAdjDup_tail hn.2⟩ hf

/-! ## `Cnf::new` produces normal clauses -/

theorem isort_leLabel (c : List Lit) : (isort leLabel c).Pairwise (fun a b => a.var ≤ b.var) :=
  (isort_pairwise (le := leLabel)
    (fun _ _ h => decide_eq_true (Nat.le_of_lt (Nat.lt_of_not_le (of_decide_eq_false h))))
    (fun _ _ _ h1 h2 => decide_eq_true (Nat.le_trans (of_decide_eq_true h1) (of_decide_eq_true h2)))
    c).imp of_decide_eq_true

theorem dedupAdj_sublist : ∀ (c : List Lit), (dedupAdj c).Sublist c
  | [] => by simp [dedupAdj]
  | [a] => by simp [dedupAdj]
  | a :: b :: t => by
    unfold dedupAdj
    split
    · exact (dedupAdj_sublist (b :: t)).cons a
    · exact (dedupAdj_sublist (b :: t)).cons_cons a

theorem dedupAdj_head : ∀ (b : Lit) (t : List Lit), ∃ t', dedupAdj (b :: t) = b :: t'
  | b, [] => ⟨[], by simp [dedupAdj]⟩
  | b, c :: t => by
    unfold dedupAdj
    split
    · next e => obtain ⟨t', h⟩ := dedupAdj_head c t; exact ⟨t', by rw [h, e]⟩
    · exact ⟨_, rfl⟩

theorem dedupAdj_noAdjDup : ∀ (c : List Lit), noAdjDup (dedupAdj c)
  | [] => by simp [dedupAdj, noAdjDup]
  | [a] => by simp [dedupAdj, noAdjDup]
  | a :: b :: t => by
    unfold dedupAdj
    split
    · exact dedupAdj_noAdjDup (b :: t)
    · next hne =>
      obtain ⟨t', h⟩ := dedupAdj_head b t
      have := dedupAdj_noAdjDup (b :: t)
      rw [h] at this ⊢
      exact ⟨hne, this⟩

theorem cnfNew_normal (cs : Cnf) : CnfNormal (cnfNew cs) := by
  intro c hc
  unfold cnfNew at hc
  obtain ⟨c0, _, rfl⟩ := List.mem_map.mp hc
  exact ⟨(isort_leLabel c0).sublist (dedupAdj_sublist _), dedupAdj_noAdjDup _⟩

/-! ## the two-watch structure -/

structure TwoWatch (cnf : Cnf) (wl : WL) : Prop where
  /-- no list has a repeated entry -/
  nodup : ∀ p v, (wl.get p v).Nodup
  /-- a clause with at least two literals is watched by exactly two different literals of it -/
  two : ∀ i, i < cnf.length → 2 ≤ (cnf.getD i []).length →
    ∃ w1 w2, w1 ≠ w2 ∧ w1 ∈ cnf.getD i [] ∧ w2 ∈ cnf.getD i [] ∧
      ∀ w, Watches wl i w ↔ (w = w1 ∨ w = w2)
  /-- nothing else is watched -/
  only : ∀ i w, Watches wl i w → i < cnf.length ∧ 2 ≤ (cnf.getD i []).length

theorem TwoWatch.valid {cnf : Cnf} {wl : WL} (h2 : TwoWatch cnf wl) : WatchValid cnf wl :=
  fun p v i h => (h2.only i ⟨v, p⟩ h).1

theorem nodup_getElem_inj {l : List Nat} (h : l.Nodup) {i j : Nat} (hi : i < l.length)
    (hj : j < l.length) (e : l[i] = l[j]) : i = j := by
  rw [List.nodup_iff_pairwise_ne, List.pairwise_iff_getElem] at h
  rcases Nat.lt_trichotomy i j with hlt | heq | hgt
  · exact absurd e (h i j hi hj hlt)
  · exact heq
  · exact absurd e.symm (h j i hj hi hgt)

theorem mem_swapRemove_iff {xs : List Nat} (hnd : xs.Nodup) {k : Nat} (hk : k < xs.length) (i : Nat) :
    i ∈ swapRemove xs k ↔ i ∈ xs ∧ i ≠ xs.getD k 0 := by
  rw [(swapRemove_perm xs k hk).mem_iff, List.mem_eraseIdx_iff_getElem,
    List.getD_eq_getElem?_getD, List.getElem?_eq_getElem hk]
  simp only [Option.getD_some]
  constructor
  · rintro ⟨j, hj, hne, e⟩
    refine ⟨e ▸ List.getElem_mem hj, ?_⟩
    intro e2
    exact hne (nodup_getElem_inj hnd hj hk (by rw [e, e2]))
  · rintro ⟨hm, hne⟩
    obtain ⟨j, hj, e⟩ := List.mem_iff_getElem.mp hm
    exact ⟨j, hj, fun e2 => hne (by subst e2; exact e.symm), e⟩

section move
variable {cnf : Cnf} {wl : WL} {l nl : Lit} {idx : Nat}

/-- the watches after the watch at `idx` has moved from `¬l` to `nl` -/
theorem watches_move (hne : nl.var ≠ l.var) (hnd : (wl.get (!l.pol) l.var).Nodup)
    (hlt : idx < (wl.get (!l.pol) l.var).length) (i : Nat) (w : Lit) :
    Watches (moveWatch wl l idx nl) i w ↔
      (Watches wl i w ∧ ¬ (i = curIdx wl l idx ∧ w = l.neg)) ∨ (i = curIdx wl l idx ∧ w = nl) := by
  have hn : nl ≠ l.neg := fun e => hne (by rw [e]; rfl)
  by_cases e1 : w = nl
  · subst e1
    unfold Watches moveWatch
    rw [WL.get_push, if_pos ⟨rfl, rfl⟩, List.mem_append, WL.get_upd, if_neg (fun e => hne e.2),
      List.mem_singleton]
    exact ⟨fun h => h.elim (fun h => .inl ⟨h, fun e => hn e.2⟩) (fun h => .inr ⟨h, rfl⟩),
      fun h => h.elim (fun h => .inl h.1) (fun h => .inr h.1)⟩
  · by_cases e2 : w = l.neg
    · subst e2
      unfold Watches
      rw [lneg_pol, lneg_var, moveWatch_get_self hne, mem_swapRemove_iff hnd hlt]
      exact ⟨fun h => .inl ⟨h.1, fun e => h.2 e.1⟩,
        fun h => h.elim (fun h => ⟨h.1, fun e => h.2 ⟨e, rfl⟩⟩) (fun h => absurd h.2 e1)⟩
    · unfold Watches
      rw [moveWatch_get_other (fun e => e2 (lit_eq_neg e.2 e.1)) (fun e => e1 (lit_ext e.1 e.2))]
      exact ⟨fun h => .inl ⟨h, fun e => e2 e.2⟩, fun h => h.elim (·.1) (fun h => absurd h.2 e1)⟩

end move

/-- one watch replacement of the repaired code keeps the two-watch structure -/
theorem TwoWatch.move {cnf : Cnf} {wl : WL} {m : PModel} {l : Lit} {idx : Nat}
    {cand second : Lit} {rest : List Lit}
    (hN : CnfNormal cnf) (h2 : TwoWatch cnf wl) (hl : m l.var = some l.pol)
    (hlt : idx < (wl.get (!l.pol) l.var).length)
    (hf : (curClause cnf wl l idx).filter (litUnset m) = cand :: second :: rest) :
    TwoWatch cnf (moveWatch wl l idx (pickWatch true wl l (curIdx wl l idx) cand second)) := by
  generalize hci : curIdx wl l idx = ci at *
  have hcl : curClause cnf wl l idx = cnf.getD ci [] := by rw [← hci]; rfl
  have F0 : Watches wl ci l.neg := by rw [← hci]; exact curIdx_mem hlt
  have F1 := h2.only ci _ F0
  obtain ⟨w1, w2, hw12, hw1m, hw2m, hiff⟩ := h2.two ci F1.1 F1.2
  -- the other watch
  have hother : ∃ wo, wo ≠ l.neg ∧ wo ∈ cnf.getD ci [] ∧ ∀ w, Watches wl ci w ↔ (w = l.neg ∨ w = wo) := by
    rcases (hiff _).mp F0 with e | e
    · exact ⟨w2, by rw [e]; exact fun h => hw12 h.symm, hw2m, by intro w; rw [e]; exact hiff w⟩
    · refine ⟨w1, by rw [e]; exact hw12, hw1m, ?_⟩
      intro w; rw [e, hiff w]; exact Or.comm
  obtain ⟨wo, hwo, hwom, hiffo⟩ := hother
  have hcandU := mem_filter_unset hf
  have hnorm : NormalClause (curClause cnf wl l idx) := hN _ (curClause_mem h2.valid hlt)
  have hcs : cand ≠ second := first_two_ne m _ _ _ _ hnorm hf
  have hsecU : m second.var = none := by
    have : second ∈ (curClause cnf wl l idx).filter (litUnset m) := by rw [hf]; simp
    exact litUnset_iff.mp (List.mem_filter.mp this).2
  have hnotneg : ∀ w : Lit, m w.var = none → w ≠ l.neg := by
    intro w hw e; rw [e, lneg_var, hl] at hw; cases hw
  generalize hnl : pickWatch true wl l ci cand second = nl
  have hnlU := pickWatch_unset (rep := true) (wl := wl) (l := l) (ci := ci) hf
  rw [hnl, hcl] at hnlU
  have hne : nl.var ≠ l.var := by intro e; rw [e, hl] at hnlU; cases hnlU.1
  -- the new literal is not yet watched by the clause: the only step that needs `rep = true` (the
  -- repaired test looks into the list of `cand` itself)
  have F5 : ¬ Watches wl ci nl := by
    unfold pickWatch at hnl
    dsimp only at hnl
    rw [if_pos rfl] at hnl
    cases hc : (wl.get cand.pol cand.var).contains ci with
    | true =>
      rw [hc, if_pos rfl] at hnl; subst hnl
      have e1 : cand = wo :=
        ((hiffo _).mp (List.contains_iff_mem.mp hc)).resolve_left (hnotneg _ hcandU)
      exact fun hw => hcs (e1.trans (((hiffo _).mp hw).resolve_left (hnotneg _ hsecU)).symm)
    | false =>
      rw [hc, if_neg Bool.false_ne_true] at hnl; subst hnl
      exact fun hw => by rw [List.contains_iff_mem.mpr hw] at hc; cases hc
  have hnlwo : nl ≠ wo := fun e => F5 ((hiffo _).mpr (.inr e))
  have hnlneg : nl ≠ l.neg := hnotneg _ hnlU.1
  have hnd := h2.nodup (!l.pol) l.var
  refine ⟨?_, ?_, ?_⟩
  · -- nodup
    intro p v
    by_cases e1 : p = nl.pol ∧ v = nl.var
    · have : (moveWatch wl l idx nl).get p v = wl.get nl.pol nl.var ++ [ci] := by
        unfold moveWatch
        rw [WL.get_push, if_pos e1, WL.get_upd, if_neg (fun e => hne (e1.2 ▸ e.2)), e1.1, e1.2, hci]
      rw [this, List.nodup_append]
      refine ⟨h2.nodup _ _, by simp, ?_⟩
      intro a ha b hb
      have : b = ci := by simpa using hb
      subst this
      intro e; subst e; exact F5 ha
    · by_cases e2 : p = (!l.pol) ∧ v = l.var
      · rw [e2.1, e2.2, moveWatch_get_self hne, (swapRemove_perm _ _ hlt).nodup_iff]
        exact hnd.sublist (List.eraseIdx_sublist _ _)
      · rw [moveWatch_get_other e2 e1]; exact h2.nodup _ _
  · -- two
    intro i hi hlen
    by_cases hic : i = ci
    · subst hic
      refine ⟨wo, nl, fun e => hnlwo e.symm, hwom, hnlU.2, fun w => ?_⟩
      rw [watches_move hne hnd hlt, hci, hiffo]
      exact ⟨fun h => h.elim (fun h => h.1.elim (fun e => absurd ⟨rfl, e⟩ h.2) (fun e => .inl e))
          (fun h => .inr h.2),
        fun h => h.elim (fun e => .inl ⟨.inr e, fun e' => hwo (e ▸ e'.2)⟩) (fun e => .inr ⟨rfl, e⟩)⟩
    · obtain ⟨u1, u2, hu12, hu1m, hu2m, hiffu⟩ := h2.two i hi hlen
      refine ⟨u1, u2, hu12, hu1m, hu2m, fun w => ?_⟩
      rw [← hiffu w, watches_move hne hnd hlt, hci]
      exact ⟨fun h => h.elim (·.1) (fun h => absurd h.1 hic), fun h => .inl ⟨h, fun e => hic e.1⟩⟩
  · -- only
    intro i w hw
    rcases mem_moveWatch hlt hw with h | ⟨h, _, _⟩
    · exact h2.only i w h
    · rw [h, hci]; exact F1

/-- the repaired loop keeps the two-watch structure on normal CNFs, whatever its outcome -/
theorem LoopRel.twoWatch {cnf wl m l idx wl' r} (h : LoopRel cnf true wl m l idx wl' r)
    (hN : CnfNormal cnf) : m l.var = some l.pol → TwoWatch cnf wl → TwoWatch cnf wl' := by
  induction h with
  | done _ => intro _ h; exact h
  | skip _ _ _ ih => exact ih
  | conflict _ _ _ => intro _ h; exact h
  | unitConflict _ _ _ _ ih => intro _ h2; exact ih (pset_same _ _ _) h2
  | unitOk _ _ hf h1 _ ih1 ih2 =>
    intro hl h2
    have hext := (PExt.set _ (mem_filter_unset hf)).trans (h1.ext)
    exact ih2 (hext _ _ hl) (ih1 (pset_same _ _ _) h2)
  | move hlt _ hf _ ih => intro hl h2; exact ih hl (h2.move hN hl hlt hf)

theorem DecideRel.twoWatch {cnf wl m l wl' r} (h : DecideRel cnf true wl m l wl' r)
    (hN : CnfNormal cnf) (h2 : TwoWatch cnf wl) : TwoWatch cnf wl' := by
  cases h with
  | same _ => exact h2
  | clash _ => exact h2
  | fresh _ h => exact h.twoWatch hN (pset_same _ _ _) h2

/-! ## the initial watch lists -/

theorem watches_push {wl : WL} {l : Lit} {ci i : Nat} {w : Lit} :
    Watches (wl.push l ci) i w ↔ Watches wl i w ∨ (i = ci ∧ w = l) := by
  unfold Watches
  rw [WL.get_push]
  split
  · next e =>
    rw [List.mem_append]
    have : w = l := lit_ext e.1 e.2
    simp [this]
  · next e =>
    constructor
    · exact .inl
    · rintro (h | ⟨_, h⟩)
      · exact h
      · exact absurd ⟨by rw [h], by rw [h]⟩ e

/-- the two-watch structure restricted to the clauses with index `< n` -/
structure TwoWatchUpTo (cnf : Cnf) (n : Nat) (wl : WL) : Prop where
  nodup : ∀ p v, (wl.get p v).Nodup
  two : ∀ i, i < n → i < cnf.length → 2 ≤ (cnf.getD i []).length →
    ∃ w1 w2, w1 ≠ w2 ∧ w1 ∈ cnf.getD i [] ∧ w2 ∈ cnf.getD i [] ∧
      ∀ w, Watches wl i w ↔ (w = w1 ∨ w = w2)
  only : ∀ i w, Watches wl i w → i < n ∧ i < cnf.length ∧ 2 ≤ (cnf.getD i []).length

theorem nodup_push {wl : WL} {l : Lit} {ci : Nat} (h : ∀ p v, (wl.get p v).Nodup)
    (hn : ¬ Watches wl ci l) : ∀ p v, ((wl.push l ci).get p v).Nodup := by
  intro p v
  rw [WL.get_push]
  split
  · next e =>
    rw [List.nodup_append]
    refine ⟨h p v, by simp, ?_⟩
    intro a ha b hb
    have : b = ci := by simpa using hb
    subst this
    intro e2; subst e2
    rw [e.1, e.2] at ha
    exact hn ha
  · exact h p v

theorem TwoWatchUpTo.skip {cnf : Cnf} {i : Nat} {wl : WL} (h : TwoWatchUpTo cnf i wl)
    (hl : (cnf.getD i []).length < 2) : TwoWatchUpTo cnf (i + 1) wl :=
  ⟨h.nodup,
   fun j hj hjl h2 => h.two j (Nat.lt_of_le_of_ne (Nat.le_of_lt_succ hj)
     (fun e => absurd (e ▸ h2) (Nat.not_le.mpr hl))) hjl h2,
   fun j w hw => ⟨Nat.lt_succ_of_lt (h.only j w hw).1, (h.only j w hw).2⟩⟩

/-- clause `i = a :: b :: _` gets its two watches, on `b` and on `a` -/
theorem TwoWatchUpTo.push2 {cnf : Cnf} {i : Nat} {wl : WL} {a b : Lit} {t : List Lit}
    (h : TwoWatchUpTo cnf i wl) (hi : i < cnf.length) (hci : cnf.getD i [] = a :: b :: t)
    (hab : a ≠ b) : TwoWatchUpTo cnf (i + 1) ((wl.push b i).push a i) := by
  have hnw : ∀ w, ¬ Watches wl i w := fun w hw => Nat.lt_irrefl i (h.only i w hw).1
  have hnw2 : ¬ Watches (wl.push b i) i a := by
    rw [watches_push]; rintro (h1 | ⟨_, h1⟩)
    · exact hnw a h1
    · exact hab h1
  have hlen : 2 ≤ (cnf.getD i []).length := by rw [hci]; exact Nat.le_add_left 2 t.length
  refine ⟨nodup_push (nodup_push h.nodup (hnw b)) hnw2, ?_, ?_⟩
  · intro j hj hjl h2
    by_cases e : j = i
    · subst e
      refine ⟨b, a, fun e => hab e.symm, by rw [hci]; simp, by rw [hci]; simp, ?_⟩
      intro w
      rw [watches_push, watches_push]
      constructor
      · rintro ((h1 | ⟨_, h1⟩) | ⟨_, h1⟩)
        · exact absurd h1 (hnw w)
        · exact .inl h1
        · exact .inr h1
      · rintro (h1 | h1)
        · exact .inl (.inr ⟨rfl, h1⟩)
        · exact .inr ⟨rfl, h1⟩
    · obtain ⟨u1, u2, hu, hu1, hu2, hiff⟩ :=
        h.two j (Nat.lt_of_le_of_ne (Nat.le_of_lt_succ hj) e) hjl h2
      refine ⟨u1, u2, hu, hu1, hu2, ?_⟩
      intro w
      rw [watches_push, watches_push, ← hiff w]
      exact ⟨fun h1 => h1.elim (fun h1 => h1.elim id (fun h1 => absurd h1.1 e)) (fun h1 => absurd h1.1 e),
        fun h1 => .inl (.inl h1)⟩
  · intro j w hw
    rw [watches_push, watches_push] at hw
    rcases hw with (h1 | ⟨h1, _⟩) | ⟨h1, _⟩
    · exact ⟨Nat.lt_succ_of_lt (h.only j w h1).1, (h.only j w h1).2⟩
    · subst h1; exact ⟨Nat.lt_succ_self _, hi, hlen⟩
    · subst h1; exact ⟨Nat.lt_succ_self _, hi, hlen⟩

theorem initWatches_two (cnf : Cnf) (hN : CnfNormal cnf) : ∀ (cs : List Clause) (i : Nat) (wl : WL),
    cnf.drop i = cs → TwoWatchUpTo cnf i wl → TwoWatchUpTo cnf cnf.length (initWatches cs i wl)
  | [], i, wl, hd, h => by
    have hlen : cnf.length ≤ i := List.drop_eq_nil_iff.mp hd
    exact ⟨h.nodup, fun j _ hj => h.two j (Nat.lt_of_lt_of_le hj hlen) hj,
      fun j w hw => ⟨(h.only j w hw).2.1, (h.only j w hw).2⟩⟩
  | c :: cs, i, wl, hd, h => by
    have hi : i < cnf.length := by
      apply Nat.lt_of_not_le
      intro hle
      rw [List.drop_eq_nil_iff.mpr hle] at hd
      cases hd
    have hci : cnf.getD i [] = c := by
      rw [List.getD_eq_getElem?_getD, ← Nat.add_zero i, ← List.getElem?_drop, hd]; rfl
    have hd' : cnf.drop (i + 1) = cs := by
      rw [← List.drop_drop, hd]; rfl
    match c, hci with
    | [], hci =>
      exact initWatches_two cnf hN cs (i + 1) wl hd' (h.skip (by rw [hci]; decide))
    | [a], hci =>
      exact initWatches_two cnf hN cs (i + 1) wl hd' (h.skip (by rw [hci]; exact Nat.lt_succ_self 1))
    | a :: b :: t, hci =>
      have hnorm : NormalClause (a :: b :: t) := hN _ (by
        rw [← hci, List.getD_eq_getElem?_getD, List.getElem?_eq_getElem hi]; exact List.getElem_mem hi)
      exact initWatches_two cnf hN cs (i + 1) _ hd' (h.push2 hi hci hnorm.2.1)

theorem initWatches_twoWatch (cnf : Cnf) (hN : CnfNormal cnf) :
    TwoWatch cnf (initWatches cnf 0 WL.empty) := by
  have h0 : TwoWatchUpTo cnf 0 WL.empty :=
    ⟨by intro p v; simp, fun i hi => by omega, fun i w hw => by simp [Watches] at hw⟩
  have := initWatches_two cnf hN cnf 0 WL.empty (by simp) h0
  exact ⟨this.nodup, fun i hi h2 => this.two i hi hi h2, fun i w hw => (this.only i w hw).2⟩

/-- validity of the initial watch lists needs no normal form -/
theorem initWatches_valid (cnf : Cnf) : ∀ (cs : List Clause) (i : Nat) (wl : WL),
    i + cs.length = cnf.length → WatchValid cnf wl → WatchValid cnf (initWatches cs i wl)
  | [], _, wl, _, h => h
  | c :: cs, i, wl, hl, h => by
    have hl' : i + 1 + cs.length = cnf.length := by rw [Nat.add_right_comm]; exact hl
    have hi : i < cnf.length := hl ▸ Nat.lt_add_of_pos_right (Nat.succ_pos _)
    have hpush : ∀ (wl : WL) (l : Lit), WatchValid cnf wl → WatchValid cnf (wl.push l i) := by
      intro wl l hv p v j hj
      rcases (watches_push (w := ⟨v, p⟩)).mp hj with h1 | ⟨h1, _⟩
      · exact hv p v j h1
      · exact h1 ▸ hi
    match c with
    | [] => exact initWatches_valid cnf cs (i + 1) wl hl' h
    | [a] => exact initWatches_valid cnf cs (i + 1) wl hl' h
    | a :: b :: t => exact initWatches_valid cnf cs (i + 1) _ hl' (hpush _ _ (hpush _ _ h))

theorem watchValid_empty (cnf : Cnf) : WatchValid cnf WL.empty := by
  intro p v i h; simp at h

theorem watchOK_empty (cnf : Cnf) (wl : WL) : WatchOK cnf wl PModel.empty := by
  intro i w _ _ hf; simp [litFalse, PModel.empty] at hf

/-! ## the `for i in implied` loop of `UnitPropagate::new` -/

inductive DecideAllRel (cnf : Cnf) (rep : Bool) : List Lit → WL → PModel → WL → Option PModel → Prop
  | nil {wl m} : DecideAllRel cnf rep [] wl m wl (some m)
  | conflict {u us wl m wl'} : DecideRel cnf rep wl m u wl' none →
      DecideAllRel cnf rep (u :: us) wl m wl' none
  | cons {u us wl m wl1 m1 wl' r} : DecideRel cnf rep wl m u wl1 (some m1) →
      DecideAllRel cnf rep us wl1 m1 wl' r → DecideAllRel cnf rep (u :: us) wl m wl' r

theorem decideAll_rel {cnf : Cnf} {rep : Bool} {fuel : Nat} : ∀ {us wl m out},
    decideAll (decideK (loop cnf rep fuel)) us wl m = some out →
    DecideAllRel cnf rep us wl m out.1 out.2
  | [], wl, m, out, h => by simp [decideAll] at h; subst h; exact .nil
  | u :: us, wl, m, out, h => by
    unfold decideAll at h
    split at h
    · cases h
    · next wl' hd => cases h; exact .conflict (decide_rel hd)
    · next wl' m' hd => exact .cons (decide_rel hd) (decideAll_rel h)

theorem DecideAllRel.valid {cnf rep us wl m wl' r} (h : DecideAllRel cnf rep us wl m wl' r)
    (hv : WatchValid cnf wl) : WatchValid cnf wl' := by
  induction h with
  | nil => exact hv
  | conflict h => exact h.valid hv
  | cons h _ ih => exact ih (h.valid hv)

theorem DecideAllRel.ext {cnf rep us wl m wl' m'} (h : DecideAllRel cnf rep us wl m wl' (some m')) :
    PExt m m' ∧ ∀ u, u ∈ us → m' u.var = some u.pol := by
  generalize hr : some m' = r at h
  induction h with
  | nil => cases hr; exact ⟨PExt.refl _, by simp⟩
  | conflict _ => cases hr
  | cons h1 _ ih =>
    obtain ⟨e1, e2⟩ := ih hr
    refine ⟨h1.ext.1.trans e1, ?_⟩
    intro u hu
    rcases List.mem_cons.mp hu with e | hu
    · subst e; exact e1 _ _ h1.ext.2
    · exact e2 u hu

theorem DecideAllRel.sound {cnf rep us wl m wl' r} (h : DecideAllRel cnf rep us wl m wl' r)
    (hv : WatchValid cnf wl) (a : Assign) (ha : cnfSat a cnf = true) (he : Extends a m)
    (hus : ∀ u, u ∈ us → litSat a u = true) : ∃ m', r = some m' ∧ Extends a m' := by
  induction h with
  | nil => exact ⟨_, rfl, he⟩
  | conflict h =>
    obtain ⟨_, e, _⟩ := h.sound hv a ha he (hus _ (by simp)); cases e
  | cons h _ ih =>
    obtain ⟨_, e, he1⟩ := h.sound hv a ha he (hus _ (by simp))
    cases e
    exact ih (h.valid hv) he1 (fun u hu => hus u (by simp [hu]))

theorem DecideAllRel.watchOK {cnf rep us wl m wl' m'} (h : DecideAllRel cnf rep us wl m wl' (some m'))
    (hok : WatchOK cnf wl m) : WatchOK cnf wl' m' := by
  generalize hr : some m' = r at h
  induction h with
  | nil => cases hr; exact hok
  | conflict _ => cases hr
  | cons h1 _ ih => exact ih (h1.watchOK _ hok) hr

theorem DecideAllRel.twoWatch {cnf us wl m wl' r} (h : DecideAllRel cnf true us wl m wl' r)
    (hN : CnfNormal cnf) (h2 : TwoWatch cnf wl) : TwoWatch cnf wl' := by
  induction h with
  | nil => exact h2
  | conflict h => exact h.twoWatch hN h2
  | cons h _ ih => exact ih (h.twoWatch hN h2)

theorem mem_impliedUnits {cnf : Cnf} {u : Lit} : u ∈ impliedUnits cnf ↔ [u] ∈ cnf := by
  induction cnf with
  | nil => simp [impliedUnits]
  | cons c cs ih =>
    match c with
    | [] => unfold impliedUnits; simp [ih]
    | [a] => unfold impliedUnits; simp [ih]
    | a :: b :: t => unfold impliedUnits; simp [ih]

theorem watchValid_init (cnf : Cnf) : WatchValid cnf (initWatches cnf 0 WL.empty) :=
  initWatches_valid cnf cnf 0 WL.empty (Nat.zero_add _) (watchValid_empty cnf)

/-- the run of `UnitPropagate::new` is sound: every total model of the CNF satisfies the literals of
its unit clauses and extends the empty model -/
theorem DecideAllRel.sound_new {cnf rep wl r}
    (h : DecideAllRel cnf rep (impliedUnits cnf) (initWatches cnf 0 WL.empty) PModel.empty wl r)
    (a : Assign) (ha : cnfSat a cnf = true) : ∃ m', r = some m' ∧ Extends a m' :=
  h.sound (watchValid_init cnf) a ha (fun _ _ hy => by cases hy)
    (fun u hu => by simpa [clauseSat] using cnfSat_mem ha (mem_impliedUnits.mp hu))

/-! ## the fixpoint property from the invariants -/

/-- unit clauses have their literal true -/
def UnitsTrue (cnf : Cnf) (m : PModel) : Prop := ∀ u, [u] ∈ cnf → litTrue m u = true

/-- **Fixpoint from the watch invariants.** -/
theorem fixpoint_of_watch {cnf : Cnf} {wl : WL} {m : PModel}
    (h2 : TwoWatch cnf wl) (hok : WatchOK cnf wl m) (hu : UnitsTrue cnf m)
    (hne : cnf.any List.isEmpty = false) :
    ∀ c, c ∈ cnf → clauseFalsified m c = false ∧ clauseUnit m c = false := by
  intro c hc
  obtain ⟨i, hi, rfl⟩ := List.mem_iff_getElem.mp hc
  have hget : cnf.getD i [] = cnf[i] := by
    rw [List.getD_eq_getElem?_getD, List.getElem?_eq_getElem hi]; rfl
  have hnotfalse : ∀ l, l ∈ cnf[i] → litTrue m l = true → clauseFalsified m cnf[i] = false := by
    intro l hl ht
    cases hcf : clauseFalsified m cnf[i] with
    | false => rfl
    | true =>
      unfold clauseFalsified at hcf
      have := List.all_eq_true.mp hcf l hl
      rw [litTrue_iff] at ht; rw [litFalse_iff, ht] at this
      exact absurd (Option.some.inj this) (Bool.eq_not_self _).mp
  match hcl : cnf[i] with
  | [] =>
    have : cnf.any List.isEmpty = true := List.any_eq_true.mpr ⟨cnf[i], hc, by rw [hcl]; rfl⟩
    rw [hne] at this; cases this
  | [u] =>
    have ht : litTrue m u = true := hu u (hcl ▸ hc)
    refine ⟨hcl ▸ hnotfalse u (by rw [hcl]; simp) ht, ?_⟩
    simp [clauseUnit, ht]
  | a :: b :: t =>
    obtain ⟨w1, w2, hw12, hw1, hw2, hiff⟩ := h2.two i hi (by rw [hget, hcl]; simp)
    rw [hget, hcl] at hw1 hw2
    have hW1 : Watches wl i w1 := (hiff w1).mpr (.inl rfl)
    have hW2 : Watches wl i w2 := (hiff w2).mpr (.inr rfl)
    have hsat : ∀ w, Watches wl i w → litFalse m w = true → (a :: b :: t).any (litTrue m) = true := by
      intro w hW h; have := hok i w hW (fun h => h) h; rwa [hget, hcl] at this
    constructor
    · cases hcf : clauseFalsified m (a :: b :: t) with
      | false => rfl
      | true =>
        have hall := List.all_eq_true.mp hcf
        obtain ⟨l, hl, ht⟩ := List.any_eq_true.mp (hsat w1 hW1 (hall w1 hw1))
        have := hnotfalse l (hcl ▸ hl) ht
        rw [hcl] at this
        rw [this] at hcf; cases hcf
    · cases hcu : clauseUnit m (a :: b :: t) with
      | false => rfl
      | true =>
        unfold clauseUnit at hcu
        simp only [Bool.and_eq_true, Bool.not_eq_true', beq_iff_eq] at hcu
        obtain ⟨hnt, hlen⟩ := hcu
        have hunset : ∀ w, w ∈ a :: b :: t → (litFalse m w = true → (a :: b :: t).any (litTrue m) = true) →
            w ∈ ((a :: b :: t).filter (litUnset m)).eraseDups := by
          intro w hw hs
          rw [List.mem_eraseDups, List.mem_filter]
          refine ⟨hw, ?_⟩
          rcases lit_cases m w with h | h | h
          · have : (a :: b :: t).any (litTrue m) = true := List.any_eq_true.mpr ⟨w, hw, h⟩
            rw [hnt] at this; cases this
          · rw [hs h] at hnt; cases hnt
          · exact h
        have h1 := hunset w1 hw1 (hsat w1 hW1)
        have h2' := hunset w2 hw2 (hsat w2 hW2)
        match hed : ((a :: b :: t).filter (litUnset m)).eraseDups, hlen with
        | [x], _ =>
          rw [hed] at h1 h2'
          simp at h1 h2'
          exact absurd (h1.trans h2'.symm) hw12

end UnitProp
