import RsddModel.Lemmas.SddBasic
import RsddModel.Lemmas.SddLoops
/-!
# Lemmas: what the element loops of `and`, `condition` and `compress` compute

The loops of `and_cartesian` / `and_prime_desc` / `and_sub_desc` / `condition` build element lists,
`compress` rewrites one.  What their results denote — counts of true primes (`cnt`) and values
(`evalElems`) — does not depend on the builder state or on the well-formedness invariant carried
along: it is stated here once, one lemma per exit of a loop body, about pointers known only through
their `eval`.
-/
namespace Sdd
open Spec

/-- the inner loop's result for the pair `(p1, s1)` against the elements `eb` -/
def InnerSem (p1 s1 : Ptr) (eb : List Elem) : LoopRes → Prop
  | .elems l => ∀ a, cnt a eb ≤ 1 →
      cnt a l = (if p1.eval a then cnt a eb else 0) ∧
      evalElems a l = (p1.eval a && s1.eval a && evalElems a eb)
  | .early r => r = .tru ∧ ∀ a, (p1.eval a && s1.eval a && evalElems a eb) = true

section inner
variable {p1 s1 p2 s2 p s : Ptr} {rest : List Elem}

theorem cnt_tail_le {a : Assign} {e : Elem} {es : List Elem} (h : cnt a (e :: es) ≤ 1) : cnt a es ≤ 1 :=
  Nat.le_trans (by rw [cnt_cons]; exact Nat.le_add_left ..) h

theorem innerSem_nil : InnerSem p1 s1 [] (.elems []) := fun a _ => by simp

theorem innerSem_skip {res : LoopRes} (hpf : ∀ a, (p1.eval a && p2.eval a) = false)
    (h : InnerSem p1 s1 rest res) : InnerSem p1 s1 ((p2, s2) :: rest) res := by
  cases res with
  | elems l =>
    intro a ha
    obtain ⟨c, v⟩ := h a (cnt_tail_le ha)
    have hpa := hpf a
    rw [c, v, cnt_cons, evalElems_cons]
    generalize p1.eval a = x1, p2.eval a = x2 at hpa ⊢
    cases x1
    · exact ⟨rfl, rfl⟩
    · cases x2
      · exact ⟨(Nat.zero_add _).symm, rfl⟩
      · cases hpa
  | early r =>
    refine ⟨h.1, fun a => ?_⟩
    have hpa := hpf a
    have := h.2 a
    rw [evalElems_cons]
    generalize p1.eval a = x1, p2.eval a = x2 at hpa this ⊢
    cases x1
    · exact this
    · cases x2
      · exact this
      · cases hpa

theorem innerSem_true (hp : ∀ a, (p1.eval a && p2.eval a) = true)
    (hs : ∀ a, (s1.eval a && s2.eval a) = true) :
    InnerSem p1 s1 ((p2, s2) :: rest) (.early .tru) := by
  refine ⟨rfl, fun a => ?_⟩
  have e1 := hp a
  have e2 := hs a
  rw [Bool.and_eq_true] at e1 e2
  rw [evalElems_cons, e1.1, e1.2, e2.1, e2.2]
  rfl

/-- `p1` implies `p2`: no later prime of a partition meets `p1` -/
theorem innerSem_stop (ep : ∀ a, p.eval a = (p1.eval a && p2.eval a))
    (es : ∀ a, s.eval a = (s1.eval a && s2.eval a)) (hpp : ∀ a, p1.eval a = p.eval a) :
    InnerSem p1 s1 ((p2, s2) :: rest) (.elems [(p, s)]) := by
  intro a ha
  have eqa := hpp a
  rw [cnt_cons] at ha
  rw [cnt_cons, cnt_cons, cnt_nil, evalElems_cons, evalElems_cons, evalElems_nil, es a]
  rw [ep a] at eqa ⊢
  generalize p1.eval a = x1, p2.eval a = x2 at eqa ha ⊢
  cases x1
  · exact ⟨rfl, rfl⟩
  · cases x2
    · cases eqa
    · have h0 : cnt a rest = 0 :=
        Nat.le_zero.1 (Nat.le_of_add_le_add_left (show 1 + cnt a rest ≤ 1 + 0 from ha))
      rw [h0, evalElems_of_cnt_zero h0]
      cases s1.eval a <;> cases s2.eval a <;> exact ⟨rfl, rfl⟩

theorem innerSem_cons {res : LoopRes} (ep : ∀ a, p.eval a = (p1.eval a && p2.eval a))
    (es : ∀ a, s.eval a = (s1.eval a && s2.eval a)) (h : InnerSem p1 s1 rest res) :
    InnerSem p1 s1 ((p2, s2) :: rest) (res.mapElems ((p, s) :: ·)) := by
  cases res with
  | early r =>
    refine ⟨h.1, fun a => ?_⟩
    have := h.2 a
    rw [Bool.and_eq_true] at this
    rw [evalElems_cons, this.1, this.2, Bool.or_true]
    rfl
  | elems l =>
    intro a ha
    obtain ⟨c, v⟩ := h a (cnt_tail_le ha)
    rw [cnt_cons, evalElems_cons, c, v, cnt_cons, evalElems_cons, ep a, es a]
    cases p1.eval a
    · exact ⟨rfl, rfl⟩
    · refine ⟨rfl, ?_⟩
      cases s1.eval a
      · cases p2.eval a <;> rfl
      · rfl

end inner

/-- the outer loop's result for the elements `ea` against `eb` -/
def ProdSem (ea eb : List Elem) : LoopRes → Prop
  | .elems l => ∀ a, cnt a l = cnt a ea ∧ evalElems a l = (evalElems a ea && evalElems a eb)
  | .early r => r = .tru ∧ ∀ a, (evalElems a ea && evalElems a eb) = true

section prod
variable {p1 s1 s q s2 : Ptr} {rest eb : List Elem}

theorem prodSem_nil : ProdSem [] eb (.elems []) := fun a => by simp

theorem prodSem_early_cons {x : Elem} {r : Ptr} (h : ProdSem rest eb (.early r)) :
    ProdSem (x :: rest) eb (.early r) := by
  refine ⟨h.1, fun a => ?_⟩
  have := h.2 a
  rw [Bool.and_eq_true] at this
  rw [evalElems_cons, this.1, this.2, Bool.or_true]
  rfl

/-- `eb` has an element whose prime is (equivalent to) `p1`: that element alone meets `(p1, s1)` -/
theorem prodSem_found {res : LoopRes} (hpb : Partition eb) (hmem : (q, s2) ∈ eb)
    (hq : ∀ a, q.eval a = p1.eval a) (es : ∀ a, s.eval a = (s1.eval a && s2.eval a))
    (h : ProdSem rest eb res) :
    ProdSem ((p1, s1) :: rest) eb (res.mapElems ((p1, s) :: ·)) := by
  cases res with
  | early r => exact prodSem_early_cons h
  | elems l =>
    intro a
    obtain ⟨c, v⟩ := h a
    rw [cnt_cons, cnt_cons, c, evalElems_cons, evalElems_cons, v, es a]
    refine ⟨rfl, ?_⟩
    have key : p1.eval a = true → evalElems a eb = s2.eval a := fun h1 =>
      evalElems_of_mem (hpb a) hmem ((hq a).trans h1)
    cases h1 : p1.eval a
    · rfl
    · rw [key h1]
      exact (Bool.and_or_distrib_right (s1.eval a) (evalElems a rest) (s2.eval a)).symm

theorem prodSem_inner_early {r : Ptr} (h : InnerSem p1 s1 eb (.early r)) :
    ProdSem ((p1, s1) :: rest) eb (.early r) := by
  refine ⟨h.1, fun a => ?_⟩
  have := h.2 a
  rw [Bool.and_eq_true] at this
  rw [evalElems_cons, this.1, this.2]
  rfl

theorem prodSem_inner {l1 : List Elem} {res : LoopRes} (hpb : Partition eb)
    (h1 : InnerSem p1 s1 eb (.elems l1)) (h : ProdSem rest eb res) :
    ProdSem ((p1, s1) :: rest) eb (res.mapElems (l1 ++ ·)) := by
  cases res with
  | early r => exact prodSem_early_cons h
  | elems l =>
    intro a
    obtain ⟨c, v⟩ := h a
    obtain ⟨c1, v1⟩ := h1 a (Nat.le_of_eq (hpb a))
    rw [cnt_append, c1, c, cnt_cons, evalElems_append, v1, v, evalElems_cons, hpb a]
    exact ⟨rfl, (Bool.and_or_distrib_right ..).symm⟩

end prod

/-- the loop of `and_sub_desc`: every sub conjoined with `d` -/
theorem subDescSem_cons {p s ns d : Ptr} {rest v : List Elem}
    (ens : ∀ a, ns.eval a = (s.eval a && d.eval a))
    (h : ∀ a, cnt a v = cnt a rest ∧ evalElems a v = (evalElems a rest && d.eval a)) (a : Assign) :
    cnt a ((p, ns) :: v) = cnt a ((p, s) :: rest) ∧
      evalElems a ((p, ns) :: v) = (evalElems a ((p, s) :: rest) && d.eval a) := by
  obtain ⟨c, e⟩ := h a
  rw [cnt_cons, cnt_cons, c, evalElems_cons, evalElems_cons, e, ens a]
  rw [Bool.and_or_distrib_right, Bool.and_assoc]
  exact ⟨rfl, rfl⟩

/-- the element loop of `condition` on `x := v`, for the elements `es` -/
def CondSem (x : Nat) (v : Bool) (es : List Elem) : LoopRes → Prop
  | .elems l => ∀ a, cnt (upd a x v) es ≤ 1 →
      cnt a l = cnt (upd a x v) es ∧ evalElems a l = evalElems (upd a x v) es
  | .early r => (∀ a, 1 ≤ cnt (upd a x v) es) ∧
      ∀ a, cnt (upd a x v) es ≤ 1 → r.eval a = evalElems (upd a x v) es

section cond
variable {x : Nat} {v : Bool} {p s newp news : Ptr} {rest : List Elem}

theorem condSem_nil : CondSem x v [] (.elems []) := fun a _ => by simp

theorem condSem_skip {res : LoopRes} (hpf : ∀ a, p.eval (upd a x v) = false)
    (h : CondSem x v rest res) : CondSem x v ((p, s) :: rest) res := by
  cases res with
  | elems l =>
    intro a ha
    obtain ⟨c, e⟩ := h a (cnt_tail_le ha)
    rw [c, e, cnt_cons, evalElems_cons, hpf a]
    exact ⟨(Nat.zero_add _).symm, rfl⟩
  | early r =>
    refine ⟨fun a => ?_, fun a ha => ?_⟩
    · rw [cnt_cons]; exact Nat.le_trans (h.1 a) (Nat.le_add_left ..)
    · rw [h.2 a (cnt_tail_le ha), evalElems_cons, hpf a]; rfl

theorem condSem_true (hpt : ∀ a, p.eval (upd a x v) = true)
    (ens : ∀ a, news.eval a = s.eval (upd a x v)) : CondSem x v ((p, s) :: rest) (.early news) := by
  refine ⟨fun a => ?_, fun a ha => ?_⟩
  · rw [cnt_cons, hpt a]; exact Nat.le_add_right ..
  · rw [cnt_cons, hpt a] at ha
    have h0 : cnt (upd a x v) rest = 0 :=
      Nat.le_zero.1 (Nat.le_of_add_le_add_left (show 1 + cnt (upd a x v) rest ≤ 1 + 0 from ha))
    rw [ens, evalElems_cons, evalElems_of_cnt_zero h0, hpt a]
    cases s.eval (upd a x v) <;> rfl

theorem condSem_cons {res : LoopRes} (enp : ∀ a, newp.eval a = p.eval (upd a x v))
    (ens : ∀ a, news.eval a = s.eval (upd a x v)) (h : CondSem x v rest res) :
    CondSem x v ((p, s) :: rest) (res.mapElems ((newp, news) :: ·)) := by
  cases res with
  | early r =>
    refine ⟨fun a => ?_, fun a ha => ?_⟩
    · rw [cnt_cons]; exact Nat.le_trans (h.1 a) (Nat.le_add_left ..)
    · have h1 := h.1 a
      rw [h.2 a (cnt_tail_le ha), evalElems_cons]
      rw [cnt_cons] at ha
      cases hpa : p.eval (upd a x v)
      · rfl
      · rw [hpa] at ha
        exact absurd (Nat.le_trans (Nat.add_le_add_left h1 1) ha) (by decide)
  | elems l =>
    intro a ha
    obtain ⟨c, e⟩ := h a (cnt_tail_le ha)
    rw [cnt_cons, evalElems_cons, c, e, cnt_cons, evalElems_cons, enp, ens]
    exact ⟨rfl, rfl⟩

end cond

/-! ## `compress`: removing an element, merging two primes with equal subs -/

theorem swapRemoveHead_mem {x e : Elem} {xs : List Elem} (h : e ∈ swapRemoveHead (x :: xs)) :
    e ∈ xs := by
  cases xs with
  | nil => simp [swapRemoveHead] at h
  | cons y ys =>
    simp only [swapRemoveHead, List.mem_cons] at h
    rcases h with rfl | h
    · exact List.getLast_mem _
    · exact List.dropLast_subset _ h

theorem swapRemoveHead_cnt (a : Assign) (x : Elem) (xs : List Elem) :
    cnt a (swapRemoveHead (x :: xs)) = cnt a xs := by
  cases xs with
  | nil => simp [swapRemoveHead]
  | cons y ys =>
    simp only [swapRemoveHead]
    have h := List.dropLast_concat_getLast (l := y :: ys) (by simp)
    conv => rhs; rw [← h]
    rw [cnt_cons, cnt_append, cnt_cons, cnt_nil]; omega

theorem swapRemoveHead_eval (a : Assign) (x : Elem) (xs : List Elem) :
    evalElems a (swapRemoveHead (x :: xs)) = evalElems a xs := by
  cases xs with
  | nil => simp [swapRemoveHead]
  | cons y ys =>
    simp only [swapRemoveHead]
    have h := List.dropLast_concat_getLast (l := y :: ys) (by simp)
    conv => rhs; rw [← h]
    rw [evalElems_cons, evalElems_append, evalElems_cons, evalElems_nil]
    generalize evalElems a (y :: ys).dropLast = d
    cases d <;> simp

theorem swapRemoveHead_length (x : Elem) (xs : List Elem) :
    (swapRemoveHead (x :: xs)).length = xs.length := by
  cases xs with
  | nil => rfl
  | cons y ys => simp [swapRemoveHead]

theorem compressMerge_sem {a : Assign} {p q p1 s : Ptr} {done rest : List Elem}
    (ep1 : p1.eval a = (p.eval a || q.eval a))
    (ha : cnt a ((p, s) :: (done ++ (q, s) :: rest)) ≤ 1) :
    cnt a ((p1, s) :: (done ++ swapRemoveHead ((q, s) :: rest))) =
        cnt a ((p, s) :: (done ++ (q, s) :: rest)) ∧
      evalElems a ((p1, s) :: (done ++ swapRemoveHead ((q, s) :: rest))) =
        evalElems a ((p, s) :: (done ++ (q, s) :: rest)) := by
  rw [cnt_cons, cnt_append, cnt_cons] at ha
  rw [cnt_cons, cnt_append, swapRemoveHead_cnt, cnt_cons, cnt_append, cnt_cons, evalElems_cons,
    evalElems_append, swapRemoveHead_eval, evalElems_cons, evalElems_append, evalElems_cons]
  simp only [ep1] at ha ⊢
  generalize p.eval a = x, q.eval a = y at ha ⊢
  cases x <;> cases y
  · exact ⟨by simp only [Bool.or_self, Bool.false_eq_true, if_false]; omega, rfl⟩
  · refine ⟨by simp only [Bool.or_true, Bool.false_eq_true, if_true, if_false]; omega, ?_⟩
    cases s.eval a <;> cases evalElems a done <;> rfl
  · refine ⟨by simp only [Bool.or_false, Bool.false_eq_true, if_true, if_false]; omega, ?_⟩
    cases s.eval a <;> cases evalElems a done <;> rfl
  · simp only [if_true] at ha; omega

end Sdd
