import RsddModel.Model.BddBuilder
import RsddModel.Lemmas.BddCanon
import RsddModel.Lemmas.BddCond
/-!
# Lemmas: every builder operation preserves well-formedness

For every lawful cache `C` and every injective level map `lvl`: if the apply cache only holds
well formed results (`CacheWF`) and the arguments are ordered and reduced, then so is the
result, and the cache invariant is kept.  Injectivity of `lvl` is used in exactly one place:
in `ite`, a cofactor whose top variable is not the split variable `x` must start strictly
below `x` (`condEssential_above`).
-/
namespace Bdd
open Spec

/-! ## closure of `Ite.new` under predicates that ignore complementation -/

/-- `P` holds of every component of a standard triple -/
def Ite.All (P : Ptr → Prop) : Ite → Prop
  | .choice f g h => P f ∧ P g ∧ P h
  | .complChoice f g h => P f ∧ P g ∧ P h
  | .const p => P p

section closure
variable {P : Ptr → Prop} (hiff : ∀ p, P p.neg ↔ P p)
include hiff

theorem terminal_fwd {f g h r : Ptr} (pf : P f) (pg : P g) (ph : P h)
    (hr : terminal? f g h = some r) : P r := by
  revert hr
  apply terminal_cases f g h (M := fun o => o = some r → P r)
  · rintro _ ⟨⟩; exact pg
  · rintro _ ⟨⟩; exact ph
  · rintro _ _ ⟨⟩; exact pf
  · rintro _ _ ⟨⟩; exact (hiff f).2 pf
  · rintro _ ⟨⟩; exact pg
  · exact nofun

/-- `reorder` permutes the triple, up to complementation -/
theorem reorder_all (ord) {f g h : Ptr} :
    P (reorder ord f g h).1 ∧ P (reorder ord f g h).2.1 ∧ P (reorder ord f g h).2.2 ↔
      P f ∧ P g ∧ P h := by
  apply reorder_cases ord f g h (M := fun r => P r.1 ∧ P r.2.1 ∧ P r.2.2 ↔ P f ∧ P g ∧ P h)
  · intro _; simp only [and_comm, and_left_comm]
  · intro _; simp only [and_left_comm]
  · intro _; simp only [hiff, and_left_comm]
  · intro _; simp only [hiff, and_comm, and_left_comm]
  · rintro rfl; simp only [hiff, and_comm, and_self]
  · exact Iff.rfl

theorem standardise_all {f g h : Ptr} : (standardise f g h).All P ↔ P f ∧ P g ∧ P h := by
  apply standardise_cases f g h (M := fun i => i.All P ↔ P f ∧ P g ∧ P h) <;>
    simp only [Ite.All, hiff, and_comm]

variable (ht : P .tru) (hf : P .fls)
include ht hf

/-- the component `introConst` replaces by a constant is a copy, up to complementation, of one
it keeps -/
theorem introConst_all {f g h : Ptr} :
    P (introConst f g h).1 ∧ P (introConst f g h).2.1 ∧ P (introConst f g h).2.2 ↔
      P f ∧ P g ∧ P h := by
  apply introConst_cases f g h (M := fun r => P r.1 ∧ P r.2.1 ∧ P r.2.2 ↔ P f ∧ P g ∧ P h)
  · rintro rfl; exact ⟨fun ⟨a, b, _⟩ => ⟨a, b, a⟩, fun ⟨a, b, _⟩ => ⟨a, b, hf⟩⟩
  · rintro rfl; exact ⟨fun ⟨a, b, _⟩ => ⟨a, b, (hiff h).1 a⟩, fun ⟨a, b, _⟩ => ⟨a, b, ht⟩⟩
  · rintro rfl; exact ⟨fun ⟨a, _, c⟩ => ⟨a, (hiff g).1 a, c⟩, fun ⟨a, _, c⟩ => ⟨a, hf, c⟩⟩
  · exact Iff.rfl

theorem iteNew_fwd (ord) {f g h : Ptr} (pf : P f) (pg : P g) (ph : P h) :
    (Ite.new ord f g h).All P := by
  have h1 := (introConst_all hiff ht hf).2 ⟨pf, pg, ph⟩
  apply iteNew_cases ord f g h
  · exact fun r hr => terminal_fwd hiff h1.1 h1.2.1 h1.2.2 hr
  · exact fun _ => (standardise_all hiff).2 ((reorder_all hiff ord).2 h1)

/-- no component of the original triple is forgotten, unless the triple collapses to a constant -/
theorem iteNew_bwd (ord) {f g h : Ptr} (hr : (Ite.new ord f g h).All P) :
    (∃ r, Ite.new ord f g h = .const r) ∨ (P f ∧ P g ∧ P h) := by
  revert hr
  apply iteNew_cases ord f g h (M := fun i => i.All P → (∃ r, i = .const r) ∨ (P f ∧ P g ∧ P h))
  · exact fun r _ _ => .inl ⟨r, rfl⟩
  · exact fun _ hr => .inr ((introConst_all hiff ht hf).1
      ((reorder_all hiff ord).1 ((standardise_all hiff).1 hr)))

end closure

theorem above_neg_iff (lvl k) (p : Ptr) : p.neg.above lvl k ↔ p.above lvl k :=
  ⟨above_of_neg, above_neg⟩

theorem ite_neg_above {lvl k} {c : Bool} {p : Ptr} (h : p.above lvl k) :
    (if c then p.neg else p).above lvl k := by
  cases c <;> simp only [if_true, if_false, Bool.false_eq_true] <;>
    first | assumption | exact above_neg h

theorem ite_neg_red {c : Bool} {p : Ptr} (h : p.red) : (if c then p.neg else p).red := by
  cases c <;> simp only [if_true, if_false, Bool.false_eq_true] <;>
    first | assumption | exact red_neg h

/-! ## the pieces of `ite` -/

theorem neg_inj {p q : Ptr} (h : p.neg = q.neg) : p = q := by
  have := congrArg Ptr.neg h; simpa using this

theorem mkNode_red {x : Nat} {lo hi : Ptr} (hne : lo ≠ hi) (rl : lo.red) (rh : hi.red) :
    (mkNode x lo hi).red := by
  apply mkNode_cases x lo hi
  · intro hc
    refine ⟨fun e => hne (neg_inj e), ?_, ?_, red_neg rl, red_neg rh⟩
    · cases hi with
      | tru => rfl
      | fls => rfl
      | node c _ _ _ => cases c <;> simp_all [Ptr.isNeg, Ptr.isFalse, Ptr.neg]
    · cases hi with
      | tru => simp [Ptr.isNeg, Ptr.isFalse] at hc
      | fls => simp [Ptr.neg]
      | node c _ _ _ => simp [Ptr.neg]
  · intro hc
    simp only [Bool.or_eq_true, not_or, Bool.not_eq_true] at hc
    refine ⟨hne, hc.1, ?_, rl, rh⟩
    intro e; subst e; simp [Ptr.isFalse] at hc

theorem mkNode_above {lvl : Nat → Nat} {k x : Nat} {lo hi : Ptr} (hk : k ≤ lvl x)
    (al : lo.above lvl (lvl x + 1)) (ah : hi.above lvl (lvl x + 1)) :
    (mkNode x lo hi).above lvl k :=
  mkNode_cases x lo hi (fun _ => ⟨hk, above_neg al, above_neg ah⟩) fun _ => ⟨hk, al, ah⟩

/-- the top variable of `p`, if any, is not before `x` -/
def topGe (lvl : Nat → Nat) (x : Nat) (p : Ptr) : Prop := ∀ v, p.top? = some v → lvl x ≤ lvl v

theorem first_cases (lvl a b) : first lvl a b = a ∨ first lvl a b = b := by
  unfold first
  (repeat' split) <;> simp

theorem first_top_le (lvl : Nat → Nat) {a b : Ptr} {v : Nat}
    (h : a.top? = some v ∨ b.top? = some v) :
    ∃ w, (first lvl a b).top? = some w ∧ lvl w ≤ lvl v := by
  rcases a with _ | _ | ⟨ca, va, la, ha⟩ <;> rcases b with _ | _ | ⟨cb, vb, lb, hb⟩ <;>
    simp only [Ptr.top?, reduceCtorEq, Option.some.injEq, or_self, or_false, false_or] at h
  · exact ⟨vb, rfl, h ▸ Nat.le_refl _⟩
  · exact ⟨vb, rfl, h ▸ Nat.le_refl _⟩
  · exact ⟨va, rfl, h ▸ Nat.le_refl _⟩
  · exact ⟨va, rfl, h ▸ Nat.le_refl _⟩
  · by_cases hlt : lvl va < lvl vb
    · refine ⟨va, by simp only [first, Ptr.top?, hlt, if_true], ?_⟩
      rcases h with rfl | rfl
      · exact Nat.le_refl _
      · exact Nat.le_of_lt hlt
    · refine ⟨vb, by simp only [first, Ptr.top?, hlt, if_false], ?_⟩
      rcases h with rfl | rfl
      · exact Nat.le_of_not_lt hlt
      · exact Nat.le_refl _

/-- `first_essential` returns a top variable of one of the three, and no top variable comes
before it -/
theorem firstEssential_spec {lvl : Nat → Nat} {f g h : Ptr} {x : Nat}
    (hx : firstEssential lvl f g h = some x) :
    (f.top? = some x ∨ g.top? = some x ∨ h.top? = some x) ∧
    topGe lvl x f ∧ topGe lvl x g ∧ topGe lvl x h := by
  unfold firstEssential at hx
  refine ⟨?_, ?_, ?_, ?_⟩
  · rcases first_cases lvl (first lvl f g) h with e | e
    · rw [e] at hx
      rcases first_cases lvl f g with e' | e' <;> rw [e'] at hx <;> simp [hx]
    · rw [e] at hx; simp [hx]
  · intro v hv
    obtain ⟨w, hw, hle⟩ := first_top_le lvl (.inl hv)
    obtain ⟨w', hw', hle'⟩ := first_top_le lvl (b := h) (.inl hw)
    rw [hx] at hw'; cases hw'; omega
  · intro v hv
    obtain ⟨w, hw, hle⟩ := first_top_le lvl (.inr hv)
    obtain ⟨w', hw', hle'⟩ := first_top_le lvl (b := h) (.inl hw)
    rw [hx] at hw'; cases hw'; omega
  · intro v hv
    obtain ⟨w', hw', hle'⟩ := first_top_le lvl (a := first lvl f g) (.inr hv)
    rw [hx] at hw'; cases hw'; omega

theorem le_of_top_above {lvl : Nat → Nat} {k x : Nat} {p : Ptr} (ha : p.above lvl k)
    (ht : p.top? = some x) : k ≤ lvl x := by
  cases p with
  | tru => simp [Ptr.top?] at ht
  | fls => simp [Ptr.top?] at ht
  | node c v lo hi => simp only [Ptr.top?, Option.some.injEq] at ht; subst ht; exact ha.1

/-- the cofactor taken by `ite` lives strictly below the split variable (this is where
injectivity of the level map is needed) -/
theorem condEssential_above {lvl : Nat → Nat} (inj : ∀ x y, lvl x = lvl y → x = y)
    {k x : Nat} {p : Ptr} (b : Bool) (ha : p.above lvl k) (hge : topGe lvl x p) :
    (condEssential p x b).above lvl (lvl x + 1) := by
  cases p with
  | tru => trivial
  | fls => trivial
  | node c y lo hi =>
    obtain ⟨_, hlo, hhi⟩ := ha
    rw [condEssential]
    refine if_elim (fun hne => ?_) fun heq => ?_
    · have h1 := hge y rfl
      have h2 : lvl x ≠ lvl y := fun e => hne (inj _ _ e).symm
      exact ⟨by omega, hlo, hhi⟩
    · cases Decidable.not_not.1 heq
      apply ite_neg_above
      cases b
      · exact hlo
      · exact hhi

theorem condEssential_red {x : Nat} {p : Ptr} (b : Bool) (hr : p.red) :
    (condEssential p x b).red := by
  cases p with
  | tru => trivial
  | fls => trivial
  | node c y lo hi =>
    rw [condEssential]
    refine if_elim (fun _ => hr) fun _ => ite_neg_red ?_
    cases b
    · exact hr.2.2.2.1
    · exact hr.2.2.2.2

/-! ## the cache invariant -/

/-- every cached result is reduced, and it is ordered from level `k` on whenever the three
components of its key are -/
def CacheWF (C : CacheImpl) (lvl : Nat → Nat) (s : C.σ) : Prop :=
  ∀ f g h r, C.get s (f, g, h) = some r →
    r.red ∧ ∀ k, f.above lvl k → g.above lvl k → h.above lvl k → r.above lvl k

theorem cacheWF_empty (C : CacheImpl) (lvl) : CacheWF C lvl C.empty := by
  intro f g h r hget; rw [C.empty_get] at hget; cases hget

theorem cacheGet_wf {C : CacheImpl} {lvl} {s : C.σ} (hs : CacheWF C lvl s) {key : Ite} {v : Ptr}
    (hnc : ∀ p, key = .const p → False) (hget : cacheGet C s key = some v) :
    v.red ∧ ∀ k, key.All (Ptr.above lvl k) → v.above lvl k := by
  cases key with
  | choice f g h =>
    obtain ⟨h1, h2⟩ := hs _ _ _ _ hget
    exact ⟨h1, fun k hk => h2 k hk.1 hk.2.1 hk.2.2⟩
  | complChoice f g h =>
    simp only [cacheGet, Option.map_eq_some_iff] at hget
    obtain ⟨w, hw, rfl⟩ := hget
    obtain ⟨h1, h2⟩ := hs _ _ _ _ hw
    exact ⟨red_neg h1, fun k hk => above_neg (h2 k hk.1 hk.2.1 hk.2.2)⟩
  | const p => exact absurd rfl (hnc p)

theorem cacheInsert_wf {C : CacheImpl} {lvl} {s : C.σ} (hs : CacheWF C lvl s) (key : Ite) {r : Ptr}
    (hr : r.red) (ha : ∀ k, key.All (Ptr.above lvl k) → r.above lvl k) :
    CacheWF C lvl (cacheInsert C s key r) := by
  cases key with
  | choice f g h =>
    intro f' g' h' r' hget
    rcases C.lawful _ _ _ _ _ hget with ⟨hk, hv⟩ | hold
    · cases hk; subst hv
      exact ⟨hr, fun k a1 a2 a3 => ha k ⟨a1, a2, a3⟩⟩
    · exact hs _ _ _ _ hold
  | complChoice f g h =>
    intro f' g' h' r' hget
    rcases C.lawful _ _ _ _ _ hget with ⟨hk, hv⟩ | hold
    · cases hk; subst hv
      exact ⟨red_neg hr, fun k a1 a2 a3 => above_neg (ha k ⟨a1, a2, a3⟩)⟩
    · exact hs _ _ _ _ hold
  | const p => exact hs

/-! ## `ite` -/

/-- one unfolding of `ite` when the standard triple is not a constant -/
theorem ite_succ_eq {C : CacheImpl} {lvl : Nat → Nat} {fuel : Nat} {s : C.σ} {f g h : Ptr} {key : Ite}
    (hk : Ite.new (ordP lvl) f g h = key) (hnc : ∀ r, key = .const r → False) :
    ite C lvl (fuel + 1) s f g h =
      match cacheGet C s key with
      | some v => some (s, v)
      | none =>
        match firstEssential lvl f g h with
        | none => none
        | some x =>
          match ite C lvl fuel s (condEssential f x true) (condEssential g x true) (condEssential h x true) with
          | none => none
          | some (s1, t) =>
            match ite C lvl fuel s1 (condEssential f x false) (condEssential g x false) (condEssential h x false) with
            | none => none
            | some (s2, e) =>
              if t = e then some (s2, t)
              else some (cacheInsert C s2 key (mkNode x e t), mkNode x e t) := by
  subst hk
  simp only [ite] <;> rfl

theorem ite_succ_const {C : CacheImpl} {lvl : Nat → Nat} {fuel : Nat} {s : C.σ} {f g h r : Ptr}
    (hk : Ite.new (ordP lvl) f g h = .const r) : ite C lvl (fuel + 1) s f g h = some (s, r) := by
  simp only [ite, hk]

/-- how a call of `ite` with fuel left can have returned `(s', r)`: through a constant standard
triple, through the cache, or through the two recursive calls on the cofactors.  The last case
asks for both of its ends at once, `t = e` (the node collapses, nothing is cached) and `t ≠ e`
(the node is built and cached), so that a caller derives what both share only once. -/
theorem ite_succ_elim {C : CacheImpl} {lvl : Nat → Nat} {n : Nat} {s : C.σ} {f g h : Ptr}
    {M : C.σ → Ptr → Prop}
    (const : ∀ r, Ite.new (ordP lvl) f g h = .const r → M s r)
    (hit : ∀ v, (∀ p, Ite.new (ordP lvl) f g h ≠ .const p) →
      cacheGet C s (Ite.new (ordP lvl) f g h) = some v → M s v)
    (node : ∀ x s1 t s2 e, (∀ p, Ite.new (ordP lvl) f g h ≠ .const p) →
      firstEssential lvl f g h = some x →
      ite C lvl n s (condEssential f x true) (condEssential g x true) (condEssential h x true)
        = some (s1, t) →
      ite C lvl n s1 (condEssential f x false) (condEssential g x false) (condEssential h x false)
        = some (s2, e) →
      (t = e → M s2 t) ∧
      (t ≠ e → M (cacheInsert C s2 (Ite.new (ordP lvl) f g h) (mkNode x e t)) (mkNode x e t)))
    {s' : C.σ} {r : Ptr} (hrun : ite C lvl (n + 1) s f g h = some (s', r)) : M s' r := by
  rw [ite] at hrun
  generalize Ite.new (ordP lvl) f g h = key at hrun const hit node
  split at hrun
  · cases hrun; exact const _ rfl
  · rename_i hnc
    split at hrun
    · cases hrun; exact hit _ hnc ‹_›
    · split at hrun
      · cases hrun
      · split at hrun
        · cases hrun
        · split at hrun
          · cases hrun
          · have hn := node _ _ _ _ _ hnc ‹_› ‹_› ‹_›
            split at hrun
            · cases hrun; exact hn.1 ‹_›
            · cases hrun; exact hn.2 ‹_›

/-- **`ite` preserves well-formedness**, general form: the result is reduced, and it is ordered
from every level `k` on from which all three arguments are. -/
theorem ite_wf_gen (C : CacheImpl) (lvl : Nat → Nat) (inj : ∀ x y, lvl x = lvl y → x = y) :
    ∀ fuel s f g h s' r, CacheWF C lvl s →
      f.above lvl 0 → g.above lvl 0 → h.above lvl 0 → f.red → g.red → h.red →
      ite C lvl fuel s f g h = some (s', r) →
      CacheWF C lvl s' ∧ r.red ∧
        ∀ k, f.above lvl k → g.above lvl k → h.above lvl k → r.above lvl k := by
  intro fuel
  induction fuel with
  | zero => intro s f g h s' r _ _ _ _ _ _ _ hrun; simp [ite] at hrun
  | succ n ih =>
    intro s f g h s' r hs af ag ah rf rg rh hrun
    have key_above : ∀ k, f.above lvl k → g.above lvl k → h.above lvl k →
        (Ite.new (ordP lvl) f g h).All (Ptr.above lvl k) := fun k a1 a2 a3 =>
      iteNew_fwd (above_neg_iff lvl k) trivial trivial (ordP lvl) a1 a2 a3
    have key_red : (Ite.new (ordP lvl) f g h).All Ptr.red :=
      iteNew_fwd (fun p => ⟨red_of_neg, red_neg⟩) trivial trivial (ordP lvl) rf rg rh
    have key_bwd : ∀ k, (Ite.new (ordP lvl) f g h).All (Ptr.above lvl k) →
        (∃ r, Ite.new (ordP lvl) f g h = .const r) ∨
          (f.above lvl k ∧ g.above lvl k ∧ h.above lvl k) := fun k =>
      iteNew_bwd (above_neg_iff lvl k) trivial trivial (ordP lvl)
    refine ite_succ_elim (M := fun s' r => CacheWF C lvl s' ∧ r.red ∧
      ∀ k, f.above lvl k → g.above lvl k → h.above lvl k → r.above lvl k) ?_ ?_ ?_ hrun
    · intro r hk
      rw [hk] at key_red key_above
      exact ⟨hs, key_red, key_above⟩
    · intro v hnc hv
      obtain ⟨h1, h2⟩ := cacheGet_wf hs hnc hv
      exact ⟨hs, h1, fun k a1 a2 a3 => h2 k (key_above k a1 a2 a3)⟩
    · intro x s1 t s2 e hnc hx ht he
      obtain ⟨hmem, gf, gg, gh⟩ := firstEssential_spec hx
      -- cofactors are ordered strictly below `x` and reduced
      have cf := fun b => condEssential_above inj (x := x) b af gf
      have cg := fun b => condEssential_above inj (x := x) b ag gg
      have ch := fun b => condEssential_above inj (x := x) b ah gh
      obtain ⟨hs1, rt, at'⟩ := ih _ _ _ _ _ _ hs (above_zero (cf true)) (above_zero (cg true))
        (above_zero (ch true)) (condEssential_red true rf) (condEssential_red true rg)
        (condEssential_red true rh) ht
      obtain ⟨hs2, re, ae⟩ := ih _ _ _ _ _ _ hs1 (above_zero (cf false)) (above_zero (cg false))
        (above_zero (ch false)) (condEssential_red false rf) (condEssential_red false rg)
        (condEssential_red false rh) he
      have at1 := at' _ (cf true) (cg true) (ch true)
      have ae1 := ae _ (cf false) (cg false) (ch false)
      -- `x` is not before any level from which all of f, g, h are ordered
      have hkx : ∀ k, f.above lvl k → g.above lvl k → h.above lvl k → k ≤ lvl x := by
        intro k a1 a2 a3
        rcases hmem with e | e | e
        · exact le_of_top_above a1 e
        · exact le_of_top_above a2 e
        · exact le_of_top_above a3 e
      refine ⟨fun _ => ⟨hs2, rt, fun k a1 a2 a3 =>
        above_mono (Nat.le_succ_of_le (hkx k a1 a2 a3)) at1⟩, fun hte => ?_⟩
      have rr : (mkNode x e t).red := mkNode_red (fun e' => hte e'.symm) re rt
      have ar : ∀ k, f.above lvl k → g.above lvl k → h.above lvl k →
          (mkNode x e t).above lvl k := fun k a1 a2 a3 =>
        mkNode_above (hkx k a1 a2 a3) ae1 at1
      refine ⟨cacheInsert_wf hs2 _ rr ?_, rr, ar⟩
      intro k hkey
      rcases key_bwd k hkey with ⟨r0, hr0⟩ | ⟨a1, a2, a3⟩
      · exact absurd hr0 (hnc r0)
      · exact ar k a1 a2 a3

theorem ite_WF (C : CacheImpl) (lvl : Nat → Nat) (inj : ∀ x y, lvl x = lvl y → x = y)
    {fuel : Nat} {s s' : C.σ} {f g h r : Ptr} (hs : CacheWF C lvl s)
    (hf : WF lvl f) (hg : WF lvl g) (hh : WF lvl h)
    (hrun : ite C lvl fuel s f g h = some (s', r)) : CacheWF C lvl s' ∧ WF lvl r := by
  obtain ⟨h1, h2, h3⟩ := ite_wf_gen C lvl inj fuel s f g h s' r hs hf.1 hg.1 hh.1 hf.2 hg.2 hh.2 hrun
  exact ⟨h1, h3 0 hf.1 hg.1 hh.1, h2⟩

/-! ## conditioning -/

/-- conditioning keeps a diagram ordered (from the same level on); no injectivity needed -/
theorem condPure_above (lvl : Nat → Nat) (x : Nat) (b : Bool) :
    ∀ (p : Ptr) (k : Nat), p.above lvl k → (condPure lvl x b p).above lvl k := by
  intro p
  induction p with
  | tru => intro k _; trivial
  | fls => intro k _; trivial
  | node c y lo hi ihlo ihhi =>
    intro k ⟨hk, alo, ahi⟩
    have hk1 : k ≤ lvl y + 1 := Nat.le_succ_of_le hk
    apply condPure_node_elim
    · exact fun _ => ⟨hk, alo, ahi⟩
    · intro _
      apply ite_neg_above
      cases b
      · exact above_mono hk1 alo
      · exact above_mono hk1 ahi
    · exact fun _ _ => ite_neg_above (above_mono hk1 (ihlo _ alo))
    · exact fun _ _ => ite_neg_above (mkNode_above hk (ihlo _ alo) (ihhi _ ahi))
    · exact fun _ _ _ => ⟨hk, alo, ahi⟩

theorem condPure_red (lvl : Nat → Nat) (x : Nat) (b : Bool) :
    ∀ (p : Ptr), p.red → (condPure lvl x b p).red := by
  intro p
  induction p with
  | tru => intro _; trivial
  | fls => intro _; trivial
  | node c y lo hi ihlo ihhi =>
    intro hr
    have rlo := hr.2.2.2.1
    have rhi := hr.2.2.2.2
    apply condPure_node_elim
    · exact fun _ => hr
    · intro _
      apply ite_neg_red
      cases b
      · exact rlo
      · exact rhi
    · exact fun _ _ => ite_neg_red (ihlo rlo)
    · exact fun _ hlh => ite_neg_red (mkNode_red hlh (ihlo rlo) (ihhi rhi))
    · exact fun _ _ _ => hr

theorem condPure_WF (lvl : Nat → Nat) (x : Nat) (b : Bool) {p : Ptr} (h : WF lvl p) :
    WF lvl (condPure lvl x b p) := ⟨condPure_above lvl x b p 0 h.1, condPure_red lvl x b p h.2⟩

theorem condition_above (lvl : Nat → Nat) (x : Nat) (b : Bool) {p : Ptr} {k : Nat}
    (h : p.above lvl k) : (condition lvl p x b).above lvl k := by
  rw [condition_eq_pure]; exact condPure_above lvl x b p k h

theorem condition_red (lvl : Nat → Nat) (x : Nat) (b : Bool) {p : Ptr}
    (h : p.red) : (condition lvl p x b).red := by
  rw [condition_eq_pure]; exact condPure_red lvl x b p h

theorem condition_WF (lvl : Nat → Nat) (x : Nat) (b : Bool) {p : Ptr} (h : WF lvl p) :
    WF lvl (condition lvl p x b) := ⟨condition_above lvl x b h.1, condition_red lvl x b h.2⟩

theorem condModel_WF (lvl : Nat → Nat) : ∀ (m : List (Nat × Bool)) {p : Ptr}, WF lvl p →
    WF lvl (condModel lvl p m)
  | [], _, h => h
  | (x, b) :: rest, _, h => condModel_WF lvl rest (condition_WF lvl x b h)

/-! ## variables and the derived operations -/

theorem mkVar_WF (lvl : Nat → Nat) (x : Nat) (pol : Bool) : WF lvl (mkVar x pol) := by
  have h : WF lvl (mkNode x .fls .tru) :=
    ⟨mkNode_above (Nat.zero_le _) trivial trivial, mkNode_red (by simp) trivial trivial⟩
  unfold mkVar
  cases pol <;> simp only [if_true, if_false, Bool.false_eq_true]
  · exact WF_neg h
  · exact h

section ops
variable (C : CacheImpl) (lvl : Nat → Nat) (inj : ∀ x y, lvl x = lvl y → x = y) {fuel : Nat}
include inj

theorem bAnd_WF {s s' : C.σ} {f g r : Ptr} (hs : CacheWF C lvl s) (hf : WF lvl f) (hg : WF lvl g)
    (hrun : bAnd C lvl fuel s f g = some (s', r)) : CacheWF C lvl s' ∧ WF lvl r :=
  ite_WF C lvl inj hs hf hg (WF_fls lvl) hrun

theorem bIff_WF {s s' : C.σ} {f g r : Ptr} (hs : CacheWF C lvl s) (hf : WF lvl f) (hg : WF lvl g)
    (hrun : bIff C lvl fuel s f g = some (s', r)) : CacheWF C lvl s' ∧ WF lvl r :=
  ite_WF C lvl inj hs hf hg (WF_neg hg) hrun

theorem bXor_WF {s s' : C.σ} {f g r : Ptr} (hs : CacheWF C lvl s) (hf : WF lvl f) (hg : WF lvl g)
    (hrun : bXor C lvl fuel s f g = some (s', r)) : CacheWF C lvl s' ∧ WF lvl r :=
  ite_WF C lvl inj hs hf (WF_neg hg) hg hrun

theorem bOr_WF {s s' : C.σ} {f g r : Ptr} (hs : CacheWF C lvl s) (hf : WF lvl f) (hg : WF lvl g)
    (hrun : bOr C lvl fuel s f g = some (s', r)) : CacheWF C lvl s' ∧ WF lvl r := by
  unfold bOr at hrun
  split at hrun
  · rename_i s1 r1 h1
    simp only [Option.some.injEq, Prod.mk.injEq] at hrun; obtain ⟨rfl, rfl⟩ := hrun
    obtain ⟨h2, h3⟩ := bAnd_WF C lvl inj hs (WF_neg hf) (WF_neg hg) h1
    exact ⟨h2, WF_neg h3⟩
  · cases hrun

theorem bExists_WF {s s' : C.σ} {f r : Ptr} {x : Nat} (hs : CacheWF C lvl s) (hf : WF lvl f)
    (hrun : bExists C lvl fuel s f x = some (s', r)) : CacheWF C lvl s' ∧ WF lvl r :=
  bOr_WF C lvl inj hs (condition_WF lvl x true hf) (condition_WF lvl x false hf) hrun

theorem bCompose_WF {s s' : C.σ} {f g r : Ptr} {x : Nat} (hs : CacheWF C lvl s) (hf : WF lvl f)
    (hg : WF lvl g) (hrun : bCompose C lvl fuel s f x g = some (s', r)) :
    CacheWF C lvl s' ∧ WF lvl r := by
  unfold bCompose at hrun
  split at hrun
  · cases hrun
  · rename_i s1 i h1
    obtain ⟨hs1, wi⟩ := bIff_WF C lvl inj hs (mkVar_WF lvl x true) hg h1
    split at hrun
    · cases hrun
    · rename_i s2 a h2
      obtain ⟨hs2, wa⟩ := bAnd_WF C lvl inj hs1 wi hf h2
      exact bExists_WF C lvl inj hs2 wa hrun

theorem bAndLst_WF : ∀ (ps : List Ptr) {s s' : C.σ} {acc r : Ptr}, CacheWF C lvl s → WF lvl acc →
    (∀ p ∈ ps, WF lvl p) → bAndLst C lvl fuel s acc ps = some (s', r) →
    CacheWF C lvl s' ∧ WF lvl r
  | [], s, s', acc, r, hs, ha, _, hrun => by
    simp only [bAndLst, Option.some.injEq, Prod.mk.injEq] at hrun
    obtain ⟨rfl, rfl⟩ := hrun; exact ⟨hs, ha⟩
  | p :: ps, s, s', acc, r, hs, ha, hps, hrun => by
    simp only [bAndLst] at hrun
    split at hrun
    · cases hrun
    · rename_i s1 r1 h1
      obtain ⟨hs1, w1⟩ := bAnd_WF C lvl inj hs ha (hps p (List.mem_cons_self ..)) h1
      exact bAndLst_WF ps hs1 w1 (fun q hq => hps q (List.mem_cons_of_mem _ hq)) hrun

theorem bOrLst_WF : ∀ (ps : List Ptr) {s s' : C.σ} {acc r : Ptr}, CacheWF C lvl s → WF lvl acc →
    (∀ p ∈ ps, WF lvl p) → bOrLst C lvl fuel s acc ps = some (s', r) →
    CacheWF C lvl s' ∧ WF lvl r
  | [], s, s', acc, r, hs, ha, _, hrun => by
    simp only [bOrLst, Option.some.injEq, Prod.mk.injEq] at hrun
    obtain ⟨rfl, rfl⟩ := hrun; exact ⟨hs, ha⟩
  | p :: ps, s, s', acc, r, hs, ha, hps, hrun => by
    simp only [bOrLst] at hrun
    split at hrun
    · cases hrun
    · rename_i s1 r1 h1
      obtain ⟨hs1, w1⟩ := bOr_WF C lvl inj hs ha (hps p (List.mem_cons_self ..)) h1
      exact bOrLst_WF ps hs1 w1 (fun q hq => hps q (List.mem_cons_of_mem _ hq)) hrun

end ops

#print axioms ite_wf_gen
#print axioms bCompose_WF
#print axioms bAndLst_WF
#print axioms bOrLst_WF
#print axioms condModel_WF
end Bdd
