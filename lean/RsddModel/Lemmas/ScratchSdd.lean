import RsddModel.Model.ScratchSdd
import RsddModel.Lemmas.Scratch
/-!
# Lemmas for C10, SDD side

`foldDagS_spec` (the memo of `SddPtr::fold` is transparent), `clearS_spec` (the unconditional
`clear_scratch` empties exactly the reachable cells, from *any* state), `countHS_spec`.
-/
namespace ScratchSdd
open Scratch

@[simp] theorem SRef.idx?_neg (r : SRef) : r.neg.idx? = r.idx? := by cases r <;> rfl

/-! ## reachability

The same lemmas as `Scratch.reaches_*`, proved again: `reaches` and `reachesS` are two model
definitions of different shape (two edges against a list of children), and a layer over both
would need as much text as it saves. -/

theorem reachesS_cons_eq (n : SNode) (rest : SStore) {r : SRef} (h : r.idx? = some rest.length) (j : Nat) :
    reachesS (n :: rest) r j = (j == rest.length || n.kids.any (fun k => reachesS rest k j)) := by
  simp [reachesS, h]

theorem reachesS_cons_ne (n : SNode) (rest : SStore) {r : SRef} {i : Nat} (h : r.idx? = some i)
    (hi : i ≠ rest.length) (j : Nat) : reachesS (n :: rest) r j = reachesS rest r j := by
  simp [reachesS, h, hi]

theorem reachesS_none (s : SStore) {r : SRef} (h : r.idx? = none) (j : Nat) : reachesS s r j = false := by
  cases s <;> simp [reachesS, h]

theorem reachesS_congr {r r' : SRef} (h : r.idx? = r'.idx?) : ∀ (s : SStore) (j : Nat),
    reachesS s r j = reachesS s r' j
  | [], _ => rfl
  | n :: rest, j => by
    simp only [reachesS, h]
    cases h' : r'.idx? with
    | none => rfl
    | some i =>
      simp only
      split
      · rfl
      · exact reachesS_congr h rest j

@[simp] theorem reachesS_neg (s : SStore) (r : SRef) (j : Nat) : reachesS s r.neg j = reachesS s r j :=
  reachesS_congr (SRef.idx?_neg r) s j

theorem reachesS_lt : ∀ (s : SStore) (r : SRef) (j : Nat), reachesS s r j = true → j < s.length
  | [], _, _, h => by simp [reachesS] at h
  | n :: rest, r, j, h => by
    cases h' : r.idx? with
    | none => simp [reachesS_none _ h'] at h
    | some i =>
      by_cases hi : i = rest.length
      · subst hi
        rw [reachesS_cons_eq n rest h'] at h
        simp only [Bool.or_eq_true, beq_iff_eq, List.any_eq_true] at h
        rcases h with h | ⟨k, _, hk⟩
        · subst h; simp
        · have := reachesS_lt rest k j hk; simp; omega
      · rw [reachesS_cons_ne n rest h' hi] at h
        have := reachesS_lt rest r j h; simp; omega

theorem reachesS_self (n : SNode) (rest : SStore) {r : SRef} (h : r.idx? = some rest.length) :
    reachesS (n :: rest) r rest.length = true := by simp [reachesS_cons_eq n rest h]

theorem reachesS_trans : ∀ (s : SStore) (r : SRef) (j k : Nat),
    reachesS s r j = true → reachesS s (.reg j) k = true → reachesS s r k = true
  | [], _, _, _, h, _ => by simp [reachesS] at h
  | n :: rest, r, j, k, h1, h2 => by
    have h2' : ∀ x, reachesS rest x j = true → reachesS rest (.reg j) k = true := fun x hx => by
      have := reachesS_lt _ _ _ hx
      rwa [reachesS_cons_ne n rest (r := .reg j) rfl (by omega)] at h2
    cases h' : r.idx? with
    | none => simp [reachesS_none _ h'] at h1
    | some i =>
      by_cases hi : i = rest.length
      · subst hi
        rw [reachesS_cons_eq n rest h'] at h1 ⊢
        simp only [Bool.or_eq_true, beq_iff_eq, List.any_eq_true] at h1 ⊢
        rcases h1 with h1 | ⟨x, hx, h1⟩
        · subst h1
          rw [reachesS_cons_eq n rest (r := .reg rest.length) rfl] at h2
          simpa using h2
        · exact Or.inr ⟨x, hx, reachesS_trans rest x j k h1 (h2' _ h1)⟩
      · rw [reachesS_cons_ne n rest h' hi] at h1 ⊢
        exact reachesS_trans rest r j k h1 (h2' _ h1)

/-- the children `node_iter` yields reach what the stored children reach (the `Var` primes of a
binary node have no cell and no descendants) -/
theorem elems_any_eq_kids_any (n : SNode) (f : SRef → Bool) (hvar : ∀ v b, f (.var v b) = false) :
    n.elems.any (fun e => f e.1 || f e.2) = n.kids.any f := by
  cases n with
  | bdd l lo hi => simp [SNode.elems, SNode.kids, hvar, Bool.or_comm]
  | or es =>
    simp only [SNode.elems, SNode.kids]
    induction es with
    | nil => rfl
    | cons e es ih =>
      simp only [List.any_cons, List.flatMap_cons, List.any_append, List.any_nil, Bool.or_false, ih]

theorem kidsCount_any_eq_kids_any (n : SNode) (f : SRef → Bool) : n.kidsCount.any f = n.kids.any f := by
  cases n with
  | bdd l lo hi => rfl
  | or es =>
    simp only [SNode.kidsCount, SNode.kids]
    induction es with
    | nil => rfl
    | cons e es ih =>
      simp only [List.flatMap_cons, List.any_append, ih, List.any_cons, List.any_nil, Bool.or_false]
      cases f e.1 <;> cases f e.2 <;> rfl

/-! ## the un-memoised value -/

variable {V : Type}

theorem valS_none (A : SAlg V) (s : SStore) {r : SRef} (h : r.idx? = none) : valS A s r = A.leaf r := by
  cases s <;> simp [valS, h]

theorem valS_cons_ne (A : SAlg V) (n : SNode) (rest : SStore) {r : SRef} {i : Nat} (h : r.idx? = some i)
    (hi : i ≠ rest.length) : valS A (n :: rest) r = valS A rest r := by
  simp [valS, h, hi]

theorem valS_cons_eq (A : SAlg V) (n : SNode) (rest : SStore) {r : SRef} (h : r.idx? = some rest.length) :
    valS A (n :: rest) r = valElems A (valS A rest) r.isNeg n.elems A.fls := by
  simp [valS, h]

set_option linter.unusedSectionVars false
section cells
variable {Tag : Type} [DecidableEq Tag] {U : Tag → Type}

/-! ## the memo invariant -/

/-- the SDD `Scratch.CellOK` -/
def CellOKS (t : Tag) (A : SAlg (U t)) (s : SStore) (i : Nat) (c : Cell U) : Prop :=
  PairOK t (valS A s (.compl i)) (valS A s (.reg i)) c

theorem cellOKS_cons {t : Tag} {A : SAlg (U t)} (n : SNode) (rest : SStore) {j : Nat}
    (hj : j ≠ rest.length) (c : Cell U) : CellOKS t A (n :: rest) j c ↔ CellOKS t A rest j c := by
  simp only [CellOKS, valS_cons_ne A n rest (r := .compl j) rfl hj,
    valS_cons_ne A n rest (r := .reg j) rfl hj]

/-- The SDD `Scratch.PreOK`: on the index set `R`, every cell that reads as a pair of this
traversal's type is correct.  (No occupancy condition: the SDD `clear_scratch` does not
short-circuit.) -/
def PreOn (t : Tag) (A : SAlg (U t)) (s : SStore) (R : Nat → Bool) (σ : Scr U) : Prop :=
  ∀ j, R j = true → CellOKS t A s j (σ j)

/-- the SDD `Scratch.PassOK` (outcome of one memoised traversal of `x` from `σ`), without occupancy -/
def Post (t : Tag) (A : SAlg (U t)) (s : SStore) (x : SRef) (σ : Scr U) (res : U t × Scr U) : Prop :=
  res.1 = valS A s x ∧
  (∀ j, reachesS s x j = true → CellOKS t A s j (res.2 j)) ∧
  (∀ j, reachesS s x j = false → res.2 j = σ j)

theorem preOn_step {t : Tag} {A : SAlg (U t)} {s : SStore} {R : Nat → Bool} {σ : Scr U} {x : SRef}
    {res : U t × Scr U} (h : PreOn t A s R σ) (hp : Post t A s x σ res) : PreOn t A s R res.2 := by
  intro j hj
  cases hx : reachesS s x j with
  | true => exact hp.2.1 j hx
  | false => rw [hp.2.2 j hx]; exact h j hj

theorem foldElems_spec (t : Tag) (A : SAlg (U t)) (s : SStore) (rc : SRef → Scr U → U t × Scr U)
    (hrc : ∀ x σ, PreOn t A s (reachesS s x) σ → Post t A s x σ (rc x σ))
    (R : Nat → Bool) (neg : Bool) :
    ∀ (es : List (SRef × SRef)) (acc : U t) (σ : Scr U),
    (∀ j, es.any (fun e => reachesS s e.1 j || reachesS s e.2 j) = true → R j = true) →
    PreOn t A s R σ →
    (foldElems A rc neg es acc σ).1 = valElems A (valS A s) neg es acc ∧
    PreOn t A s R (foldElems A rc neg es acc σ).2 ∧
    (∀ j, es.any (fun e => reachesS s e.1 j || reachesS s e.2 j) = false →
      (foldElems A rc neg es acc σ).2 j = σ j)
  | [], acc, σ, _, h => ⟨rfl, h, fun _ _ => rfl⟩
  | e :: es, acc, σ, hR, h => by
    have h1 : ∀ j, reachesS s e.1 j = true → R j = true := fun j hj => hR j (by simp [hj])
    have h2 : ∀ j, reachesS s e.2 j = true → R j = true := fun j hj => hR j (by simp [hj])
    have hs2 : ∀ j, reachesS s (if neg then e.2.neg else e.2) j = reachesS s e.2 j := by
      intro j; split <;> simp
    have pa := hrc e.1 σ (fun j hj => h j (h1 j hj))
    have ha := preOn_step h pa
    have pb := hrc (if neg then e.2.neg else e.2) (rc e.1 σ).2
      (fun j hj => ha j (h2 j (by rw [← hs2]; exact hj)))
    have hb := preOn_step ha pb
    obtain ⟨v3, p3, f3⟩ := foldElems_spec t A s rc hrc R neg es
      (A.or acc (A.and (rc e.1 σ).1 (rc (if neg then e.2.neg else e.2) (rc e.1 σ).2).1))
      (rc (if neg then e.2.neg else e.2) (rc e.1 σ).2).2
      (fun j hj => hR j (by simp [hj])) hb
    refine ⟨?_, p3, ?_⟩
    · simp only [foldElems, valElems]
      rw [v3, pa.1, pb.1]
    · intro j hj
      simp only [List.any_cons, Bool.or_eq_false_iff] at hj
      simp only [foldElems]
      rw [f3 j hj.2, pb.2.2 j (by rw [hs2]; exact hj.1.2), pa.2.2 j hj.1.1]

theorem valS_of_idx? (A : SAlg V) (s : SStore) {r : SRef} {i : Nat} (h : r.idx? = some i) :
    valS A s r = if r.isNeg then valS A s (.compl i) else valS A s (.reg i) := by
  cases r <;> cases h <;> rfl

/-- `bottomup_pass_h` of `SddPtr::fold` is transparent -/
theorem foldDagS_spec (t : Tag) (A : SAlg (U t)) : ∀ (s : SStore) (r : SRef) (σ : Scr U),
    PreOn t A s (reachesS s r) σ → Post t A s r σ (foldDagS t A s r σ)
  | [], r, σ, _ => ⟨rfl, fun _ hj => (by cases hj), fun _ _ => rfl⟩
  | n :: rest, r, σ, hpre => by
    cases h : r.idx? with
    | none =>
      simp only [foldDagS, h]
      exact ⟨(valS_none A _ h).symm, fun j hj => (by rw [reachesS_none _ h] at hj; cases hj), fun _ _ => rfl⟩
    | some i =>
      by_cases hi : i = rest.length
      · subst hi
        have hok := hpre _ (reachesS_self n rest h)
        simp only [foldDagS, h, if_true]
        have hprobe := PairOK.probe hok r.isNeg
        cases hp : probeFold r.isNeg ((σ rest.length).asPair t) with
        | hit v =>
          rw [hp] at hprobe
          refine ⟨?_, fun j hj => hpre j hj, fun _ _ => rfl⟩
          rw [valS_of_idx? A _ h]; exact hprobe.2
        | miss cached =>
          have hreach : ∀ j, reachesS (n :: rest) r j =
              (j == rest.length || n.kids.any (fun k => reachesS rest k j)) := reachesS_cons_eq n rest h
          have hR : PreOn t A rest (fun j => n.kids.any (fun k => reachesS rest k j)) σ := by
            intro j hj
            have hlt : j < rest.length := by
              simp only [List.any_eq_true] at hj
              obtain ⟨k, _, hk⟩ := hj
              exact reachesS_lt _ _ _ hk
            rw [← cellOKS_cons n rest (by omega)]
            exact hpre j (by rw [hreach]; simp [hj])
          have hany : ∀ j, n.elems.any (fun e => reachesS rest e.1 j || reachesS rest e.2 j) =
              n.kids.any (fun k => reachesS rest k j) := fun j =>
            elems_any_eq_kids_any n (fun k => reachesS rest k j) (fun _ _ => reachesS_none _ rfl _)
          obtain ⟨v1, p1, f1⟩ := foldElems_spec t A rest (foldDagS t A rest)
            (fun x σ hx => foldDagS_spec t A rest x σ hx) _ r.isNeg n.elems A.fls σ
            (fun j hj => by rw [← hany]; exact hj) hR
          generalize foldElems A (foldDagS t A rest) r.isNeg n.elems A.fls σ = ra at v1 p1 f1 ⊢
          have hval : ra.1 = valS A (n :: rest) r := by rw [valS_cons_eq A n rest h, v1]
          refine ⟨hval, ?_, ?_⟩
          · intro j hj
            by_cases hji : j = rest.length
            · subst hji
              simp only [Scr.set_same]
              rw [hp] at hprobe
              exact hprobe _ (hval.trans (valS_of_idx? A _ h))
            · simp only [Scr.set_other _ _ hji]
              rw [cellOKS_cons n rest hji]
              rw [hreach] at hj
              exact p1 j (by simpa [hji] using hj)
          · intro j hj
            rw [hreach] at hj
            simp only [Bool.or_eq_false_iff, beq_eq_false_iff_ne, ne_eq] at hj
            simp only [Scr.set_other _ _ hj.1]
            exact f1 j (by rw [hany]; exact hj.2)
      · simp only [foldDagS, h, hi, if_false]
        obtain ⟨v1, p1, f1⟩ := foldDagS_spec t A rest r σ (fun j hj => by
          have := reachesS_lt _ _ _ hj
          rw [← cellOKS_cons n rest (by omega)]
          exact hpre j (by rw [reachesS_cons_ne n rest h hi]; exact hj))
        refine ⟨by rw [v1, valS_cons_ne A n rest h hi], fun j hj => ?_, fun j hj => ?_⟩
        · rw [reachesS_cons_ne n rest h hi] at hj
          have := reachesS_lt _ _ _ hj
          rw [cellOKS_cons n rest (by omega)]
          exact p1 j hj
        · rw [reachesS_cons_ne n rest h hi] at hj
          exact f1 j hj

/-! ## the unconditional clear -/

theorem foldl_clear (rest : SStore)
    (ih : ∀ (k : SRef) (σ : Scr U), clearS rest k σ = fun j => if reachesS rest k j then .empty else σ j) :
    ∀ (ks : List SRef) (σ : Scr U),
    ks.foldl (fun σ k => clearS rest k σ) σ =
      fun j => if ks.any (fun k => reachesS rest k j) then .empty else σ j
  | [], σ => by simp
  | k :: ks, σ => by
    rw [List.foldl_cons, foldl_clear rest ih ks, ih k σ]
    funext j
    simp only [List.any_cons]
    by_cases h1 : reachesS rest k j = true <;> by_cases h2 : ks.any (fun k => reachesS rest k j) = true <;>
      simp [h1, h2]

/-- `clear_scratch` on SDDs empties exactly the reachable cells — from any state -/
theorem clearS_spec : ∀ (s : SStore) (r : SRef) (σ : Scr U),
    clearS s r σ = fun j => if reachesS s r j then .empty else σ j
  | [], _, σ => by simp [clearS, reachesS]
  | n :: rest, r, σ => by
    cases h : r.idx? with
    | none => simp [clearS, h, reachesS_none _ h]
    | some i =>
      by_cases hi : i = rest.length
      · subst hi
        simp only [clearS, h, if_true]
        rw [foldl_clear rest (clearS_spec rest)]
        funext j
        rw [reachesS_cons_eq n rest h]
        by_cases hji : j = rest.length
        · subst hji; simp
        · have : (j == rest.length) = false := by simp [hji]
          simp [this, Scr.set_other _ _ hji]
      · simp only [clearS, h, hi, if_false]
        rw [clearS_spec rest r σ]
        funext j
        rw [reachesS_cons_ne n rest h hi]

/-- `SddPtr::fold` -/
theorem foldS_spec (t : Tag) (A : SAlg (U t)) (s : SStore) (r : SRef) (σ : Scr U)
    (h : PreOn t A s (reachesS s r) σ) :
    foldS t A s r σ = (valS A s r, fun j => if reachesS s r j then .empty else σ j) := by
  obtain ⟨hv, _, hf⟩ := foldDagS_spec t A s r σ h
  simp only [foldS, hv, clearS_spec]
  congr 1
  funext j
  cases hj : reachesS s r j <;> simp [hf j, hj]

/-! ## `count_h` -/

/-- `count_h` on one more child, accumulating -/
def stepK (rest : SStore) (st : Scr U × Nat) (k : SRef) : Scr U × Nat :=
  ((countHS rest k st.1).2, st.2 + (countHS rest k st.1).1)

theorem stepK_shift (rest : SStore) : ∀ (ks : List SRef) (σ : Scr U) (c d : Nat),
    ks.foldl (stepK rest) (σ, c + d) =
      ((ks.foldl (stepK rest) (σ, c)).1, (ks.foldl (stepK rest) (σ, c)).2 + d)
  | [], _, _, _ => rfl
  | k :: ks, σ, c, d => by
    simp only [List.foldl_cons, stepK]
    rw [show c + d + (countHS rest k σ).1 = c + (countHS rest k σ).1 + d by omega]
    exact stepK_shift rest ks _ _ d

theorem foldl_count_eq_stepK (rest : SStore) : ∀ (es : List (SRef × SRef)) (c : Nat) (σ : Scr U),
    es.foldl (fun (acc : Nat × Scr U) e =>
        let a := countHS rest e.2 acc.2
        let b := countHS rest e.1 a.2
        (acc.1 + a.1 + b.1 + 1, b.2)) (c, σ) =
      (((es.flatMap fun e => [e.2, e.1]).foldl (stepK rest) (σ, c)).2 + es.length,
       ((es.flatMap fun e => [e.2, e.1]).foldl (stepK rest) (σ, c)).1)
  | [], _, _ => rfl
  | e :: es, c, σ => by
    rw [List.foldl_cons, foldl_count_eq_stepK rest es]
    simp only [List.flatMap_cons, List.cons_append, List.nil_append, List.foldl_cons, stepK, List.length_cons]
    rw [stepK_shift rest _ _ _ 1]
    refine Prod.ext ?_ rfl
    simp only; omega

/-- the node case of `count_h`, both node kinds: the children in `kidsCount` order, from the node's weight -/
theorem countHS_node (n : SNode) (rest : SStore) {r : SRef} (h : r.idx? = some rest.length) (σ : Scr U)
    (hu : (σ rest.length).asCount = none) :
    countHS (n :: rest) r σ =
      ((n.kidsCount.foldl (stepK rest) (σ.set rest.length (.count 0), n.weight)).2,
       (n.kidsCount.foldl (stepK rest) (σ.set rest.length (.count 0), n.weight)).1) := by
  simp only [countHS, h, if_true, hu]
  cases n with
  | bdd l lo hi =>
    simp only [SNode.kidsCount, List.foldl_cons, List.foldl_nil, stepK, SNode.weight]
    refine Prod.ext ?_ rfl
    simp only; omega
  | or es =>
    simp only [foldl_count_eq_stepK, SNode.kidsCount, SNode.weight]
    have := stepK_shift rest (es.flatMap fun e => [e.2, e.1]) (σ.set rest.length (.count 0)) 0 es.length
    rw [Nat.zero_add] at this
    rw [this]

/-- "not yet counted" -/
def uncounted (c : Cell U) : Bool := c.asCount.isNone

theorem weightAt_cons_ne (n : SNode) (rest : SStore) {j : Nat} (h : j ≠ rest.length) :
    weightAt (n :: rest) j = weightAt rest j := by simp [weightAt, h]

/-- `count_h`, exactly: counts and marks the reachable nodes not yet counted -/
theorem countHS_spec (N : Nat) : ∀ (s : SStore) (r : SRef) (σ : Scr U), s.length ≤ N →
    Closed uncounted (fun j k => reachesS s (.reg j) k) (reachesS s r) σ →
    countHS s r σ =
      (entered uncounted (weightAt s) N (reachesS s r) σ, markOn uncounted (.count 0) (reachesS s r) σ)
  | [], r, σ, _, _ => by
    obtain ⟨h1, h2⟩ := markOn_none (visit := uncounted) (mark := .count 0) rfl (X := reachesS [] r) (σ := σ)
      (weightAt []) N (fun _ h => by cases h)
    rw [h1, h2]; rfl
  | n :: rest, r, σ, hN, hcl => by
    simp only [List.length_cons] at hN
    cases h : r.idx? with
    | none =>
      obtain ⟨h1, h2⟩ := markOn_none (visit := uncounted) (mark := .count 0) rfl (X := reachesS (n :: rest) r)
        (σ := σ) (weightAt (n :: rest)) N (fun j hj => by rw [reachesS_none _ h] at hj; cases hj)
      rw [h1, h2]; simp only [countHS, h]
    | some i =>
      by_cases hi : i = rest.length
      · subst hi
        cases hu : (σ rest.length).asCount with
        | some c =>
          obtain ⟨h1, h2⟩ := markOn_none (visit := uncounted) (mark := .count 0) rfl
            (X := reachesS (n :: rest) r) (σ := σ) (weightAt (n :: rest)) N
            (fun j hj => hcl _ (reachesS_self n rest h) (by simp [uncounted, hu]) j (by
              rw [← hj]; exact reachesS_congr (by rw [h]; rfl) _ _))
          rw [h1, h2]; simp only [countHS, h, if_true, hu]
        | none =>
          have hw := node_walk_spec (visit := uncounted) (mark := .count 0) rfl (weightAt rest)
            (weightAt (n :: rest)) (N := N) (i := rest.length) (by omega)
            (X := fun x j => reachesS rest x j)
            (walk := fun k st => stepK rest st k) n.kidsCount
            (fun x j j' hj hj' => reachesS_trans rest x j j' hj hj')
            (fun j hj => by
              obtain ⟨k, _, hk⟩ := List.any_eq_true.1 hj
              have := reachesS_lt _ _ _ hk
              exact ⟨this, weightAt_cons_ne n rest (by omega)⟩)
            (fun j k hj hk => ⟨by
              show reachesS (n :: rest) (.reg j) k = true
              rw [reachesS_cons_ne n rest (r := .reg j) rfl (by omega)]; exact hk, reachesS_lt _ _ _ hk⟩)
            (fun j => by rw [reachesS_cons_eq n rest h, kidsCount_any_eq_kids_any]; rfl)
            (fun k _ σ c hk => by simp only [stepK, countHS_spec N rest k σ (by omega) hk])
            (σ := σ) (by simp [uncounted, hu]) hcl 0
          have hwi : weightAt (n :: rest) rest.length = n.weight := by simp [weightAt]
          rw [Nat.zero_add, hwi] at hw
          rw [countHS_node n rest h σ hu]
          rw [show n.kidsCount.foldl (stepK rest) _ = _ from hw, Nat.zero_add]
      · have he : reachesS (n :: rest) r = reachesS rest r := funext (reachesS_cons_ne n rest h hi)
        have hstep : countHS (n :: rest) r σ = countHS rest r σ := by simp [countHS, h, hi]
        rw [hstep, he, countHS_spec N rest r σ (by omega) fun j hj hvj k hk => by
          have hjl := reachesS_lt _ _ _ hj
          refine hcl j (by rw [he]; exact hj) hvj k ?_
          show reachesS (n :: rest) (.reg j) k = true
          rw [reachesS_cons_ne n rest (r := .reg j) rfl (by omega)]; exact hk]
        refine Prod.ext ?_ rfl
        simp only [entered]
        congr 1
        apply List.map_congr_left
        intro j _
        by_cases hr : reachesS rest r j = true
        · have := reachesS_lt _ _ _ hr
          rw [weightAt_cons_ne n rest (by omega)]
        · simp [hr]

/-- `SddPtr::count_nodes` -/
theorem countNodesS_spec (s : SStore) (r : SRef) (σ : Scr U)
    (h : ∀ j, reachesS s r j = true → (σ j).asCount = none) :
    countNodesS s r σ = (countSpecS s r, fun j => if reachesS s r j then .empty else σ j) := by
  have hu : ∀ j, (reachesS s r j && uncounted (σ j)) = reachesS s r j := by
    intro j
    cases hj : reachesS s r j with
    | false => rfl
    | true => simp [uncounted, h j hj]
  simp only [countNodesS, clearS_spec]
  rw [countHS_spec s.length s r σ (Nat.le_refl _) (fun j hj huj => by
    simp [uncounted, h j hj] at huj)]
  simp only [entered, markOn, hu]
  refine Prod.ext rfl ?_
  funext j
  by_cases hj : reachesS s r j = true <;> simp [hj]

/-! ## the all-clear precondition of the public calls -/

def ClearOnS (s : SStore) (r : SRef) (σ : Scr U) : Prop := ∀ j, reachesS s r j = true → σ j = .empty

theorem preOn_of_noPair {t : Tag} {A : SAlg (U t)} {s : SStore} {σ : Scr U} {R : Nat → Bool}
    (h : ∀ j, R j = true → (σ j).asPair t = none) : PreOn t A s R σ :=
  fun j hj => PairOK.of_noPair (h j hj)

end cells

end ScratchSdd
