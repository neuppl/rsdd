import RsddModel.Lemmas.CnfUtil
import RsddModel.Lemmas.CnfBook
/-!
# Lemmas: the incremental residual-formula hasher `CnfHasher` (property C15)

* the prime stream hands out strictly increasing primes;
* `hash` is the product modulo `2^128` of the primes of a precisely described set of literal
  occurrences (`activeWeights`), for every state reachable by `decide`/`push`/`pop`;
* that set depends only on the positional residual `residualOcc`, and — while the product of
  all primes stays below `2^128` and no non-unit clause is falsified — determines it.
-/
namespace CnfUtil
open Spec

/-! ## primes -/

theorem findPrime_spec (c : Nat) (h : ∃ p, c ≤ p ∧ isPrimeB p = true) :
    c ≤ findPrime c h ∧ isPrimeB (findPrime c h) = true := by
  induction c, h using findPrime.induct with
  | case1 c h hp => rw [findPrime, dif_pos hp]; exact ⟨Nat.le_refl _, hp⟩
  | case2 c h hp ih =>
    rw [findPrime, dif_neg hp]
    exact ⟨by omega, ih.2⟩

theorem nextPrime_gt (p : Nat) : p < nextPrime p := (findPrime_spec _ _).1
theorem nextPrime_prime (p : Nat) : isPrimeB (nextPrime p) = true := (findPrime_spec _ _).2

/-! ## products of lists -/

@[simp] theorem lprod_nil : lprod [] = 1 := rfl
@[simp] theorem lprod_cons (a : Nat) (l : List Nat) : lprod (a :: l) = a * lprod l := rfl

theorem lprod_pos : ∀ {l : List Nat}, (∀ x ∈ l, 1 ≤ x) → 1 ≤ lprod l :=
  List.prod_pos_iff_forall_pos_nat.mpr

theorem lprod_map_filter (g : Nat → Nat) (P : Nat → Bool) : ∀ (L : List Nat),
    lprod ((L.filter P).map g) = lprod (L.map fun i => if P i then g i else 1)
  | [] => rfl
  | a :: L => by
    simp only [List.filter_cons, List.map_cons, lprod_cons]
    cases h : P a
    · simp [lprod_map_filter g P L]
    · simp [lprod_map_filter g P L]

/-! ## the weighted CNF -/

theorem weightClause_snd : ∀ (c : List Lit) (p : Nat), (weightClause c p).1.map Prod.snd = c
  | [], _ => rfl
  | l :: ls, p => by simp [weightClause, weightClause_snd ls]

theorem weightCnf_shape : ∀ (cs : List (List Lit)) (p : Nat),
    (weightCnf cs p).map (fun wcl => wcl.map Prod.snd) = cs
  | [], _ => rfl
  | c :: cs, p => by simp [weightCnf, weightClause_snd, weightCnf_shape cs]

/-- all the primes handed out, in clause order -/
def allW (wc : List (List (Nat × Lit))) : List Nat := wc.flatMap fun wcl => wcl.map Prod.fst

theorem primesFrom_spec : ∀ (k p : Nat),
    (primesFrom k p).Pairwise (· < ·) ∧ ∀ x ∈ primesFrom k p, p < x ∧ isPrimeB x = true
  | 0, _ => ⟨List.Pairwise.nil, nofun⟩
  | k + 1, p => by
    obtain ⟨h1, h2⟩ := primesFrom_spec k (nextPrime p)
    refine ⟨List.pairwise_cons.mpr ⟨fun x hx => (h2 x hx).1, h1⟩, fun x hx => ?_⟩
    rcases List.mem_cons.mp hx with rfl | hx
    · exact ⟨nextPrime_gt p, nextPrime_prime p⟩
    · exact ⟨Nat.lt_trans (nextPrime_gt p) (h2 x hx).1, (h2 x hx).2⟩

/-- the prime handed out last after `k` steps from `p` (`p` itself for `k = 0`) -/
def primeAfter : Nat → Nat → Nat
  | 0, p => p
  | k + 1, p => primeAfter k (nextPrime p)

theorem primesFrom_add : ∀ (a b p : Nat),
    primesFrom (a + b) p = primesFrom a p ++ primesFrom b (primeAfter a p)
  | 0, b, p => by rw [Nat.zero_add]; rfl
  | a + 1, b, p => by
    rw [Nat.add_right_comm, primesFrom, primesFrom_add a b (nextPrime p)]
    rfl

theorem weightClause_fst : ∀ (c : List Lit) (p : Nat),
    (weightClause c p).1.map Prod.fst = primesFrom c.length p ∧
    (weightClause c p).2 = primeAfter c.length p
  | [], _ => ⟨rfl, rfl⟩
  | _ :: ls, p => by
    obtain ⟨h1, h2⟩ := weightClause_fst ls (nextPrime p)
    exact ⟨congrArg (nextPrime p :: ·) h1, h2⟩

/-- literal occurrence number `k` (in clause order) carries the `k`-th prime -/
theorem allW_weightCnf : ∀ (cs : List (List Lit)) (p : Nat),
    allW (weightCnf cs p) = primesFrom (cs.map List.length).sum p
  | [], _ => rfl
  | c :: cs, p => by
    obtain ⟨h1, h2⟩ := weightClause_fst c p
    rw [weightCnf, allW, List.flatMap_cons, h1, List.map_cons, List.sum_cons, primesFrom_add, ← h2]
    exact congrArg _ (allW_weightCnf cs _)

theorem weightCnf_spec (cs : List (List Lit)) (p : Nat) :
    (allW (weightCnf cs p)).Pairwise (· < ·) ∧
    ∀ x ∈ allW (weightCnf cs p), p < x ∧ isPrimeB x = true := by
  rw [allW_weightCnf]
  exact primesFrom_spec _ p

theorem weightCnf_length (cs : List (List Lit)) (p : Nat) : (weightCnf cs p).length = cs.length := by
  have := congrArg List.length (weightCnf_shape cs p)
  simpa using this

theorem getD_map_nil {β γ : Type} (f : List β → List γ) (hf : f [] = []) (l : List (List β)) (i : Nat) :
    (l.map f).getD i [] = f (l.getD i []) := by
  rw [List.getD_eq_getElem?_getD, List.getD_eq_getElem?_getD, List.getElem?_map]
  cases l[i]? with
  | none => exact hf.symm
  | some a => rfl

theorem weightCnf_getD (cs : List (List Lit)) (p i : Nat) :
    cs.getD i [] = ((weightCnf cs p).getD i []).map Prod.snd := by
  conv => lhs; rw [← weightCnf_shape cs p]
  exact getD_map_nil (fun wcl => wcl.map Prod.snd) rfl _ i

/-! ## evaluating `hash` -/

theorem M128_pos : 0 < M128 := Nat.two_pow_pos 128

/-- the (unreduced) contribution of one weighted clause: 1 if it is satisfied, otherwise the
product of the primes of its literals that are not falsified -/
def cval (m : PartialModel) (wcl : List (Nat × Lit)) : Nat :=
  if wcl.any (fun p => m.litImplied p.2) then 1
  else lprod ((wcl.filter fun p => !m.litNegImplied p.2).map Prod.fst)

theorem hashClause_eq (m : PartialModel) : ∀ (wcl : List (Nat × Lit)) (acc : Nat), acc < M128 →
    CnfHasher.hashClause m wcl acc =
      if wcl.any (fun p => m.litImplied p.2) then none
      else some ((acc * lprod ((wcl.filter fun p => !m.litNegImplied p.2).map Prod.fst)) % M128)
  | [], acc, h => by simp [CnfHasher.hashClause, Nat.mod_eq_of_lt h]
  | (w, l) :: r, acc, h => by
    simp only [CnfHasher.hashClause, List.any_cons, List.filter_cons]
    by_cases h1 : m.litImplied l = true
    · simp [h1]
    · have h1' : m.litImplied l = false := by simpa using h1
      by_cases h2 : m.litNegImplied l = true
      · rw [hashClause_eq m r acc h]
        simp only [h1', h2, Bool.false_or, Bool.not_true, Bool.false_eq_true, if_false, if_true]
      · have h2' : m.litNegImplied l = false := by simpa using h2
        have hlt : wmul acc w < M128 := Nat.mod_lt _ M128_pos
        simp only [h1', h2', Bool.false_eq_true, if_false, Bool.false_or, Bool.not_false, if_true,
          List.map_cons, lprod_cons, hashClause_eq m r _ hlt]
        cases r.any fun p => m.litImplied p.2
        · rw [if_neg Bool.false_ne_true, if_neg Bool.false_ne_true, wmul, Nat.mod_mul_mod,
            Nat.mul_assoc]
        · rfl

/-- the body of the outer loop of `hash` -/
def hstep (wc : List (List (Nat × Lit))) (m : PartialModel) (v ci : Nat) : Nat :=
  match CnfHasher.hashClause m (wc.getD ci []) 1 with
  | none => v
  | some cv => wmul v cv

theorem hashStep_eq (wc : List (List (Nat × Lit))) (m : PartialModel) (v ci : Nat) (hv : v < M128) :
    hstep wc m v ci = (v * cval m (wc.getD ci [])) % M128 := by
  rw [hstep, hashClause_eq m _ 1 (Nat.one_lt_two_pow (by decide)), cval]
  cases (wc.getD ci []).any fun p => m.litImplied p.2
  · rw [if_neg Bool.false_ne_true, if_neg Bool.false_ne_true, Nat.one_mul]
    exact Nat.mul_mod_mod _ _ _
  · rw [if_pos rfl, if_pos rfl, Nat.mul_one]
    exact (Nat.mod_eq_of_lt hv).symm

theorem hashOver_fold (wc : List (List (Nat × Lit))) (m : PartialModel) : ∀ (idxs : List Nat) (v : Nat),
    v < M128 →
    idxs.foldl (hstep wc m) v = (v * lprod (idxs.map fun i => cval m (wc.getD i []))) % M128
  | [], v, h => by rw [List.foldl_nil, List.map_nil, lprod_nil, Nat.mul_one, Nat.mod_eq_of_lt h]
  | i :: idxs, v, h => by
    rw [List.foldl_cons, List.map_cons, lprod_cons, hashStep_eq wc m v i h,
      hashOver_fold wc m idxs _ (Nat.mod_lt _ M128_pos), Nat.mod_mul_mod, Nat.mul_assoc]

theorem hashOver_eq (wc : List (List (Nat × Lit))) (m : PartialModel) (idxs : List Nat) :
    CnfHasher.hashOver wc m idxs = lprod (idxs.map fun i => cval m (wc.getD i [])) % M128 := by
  have h : CnfHasher.hashOver wc m idxs = idxs.foldl (hstep wc m) 1 := rfl
  rw [h, hashOver_fold wc m idxs 1 (by decide), Nat.one_mul]

/-! ## the set of literal occurrences whose primes are multiplied -/

/-- the primes that `hash` multiplies for the partial model `m`: those of the literal
occurrences `(i, j)` such that clause `i` has more than one literal (as handed to
`CnfHasher::new`), no literal of clause `i` is true under `m`, and literal `j` of clause `i` is
not false under `m` (hence unassigned) -/
def activeOf (m : PartialModel) (wcl : List (Nat × Lit)) : List Nat :=
  if decide (wcl.length > 1) && !wcl.any (fun p => m.litImplied p.2)
  then (wcl.filter fun p => !m.litNegImplied p.2).map Prod.fst else []

def activeWeights (cs : List (List Lit)) (m : PartialModel) : List Nat :=
  (weightCnf cs 1).flatMap (activeOf m)

/-- indices of the clauses with more than one literal (`clause.len() > 1`, "ignore units") -/
def nonUnitIdx (cs : List (List Lit)) : List Nat :=
  (List.range cs.length).filter fun i => decide ((cs.getD i []).length > 1)

theorem lprod_activeOf (m : PartialModel) (wcl : List (Nat × Lit)) :
    lprod (activeOf m wcl) = if decide (wcl.length > 1) then cval m wcl else 1 := by
  simp only [activeOf, cval]
  by_cases h1 : wcl.length > 1 <;> by_cases h2 : wcl.any (fun p => m.litImplied p.2) = true <;>
    simp [h1, h2]

/-- over all non-unit clauses, `hashOver` is the product of the active primes -/
theorem lprod_nonUnit (cs : List (List Lit)) (m : PartialModel) :
    lprod ((nonUnitIdx cs).map fun i => cval m ((weightCnf cs 1).getD i [])) =
      lprod (activeWeights cs m) := by
  rw [nonUnitIdx, lprod_map_filter, activeWeights, lprod_flatMap]
  simp only [lprod_activeOf]
  rw [← weightCnf_length cs 1,
    ← range_map_getD (fun wcl => if decide (wcl.length > 1) then cval m wcl else 1) []]
  congr 1
  apply List.map_congr_left
  intro i _
  simp only [weightCnf_getD cs 1 i, List.length_map]

/-! ## reachable states -/

/-- one level of the stack is sound for the model kept with it: it is a sub-selection of the
non-unit clauses and every non-unit clause it misses is satisfied by the model -/
def LevelOK (cs : List (List Lit)) (top : List Nat) (m : PartialModel) : Prop :=
  ∃ Q : Nat → Bool, top = (nonUnitIdx cs).filter Q ∧
    ∀ i ∈ nonUnitIdx cs, Q i = false → (cs.getD i []).any m.litImplied = true

/-- the stack of index sets and the stack of models the user keeps have the same height and are
sound level by level -/
inductive Levels (cs : List (List Lit)) : List (List Nat) → List PartialModel → Prop
  | nil : Levels cs [] []
  | cons {top st m ms} : LevelOK cs top m → Levels cs st ms → Levels cs (top :: st) (m :: ms)

/-- what holds of every driver reached from `CnfHasher::new(cs, nv)`: the weighted clauses and
the two occurrence tables are those built by `new` (no command changes them), and the stacks are
sound (`Levels`) -/
structure Inv (cs : List (List Lit)) (nv : Nat) (d : HDriver) : Prop where
  weighted : d.h.weighted = weightCnf cs 1
  pos : d.h.posLits = (List.range nv).map fun v => clausesWith cs ⟨v, true⟩
  neg : d.h.negLits = (List.range nv).map fun v => clausesWith cs ⟨v, false⟩
  levels : Levels cs d.h.state d.models

theorem inv_init (cs : List (List Lit)) (nv : Nat) : Inv cs nv (HDriver.init cs nv) where
  weighted := rfl
  pos := rfl
  neg := rfl
  levels := by
    refine Levels.cons ⟨fun _ => true, ?_, ?_⟩ Levels.nil
    · simp [nonUnitIdx]
    · intro i _ h; cases h

theorem litImplied_iff (m : PartialModel) (l : Lit) :
    m.litImplied l = true ↔ m.get l.var = some l.pol := by
  simp only [PartialModel.litImplied]
  cases m.get l.var <;> simp

theorem litImplied_set_mono (m : PartialModel) (l l0 : Lit)
    (hc : m.get l.var ≠ some (!l.pol)) (h : m.litImplied l0 = true) :
    (m.set l.var l.pol).litImplied l0 = true := by
  rw [litImplied_iff] at h ⊢
  rw [PartialModel.get_set]
  by_cases hv : l0.var = l.var
  · rw [hv] at h
    simp only [hv, if_true, Option.some.injEq]
    rw [h] at hc
    cases h1 : l.pol <;> cases h2 : l0.pol <;> simp_all
  · simp [hv, h]

theorem levelOK_decide {cs : List (List Lit)} {top : List Nat} {m : PartialModel} (l : Lit)
    (h : LevelOK cs top m) (hc : m.get l.var ≠ some (!l.pol)) :
    LevelOK cs (top.filter fun i => !(clausesWith cs l).contains i) (m.set l.var l.pol) := by
  obtain ⟨Q, hQ, hsat⟩ := h
  refine ⟨fun i => !(clausesWith cs l).contains i && Q i, ?_, ?_⟩
  · rw [hQ, List.filter_filter]
  · intro i hi hq
    simp only [Bool.and_eq_false_iff, Bool.not_eq_false'] at hq
    rcases hq with hq | hq
    · have : i < cs.length ∧ l ∈ cs.getD i [] := by simpa [clausesWith] using hq
      exact List.any_eq_true.mpr ⟨l, this.2, by rw [litImplied_iff, PartialModel.get_set, if_pos rfl]⟩
    · obtain ⟨l0, hl0, himp⟩ := List.any_eq_true.mp (hsat i hi hq)
      exact List.any_eq_true.mpr ⟨l0, hl0, litImplied_set_mono m l l0 hc himp⟩

theorem getElem?_map_range {β : Type} (f : Nat → β) (n v : Nat) :
    ((List.range n).map f)[v]? = if v < n then some (f v) else none := by
  by_cases h : v < n <;> simp [h]

theorem tbl_lookup {cs : List (List Lit)} {nv : Nat} {h : CnfHasher}
    (hp : h.posLits = (List.range nv).map fun v => clausesWith cs ⟨v, true⟩)
    (hn : h.negLits = (List.range nv).map fun v => clausesWith cs ⟨v, false⟩) (l : Lit) :
    (if l.pol then h.posLits else h.negLits)[l.var]? =
      if l.var < nv then some (clausesWith cs l) else none := by
  cases l with | mk v p =>
  cases p
  · exact hn ▸ getElem?_map_range _ nv v
  · exact hp ▸ getElem?_map_range _ nv v

theorem decide_eq (h : CnfHasher) (l : Lit) (idxs : List Nat)
    (hl : (if l.pol then h.posLits else h.negLits)[l.var]? = some idxs) :
    h.decide l =
      match h.state with
      | [] => if idxs.isEmpty then some h else none
      | top :: rest => some { h with state := top.filter (fun i => !idxs.contains i) :: rest } := by
  cases h with | mk w st p n =>
  simp only [CnfHasher.decide] at hl ⊢
  rw [hl]
  cases st with
  | nil => rfl
  | cons top rest =>
    cases idxs with
    | nil => simp [List.filter_eq_self.mpr]
    | cons i r => rfl

theorem inv_step {cs : List (List Lit)} {nv : Nat} {d d' : HDriver} {c : HCmd} (hinv : Inv cs nv d)
    (hs : d.step c = some d')
    (hc : ∀ l, c = .decide l → ∀ m r, d.models = m :: r → m.get l.var ≠ some (!l.pol)) :
    Inv cs nv d' := by
  have hlook := tbl_lookup hinv.pos hinv.neg
  obtain ⟨⟨w, st, p, n⟩, models⟩ := d
  obtain ⟨hw, hp, hn, hl⟩ := hinv
  cases c with
  | hash => cases hs; exact ⟨hw, hp, hn, hl⟩
  | pop =>
    cases hs
    refine ⟨hw, hp, hn, ?_⟩
    cases hl with
    | nil => exact Levels.nil
    | cons _ h2 => exact h2
  | push =>
    cases hl with
    | nil => cases hs
    | cons h1 h2 => cases hs; exact ⟨hw, hp, hn, Levels.cons h1 (Levels.cons h1 h2)⟩
  | decide l =>
    by_cases hlt : l.var < nv
    · have hdec := decide_eq ⟨w, st, p, n⟩ l _ ((hlook l).trans (if_pos hlt))
      rw [HDriver.step, hdec] at hs
      cases hl with
      | nil =>
        by_cases he : (clausesWith cs l).isEmpty = true
        · rw [if_pos he] at hs; cases hs; exact ⟨hw, hp, hn, Levels.nil⟩
        · rw [if_neg he] at hs; cases hs
      | cons h1 h2 =>
        cases hs
        exact ⟨hw, hp, hn, Levels.cons (levelOK_decide l h1 (hc l rfl _ _ rfl)) h2⟩
    · rw [HDriver.step, CnfHasher.decide, (hlook l).trans (if_neg hlt)] at hs
      cases hs

/-- states reachable from `CnfHasher::new(cs, nv)` with a fresh model, where a `decide` never
contradicts the current model (it may repeat an assignment) -/
inductive Reach (cs : List (List Lit)) (nv : Nat) : HDriver → Prop
  | init : Reach cs nv (HDriver.init cs nv)
  | step {d d' : HDriver} {c : HCmd} : Reach cs nv d → d.step c = some d' →
      (∀ l, c = .decide l → ∀ m r, d.models = m :: r → m.get l.var ≠ some (!l.pol)) →
      Reach cs nv d'

theorem inv_of_reach {cs : List (List Lit)} {nv : Nat} {d : HDriver} (h : Reach cs nv d) :
    Inv cs nv d := by
  induction h with
  | init => exact inv_init cs nv
  | step _ hs hc ih => exact inv_step ih hs hc

/-- command lists in which no `decide` contradicts the model current at that point -/
def okRun : HDriver → List HCmd → Prop
  | _, [] => True
  | d, c :: cs =>
    (∀ l, c = .decide l → ∀ m r, d.models = m :: r → m.get l.var ≠ some (!l.pol)) ∧
    ∀ d', d.step c = some d' → okRun d' cs

theorem reach_run {cs : List (List Lit)} {nv : Nat} : ∀ (cmds : List HCmd) (d d' : HDriver),
    Reach cs nv d → okRun d cmds → d.run cmds = some d' → Reach cs nv d'
  | [], d, d', hr, _, hrun => by
    simp only [HDriver.run, Option.some.injEq] at hrun
    subst hrun; exact hr
  | c :: cmds, d, d', hr, hok, hrun => by
    simp only [HDriver.run] at hrun
    cases hs : d.step c with
    | none => simp [hs] at hrun
    | some d1 =>
      simp only [hs, Option.bind_some] at hrun
      exact reach_run cmds d1 d' (Reach.step hr hs hok.1) (hok.2 d1 hs) hrun

/-- **the hash formula**: in every reachable state, `hash` under the current model is the
product modulo `2^128` of the active primes of that model -/
theorem hash_of_inv {cs : List (List Lit)} {nv : Nat} {d : HDriver} (hinv : Inv cs nv d)
    {m : PartialModel} {r : List PartialModel} (hm : d.models = m :: r) :
    d.hash = some (lprod (activeWeights cs m) % M128) := by
  obtain ⟨⟨w, st, p, n⟩, models⟩ := d
  obtain ⟨hw, -, -, hl⟩ := hinv
  obtain rfl : models = m :: r := hm
  cases hl with
  | cons h1 h2 =>
    obtain ⟨Q, hQ, hsat⟩ := h1
    show some (CnfHasher.hashOver w m _) = _
    rw [hashOver_eq, show w = weightCnf cs 1 from hw, ← lprod_nonUnit, hQ, lprod_map_filter]
    congr 3
    apply List.map_congr_left
    intro i hi
    cases hq : Q i
    · have := hsat i hi hq
      rw [weightCnf_getD cs 1 i, List.any_map] at this
      simp only [Bool.false_eq_true, if_false, cval]
      rw [if_pos]
      exact this
    · simp

/-! ## the positional residual -/

/-- the residual formula *by position*: for every clause of the list handed to
`CnfHasher::new`, in order, `none` if the clause is ignored (fewer than two literals) or
satisfied (some literal true), otherwise `some` of the clause with every assigned (hence false)
literal masked out.  Two partial models have the same positional residual iff the same clause
positions are unsatisfied non-unit clauses and each restricts to the same literal occurrences. -/
def residualOcc (cs : List (List Lit)) (m : PModel) : List (Option (List (Option Lit))) :=
  cs.map fun c =>
    if decide (c.length > 1) && !c.any (litTrue m)
    then some (c.map fun l => if litUnset m l then some l else none) else none

/-- no clause with more than one literal has all its literals false -/
def NoFalsifiedNonUnit (cs : List (List Lit)) (m : PModel) : Prop :=
  ∀ c ∈ cs, c.length > 1 → clauseFalsified m c = false

theorem not_litFalse_eq_unset {m : PModel} {l : Lit} (h : litTrue m l = false) :
    (!litFalse m l) = litUnset m l := by
  simp only [litTrue, litFalse, litUnset] at h ⊢
  cases hm : m l.var with
  | none => rfl
  | some b =>
    rw [hm] at h
    generalize l.pol = p at h ⊢
    revert h
    cases b <;> cases p <;> decide

theorem ite_some_none_inj {β : Type} {b1 b2 : Bool} {x y : β} :
    (if b1 then some x else none) = (if b2 then some y else none) ↔ b1 = b2 ∧ (b1 = true → x = y) := by
  cases b1 <;> cases b2 <;> simp

theorem mem_cs_of_mem_weightCnf {cs : List (List Lit)} {p : Nat} {wcl : List (Nat × Lit)}
    (hw : wcl ∈ weightCnf cs p) : wcl.map Prod.snd ∈ cs := by
  have := List.mem_map_of_mem (f := fun wcl => wcl.map Prod.snd) hw
  rwa [weightCnf_shape] at this

/-- two models have the same positional residual iff they satisfy the same non-unit clauses
and, in the others, falsify the same literals -/
theorem residualOcc_eq_iff {cs : List (List Lit)} {m m' : PModel} :
    residualOcc cs m = residualOcc cs m' ↔
      ∀ c ∈ cs, c.length > 1 → c.any (litTrue m) = c.any (litTrue m') ∧
        (c.any (litTrue m) = false → ∀ l ∈ c, litFalse m l = litFalse m' l) := by
  have unset : ∀ {m : PModel} {c : List Lit}, c.any (litTrue m) = false →
      ∀ l ∈ c, litUnset m l = !litFalse m l := fun hs l hl =>
    (not_litFalse_eq_unset (Bool.eq_false_iff.mpr (List.any_eq_false.mp hs l hl))).symm
  refine List.map_inj_left.trans (forall₂_congr fun c _ => ?_)
  by_cases hlen : c.length > 1
  · rw [ite_some_none_inj, decide_eq_true hlen, Bool.true_and, Bool.true_and]
    constructor
    · rintro ⟨hb, hu⟩ _
      have hs := Bool.not_inj hb
      refine ⟨hs, fun hsat l hl => Bool.not_inj ?_⟩
      rw [← unset hsat l hl, ← unset (hs ▸ hsat) l hl]
      exact (ite_some_none_inj.mp (List.map_inj_left.mp (hu (congrArg (!·) hsat)) l hl)).1
    · intro h
      obtain ⟨hs, hfl⟩ := h hlen
      refine ⟨congrArg (!·) hs, fun hsat => List.map_congr_left fun l hl => ?_⟩
      have hsat := (Bool.not_eq_true' _).mp hsat
      rw [unset hsat l hl, unset (hs ▸ hsat) l hl, hfl hsat l hl]
  · simp [hlen]

/-- the positional residual determines the syntactic residual (`Spec.residual`) of the non-unit
clauses -/
theorem residual_of_residualOcc (cs : List (List Lit)) (m1 m2 : PModel)
    (h : residualOcc cs m1 = residualOcc cs m2) :
    residual (cs.filter fun c => decide (c.length > 1)) m1 =
      residual (cs.filter fun c => decide (c.length > 1)) m2 :=
  residual_congr fun c hc => residualOcc_eq_iff.mp h c (List.mem_filter.mp hc).1
    (of_decide_eq_true (List.mem_filter.mp hc).2)

/-! ## the hash and the positional residual -/

/-- the occurrences whose primes `hash` multiplies: in the clauses of more than one literal, those
that the hash of the unit-propagation solver (`UnitProp.removed`) would NOT count as removed:
clause not satisfied, literal not false -/
def active (m : PModel) (wcl : List (Nat × Lit)) : Nat × Lit → Bool := fun p =>
  decide (wcl.length > 1) && !(wcl.any (litTrue m ∘ Prod.snd) || litFalse m p.2)

theorem activeWeights_eq_selW (cs : List (List Lit)) (m : PartialModel) :
    activeWeights cs m = selW Prod.fst (weightCnf cs 1) (active m.toSpec) := by
  refine congrArg (List.flatMap · _) (funext fun wcl => ?_)
  unfold activeOf active
  simp only [litImplied_eq, litNegImplied_eq, Function.comp_def, Bool.not_or, ← Bool.and_assoc]
  cases decide (wcl.length > 1) && !wcl.any (fun p => litTrue m.toSpec p.2) <;> simp

/-- **if**: the active primes depend only on the positional residual -/
theorem activeWeights_of_residualOcc (cs : List (List Lit)) (m1 m2 : PartialModel)
    (h : residualOcc cs m1.toSpec = residualOcc cs m2.toSpec) :
    activeWeights cs m1 = activeWeights cs m2 := by
  rw [activeWeights_eq_selW, activeWeights_eq_selW]
  refine selW_congr fun wcl hw p hp => ?_
  by_cases hlen : wcl.length > 1
  · obtain ⟨hs, hfl⟩ := residualOcc_eq_iff.mp h _ (mem_cs_of_mem_weightCnf hw)
      (by rwa [List.length_map])
    simp only [List.any_map] at hs hfl
    rw [active, active, ← hs]
    cases hsat : wcl.any (litTrue m1.toSpec ∘ Prod.snd)
    · rw [hfl hsat p.2 (List.mem_map_of_mem hp)]
    · rfl
  · rw [active, active, decide_eq_false hlen]; rfl

/-- **only if**: for models that falsify no non-unit clause, the selection determines the
positional residual -/
theorem residualOcc_of_active_eq {cs : List (List Lit)} {m1 m2 : PModel}
    (hf1 : NoFalsifiedNonUnit cs m1) (hf2 : NoFalsifiedNonUnit cs m2)
    (h : ∀ wcl ∈ weightCnf cs 1, ∀ p ∈ wcl, active m1 wcl p = active m2 wcl p) :
    residualOcc cs m1 = residualOcc cs m2 := by
  refine residualOcc_eq_iff.mpr fun c hc hlen => ?_
  obtain ⟨wcl, hw, rfl⟩ : ∃ wcl ∈ weightCnf cs 1, wcl.map Prod.snd = c :=
    List.mem_map.mp (by rw [weightCnf_shape]; exact hc)
  have nf : ∀ {m}, NoFalsifiedNonUnit cs m → ¬ ∀ p ∈ wcl, litFalse m p.2 = true := fun hf hall =>
    Bool.false_ne_true ((hf _ hc hlen).symm.trans
      (List.all_eq_true.mpr (List.forall_mem_map.mpr hall)))
  obtain ⟨hs, hfl⟩ := clause_data_of_removed_eq Prod.snd (nf hf1) (nf hf2) fun p hp => by
    have := h wcl hw p hp
    rw [active, active, decide_eq_true (List.length_map (as := wcl) Prod.snd ▸ hlen),
      Bool.true_and, Bool.true_and] at this
    exact Bool.not_inj this
  rw [List.any_map, List.any_map]
  exact ⟨hs, fun hsat => List.forall_mem_map.mpr (hfl hsat)⟩

/-- below the wrap-around bound, for models that falsify no non-unit clause, the reduced products
determine the positional residual: the primes are pairwise different, so the product determines
the selection (`sel_eq_of_hash_eq`) -/
theorem residualOcc_of_hash_eq (cs : List (List Lit)) (m1 m2 : PartialModel)
    (hb : lprod (allW (weightCnf cs 1)) < M128)
    (hf1 : NoFalsifiedNonUnit cs m1.toSpec) (hf2 : NoFalsifiedNonUnit cs m2.toSpec)
    (h : lprod (activeWeights cs m1) % M128 = lprod (activeWeights cs m2) % M128) :
    residualOcc cs m1.toSpec = residualOcc cs m2.toSpec := by
  rw [activeWeights_eq_selW, activeWeights_eq_selW] at h
  exact residualOcc_of_active_eq hf1 hf2 (sel_eq_of_hash_eq
    (VarSet.nodup_of_sorted (weightCnf_spec cs 1).1)
    (fun x hx => isPrimeB_prime ((weightCnf_spec cs 1).2 x hx).2) hb h)

/-! ## the prime stream, concretely -/

theorem findPrime_le (c : Nat) (h : ∃ p, c ≤ p ∧ isPrimeB p = true) :
    ∀ q, c ≤ q → isPrimeB q = true → findPrime c h ≤ q := by
  induction c, h using findPrime.induct with
  | case1 c h hp => intro q hq _; rw [findPrime, dif_pos hp]; exact hq
  | case2 c h hp ih =>
    intro q hq hqp
    rw [findPrime, dif_neg hp]
    have : c ≠ q := fun e => hp (e ▸ hqp)
    exact ih q (by omega) hqp

theorem nextPrime_eq {p q : Nat} (hq : isPrimeB q = true) (hlt : p < q)
    (hnone : ∀ x, x < q → p < x → isPrimeB x = false) : nextPrime p = q := by
  have h1 := nextPrime_gt p
  have h2 := nextPrime_prime p
  have h3 : nextPrime p ≤ q := findPrime_le _ _ q hlt hq
  apply Classical.byContradiction
  intro hne
  have := hnone (nextPrime p) (by omega) h1
  rw [h2] at this; cases this

theorem nextPrime_1 : nextPrime 1 = 2 := nextPrime_eq (by decide) (by decide) (by decide)
theorem nextPrime_2 : nextPrime 2 = 3 := nextPrime_eq (by decide) (by decide) (by decide)
theorem nextPrime_3 : nextPrime 3 = 5 := nextPrime_eq (by decide) (by decide) (by decide)
theorem nextPrime_5 : nextPrime 5 = 7 := nextPrime_eq (by decide) (by decide) (by decide)
theorem nextPrime_7 : nextPrime 7 = 11 := nextPrime_eq (by decide) (by decide) (by decide)
theorem nextPrime_11 : nextPrime 11 = 13 := nextPrime_eq (by decide) (by decide) (by decide)

/-! ## histories do not panic under the natural preconditions (non-vacuity of `Reach`) -/

/-- in a reachable state with at least one level, `decide` of an in-range label is defined and
updates the current model -/
theorem step_decide_defined {cs : List (List Lit)} {nv : Nat} {d : HDriver} (hr : Reach cs nv d)
    {m : PartialModel} {r : List PartialModel} (hm : d.models = m :: r) (l : Lit) (hl : l.var < nv) :
    ∃ d', d.step (.decide l) = some d' ∧ d'.models = m.set l.var l.pol :: r := by
  have hinv := inv_of_reach hr
  have hdec := decide_eq d.h l _ ((tbl_lookup hinv.pos hinv.neg l).trans (if_pos hl))
  obtain ⟨⟨w, st, p, n⟩, models⟩ := d
  obtain rfl : models = m :: r := hm
  cases hinv.levels with
  | cons h1 h2 =>
    apply Exists.intro
    constructor
    · rw [HDriver.step, hdec]; rfl
    · rfl

theorem step_push_defined {cs : List (List Lit)} {nv : Nat} {d : HDriver} (hr : Reach cs nv d)
    {m : PartialModel} {r : List PartialModel} (hm : d.models = m :: r) :
    ∃ d', d.step .push = some d' ∧ d'.models = m :: m :: r := by
  have hlv := (inv_of_reach hr).levels
  obtain ⟨⟨w, st, p, n⟩, models⟩ := d
  obtain rfl : models = m :: r := hm
  cases hlv with
  | cons h1 h2 => exact ⟨_, rfl, rfl⟩

end CnfUtil
