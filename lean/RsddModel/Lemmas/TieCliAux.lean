import RsddModel.Model.Cli
import RsddModel.Model.Ffi
import RsddModel.Model.Orders
import RsddModel.Model.VTree
import RsddModel.Lemmas.Wmc
/-!
# Support definitions and literal mirrors for the translator route of the command-line tools and
the rest of the C interface (`tools/gen_cli.py` ↦ `Model/GenCli.lean`, tied in `Props/TieCli.lean`)

`Model/Cli.lean` models `single_wmc` and the formula tool from the compiled expression on; the glue
before that (weights, variable order, dispatch on `partials`) and the thin C wrappers have no
counterpart in the hand-written model.  This file gives them one: definitions that mirror the Rust
statement by statement (`CliAux.*`, `FfiAux.*`) and theorems that relate the mirrors to the model
(`Cli.singleWmc`, `Cli.formulaToBdd`, `Ffi.modelCount`, `Ffi.fromCParts`, the hypotheses of C19).
-/
set_option linter.unusedVariables false

instance {α : Type} : Inhabited (Sem.Poly α) := ⟨⟨[], 0⟩⟩

namespace CliAux
open Spec Bdd

/-! ## library operations of the mapping table -/

/-- `HashMap<VarLabel, (T, T)>` while it is being filled -/
abbrev Table (α : Type) := Nat → Option (α × α)
def Table.empty {α : Type} : Table α := fun _ => none
def Table.insert {α : Type} (t : Table α) (k : Nat) (v : α × α) : Table α := fun x => if x = k then some v else t x
/-- `HashMap::from_iter((0..n).map(|v| (VarLabel::new(v), f v)))` -/
def Table.ofRange {α : Type} (n : Nat) (f : Nat → α × α) : Table α := fun v => if v < n then some (f v) else none
/-- `WmcParams::new(table)`: the weight of an absent label (the Rust panics) is `(zero, zero)` -/
def Table.params {α : Type} (S : SROps α) (t : Table α) : Weights α := fun v => (t v).getD (S.zero, S.zero)

/-- what the tools may do with `f64` weights beyond the semiring operations (`-`, `/`, `abs`, comparisons, literals other than
0 and 1, `f64::EPSILON`): uninterpreted.  The tools of the repository use none of these; a generated definition that needs them takes an
`R : RealOps α` and can therefore not be the model's definition. -/
structure RealOps (α : Type) where
  sub : α → α → α
  div : α → α → α
  abs : α → α
  le : α → α → Bool
  lt : α → α → Bool
  eps : α
  ofLit : String → α

/-- `HashMap::get` on an association list (first entry wins) -/
def lookup {κ β : Type} [DecidableEq κ] : List (κ × β) → κ → Option β
  | [], _ => none
  | (y, b) :: r, x => if x = y then some b else lookup r x

/-- `HashMap::insert` on an association list: replace the entry of a present key, else append -/
def assocInsert {κ β : Type} [DecidableEq κ] : List (κ × β) → κ → β → List (κ × β)
  | [], x, b => [(x, b)]
  | (y, c) :: r, x, b => if x = y then (y, b) :: r else (y, c) :: assocInsert r x b

theorem lookup_eq_mapGet (m : List (String × Nat)) (x : String) : lookup m x = Ser.mapGet m x := by
  induction m with
  | nil => rfl
  | cons p r ih => obtain ⟨y, i⟩ := p; simp only [lookup, Ser.mapGet, ih]

/-- `PartialModel::true_assignments` / `false_assignments` of a model given as a vector -/
def trueAssignments (m : List (Option Bool)) : List Nat :=
  m.zipIdx.filterMap fun (o, i) => if o == some true then some i else none
def falseAssignments (m : List (Option Bool)) : List Nat :=
  m.zipIdx.filterMap fun (o, i) => if o == some false then some i else none

/-- what `BottomUpPlan::from_dtree` reads of a dtree -/
def dtreeShape : VT.DTree → Compile.DTree
  | .leaf c _ _ => .leaf c
  | .node l r _ _ => .node (dtreeShape l) (dtreeShape r)

end CliAux

namespace FfiAux
open Spec Bdd

/-- `WmcParams::set_weight` -/
def setWeight {α : Type} (w : Weights α) (var : Nat) (low high : α) : Weights α :=
  fun v => if v = var then (low, high) else w v
/-- `WmcParams::var_weight` -/
def varWeight {α : Type} (w : Weights α) (var : Nat) : α × α := w var
/-- `new_wmc_params_*`: the empty table -/
def newParams {α : Type} (S : SROps α) : Weights α := fun _ => (S.zero, S.zero)

theorem varWeight_setWeight {α : Type} (w : Weights α) (x : Nat) (lo hi : α) :
    varWeight (setWeight w x lo hi) x = (lo, hi) := by simp [varWeight, setWeight]
theorem varWeight_setWeight_ne {α : Type} (w : Weights α) {x y : Nat} (h : y ≠ x) (lo hi : α) :
    varWeight (setWeight w x lo hi) y = varWeight w y := by simp [varWeight, setWeight, h]

/-- `cnf_new(clauses, len)` -/
def cnfNew (clauses : List (List Lit)) (len : Nat) : Cnf := Ser.cnfNew (clauses.take len)
/-- `var_order_new(order, len)` -/
def varOrderNew (order : List Nat) (len : Nat) : Orders.VarOrder := Orders.VarOrder.new (order.take len)
/-- `robdd_builder_compile_cnf`: the returned pointer -/
def compileCnf (C : CacheImpl) (lvl : Nat → Nat) (fuel : Nat) (st : C.σ) (cnf : Cnf) : Option Ptr :=
  (Compile.compileCnf (Bdd.ops C lvl fuel) st (Compile.sortClauses lvl cnf)).map (·.2)

/-- `from_c_parts(coeffs, len)` statement by statement; a null pointer is `none` -/
def fromCPartsLit {α : Type} (S : SROps α) (M : Nat) (coeffs : Option (List α)) (len : Nat) : Sem.Poly α :=
  if coeffs.isNone || len == 0 then Sem.polyZero S M
  else
    let actualLen := min len M
    let slice := (coeffs.getD []).take actualLen
    let poly := Sem.polyZero S M
    let poly := (List.zipIdx slice).foldl (fun poly (val, i) => { poly with coeffs := poly.coeffs.set i val }) poly
    { poly with len := actualLen }

/-- `polynomial_len` -/
def polynomialLen {α : Type} (p : Option (Sem.Poly α)) : Nat := if p.isNone then 0 else (p.getD default).len

/-- `polynomial_get_coeffs(p, buffer, max_len)`: the returned count and the written prefix of the buffer -/
def polynomialGetCoeffs {α : Type} (S : SROps α) (p : Option (Sem.Poly α)) (buffer : Option (List α)) (maxLen : Nat) :
    Nat × List α :=
  if p.isNone || buffer.isNone then (0, buffer.getD [])
  else
    let poly := p.getD default
    let count := min poly.len maxLen
    let dest := (buffer.getD []).take count
    (count, (List.range count).foldl (fun dest i => dest.set i (poly.coeffs.getD i S.zero)) dest)

/-- `wmc_param_poly_set_weight`: nothing happens on a null table -/
def polySetWeight {α : Type} (S : SROps α) (M : Nat) (weights : Option (Weights (Sem.Poly α))) (var : Nat)
    (lowCoeffs : Option (List α)) (lowLen : Nat) (highCoeffs : Option (List α)) (highLen : Nat) :
    Option (Weights (Sem.Poly α)) :=
  if weights.isNone then weights
  else some (setWeight (weights.getD default) var (fromCPartsLit S M lowCoeffs lowLen) (fromCPartsLit S M highCoeffs highLen))

/-- `robdd_model_count` statement by statement: the table holds `(one, one)` for the labels below `num_vars` -/
def modelCountLit (P : Nat) (lvl varAt : Nat → Nat) (numVars : Nat) (p : Ptr) : Nat :=
  wmc (Sem.ffOps P) (CliAux.Table.params (Sem.ffOps P) (CliAux.Table.ofRange numVars fun _ => ((Sem.ffOps P).one, (Sem.ffOps P).one)))
    (smooth lvl varAt p numVars)

theorem wmcAux_congr {α : Type} (S : SROps α) (w w' : Weights α) :
    ∀ (p : Ptr) (n : Bool), (∀ v ∈ p.vars, w v = w' v) → wmcAux S w p n = wmcAux S w' p n
  | .tru, _, _ => rfl
  | .fls, _, _ => rfl
  | .node c v lo hi, n, h => by
    have hv : w v = w' v := h v (by simp [Ptr.vars])
    have hlo := wmcAux_congr S w w' lo (xor n c) (fun u hu => h u (by simp [Ptr.vars, hu]))
    have hhi := wmcAux_congr S w w' hi (xor n c) (fun u hu => h u (by simp [Ptr.vars, hu]))
    simp only [wmcAux, hv, hlo, hhi]

/-- the literal count is `Ffi.modelCount` as soon as the smoothed diagram mentions labels below `num_vars` only
(outside that range the Rust table has no entry and the count panics) -/
theorem modelCountLit_eq (P : Nat) (lvl varAt : Nat → Nat) (n : Nat) (p : Ptr)
    (h : ∀ v ∈ (smooth lvl varAt p n).vars, v < n) :
    modelCountLit P lvl varAt n p = Ffi.modelCount P lvl varAt n p := by
  unfold modelCountLit Ffi.modelCount wmc
  apply wmcAux_congr
  intro v hv
  simp [CliAux.Table.params, CliAux.Table.ofRange, h v hv, Sem.ffOps]

/-! ### `from_c_parts` statement by statement is `Ffi.fromCParts` -/

/-- writing `l` over a segment of equal length, position by position -/
theorem foldl_set_zipIdx {α : Type} : ∀ (l old pre post : List α), old.length = l.length →
    (l.zipIdx pre.length).foldl (fun acc (x : α × Nat) => match x with | (val, i) => acc.set i val) (pre ++ old ++ post)
      = pre ++ l ++ post
  | [], [], pre, post, _ => by simp
  | a :: l, o :: old, pre, post, h => by
    have ih := foldl_set_zipIdx l old (pre ++ [a]) post (by simpa using h)
    simpa using ih

theorem take_append_replicate {α : Type} (z : α) : ∀ (cs : List α) (M : Nat),
    cs.take M ++ List.replicate (M - cs.length) z = (List.range M).map fun i => cs.getD i z
  | [], M => by simp [List.map_const']
  | _ :: _, 0 => by simp
  | c :: cs, M + 1 => by
    simp only [List.range_succ_eq_map, List.map_cons, List.map_map, Function.comp_def, List.getD_cons_succ,
      List.getD_cons_zero, List.take_succ_cons, List.length_cons, Nat.add_sub_add_right, List.cons_append,
      take_append_replicate z cs M]

theorem foldl_poly {α : Type} : ∀ (l : List (α × Nat)) (poly : Sem.Poly α),
    l.foldl (fun poly (x : α × Nat) => match x with | (val, i) => { poly with coeffs := poly.coeffs.set i val }) poly =
      { coeffs := l.foldl (fun acc (x : α × Nat) => match x with | (val, i) => acc.set i val) poly.coeffs, len := poly.len }
  | [], poly => rfl
  | (v, i) :: l, poly => by simp only [List.foldl_cons]; rw [foldl_poly l]

theorem fromCPartsLit_some {α : Type} (S : SROps α) (M : Nat) (cs : List α) :
    fromCPartsLit S M (some cs) cs.length = Ffi.fromCParts S M cs := by
  unfold fromCPartsLit Ffi.fromCParts
  cases cs with
  | nil => simp
  | cons a r =>
    simp only [Option.isNone_some, Bool.false_or, List.length_cons, Nat.add_one_ne_zero, beq_iff_eq, if_false,
      List.isEmpty_cons, Bool.false_eq_true, Option.getD_some]
    rw [foldl_poly]
    simp only [Sem.polyOfList, Sem.polyZero, Sem.polyZeros, ← take_append_replicate]
    congr 1
    -- the zero array is the copied prefix's old content followed by the untouched rest
    have h : List.replicate M S.zero = [] ++ List.replicate ((a :: r).take M).length S.zero ++
        List.replicate (M - (a :: r).length) S.zero := by
      rw [List.nil_append, List.replicate_append_replicate, List.length_take, Nat.add_comm, Nat.sub_add_min_cancel]
    rw [← List.length_cons, Nat.min_comm, ← List.take_eq_take_min, h]
    exact foldl_set_zipIdx _ _ [] _ (by simp)

theorem fromCPartsLit_null {α : Type} (S : SROps α) (M n : Nat) : fromCPartsLit S M none n = Sem.polyZero S M := by
  simp [fromCPartsLit]

end FfiAux

namespace CliAux
open Spec Bdd

/-! ## literal mirrors of the tools -/

def singleWmcOut {α : Type} (C : Bdd.CacheImpl) (fuel : Nat) (S : SROps α) (P : Nat) (expr : Ser.LogicalExpr) (num_vars : Nat) (order : Orders.VarOrder) (params : Spec.Weights α) :=
  let unweighted_params := (CliAux.Table.params (Sem.ffOps P) (CliAux.Table.ofRange num_vars fun v => ((Sem.ffOps P).one, (Sem.ffOps P).one)))
  ((Compile.compileExpr (Bdd.ops C order.get fuel) C.empty (Cli.toCompileExpr expr)).bind fun r1 =>
  let bdd := r1.2
  let bdd := (Bdd.smooth order.get order.varAtLevel bdd num_vars)
  let res := (Bdd.wmc S params bdd)
  let out_ := ((Bdd.wmc (Sem.ffOps P) unweighted_params (Bdd.smooth order.get order.varAtLevel bdd num_vars)), res)
  some out_)

def singleWmcLabels : List String := ["unweighted model count: ", "\nweighted model count: "]

def partialWmcs {α : Type} (C : Bdd.CacheImpl) (fuel : Nat) (S : SROps α) (P : Nat) (expr : Ser.LogicalExpr) (num_vars : Nat) (order : Orders.VarOrder) (params : Spec.Weights α) (partials : List (List (Option Bool))) (inverse_mapping : List (Nat × String)) :=
  let unweighted_params := (CliAux.Table.params (Sem.ffOps P) (CliAux.Table.ofRange num_vars fun v => ((Sem.ffOps P).one, (Sem.ffOps P).one)))
  let results := []
  ((Compile.compileExpr (Bdd.ops C order.get fuel) C.empty (Cli.toCompileExpr expr)).bind fun r1 =>
  let bdd := r1.2
  let results := (partials.foldl (fun results model =>
  let num_conditioned := ((CliAux.trueAssignments model).length + (CliAux.falseAssignments model).length)
  let conditioned := (Bdd.condModel order.get bdd (Bdd.assignmentIter model))
  let smoothed := (Bdd.smooth order.get order.varAtLevel conditioned (num_vars - num_conditioned))
  let mc := (Bdd.wmc (Sem.ffOps P) unweighted_params smoothed)
  let wmc := (Bdd.wmc S params smoothed)
  let res := (mc, wmc)
  let results := (results ++ [res])
  results) results)
  some ((Bdd.countNodes bdd), results))

def toVarOrder (config_order : Option (List String)) (mapping : List (String × Nat)) :=
  (config_order.map fun o => (Orders.VarOrder.new (o.map fun var => ((CliAux.lookup mapping var).getD default))))

def generatePartialAssignments (partials : List (List (String × Bool))) (inverse_mapping : List (Nat × String)) (num_vars : Nat) :=
  (partials.map fun assignments => ((List.range num_vars).map fun index => (match (CliAux.lookup inverse_mapping index) with
  | some str =>
  (match (CliAux.lookup assignments str) with
  | some polarity =>
  (some polarity)
  | _ =>
  none)
  | _ =>
  none)))

def wmcMain {α : Type} (C : Bdd.CacheImpl) (fuel : Nat) (S : SROps α) (P : Nat) (sexpr : Ser.LogicalSExpr) (weights : List (String × (α × α))) (config_order : Option (List String)) (config_partials : Option (List (List (String × Bool)))) :=
  ((Ser.fromSexpr sexpr).bind fun r1 =>
  let expr := r1
  let num_vars := (Ser.sortedNames sexpr.uniqueVariables).length
  let mapping := sexpr.variableMapping
  (match (weights.foldl (fun (mapping, num_vars, tbl_) (k, v) =>
  let label := (CliAux.lookup mapping k)
  (match label with
  | none =>
  let n := (num_vars, (v.1, v.2))
  let mapping := (CliAux.assocInsert mapping k num_vars)
  let num_vars := (num_vars + 1)
  (mapping, num_vars, CliAux.Table.insert tbl_ n.1 n.2)
  | some index =>
  (mapping, num_vars, CliAux.Table.insert tbl_ (index, (v.1, v.2)).1 (index, (v.1, v.2)).2))) (mapping, num_vars, CliAux.Table.empty)) with
  | (mapping, num_vars, var_to_val) =>
  let inverse_mapping := (mapping.map fun (k, v) => (v, k))
  let var_to_val := ((List.range num_vars).foldl (fun var_to_val index =>
  let label := index
  let var_to_val := (if (var_to_val label).isNone then
  let var_to_val := (CliAux.Table.insert var_to_val label (S.zero, S.zero))
  var_to_val
  else var_to_val)
  var_to_val) var_to_val)
  let params := (CliAux.Table.params S var_to_val)
  let order := ((toVarOrder config_order mapping).getD (Orders.VarOrder.linear num_vars))
  (match config_partials with
  | some partials =>
  let partials := (generatePartialAssignments  partials inverse_mapping num_vars)
  ((partialWmcs C fuel S P expr num_vars order params partials inverse_mapping).bind fun r102 =>
  let output := r102
  some (Sum.inl output))
  | _ =>
  ((singleWmcOut C fuel S P expr num_vars order params).bind fun r102 =>
  some (Sum.inr r102)))))

def formulaMain (C : Bdd.CacheImpl) (fuel : Nat) (args_ordering : String) (config : Option (Option (List String))) (sexpr : Ser.LogicalSExpr) :=
  ((Ser.fromSexpr sexpr).bind fun r1 =>
  let expr := r1
  (((match args_ordering with
  | "linear" => some ((Orders.VarOrder.linear (Ser.sortedNames sexpr.uniqueVariables).length))
  | "manual" => some (let mapping := sexpr.variableMapping
  let config := (config.getD default)
  let order := (config.getD default)
  (Orders.VarOrder.new (order.map fun var => ((CliAux.lookup mapping var).getD default))))
  | _ => none)).bind fun r2 =>
  let order := r2
  ((Compile.compileExpr (Bdd.ops C order.get fuel) C.empty (Cli.toCompileExpr expr)).bind fun r3 =>
  let bdd := r3.2
  let serialized := (Ser.serBdd bdd)
  some serialized)))

def cnfMain (C : Bdd.CacheImpl) (fuel : Nat) (args_order args_strategy : String) (file : String) (cnf_num_vars : Nat) :=
  ((Ser.cnfFromDimacs file).bind fun r1 =>
  let cnf := r1
  (((match args_order with
  | "auto_minfill" => some ((Orders.minFillOrder cnf cnf_num_vars))
  | "auto_force" => ((Orders.forceOrderFloat cnf cnf_num_vars).bind fun r2 =>
  some (r2))
  | _ => none)).bind fun r2 =>
  let order := r2
  (((match args_strategy with
  | "dtree" => ((VT.DTree.fromCnf cnf order.posToVar).bind fun r3 =>
  let dtree := r3
  some ((Compile.Plan.fromDtree (CliAux.dtreeShape dtree))))
  | _ => none)).bind fun r3 =>
  let plan := r3
  ((Compile.compilePlan (Bdd.ops C order.get fuel) C.empty plan).bind fun r4 =>
  let bdd := r4.2
  let serialized := (Ser.serBdd bdd)
  some serialized))))

/-! ## the mirrors and the model -/

/-- the weighted count printed by `single_wmc` is `Cli.singleWmc` under the level map of the order -/
theorem singleWmcOut_weighted {α : Type} (C : CacheImpl) (fuel : Nat) (S : SROps α) (P : Nat) (e : Ser.LogicalExpr)
    (n : Nat) (order : Orders.VarOrder) (w : Weights α) :
    (singleWmcOut C fuel S P e n order w).map (·.2) = Cli.singleWmc C order.get order.varAtLevel fuel S w n e := by
  unfold singleWmcOut Cli.singleWmc
  cases Compile.compileExpr (Bdd.ops C order.get fuel) C.empty (Cli.toCompileExpr e) <;> rfl

/-- the unweighted count printed by `single_wmc`: the C interface's literal count of the (already smoothed) diagram -/
theorem singleWmcOut_unweighted {α : Type} (C : CacheImpl) (fuel : Nat) (S : SROps α) (P : Nat) (e : Ser.LogicalExpr)
    (n : Nat) (order : Orders.VarOrder) (w : Weights α) :
    (singleWmcOut C fuel S P e n order w).map (·.1) =
      (Compile.compileExpr (Bdd.ops C order.get fuel) C.empty (Cli.toCompileExpr e)).map fun r =>
        FfiAux.modelCountLit P order.get order.varAtLevel n (smooth order.get order.varAtLevel r.2 n) := by
  unfold singleWmcOut
  cases Compile.compileExpr (Bdd.ops C order.get fuel) C.empty (Cli.toCompileExpr e) <;> rfl

/-- the order the formula tool compiles under -/
def formulaOrder (ordering : String) (config : Option (Option (List String))) (sexpr : Ser.LogicalSExpr) : Option Orders.VarOrder :=
  match ordering with
  | "linear" => some (Orders.VarOrder.linear (Ser.sortedNames sexpr.uniqueVariables).length)
  | "manual" => some (Orders.VarOrder.new (((config.getD default).getD default).map fun var => (lookup sexpr.variableMapping var).getD default))
  | _ => none

/-- the formula tool is `Cli.formulaToBdd` on the indexed expression, under the chosen order -/
theorem formulaMain_spec (C : CacheImpl) (fuel : Nat) (ordering : String) (config : Option (Option (List String)))
    (sexpr : Ser.LogicalSExpr) :
    formulaMain C fuel ordering config sexpr =
      (Ser.fromSexpr sexpr).bind fun e => (formulaOrder ordering config sexpr).bind fun o => Cli.formulaToBdd C o.get fuel e := by
  unfold formulaMain formulaOrder Cli.formulaToBdd
  cases Ser.fromSexpr sexpr with
  | none => rfl
  | some e =>
    simp only [Option.bind_some]
    split <;> simp only [Option.bind_some, Option.bind_none] <;>
      (first | rfl | (cases Compile.compileExpr _ _ _ <;> rfl))

/-- without `partials` in the configuration the count tool is `single_wmc` on the indexed expression -/
theorem wmcMain_single {α : Type} (C : CacheImpl) (fuel : Nat) (S : SROps α) (P : Nat) (sexpr : Ser.LogicalSExpr)
    (weights : List (String × (α × α))) (co : Option (List String)) :
    ∃ (n : Nat) (order : Orders.VarOrder) (w : Weights α),
      wmcMain C fuel S P sexpr weights co none =
        (Ser.fromSexpr sexpr).bind fun e => (singleWmcOut C fuel S P e n order w).map Sum.inr := by
  cases hs : Ser.fromSexpr sexpr with
  | none => exact ⟨0, default, fun _ => (S.zero, S.zero), by simp [wmcMain, hs]⟩
  | some e =>
    simp only [wmcMain, hs, Option.bind_some]
    generalize List.foldl _ _ weights = st
    obtain ⟨m, n, t⟩ := st
    exact ⟨_, _, _, Option.map_eq_bind.symm⟩

end CliAux
