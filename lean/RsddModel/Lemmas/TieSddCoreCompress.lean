import RsddModel.Model.Sdd
/-!
# `compress` (src/builder/sdd/compression.rs): literal index-loop mirror and its equality with the model

The Rust works in place on a `Vec`:

    for i in 0..node.len() { let mut j = i + 1;
      while j < node.len() {
        if node[i].sub() == node[j].sub() { node[i] = (or(node[i].prime(), node[j].prime()), node[i].sub()); node.swap_remove(j); }
        else { j += 1 } } }

`compressWhile` / `compressFor` / `compressIdx` mirror this literally (indices, `List.set`, `swapRemove?`; the
`while` takes fuel `wf`, out of fuel = `none`); `tools/gen_sddcore.py` regenerates the same shape from the
source and `Props/TieSddCore.lean` ties the two.  `compressIdx_eq` proves the mirror EQUAL to the model's
list recursion `Sdd.compress` (same elements in the same ORDER: the model's `swapRemoveHead` reproduces the
order `swap_remove` leaves), whenever the fuel is at least the length of the vector.
-/
set_option linter.unusedSimpArgs false
namespace TieSddCoreCompress
open Sdd

/-- `Vec::swap_remove(j)`: the last element takes the place of element `j`; `none` = index panic -/
def swapRemove? (l : List Elem) (j : Nat) : Option (List Elem) :=
  if j < l.length then
    match l.getLast? with
    | some z => some ((l.set j z).dropLast)
    | none => none
  else none

section
variable {σ : Type}

/-- the `while j < node.len()` loop for a fixed `i` -/
def compressWhile (wf : Nat) (andF : AndF σ) (i : Nat) : Nat → σ → List Elem → Nat → Option (σ × (List Elem × Nat))
  | 0, _, _, _ => none
  | fuel + 1, st, node, j =>
    if j < node.length then
      match node[i]? with
      | none => none
      | some e =>
        match node[j]? with
        | none => none
        | some e1 =>
          if e.2 = e1.2 then
            match orF andF st e.1 e1.1 with
            | none => none
            | some (st1, r) =>
              match swapRemove? (node.set i (r, e.2)) j with
              | none => none
              | some node1 => compressWhile wf andF i fuel st1 node1 j
          else compressWhile wf andF i fuel st node (j + 1)
    else some (st, (node, j))

/-- the `for i in 0..node.len()` loop (`k` iterations left) -/
def compressFor (wf : Nat) (andF : AndF σ) : Nat → σ → Nat → List Elem → Option (σ × List Elem)
  | 0, st, _, node => some (st, node)
  | k + 1, st, i, node =>
    match compressWhile wf andF i wf st node (i + 1) with
    | none => none
    | some (st1, (node1, _)) => compressFor wf andF k st1 (i + 1) node1

/-- `compress` with the vector as a list and explicit indices -/
def compressIdx (wf : Nat) (andF : AndF σ) (st : σ) (node : List Elem) : Option (σ × List Elem) :=
  match compressFor wf andF (node.length - 0) st 0 node with
  | none => none
  | some (st1, node1) => some (st1, node1)

/-! ## list facts -/

theorem swapRemoveHead_length (l : List Elem) : (swapRemoveHead l).length = l.length - 1 := by
  rcases l with _ | ⟨a, _ | ⟨b, l⟩⟩ <;> simp [swapRemoveHead]

theorem swapRemove?_append (xs : List Elem) (y : Elem) (rest : List Elem) :
    swapRemove? (xs ++ y :: rest) xs.length = some (xs ++ swapRemoveHead (y :: rest)) := by
  rcases rest with _ | ⟨y2, ys⟩
  · simp [swapRemove?, swapRemoveHead, List.getLast?_append]
  · have hl : (xs ++ y :: y2 :: ys).getLast? = some ((y2 :: ys).getLast (by simp)) := by
      simp [List.getLast?_append, List.getLast?_cons_cons, List.getLast?_eq_some_getLast]
    simp only [swapRemove?, hl, swapRemoveHead]
    simp [List.dropLast_append_cons]

theorem set_mid (pre : List Elem) (x x' : Elem) (tl : List Elem) :
    (pre ++ x :: tl).set pre.length x' = pre ++ x' :: tl := by
  simp

theorem get_mid (pre : List Elem) (x : Elem) (tl : List Elem) : (pre ++ x :: tl)[pre.length]? = some x := by
  simp

/-! ## the `while` loop is `compressInner` -/

theorem compressWhile_end (wf : Nat) (andF : AndF σ) (i f : Nat) (st : σ) (node : List Elem) (j : Nat)
    (h : ¬ j < node.length) : compressWhile wf andF i (f + 1) st node j = some (st, (node, j)) := by
  unfold compressWhile; exact if_neg h

theorem compressInner_nil (andF : AndF σ) (s : Ptr) (n : Nat) (st : σ) (p : Ptr) (done : List Elem) :
    compressInner andF s n st p done [] = some (st, p, done) := by
  cases n
  · simp only [compressInner, List.append_nil]
  · rfl

/-- one round of the `while` loop with the vector cut at `i` and `j` -/
theorem compressWhile_step (wf : Nat) (andF : AndF σ) (f : Nat) (st : σ) (pre : List Elem) (p s : Ptr)
    (done : List Elem) (q t : Ptr) (rest : List Elem) :
    compressWhile wf andF pre.length (f + 1) st (pre ++ (p, s) :: (done ++ (q, t) :: rest))
        (pre.length + 1 + done.length) =
      if s = t then
        match orF andF st p q with
        | none => none
        | some (st1, r) =>
          compressWhile wf andF pre.length f st1 (pre ++ (r, s) :: (done ++ swapRemoveHead ((q, t) :: rest)))
            (pre.length + 1 + done.length)
      else
        compressWhile wf andF pre.length f st (pre ++ (p, s) :: (done ++ (q, t) :: rest))
          (pre.length + 1 + done.length + 1) := by
  have hlt : pre.length + 1 + done.length < (pre ++ (p, s) :: (done ++ (q, t) :: rest)).length := by
    simp only [List.length_append, List.length_cons]; omega
  have hsr (r : Ptr) : swapRemove? (pre ++ (r, s) :: (done ++ (q, t) :: rest)) (pre.length + 1 + done.length) =
      some (pre ++ (r, s) :: (done ++ swapRemoveHead ((q, t) :: rest))) := by
    have h := swapRemove?_append (pre ++ (r, s) :: done) (q, t) rest
    simpa only [List.append_assoc, List.cons_append, List.length_append, List.length_cons, Nat.add_assoc,
      Nat.add_comm 1] using h
  have hj : (pre ++ (p, s) :: (done ++ (q, t) :: rest))[pre.length + 1 + done.length]? = some (q, t) := by
    simpa only [List.append_assoc, List.cons_append, List.length_append, List.length_cons, Nat.add_assoc,
      Nat.add_comm 1] using get_mid (pre ++ (p, s) :: done) (q, t) rest
  simp only [compressWhile, hlt, if_true, get_mid, hj, set_mid, hsr]

theorem compressWhile_eq (wf : Nat) (andF : AndF σ) (s : Ptr) :
    ∀ (fuel n : Nat) (rem : List Elem), rem.length < fuel → rem.length ≤ n →
    ∀ (st : σ) (pre : List Elem) (p : Ptr) (done : List Elem),
      compressWhile wf andF pre.length fuel st (pre ++ (p, s) :: (done ++ rem)) (pre.length + 1 + done.length) =
        match compressInner andF s n st p done rem with
        | none => none
        | some (st', p', out) => some (st', (pre ++ (p', s) :: out, pre.length + 1 + out.length)) := by
  intro fuel
  induction fuel with
  | zero => intro n rem hf; exact absurd hf (Nat.not_lt_zero _)
  | succ f ih =>
    intro n rem hf hn st pre p done
    rcases rem with _ | ⟨⟨q, t⟩, rest⟩
    · rw [compressWhile_end _ _ _ _ _ _ _ (by simp only [List.length_append, List.length_cons, List.length_nil]; omega),
        compressInner_nil, List.append_nil]
    · rcases n with _ | n'
      · exact absurd hn (Nat.not_succ_le_zero _)
      rw [compressWhile_step, compressInner]
      by_cases hst : s = t
      · rw [if_pos hst, if_pos hst]
        cases orF andF st p q with
        | none => rfl
        | some r =>
          have hl : (swapRemoveHead ((q, t) :: rest)).length = rest.length := by
            rw [swapRemoveHead_length]; rfl
          exact ih n' _ (by rw [hl]; exact Nat.lt_of_succ_lt_succ hf) (by rw [hl]; exact Nat.le_of_succ_le_succ hn)
            r.1 pre r.2 done
      · rw [if_neg hst, if_neg hst]
        have h := ih n' rest (Nat.lt_of_succ_lt_succ hf) (Nat.le_of_succ_le_succ hn) st pre p (done ++ [(q, t)])
        simpa only [List.length_append, List.length_singleton, List.append_assoc, List.singleton_append,
          Nat.add_assoc] using h

/-! ## the `for` loop is `compressOuter` -/

theorem compressInner_length (andF : AndF σ) (s : Ptr) :
    ∀ (n : Nat) (st : σ) (p : Ptr) (done rem : List Elem) (st' : σ) (p' : Ptr) (out : List Elem),
      compressInner andF s n st p done rem = some (st', p', out) → out.length ≤ done.length + rem.length := by
  intro n
  induction n with
  | zero => intro st p done rem st' p' out h; simp [compressInner] at h; obtain ⟨_, _, rfl⟩ := h; simp
  | succ n ih =>
    intro st p done rem st' p' out h
    cases rem with
    | nil => simp [compressInner] at h; obtain ⟨_, _, rfl⟩ := h; simp
    | cons y rest =>
      obtain ⟨q, t⟩ := y
      simp only [compressInner] at h
      split at h
      · split at h
        · cases h
        · have := ih _ _ _ _ _ _ _ h
          rw [swapRemoveHead_length] at this
          simp at this ⊢; omega
      · have := ih _ _ _ _ _ _ _ h
        simp at this ⊢; omega

theorem compressFor_past (wf : Nat) (andF : AndF σ) :
    ∀ (k : Nat) (st : σ) (i : Nat) (node : List Elem), node.length ≤ i → 1 ≤ wf →
      compressFor wf andF k st i node = some (st, node) := by
  intro k
  induction k with
  | zero => intro st i node _ _; rfl
  | succ k ih =>
    intro st i node hi hw
    obtain ⟨f, rfl⟩ : ∃ f, wf = f + 1 := ⟨wf - 1, by omega⟩
    rw [compressFor, compressWhile_end _ _ _ _ _ _ _ (by omega)]
    exact ih st (i + 1) node (by omega) hw

theorem compressFor_eq (wf : Nat) (andF : AndF σ) :
    ∀ (k : Nat) (st : σ) (pre l : List Elem), l.length ≤ k → k ≤ wf →
      compressFor wf andF k st pre.length (pre ++ l) =
        match compressOuter andF k st l with
        | none => none
        | some (st', out) => some (st', pre ++ out) := by
  intro k
  induction k with
  | zero =>
    intro st pre l hl _
    have : l = [] := List.eq_nil_of_length_eq_zero (by omega)
    subst this; simp [compressFor, compressOuter]
  | succ k ih =>
    intro st pre l hl hk
    cases l with
    | nil =>
      rw [compressFor_past wf andF (k + 1) st pre.length (pre ++ []) (by simp) (by omega)]
      simp [compressOuter]
    | cons e rest =>
      obtain ⟨p, s⟩ := e
      have hw := compressWhile_eq wf andF s wf rest.length rest (by simp at hl; omega) (Nat.le_refl _) st pre p []
      simp only [List.nil_append, List.length_nil, Nat.add_zero] at hw
      simp only [compressFor, compressOuter, hw]
      cases hin : compressInner andF s rest.length st p [] rest with
      | none => simp
      | some r =>
        obtain ⟨st1, p', rest'⟩ := r
        have hlen := compressInner_length andF s _ _ _ _ _ _ _ _ hin
        simp only [List.length_nil, Nat.zero_add] at hlen
        have h2 := ih st1 (pre ++ [(p', s)]) rest' (by simp at hl; omega) (by omega)
        simp only [List.length_append, List.length_singleton, List.append_assoc, List.singleton_append] at h2
        simp only [h2]
        cases compressOuter andF k st1 rest' with
        | none => rfl
        | some r2 => obtain ⟨st2, out⟩ := r2; rfl

/-- **the literal index-loop mirror of `compress` IS the model's `compress`** (same elements, same order),
for every fuel at least the length of the vector -/
theorem compressIdx_eq (wf : Nat) (andF : AndF σ) (st : σ) (node : List Elem) (hwf : node.length ≤ wf) :
    compressIdx wf andF st node = compress andF st node := by
  have h := compressFor_eq wf andF node.length st [] node (Nat.le_refl _) hwf
  simp only [List.nil_append, List.length_nil] at h
  simp only [compressIdx, compress, Nat.sub_zero, h]
  cases compressOuter andF node.length st node with
  | none => rfl
  | some r => obtain ⟨st', out⟩ := r; rfl

end
end TieSddCoreCompress

#print axioms TieSddCoreCompress.compressIdx_eq
