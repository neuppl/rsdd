import RsddModel.Model.BddBuilder
import RsddModel.Lemmas.BddCanon
import RsddModel.Lemmas.BddCond
import RsddModel.Lemmas.BddWF
import RsddModel.Lemmas.OptionLe
/-!
# Lemmas: termination / totality of the ROBDD builder model

The recursive `ite` of the model takes fuel and returns `none` when the fuel runs out.  This file
proves that it never does once the fuel exceeds a simple measure of the operands, for EVERY
lawful cache and every cache state (a cache hit only ends the recursion early; the cached value
is whatever it is):

* `Ptr.height` : the tree height of a diagram (`0` for the two constants);
* every recursive call of `ite` is on cofactors w.r.t. the first essential variable `x`; `x` is
  the top variable of at least one operand (`firstEssential_spec`), whose cofactor is a child
  (height strictly smaller), and the other cofactors are the operand itself or a child, so
  `height f + height g + height h` strictly decreases (`condEssential_height_sum`);
* the "panic" branch `firstEssential = none` (three constants) is unreachable, because a triple
  whose first component is a constant is a terminal case of `Ite::new` (`iteNew_const_of_none`);
* `ite_total` : `height f + height g + height h + 1 ≤ fuel → (ite C lvl fuel s f g h).isSome`;
* `ite_fuel_mono` : the result does not depend on the amount of fuel once it suffices.

That bound needs no hypothesis at all (no well-formedness, no cache invariant, no injectivity).
For WELL-FORMED operands over the first `N` variables there is a sharper, uniform bound
(`ite_total_above`): every recursive call is on cofactors that are ordered from level
`lvl x + 1` on, so the number of variables at or after the base level strictly decreases and
`N + 1` fuel suffices (`fuelBound N = N + 1`; tight, see the examples in `Props/C01Total.lean`).
The two measures are related by `height_le_of_above`: an ordered diagram all of whose variables
are `< N` has height `≤ N` (the levels strictly increase along a path).

For the operations that call `ite` on results of earlier calls (`exists`, `compose`, the list
operations) the intermediate results are again well formed (`Lemmas/BddWF`) and over the same
`N` variables — `ite` does not invent variables provided the cache only holds such results
(`CacheVars`, `ite_vars`) — so `fuelBound N` suffices for every call (`*_total_N`).
-/
namespace Bdd
open Spec

/-! ## the measure -/

/-- tree height: the number of decision nodes on a longest path -/
def Ptr.height : Ptr → Nat
  | .tru | .fls => 0
  | .node _ _ lo hi => 1 + max lo.height hi.height

@[simp] theorem height_neg (p : Ptr) : p.neg.height = p.height := by
  cases p <;> simp [Ptr.neg, Ptr.height]

theorem height_ite_neg (c : Bool) (p : Ptr) : (if c then p.neg else p).height = p.height := by
  cases c <;> simp

theorem height_lo_lt (c : Bool) (v : Nat) (lo hi : Ptr) : lo.height < (Ptr.node c v lo hi).height :=
  Nat.lt_of_le_of_lt (Nat.le_max_left ..) (Nat.lt_add_of_pos_left Nat.one_pos)
theorem height_hi_lt (c : Bool) (v : Nat) (lo hi : Ptr) : hi.height < (Ptr.node c v lo hi).height :=
  Nat.lt_of_le_of_lt (Nat.le_max_right ..) (Nat.lt_add_of_pos_left Nat.one_pos)

theorem condEssential_height_le (p : Ptr) (x : Nat) (b : Bool) :
    (condEssential p x b).height ≤ p.height := by
  cases p with
  | tru => exact Nat.le_refl _
  | fls => exact Nat.le_refl _
  | node c y lo hi =>
    rw [condEssential]
    refine if_elim (M := fun r : Ptr => r.height ≤ (Ptr.node c y lo hi).height) (fun _ => Nat.le_refl _) fun _ => ?_
    rw [height_ite_neg]
    cases b
    · exact Nat.le_of_lt (height_lo_lt c y lo hi)
    · exact Nat.le_of_lt (height_hi_lt c y lo hi)

/-- the cofactor w.r.t. the top variable is a child: strictly lower -/
theorem condEssential_height_lt {p : Ptr} {x : Nat} (b : Bool) (ht : p.top? = some x) :
    (condEssential p x b).height < p.height := by
  cases p with
  | tru => cases ht
  | fls => cases ht
  | node c y lo hi =>
    cases ht
    rw [condEssential, if_neg (fun h => h rfl), height_ite_neg]
    cases b
    · exact height_lo_lt c x lo hi
    · exact height_hi_lt c x lo hi

/-- **the measure decreases**: cofactoring the three operands of `ite` w.r.t. the first essential
variable strictly decreases the sum of the heights (for arbitrary diagrams and level maps) -/
theorem condEssential_height_sum {lvl : Nat → Nat} {f g h : Ptr} {x : Nat} (b : Bool)
    (hx : firstEssential lvl f g h = some x) :
    (condEssential f x b).height + (condEssential g x b).height + (condEssential h x b).height
      < f.height + g.height + h.height := by
  have lf := condEssential_height_le f x b
  have lg := condEssential_height_le g x b
  have lh := condEssential_height_le h x b
  rcases (firstEssential_spec hx).1 with e | e | e
  · exact Nat.add_lt_add_of_lt_of_le (Nat.add_lt_add_of_lt_of_le (condEssential_height_lt b e) lg) lh
  · exact Nat.add_lt_add_of_lt_of_le (Nat.add_lt_add_of_le_of_lt lf (condEssential_height_lt b e)) lh
  · exact Nat.add_lt_add_of_le_of_lt (Nat.add_le_add lf lg) (condEssential_height_lt b e)

/-! ## the panic branch is unreachable -/

theorem top_none_cases {p : Ptr} (h : p.top? = none) : p = .tru ∨ p = .fls := by
  cases p <;> simp_all [Ptr.top?]

/-- a triple whose first component is a constant is a terminal case of `Ite::new` -/
theorem iteNew_const_of_const (ord) {f : Ptr} (g h : Ptr) (hf : f = .tru ∨ f = .fls) :
    ∃ r, Ite.new ord f g h = .const r := by
  have h1 : (introConst f g h).1 = f := by
    apply introConst_cases f g h (M := fun r => r.1 = f) <;> intros <;> rfl
  apply iteNew_cases ord f g h (M := fun i => ∃ r, i = .const r)
  · exact fun r _ => ⟨r, rfl⟩
  · intro hn
    rw [h1] at hn
    rcases hf with rfl | rfl <;> simp [terminal?, Ptr.isTrue, Ptr.isFalse] at hn

/-- if `first_essential` would panic (all three are constants), `Ite::new` has already returned
a constant, so `ite_helper` never reaches the call -/
theorem iteNew_const_of_none {lvl : Nat → Nat} {f g h : Ptr} (ord)
    (hx : firstEssential lvl f g h = none) : ∃ r, Ite.new ord f g h = .const r := by
  apply iteNew_const_of_const
  apply top_none_cases
  cases hf : f.top? with
  | none => rfl
  | some v =>
    obtain ⟨w, hw, _⟩ := first_top_le lvl (b := g) (.inl hf)
    obtain ⟨w', hw', _⟩ := first_top_le lvl (b := h) (.inl hw)
    unfold firstEssential at hx
    rw [hx] at hw'; cases hw'

/-! ## totality of `ite` -/

/-- **`ite` returns whenever a fuel-indexed condition `J` on the operands is never met without
fuel and passes, with one unit less, to the cofactors w.r.t. the first essential variable.**  The
remaining way to fail, `firstEssential = none`, only arises for a constant standard triple. -/
theorem ite_total_of (C : CacheImpl) (lvl : Nat → Nat) (J : Nat → Ptr → Ptr → Ptr → Prop)
    (h0 : ∀ f g h, ¬J 0 f g h)
    (hstep : ∀ n f g h x b, J (n + 1) f g h → firstEssential lvl f g h = some x →
      J n (condEssential f x b) (condEssential g x b) (condEssential h x b)) :
    ∀ (fuel : Nat) (s : C.σ) (f g h : Ptr), J fuel f g h → (ite C lvl fuel s f g h).isSome := by
  intro fuel
  induction fuel with
  | zero => exact fun _ f g h hj => absurd hj (h0 f g h)
  | succ n ih =>
    intro s f g h hj
    rw [ite]
    have hnone := iteNew_const_of_none (lvl := lvl) (f := f) (g := g) (h := h) (ordP lvl)
    generalize Ite.new (ordP lvl) f g h = key at hnone
    split
    · rfl
    · rename_i hnc
      split
      · rfl
      · split
        · rename_i hx
          obtain ⟨r, hr⟩ := hnone hx
          exact absurd hr (hnc r)
        · rename_i x hx
          have it := ih s _ _ _ (hstep n f g h x true hj hx)
          split
          · rename_i hn; rw [hn] at it; cases it
          · rename_i s1 t ht
            have ie := ih s1 _ _ _ (hstep n f g h x false hj hx)
            split
            · rename_i hn; rw [hn] at ie; cases ie
            · split <;> rfl

/-- **`ite` terminates**: for every lawful cache, every cache state, every level map and all
operands, the recursion returns once the fuel exceeds the sum of the heights of the operands. -/
theorem ite_total (C : CacheImpl) (lvl : Nat → Nat) :
    ∀ (fuel : Nat) (s : C.σ) (f g h : Ptr), f.height + g.height + h.height + 1 ≤ fuel →
      (ite C lvl fuel s f g h).isSome :=
  ite_total_of C lvl (fun n f g h => f.height + g.height + h.height + 1 ≤ n)
    (fun _ _ _ hb => by omega)
    fun n f g h x b hb hx => by have := condEssential_height_sum b hx; omega

section
open Option (Le)
variable {C : CacheImpl} {lvl : Nat → Nat}

/-- `Option.Le` is a congruence for a `match` on a call of the builder (the discriminant type
written as in `Model/BddBuilder.lean`: a rule for type variables does not unify with the model) -/
theorem Le.pair {γ : Type} {x x' : Option (C.σ × Ptr)} {K K' : C.σ → Ptr → Option γ} (hx : Le x x')
    (hK : ∀ s r, Le (K s r) (K' s r)) :
    Le (match (generalizing := false) x with | none => none | some (s, r) => K s r)
      (match (generalizing := false) x' with | none => none | some (s, r) => K' s r) := by
  intro y h
  cases x with
  | none => cases h
  | some v => rw [hx.of_some rfl]; exact hK v.1 v.2 y h

theorem ite_fuel_succ : ∀ (fuel : Nat) (s : C.σ) (f g h : Ptr),
    Le (ite C lvl fuel s f g h) (ite C lvl (fuel + 1) s f g h)
  | 0, _, _, _, _ => Le.none_le _
  | n + 1, s, f, g, h => by
    rw [ite, ite]
    split
    · exact Le.refl _
    · split
      · exact Le.refl _
      · split
        · exact Le.refl _
        · exact Le.pair (ite_fuel_succ n _ _ _ _) fun _ _ =>
            Le.pair (ite_fuel_succ n _ _ _ _) fun _ _ => Le.refl _

theorem ite_fuel_le {fuel fuel' : Nat} (hle : fuel ≤ fuel') (s : C.σ) (f g h : Ptr) :
    Le (ite C lvl fuel s f g h) (ite C lvl fuel' s f g h) := by
  induction hle with
  | refl => exact Le.refl _
  | step _ ih => exact ih.trans (ite_fuel_succ _ _ _ _ _)

end

/-- **fuel monotonicity**: the result does not depend on the amount of fuel once it suffices -/
theorem ite_fuel_mono (C : CacheImpl) (lvl : Nat → Nat) {fuel fuel' : Nat} {s : C.σ}
    {f g h : Ptr} {r : C.σ × Ptr} (hr : ite C lvl fuel s f g h = some r) (hle : fuel ≤ fuel') :
    ite C lvl fuel' s f g h = some r :=
  (ite_fuel_le hle s f g h).of_some hr

/-- with enough fuel the result is the one obtained with exactly `height f + height g + height h
+ 1` units: a closed form of the function the fuelled model computes -/
theorem ite_eq_of_bound (C : CacheImpl) (lvl : Nat → Nat) {fuel : Nat} (s : C.σ) (f g h : Ptr)
    (hb : f.height + g.height + h.height + 1 ≤ fuel) :
    ite C lvl fuel s f g h = ite C lvl (f.height + g.height + h.height + 1) s f g h := by
  have h1 := ite_total C lvl _ s f g h (Nat.le_refl _)
  cases hr : ite C lvl (f.height + g.height + h.height + 1) s f g h with
  | none => rw [hr] at h1; cases h1
  | some r => exact ite_fuel_mono C lvl hr hb

/-! ## the derived operations that call `ite` once: bounds in terms of the heights -/

section simple
variable (C : CacheImpl) (lvl : Nat → Nat) {fuel : Nat}

theorem bAnd_total (s : C.σ) (f g : Ptr) (hb : f.height + g.height + 1 ≤ fuel) :
    (bAnd C lvl fuel s f g).isSome :=
  ite_total C lvl fuel s f g .fls (by simp only [Ptr.height]; omega)

theorem bIff_total (s : C.σ) (f g : Ptr) (hb : f.height + 2 * g.height + 1 ≤ fuel) :
    (bIff C lvl fuel s f g).isSome :=
  ite_total C lvl fuel s f g g.neg (by rw [height_neg]; omega)

theorem bXor_total (s : C.σ) (f g : Ptr) (hb : f.height + 2 * g.height + 1 ≤ fuel) :
    (bXor C lvl fuel s f g).isSome :=
  ite_total C lvl fuel s f g.neg g (by rw [height_neg]; omega)

theorem bOr_total (s : C.σ) (f g : Ptr) (hb : f.height + g.height + 1 ≤ fuel) :
    (bOr C lvl fuel s f g).isSome := by
  have := bAnd_total C lvl (fuel := fuel) s f.neg g.neg (by simpa using hb)
  unfold bOr
  split
  · rfl
  · rename_i hn; rw [hn] at this; cases this

end simple

/-! ## conditioning never raises the height -/

theorem mkNode_height (x : Nat) (lo hi : Ptr) :
    (mkNode x lo hi).height = 1 + max lo.height hi.height := by
  apply mkNode_cases x lo hi (M := fun r => r.height = 1 + max lo.height hi.height) <;>
    intro _ <;> simp only [Ptr.height, height_neg]

theorem condPure_height_le (lvl : Nat → Nat) (x : Nat) (b : Bool) :
    ∀ p : Ptr, (condPure lvl x b p).height ≤ p.height := by
  intro p
  induction p with
  | tru => exact Nat.le_refl _
  | fls => exact Nat.le_refl _
  | node c y lo hi ihlo ihhi =>
    have hlo := Nat.le_of_lt (height_lo_lt c y lo hi)
    have hhi := Nat.le_of_lt (height_hi_lt c y lo hi)
    apply condPure_node_elim (M := fun r => r.height ≤ (Ptr.node c y lo hi).height)
    · exact fun _ => Nat.le_refl _
    · intro _
      rw [height_ite_neg]
      cases b
      · exact hlo
      · exact hhi
    · intro _ _
      rw [height_ite_neg]
      exact Nat.le_trans ihlo hlo
    · intro _ _
      rw [height_ite_neg, mkNode_height]
      exact Nat.add_le_add_left (Nat.max_le.2 ⟨Nat.le_trans ihlo (Nat.le_max_left ..),
        Nat.le_trans ihhi (Nat.le_max_right ..)⟩) 1
    · exact fun _ _ _ => Nat.le_refl _

theorem condition_height_le (lvl : Nat → Nat) (p : Ptr) (x : Nat) (b : Bool) :
    (condition lvl p x b).height ≤ p.height := by
  rw [condition_eq_pure]; exact condPure_height_le lvl x b p

/-- `exists` (two conditionings, one `or`) returns with `2 * height f + 1` fuel -/
theorem bExists_total (C : CacheImpl) (lvl : Nat → Nat) {fuel : Nat} (s : C.σ) (f : Ptr) (x : Nat)
    (hb : 2 * f.height + 1 ≤ fuel) : (bExists C lvl fuel s f x).isSome := by
  have h1 := condition_height_le lvl f x true
  have h2 := condition_height_le lvl f x false
  exact bOr_total C lvl s _ _ (by omega)

/-! ## the variables of a diagram; an ordered diagram over `N` variables has height `≤ N` -/

/-- every variable label of `p` is `< N` -/
def Ptr.varsLt (N : Nat) : Ptr → Prop
  | .tru | .fls => True
  | .node _ v lo hi => v < N ∧ lo.varsLt N ∧ hi.varsLt N

theorem varsLt_neg {N} {p : Ptr} (h : p.varsLt N) : p.neg.varsLt N := by
  cases p <;> simp_all [Ptr.neg, Ptr.varsLt]

theorem varsLt_neg_iff (N) (p : Ptr) : p.neg.varsLt N ↔ p.varsLt N :=
  ⟨fun h => by have := varsLt_neg h; rwa [neg_neg] at this, varsLt_neg⟩

theorem varsLt_ite_neg {N} {c : Bool} {p : Ptr} (h : p.varsLt N) :
    (if c then p.neg else p).varsLt N := by
  cases c <;> simp only [if_true, if_false, Bool.false_eq_true] <;>
    first | assumption | exact varsLt_neg h

theorem varsLt_mono {N M} (hle : N ≤ M) : ∀ {p : Ptr}, p.varsLt N → p.varsLt M
  | .tru, _ => trivial
  | .fls, _ => trivial
  | .node _ _ _ _, ⟨h1, h2, h3⟩ => ⟨Nat.lt_of_lt_of_le h1 hle, varsLt_mono hle h2, varsLt_mono hle h3⟩

theorem lt_of_top_varsLt {N x : Nat} {p : Ptr} (h : p.varsLt N) (ht : p.top? = some x) : x < N := by
  cases p with
  | tru => simp [Ptr.top?] at ht
  | fls => simp [Ptr.top?] at ht
  | node c v lo hi => simp only [Ptr.top?, Option.some.injEq] at ht; subst ht; exact h.1

theorem condEssential_varsLt {N : Nat} {p : Ptr} (x : Nat) (b : Bool) (h : p.varsLt N) :
    (condEssential p x b).varsLt N := by
  cases p with
  | tru => trivial
  | fls => trivial
  | node c y lo hi =>
    rw [condEssential]
    refine if_elim (fun _ => h) fun _ => varsLt_ite_neg ?_
    cases b
    · exact h.2.1
    · exact h.2.2

theorem mkNode_varsLt {N x : Nat} {lo hi : Ptr} (hx : x < N) (hl : lo.varsLt N) (hh : hi.varsLt N) :
    (mkNode x lo hi).varsLt N :=
  mkNode_cases x lo hi (fun _ => ⟨hx, varsLt_neg hl, varsLt_neg hh⟩) fun _ => ⟨hx, hl, hh⟩

theorem mkVar_varsLt {N x : Nat} (pol : Bool) (hx : x < N) : (mkVar x pol).varsLt N := by
  have h : (mkNode x .fls .tru).varsLt N := mkNode_varsLt hx trivial trivial
  unfold mkVar
  cases pol <;> simp only [if_true, if_false, Bool.false_eq_true]
  · exact varsLt_neg h
  · exact h

theorem condPure_varsLt (lvl : Nat → Nat) (x : Nat) (b : Bool) {N : Nat} :
    ∀ p : Ptr, p.varsLt N → (condPure lvl x b p).varsLt N := by
  intro p
  induction p with
  | tru => intro _; trivial
  | fls => intro _; trivial
  | node c y lo hi ihlo ihhi =>
    intro hv
    apply condPure_node_elim
    · exact fun _ => hv
    · intro _
      apply varsLt_ite_neg
      cases b
      · exact hv.2.1
      · exact hv.2.2
    · exact fun _ _ => varsLt_ite_neg (ihlo hv.2.1)
    · exact fun _ _ => varsLt_ite_neg (mkNode_varsLt hv.1 (ihlo hv.2.1) (ihhi hv.2.2))
    · exact fun _ _ _ => hv

theorem condition_varsLt (lvl : Nat → Nat) (x : Nat) (b : Bool) {N : Nat} {p : Ptr}
    (h : p.varsLt N) : (condition lvl p x b).varsLt N := by
  rw [condition_eq_pure]; exact condPure_varsLt lvl x b p h

theorem condModel_varsLt (lvl : Nat → Nat) {N : Nat} : ∀ (m : List (Nat × Bool)) {p : Ptr},
    p.varsLt N → (condModel lvl p m).varsLt N
  | [], _, h => h
  | (x, b) :: rest, _, h => condModel_varsLt lvl rest (condition_varsLt lvl x b h)

/-- the number of variables `v < N` whose level is `≥ k` -/
def cnt (lvl : Nat → Nat) : Nat → Nat → Nat
  | 0, _ => 0
  | N + 1, k => cnt lvl N k + (if k ≤ lvl N then 1 else 0)

theorem ind_mono {k k' : Nat} (h : k ≤ k') (m : Nat) :
    (if k' ≤ m then 1 else 0) ≤ (if k ≤ m then 1 else 0) := by
  by_cases hk : k' ≤ m
  · rw [if_pos hk, if_pos (Nat.le_trans h hk)]; exact Nat.le_refl _
  · rw [if_neg hk]; exact Nat.zero_le _

theorem cnt_le (lvl : Nat → Nat) : ∀ N k, cnt lvl N k ≤ N
  | 0, _ => Nat.le_refl _
  -- the summand for `k` is at most the one for `0`, which computes to `1`
  | N + 1, k => Nat.add_le_add (cnt_le lvl N k) (ind_mono (Nat.zero_le k) _)

theorem cnt_mono (lvl : Nat → Nat) {k k' : Nat} (h : k ≤ k') : ∀ N, cnt lvl N k' ≤ cnt lvl N k
  | 0 => Nat.le_refl _
  | N + 1 => Nat.add_le_add (cnt_mono lvl h N) (ind_mono h _)

/-- a variable `v < N` at a level `≥ k` is counted from `k` on but not from `lvl v + 1` on -/
theorem cnt_step (lvl : Nat → Nat) {k v : Nat} (hk : k ≤ lvl v) :
    ∀ N, v < N → cnt lvl N (lvl v + 1) + 1 ≤ cnt lvl N k
  | 0, h => nomatch h
  | N + 1, h => by
    rw [cnt, cnt]
    rcases Nat.lt_succ_iff_lt_or_eq.1 h with hlt | rfl
    · rw [Nat.add_right_comm]
      exact Nat.add_le_add (cnt_step lvl hk N hlt) (ind_mono (Nat.le_succ_of_le hk) _)
    · rw [if_neg (Nat.not_succ_le_self _), if_pos hk]
      exact Nat.add_le_add_right (cnt_mono lvl (Nat.le_succ_of_le hk) v) 1

/-- along a path of an ordered diagram the levels strictly increase, so the path meets every
variable at most once -/
theorem height_le_cnt (lvl : Nat → Nat) (N : Nat) :
    ∀ (p : Ptr) (k : Nat), p.above lvl k → p.varsLt N → p.height ≤ cnt lvl N k := by
  intro p
  induction p with
  | tru => intro k _ _; exact Nat.zero_le _
  | fls => intro k _ _; exact Nat.zero_le _
  | node c v lo hi ihlo ihhi =>
    intro k ha hv
    obtain ⟨hk, alo, ahi⟩ := ha
    obtain ⟨hvN, vlo, vhi⟩ := hv
    have h1 := ihlo _ alo vlo
    have h2 := ihhi _ ahi vhi
    refine Nat.le_trans ?_ (cnt_step lvl hk N hvN)
    rw [Ptr.height, Nat.add_comm]
    exact Nat.succ_le_succ (Nat.max_le.2 ⟨h1, h2⟩)

/-- **an ordered diagram over `N` variables has height at most `N`** (every level map) -/
theorem height_le_of_above {lvl : Nat → Nat} {N k : Nat} {p : Ptr} (ha : p.above lvl k)
    (hv : p.varsLt N) : p.height ≤ N :=
  Nat.le_trans (height_le_cnt lvl N p k ha hv) (cnt_le lvl N k)

/-! ## every operation keeps the variables below `N` -/

/-- the apply cache only holds diagrams over the first `N` variables -/
def CacheVars (C : CacheImpl) (N : Nat) (s : C.σ) : Prop :=
  ∀ k r, C.get s k = some r → r.varsLt N

theorem cacheVars_empty (C : CacheImpl) (N) : CacheVars C N C.empty := by
  intro k r hget; rw [C.empty_get] at hget; cases hget

theorem cacheVars_mono {C : CacheImpl} {N M : Nat} {s : C.σ} (hle : N ≤ M)
    (h : CacheVars C N s) : CacheVars C M s := fun k r hg => varsLt_mono hle (h k r hg)

theorem cacheGet_vars {C : CacheImpl} {N} {s : C.σ} (hs : CacheVars C N s) {key : Ite} {v : Ptr}
    (hnc : ∀ p, key = .const p → False) (hget : cacheGet C s key = some v) : v.varsLt N := by
  cases key with
  | choice f g h => exact hs _ _ hget
  | complChoice f g h =>
    simp only [cacheGet, Option.map_eq_some_iff] at hget
    obtain ⟨w, hw, rfl⟩ := hget
    exact varsLt_neg (hs _ _ hw)
  | const p => exact absurd rfl (hnc p)

theorem cacheInsert_vars {C : CacheImpl} {N} {s : C.σ} (hs : CacheVars C N s) (key : Ite) {r : Ptr}
    (hr : r.varsLt N) : CacheVars C N (cacheInsert C s key r) := by
  cases key with
  | choice f g h =>
    intro k' r' hget
    rcases C.lawful _ _ _ _ _ hget with ⟨_, hv⟩ | hold
    · subst hv; exact hr
    · exact hs _ _ hold
  | complChoice f g h =>
    intro k' r' hget
    rcases C.lawful _ _ _ _ _ hget with ⟨_, hv⟩ | hold
    · subst hv; exact varsLt_neg hr
    · exact hs _ _ hold
  | const p => exact hs

/-- `ite` does not invent variables: if the cache and the operands only mention variables `< N`,
so do the result and the new cache (every lawful cache, every level map) -/
theorem ite_vars (C : CacheImpl) (lvl : Nat → Nat) (N : Nat) :
    ∀ fuel s f g h s' r, CacheVars C N s → f.varsLt N → g.varsLt N → h.varsLt N →
      ite C lvl fuel s f g h = some (s', r) → CacheVars C N s' ∧ r.varsLt N := by
  intro fuel
  induction fuel with
  | zero => intro s f g h s' r _ _ _ _ hrun; simp [ite] at hrun
  | succ n ih =>
    intro s f g h s' r hs vf vg vh hrun
    have key_vars : (Ite.new (ordP lvl) f g h).All (Ptr.varsLt N) :=
      iteNew_fwd (varsLt_neg_iff N) trivial trivial (ordP lvl) vf vg vh
    refine ite_succ_elim (M := fun s' r => CacheVars C N s' ∧ r.varsLt N) ?_ ?_ ?_ hrun
    · intro r hk
      rw [hk] at key_vars
      exact ⟨hs, key_vars⟩
    · intro v hnc hv
      exact ⟨hs, cacheGet_vars hs hnc hv⟩
    · intro x s1 t s2 e _ hx ht he
      obtain ⟨hs1, vt⟩ := ih _ _ _ _ _ _ hs (condEssential_varsLt x true vf)
        (condEssential_varsLt x true vg) (condEssential_varsLt x true vh) ht
      obtain ⟨hs2, ve⟩ := ih _ _ _ _ _ _ hs1 (condEssential_varsLt x false vf)
        (condEssential_varsLt x false vg) (condEssential_varsLt x false vh) he
      have hxN : x < N := by
        rcases (firstEssential_spec hx).1 with e' | e' | e'
        · exact lt_of_top_varsLt vf e'
        · exact lt_of_top_varsLt vg e'
        · exact lt_of_top_varsLt vh e'
      have vr := mkNode_varsLt hxN ve vt
      exact ⟨fun _ => ⟨hs2, vt⟩, fun _ => ⟨cacheInsert_vars hs2 _ vr, vr⟩⟩

/-! ## totality over `N` variables: `N + 1` fuel is enough for every operation -/

/-- **`ite` terminates, the level measure**: for operands ordered from level `k` on, over the
first `N` variables, the recursion is at most as deep as the number of variables at a level
`≥ k`, plus one.  Every recursive call is on cofactors w.r.t. the first essential variable `x`,
which are ordered from level `lvl x + 1` on (this is where injectivity of the level map is
used), and `x` itself is counted from `k` on but not from `lvl x + 1` on (`cnt_step`).
Again for every lawful cache and every cache state. -/
theorem ite_total_above (C : CacheImpl) (lvl : Nat → Nat) (inj : ∀ x y, lvl x = lvl y → x = y)
    (N : Nat) : ∀ (fuel : Nat) (s : C.σ) (f g h : Ptr) (k : Nat),
      f.above lvl k → g.above lvl k → h.above lvl k → f.varsLt N → g.varsLt N → h.varsLt N →
      cnt lvl N k + 1 ≤ fuel → (ite C lvl fuel s f g h).isSome := by
  intro fuel s f g h k af ag ah vf vg vh hb
  refine ite_total_of C lvl (fun n f g h => ∃ k, f.above lvl k ∧ g.above lvl k ∧ h.above lvl k ∧
    f.varsLt N ∧ g.varsLt N ∧ h.varsLt N ∧ cnt lvl N k + 1 ≤ n) ?_ ?_ fuel s f g h
    ⟨k, af, ag, ah, vf, vg, vh, hb⟩
  · rintro f g h ⟨k, _, _, _, _, _, _, hb⟩; omega
  · rintro n f g h x b ⟨k, af, ag, ah, vf, vg, vh, hb⟩ hx
    obtain ⟨hmem, gf, gg, gh⟩ := firstEssential_spec hx
    have hkx : k ≤ lvl x ∧ x < N := by
      rcases hmem with e | e | e
      · exact ⟨le_of_top_above af e, lt_of_top_varsLt vf e⟩
      · exact ⟨le_of_top_above ag e, lt_of_top_varsLt vg e⟩
      · exact ⟨le_of_top_above ah e, lt_of_top_varsLt vh e⟩
    have hc := cnt_step lvl hkx.1 N hkx.2
    exact ⟨lvl x + 1, condEssential_above inj b af gf, condEssential_above inj b ag gg,
      condEssential_above inj b ah gh, condEssential_varsLt x b vf, condEssential_varsLt x b vg,
      condEssential_varsLt x b vh, by omega⟩

/-- the fuel that suffices for every builder call on diagrams over `N` variables: one unit per
variable, plus one for the terminal case at the leaves -/
def fuelBound (N : Nat) : Nat := N + 1

/-- a well formed diagram over the first `N` variables -/
def Good (lvl : Nat → Nat) (N : Nat) (p : Ptr) : Prop := WF lvl p ∧ p.varsLt N

/-- the cache only holds well formed diagrams over the first `N` variables -/
def CacheGood (C : CacheImpl) (lvl : Nat → Nat) (N : Nat) (s : C.σ) : Prop :=
  CacheWF C lvl s ∧ CacheVars C N s

theorem cacheGood_empty (C : CacheImpl) (lvl N) : CacheGood C lvl N C.empty :=
  ⟨cacheWF_empty C lvl, cacheVars_empty C N⟩

/-- a good operand has height at most `N`, so the height measure of `ite_total` is at most `3 * N`
on good operands -/
theorem Good.height_le {lvl N} {p : Ptr} (h : Good lvl N p) : p.height ≤ N :=
  height_le_of_above h.1.1 h.2

theorem Good.neg {lvl N} {p : Ptr} (h : Good lvl N p) : Good lvl N p.neg :=
  ⟨WF_neg h.1, varsLt_neg h.2⟩

theorem Good.mono {lvl N M} {p : Ptr} (hle : N ≤ M) (h : Good lvl N p) : Good lvl M p :=
  ⟨h.1, varsLt_mono hle h.2⟩

theorem CacheGood.mono {C : CacheImpl} {lvl N M} {s : C.σ} (hle : N ≤ M)
    (h : CacheGood C lvl N s) : CacheGood C lvl M s := ⟨h.1, cacheVars_mono hle h.2⟩

theorem good_tru (lvl N) : Good lvl N .tru := ⟨WF_tru lvl, trivial⟩
theorem good_fls (lvl N) : Good lvl N .fls := ⟨WF_fls lvl, trivial⟩
theorem good_mkVar (lvl) {N x} (pol : Bool) (hx : x < N) : Good lvl N (mkVar x pol) :=
  ⟨mkVar_WF lvl x pol, mkVar_varsLt pol hx⟩
theorem good_condition (lvl) {N} {p : Ptr} (x : Nat) (b : Bool) (h : Good lvl N p) :
    Good lvl N (condition lvl p x b) := ⟨condition_WF lvl x b h.1, condition_varsLt lvl x b h.2⟩
theorem good_condModel (lvl) {N} {p : Ptr} (m : List (Nat × Bool)) (h : Good lvl N p) :
    Good lvl N (condModel lvl p m) := ⟨condModel_WF lvl m h.1, condModel_varsLt lvl m h.2⟩

/-- the post-condition every call establishes: it returns, and the new cache and the result
are again good (so the next call can be made) -/
def Post (C : CacheImpl) (lvl : Nat → Nat) (N : Nat) (res : Option (C.σ × Ptr)) : Prop :=
  ∃ s' r, res = some (s', r) ∧ CacheGood C lvl N s' ∧ Good lvl N r

section total
variable (C : CacheImpl) (lvl : Nat → Nat) (inj : ∀ x y, lvl x = lvl y → x = y) {N fuel : Nat}
include inj

/-- **`ite` is total over `N` variables**: on good operands, with a good cache and `N + 1` fuel,
it returns a good result and a good cache -/
theorem ite_total_N {s : C.σ} {f g h : Ptr} (hs : CacheGood C lvl N s) (hf : Good lvl N f)
    (hg : Good lvl N g) (hh : Good lvl N h) (hb : fuelBound N ≤ fuel) :
    Post C lvl N (ite C lvl fuel s f g h) := by
  have ht := ite_total_above C lvl inj N fuel s f g h 0 hf.1.1 hg.1.1 hh.1.1 hf.2 hg.2 hh.2
    (by have := cnt_le lvl N 0; unfold fuelBound at hb; omega)
  cases hr : ite C lvl fuel s f g h with
  | none => rw [hr] at ht; cases ht
  | some sr =>
    obtain ⟨s', r⟩ := sr
    obtain ⟨w1, w2⟩ := ite_WF C lvl inj hs.1 hf.1 hg.1 hh.1 hr
    obtain ⟨v1, v2⟩ := ite_vars C lvl N fuel s f g h s' r hs.2 hf.2 hg.2 hh.2 hr
    exact ⟨s', r, rfl, ⟨w1, v1⟩, ⟨w2, v2⟩⟩

theorem bAnd_total_N {s : C.σ} {f g : Ptr} (hs : CacheGood C lvl N s) (hf : Good lvl N f)
    (hg : Good lvl N g) (hb : fuelBound N ≤ fuel) : Post C lvl N (bAnd C lvl fuel s f g) :=
  ite_total_N C lvl inj hs hf hg (good_fls lvl N) hb

theorem bIff_total_N {s : C.σ} {f g : Ptr} (hs : CacheGood C lvl N s) (hf : Good lvl N f)
    (hg : Good lvl N g) (hb : fuelBound N ≤ fuel) : Post C lvl N (bIff C lvl fuel s f g) :=
  ite_total_N C lvl inj hs hf hg hg.neg hb

theorem bXor_total_N {s : C.σ} {f g : Ptr} (hs : CacheGood C lvl N s) (hf : Good lvl N f)
    (hg : Good lvl N g) (hb : fuelBound N ≤ fuel) : Post C lvl N (bXor C lvl fuel s f g) :=
  ite_total_N C lvl inj hs hf hg.neg hg hb

theorem bOr_total_N {s : C.σ} {f g : Ptr} (hs : CacheGood C lvl N s) (hf : Good lvl N f)
    (hg : Good lvl N g) (hb : fuelBound N ≤ fuel) : Post C lvl N (bOr C lvl fuel s f g) := by
  obtain ⟨s', r, hr, h1, h2⟩ := bAnd_total_N C lvl inj hs hf.neg hg.neg hb
  exact ⟨s', r.neg, by simp only [bOr, hr], h1, h2.neg⟩

theorem bExists_total_N {s : C.σ} {f : Ptr} (x : Nat) (hs : CacheGood C lvl N s)
    (hf : Good lvl N f) (hb : fuelBound N ≤ fuel) : Post C lvl N (bExists C lvl fuel s f x) :=
  bOr_total_N C lvl inj hs (good_condition lvl x true hf) (good_condition lvl x false hf) hb

/-- `compose` (an `iff`, an `and` on its result, an `exists` on the result of that): the
intermediate results are well formed diagrams over the same `N` variables (WF preservation and
`ite_vars`), so the same fuel is enough for the later calls -/
theorem bCompose_total_N {s : C.σ} {f g : Ptr} {x : Nat} (hx : x < N) (hs : CacheGood C lvl N s)
    (hf : Good lvl N f) (hg : Good lvl N g) (hb : fuelBound N ≤ fuel) :
    Post C lvl N (bCompose C lvl fuel s f x g) := by
  obtain ⟨s1, i, h1, hs1, gi⟩ := bIff_total_N C lvl inj hs (good_mkVar lvl true hx) hg hb
  obtain ⟨s2, a, h2, hs2, ga⟩ := bAnd_total_N C lvl inj hs1 gi hf hb
  have h3 := bExists_total_N C lvl inj x hs2 ga hb
  simp only [bCompose, h1, h2]
  exact h3

theorem bAndLst_total_N : ∀ (ps : List Ptr) {s : C.σ} {acc : Ptr}, CacheGood C lvl N s →
    Good lvl N acc → (∀ p ∈ ps, Good lvl N p) → fuelBound N ≤ fuel →
    Post C lvl N (bAndLst C lvl fuel s acc ps)
  | [], s, acc, hs, ha, _, _ => ⟨s, acc, rfl, hs, ha⟩
  | p :: ps, s, acc, hs, ha, hps, hb => by
    obtain ⟨s1, r1, h1, hs1, g1⟩ := bAnd_total_N C lvl inj hs ha (hps p (List.mem_cons_self ..)) hb
    have := bAndLst_total_N ps hs1 g1 (fun q hq => hps q (List.mem_cons_of_mem _ hq)) hb
    simp only [bAndLst, h1]
    exact this

theorem bOrLst_total_N : ∀ (ps : List Ptr) {s : C.σ} {acc : Ptr}, CacheGood C lvl N s →
    Good lvl N acc → (∀ p ∈ ps, Good lvl N p) → fuelBound N ≤ fuel →
    Post C lvl N (bOrLst C lvl fuel s acc ps)
  | [], s, acc, hs, ha, _, _ => ⟨s, acc, rfl, hs, ha⟩
  | p :: ps, s, acc, hs, ha, hps, hb => by
    obtain ⟨s1, r1, h1, hs1, g1⟩ := bOr_total_N C lvl inj hs ha (hps p (List.mem_cons_self ..)) hb
    have := bOrLst_total_N ps hs1 g1 (fun q hq => hps q (List.mem_cons_of_mem _ hq)) hb
    simp only [bOrLst, h1]
    exact this

end total

theorem Post.isSome {C : CacheImpl} {lvl N} {res : Option (C.σ × Ptr)} (h : Post C lvl N res) :
    res.isSome := by
  obtain ⟨_, _, rfl, _⟩ := h; rfl

#print axioms ite_total
#print axioms ite_fuel_mono
#print axioms height_le_of_above
#print axioms ite_vars
#print axioms ite_total_above
#print axioms ite_total_N
#print axioms bExists_total
#print axioms bCompose_total_N
#print axioms bAndLst_total_N
#print axioms bOrLst_total_N
end Bdd
