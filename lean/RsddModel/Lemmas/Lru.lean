import RsddModel.Model.LruLemmas
/-!
# Lemmas: the lossy cache `Lru` (`src/util/lru.rs`), property C16

The slot invariant `Lru.Inv`, its preservation (`inv_new`, `inv_insertNoGrow`, `inv_grow`,
`inv_insert`), `grow_keeps` and the one-step law (`insert_law`, `insert_get_self`) are in
`Model/LruLemmas.lean` (core only, because the `CacheImpl` instance of the executable model needs
them).  Here:

* `growRust_eq_grow` / `needGrow_fresh_false`: the growth test of the inner insertions of `grow`
  never fires when `GROW_RATIO = num/den ≥ 1/2`, so the model's `grow` (which re-inserts with
  `insertNoGrow`) is the Rust's `grow` (which re-inserts with the full `insert`);
* `countOk_*`: `num_filled` is the number of filled slots, in particular `≤ 2^cap`;
* `lru_lawful`: the history theorem.
-/
namespace Lru

variable {K V : Type}

/-! ## the inner growth test of `grow` never fires -/

/-- one iteration of the loop of the Rust's `grow`, literally: the full `insert` -/
def growStepRust (num den : Nat) (acc : Tbl K V) (e : Option (Elem K V)) : Tbl K V :=
  match e with
  | some e => insert num den acc e.key e.val e.hash
  | none => acc

/-- the Rust's `grow`, literally (inner insertions run their own growth test) -/
def growRust (num den : Nat) (t : Tbl K V) : Tbl K V :=
  let nt := t.tbl.foldl (growStepRust num den) (new (t.cap + 1))
  ⟨nt.tbl, nt.cap, t.numFilled⟩

theorem growStep_numFilled_le (acc : Tbl K V) (e : Option (Elem K V)) :
    (growStep acc e).numFilled ≤ acc.numFilled + 1 := by
  cases e with
  | none => exact Nat.le_succ _
  | some e =>
    show (if _ then _ else _) ≤ _
    split
    · exact Nat.le_succ _
    · exact Nat.le_refl _

theorem foldl_growStep_numFilled_le (l : List (Option (Elem K V))) (acc : Tbl K V) :
    (l.foldl growStep acc).numFilled ≤ acc.numFilled + l.length := by
  induction l generalizing acc with
  | nil => exact Nat.le_refl _
  | cons x l ih =>
    rw [List.foldl_cons, List.length_cons, ← Nat.add_assoc, Nat.add_right_comm]
    exact Nat.le_trans (ih _) (Nat.add_le_add_right (growStep_numFilled_le acc x) _)

/-- a table of `2^(c+1)` slots that has room for `2^c` more than its fill count does not ask for
growth when `num/den ≥ 1/2` -/
theorem needGrow_false_of_le {num den c : Nat} (hr : den ≤ 2 * num) {acc : Tbl K V}
    (hcap : acc.cap = c + 1) (hn : acc.numFilled ≤ 2 ^ c) : needGrow num den acc = false := by
  simp only [needGrow, hcap, decide_eq_false_iff_not, Nat.not_lt, Nat.pow_succ]
  calc acc.numFilled * den ≤ 2 ^ c * (2 * num) := Nat.mul_le_mul hn hr
    _ = 2 ^ c * 2 * num := by rw [Nat.mul_assoc]

/-- **`needGrow_fresh_false`**, for the fold: starting from any accumulator of capacity exponent
`c+1` with `numFilled + (number of elements still to insert) ≤ 2^c`, every accumulator the loop of
`grow` passes through answers `false` to the growth test, provided `num/den ≥ 1/2`; hence the loop
with the full `insert` equals the loop with `insertNoGrow`. -/
theorem foldl_growStepRust_eq {num den c : Nat} (hr : den ≤ 2 * num)
    (l : List (Option (Elem K V))) (acc : Tbl K V)
    (hcap : acc.cap = c + 1) (hn : acc.numFilled + l.length ≤ 2 ^ c) :
    l.foldl (growStepRust num den) acc = l.foldl growStep acc := by
  induction l generalizing acc with
  | nil => rfl
  | cons x l ih =>
    rw [List.length_cons] at hn
    have hng : needGrow num den acc = false :=
      needGrow_false_of_le hr hcap (Nat.le_trans (Nat.le_add_right _ _) hn)
    have hx : growStepRust num den acc x = growStep acc x := by
      cases x with
      | none => rfl
      | some e => simp only [growStepRust, growStep, insert_eq, hng]; rfl
    rw [List.foldl_cons, List.foldl_cons, hx]
    refine ih _ (by rw [growStep_cap, hcap])
      (Nat.le_trans (Nat.add_le_add_right (growStep_numFilled_le acc x) _) ?_)
    rw [Nat.add_right_comm]; exact hn

/-- the growth test is false at every prefix of the loop of `grow` -/
theorem needGrow_fresh_false {num den : Nat} (hr : den ≤ 2 * num) {t : Tbl K V}
    (hl : t.tbl.length = 2 ^ t.cap) (n : Nat) :
    needGrow num den ((t.tbl.take n).foldl growStep (new (t.cap + 1))) = false := by
  refine needGrow_false_of_le hr (c := t.cap) (by rw [foldl_growStep_cap]; rfl) ?_
  refine Nat.le_trans (foldl_growStep_numFilled_le _ _) ?_
  rw [show (new (t.cap + 1) : Tbl K V).numFilled = 0 from rfl, Nat.zero_add, List.length_take, hl]
  exact Nat.min_le_right ..

/-- the model's `grow` is the Rust's `grow` for every ratio `num/den ≥ 1/2` (e.g. `7/10`) -/
theorem growRust_eq_grow {num den : Nat} (hr : den ≤ 2 * num) {t : Tbl K V}
    (hl : t.tbl.length = 2 ^ t.cap) : growRust num den t = grow t := by
  unfold growRust
  rw [foldl_growStepRust_eq hr t.tbl (new (t.cap + 1)) rfl
    (by show 0 + _ ≤ _; rw [hl, Nat.zero_add]; exact Nat.le_refl _)]
  rfl

example {t : Tbl K V} (hl : t.tbl.length = 2 ^ t.cap) : growRust 7 10 t = grow t :=
  growRust_eq_grow (by decide) hl

/-! ## `num_filled` is the number of filled slots

Not needed for the cache contract (the invariant `Inv` and every theorem below hold for an
arbitrary `numFilled`, i.e. whenever growth happens); it shows that the Rust's `grow`, which
leaves `num_filled` untouched, keeps the counter exact, so `num_filled ≤ 2^cap` always. -/

theorem countOk_new (cap : Nat) : CountOk (new cap : Tbl K V) := by
  simp [CountOk, new, List.countP_replicate]

theorem countP_isSome_set {α : Type} {l : List (Option α)} {q : Nat} (hq : q < l.length) (a : α) :
    (l.set q (some a)).countP Option.isSome =
      if (l.getD q none).isSome then l.countP Option.isSome else l.countP Option.isSome + 1 := by
  rw [List.countP_set hq, List.getD_eq_getElem?_getD, List.getElem?_eq_getElem hq, Option.getD_some]
  cases hs : l[q] with
  | none => rfl
  | some e =>
    have : 0 < l.countP Option.isSome :=
      List.countP_pos_iff.2 ⟨_, List.getElem_mem hq, by rw [hs]; rfl⟩
    exact Nat.sub_add_cancel this

theorem countOk_insertNoGrow {t : Tbl K V} (hl : t.tbl.length = 2 ^ t.cap) (hc : CountOk t)
    (k : K) (v : V) (h : Nat) : CountOk (insertNoGrow t k v h) := by
  have hq : powCap h t.cap < t.tbl.length := by rw [hl]; exact powCap_lt _ _
  unfold CountOk at *
  rw [insertNoGrow_tbl, countP_isSome_set hq, ← hc]
  rfl

theorem foldl_growStep_count {c : Nat} (l : List (Option (Elem K V))) (acc : Tbl K V)
    (h : GrowPre c acc l) :
    (l.foldl growStep acc).tbl.countP Option.isSome =
      acc.tbl.countP Option.isSome + l.countP Option.isSome := by
  induction l generalizing acc with
  | nil => rfl
  | cons x l ih =>
    cases x with
    | none => exact ih acc h.step_none
    | some e0 =>
      have hq : powCap e0.hash c < acc.tbl.length := by rw [h.hlen]; exact powCap_lt _ _
      rw [List.foldl_cons, ih _ h.step_some, List.countP_cons]
      show List.countP _ (acc.tbl.set (powCap e0.hash acc.cap) (some e0)) + _ = _
      rw [h.hcap, countP_isSome_set hq, List.getD_eq_getElem?_getD, h.hfree e0 (List.mem_cons_self ..)]
      exact Nat.add_right_comm _ 1 _

theorem grow_count {hashOf : K → Nat} {t : Tbl K V} (hi : Inv hashOf t) :
    (grow t).tbl.countP Option.isSome = t.tbl.countP Option.isSome := by
  rw [grow_eq]
  show List.countP _ (t.tbl.foldl growStep (new (t.cap + 1))).tbl = _
  rw [foldl_growStep_count t.tbl _ (GrowPre.of_inv hi)]
  show List.countP _ (List.replicate _ none) + _ = _
  rw [List.countP_replicate]
  exact Nat.zero_add _

theorem countOk_insert {hashOf : K → Nat} (num den : Nat) {t : Tbl K V} (hi : Inv hashOf t)
    (hc : CountOk t) (k : K) (v : V) (h : Nat) : CountOk (insert num den t k v h) := by
  rw [insert_eq]
  split
  · exact countOk_insertNoGrow (inv_grow hi).1 (hc.trans (grow_count hi).symm) k v h
  · exact countOk_insertNoGrow hi.1 hc k v h

/-- the fill counter never exceeds the number of slots -/
theorem numFilled_le {hashOf : K → Nat} {t : Tbl K V} (hi : Inv hashOf t) (hc : CountOk t) :
    t.numFilled ≤ 2 ^ t.cap := by
  rw [hc, ← hi.1]; exact List.countP_le_length

/-! ## history theorem -/

section
variable [DecidableEq K]

/-- the value of the last pair of `ops` whose key is `k` -/
def lastInserted : List (K × V) → K → Option V
  | [], _ => none
  | (k', v) :: rest, k =>
    match lastInserted rest k with
    | some v' => some v'
    | none => if k' = k then some v else none

theorem lastInserted_cons (k' : K) (v : V) (rest : List (K × V)) (k : K) :
    lastInserted ((k', v) :: rest) k =
      (lastInserted rest k).or (if k' = k then some v else none) := by
  rw [lastInserted]; cases lastInserted rest k <;> rfl

/-- apply a list of insertions, each with the hash of its key -/
def runFrom (hashOf : K → Nat) (num den : Nat) (t : Tbl K V) (ops : List (K × V)) : Tbl K V :=
  ops.foldl (fun t kv => insert num den t kv.1 kv.2 (hashOf kv.1)) t

def run (hashOf : K → Nat) (num den cap : Nat) (ops : List (K × V)) : Tbl K V :=
  runFrom hashOf num den (new cap) ops

omit [DecidableEq K] in
theorem inv_runFrom {hashOf : K → Nat} (num den : Nat) {t : Tbl K V} (hi : Inv hashOf t)
    (ops : List (K × V)) : Inv hashOf (runFrom hashOf num den t ops) := by
  induction ops generalizing t with
  | nil => exact hi
  | cons kv ops ih => exact ih (inv_insert num den hi kv.1 kv.2)

theorem runFrom_lawful {hashOf : K → Nat} (num den : Nat) {t : Tbl K V} (hi : Inv hashOf t)
    (ops : List (K × V)) (k : K) (v : V)
    (hg : get (runFrom hashOf num den t ops) k (hashOf k) = some v) :
    lastInserted ops k = some v ∨ (lastInserted ops k = none ∧ get t k (hashOf k) = some v) := by
  induction ops generalizing t with
  | nil => exact Or.inr ⟨rfl, hg⟩
  | cons kv ops ih =>
    obtain ⟨k0, v0⟩ := kv
    rw [lastInserted_cons]
    rcases ih (inv_insert num den hi k0 v0) hg with h | ⟨hn, h⟩
    · left; rw [h]; rfl
    · rw [hn, Option.none_or]
      by_cases hk : k0 = k
      · subst hk
        rw [insert_get_self num den hi] at h
        left; rw [if_pos rfl, h]
      · rw [if_neg hk]
        rcases insert_law num den hi _ _ _ _ h with ⟨h1, _⟩ | h1
        · exact absurd h1.symm hk
        · exact Or.inr ⟨rfl, h1⟩

/-- **history theorem**: after any list of insertions into a fresh table of any capacity, with
any growth ratio and any hash function (collisions arbitrary), a `get` returns nothing or the value
of the last insertion under exactly the asked key -/
theorem lru_lawful (hashOf : K → Nat) (num den cap : Nat) (ops : List (K × V)) (k : K) :
    get (run hashOf num den cap ops) k (hashOf k) = none ∨
    get (run hashOf num den cap ops) k (hashOf k) = lastInserted ops k := by
  cases hg : get (run hashOf num den cap ops) k (hashOf k) with
  | none => exact Or.inl rfl
  | some v =>
    right
    rcases runFrom_lawful num den (inv_new hashOf cap) ops k v hg with h | ⟨_, h⟩
    · exact h.symm
    · rw [get_new] at h; cases h

theorem lastInserted_ne_none {l : List (K × V)} {kv : K × V} (h : kv ∈ l) :
    lastInserted l kv.1 ≠ none := by
  induction l with
  | nil => cases h
  | cons x l ih =>
    obtain ⟨a, b⟩ := x
    rw [lastInserted_cons, Ne, Option.or_eq_none_iff]
    rintro ⟨h1, h2⟩
    rcases List.mem_cons.1 h with rfl | h
    · rw [if_pos rfl] at h2; cases h2
    · exact ih h h1

/-- `lastInserted` is the *last* such pair: `ops` splits around it with no later pair for `k` -/
theorem lastInserted_last (ops : List (K × V)) (k : K) (v : V) (h : lastInserted ops k = some v) :
    ∃ pre post, ops = pre ++ (k, v) :: post ∧ ∀ kv ∈ post, kv.1 ≠ k := by
  induction ops with
  | nil => cases h
  | cons kv ops ih =>
    obtain ⟨k0, v0⟩ := kv
    rw [lastInserted_cons, Option.or_eq_some_iff] at h
    rcases h with h | ⟨hn, h⟩
    · obtain ⟨pre, post, he, hp⟩ := ih h
      exact ⟨(k0, v0) :: pre, post, by rw [he]; rfl, hp⟩
    · split at h
      · rename_i hk
        cases h; cases hk
        exact ⟨[], ops, rfl, fun kv hkv hk => lastInserted_ne_none hkv (hk ▸ hn)⟩
      · cases h

/-- `lastInserted` really is an inserted pair with the asked key -/
theorem lastInserted_mem (ops : List (K × V)) (k : K) (v : V) (h : lastInserted ops k = some v) :
    (k, v) ∈ ops :=
  (lastInserted_last ops k v h).elim fun _ ⟨_, he, _⟩ =>
    he ▸ List.mem_append_right _ (List.mem_cons_self ..)

end

/-! ## why `hashOf` is a hypothesis: the raw API with inconsistent hashes returns a stale value -/

/-- key `5` is inserted with value `10` at hash `0`, then overwritten with value `20` but at
hash `1`; a lookup at hash `0` still returns the stale `10` -/
example :
    get (insert 7 10 (insert 7 10 (new 1 : Tbl Nat Nat) 5 10 0) 5 20 1) 5 0 = some 10 := by
  decide

end Lru
