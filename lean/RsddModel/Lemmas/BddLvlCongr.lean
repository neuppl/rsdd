import RsddModel.Lemmas.BddTotal
/-!
# Lemmas: the builder only looks at the level map on the variables of its operands

The theorems of C01/C02/C05/C08/C19 quantify over an INJECTIVE level map `lvl : Nat → Nat`.  The
level map of a real `VarOrder` over `n` variables (`VarOrder::get`) is only defined on `0..n-1`
(the Rust indexes a vector and panics beyond it; the model's `VarOrder.get` is totalised with
`getD _ 0`), so it is injective on `0..n-1` only.  This file closes that gap: `ite` — hence every
operation built from it — reads `lvl` only at variables of its operands and of cached results, so
two level maps that agree below `N` give the same run on operands over the first `N` variables
(`ite_lvl_congr`).  `Props/C01Order.lean` uses it to restate the properties for a real order.
-/
namespace Bdd
open Spec

/-- the two level maps agree on the first `N` variables -/
def AgreeLt (N : Nat) (lvl lvl' : Nat → Nat) : Prop := ∀ v, v < N → lvl v = lvl' v

section
variable {N : Nat} {lvl lvl' : Nat → Nat} (hag : AgreeLt N lvl lvl')
include hag

theorem ordP_congr {a b : Ptr} (va : a.varsLt N) (vb : b.varsLt N) :
    ordP lvl a b = ordP lvl' a b := by
  cases a <;> cases b <;> simp only [ordP]
  rename_i ca xa la ha cb xb lb hb
  rw [hag xa va.1, hag xb vb.1]

theorem first_congr {a b : Ptr} (va : a.varsLt N) (vb : b.varsLt N) :
    first lvl a b = first lvl' a b := by
  cases a <;> cases b <;> simp only [first, Ptr.top?]
  rename_i ca xa la ha cb xb lb hb
  rw [hag xa va.1, hag xb vb.1]

theorem firstEssential_congr {a b c : Ptr} (va : a.varsLt N) (vb : b.varsLt N) (vc : c.varsLt N) :
    firstEssential lvl a b c = firstEssential lvl' a b c := by
  have vab : (first lvl' a b).varsLt N := by
    rcases first_cases lvl' a b with e | e <;> rw [e] <;> assumption
  unfold firstEssential
  rw [first_congr hag va vb, first_congr hag vab vc]

theorem iteNew_congr {f g h : Ptr} (vf : f.varsLt N) (vg : g.varsLt N) (vh : h.varsLt N) :
    Ite.new (ordP lvl) f g h = Ite.new (ordP lvl') f g h := by
  have h1 := (introConst_all (varsLt_neg_iff N) trivial trivial).2 ⟨vf, vg, vh⟩
  simp only [Ite.new]
  generalize introConst f g h = t at h1 ⊢
  obtain ⟨f1, g1, h1'⟩ := t
  simp only at h1 ⊢
  unfold reorder
  rw [ordP_congr hag h1.2.2 h1.1, ordP_congr hag h1.2.1 h1.1]

/-- **`ite` reads the level map only below `N`** when the cache and the operands only mention
variables `< N`: for every lawful cache, every cache state and every fuel. -/
theorem ite_lvl_congr (C : CacheImpl) :
    ∀ fuel s f g h, CacheVars C N s → f.varsLt N → g.varsLt N → h.varsLt N →
      ite C lvl fuel s f g h = ite C lvl' fuel s f g h := by
  intro fuel
  induction fuel with
  | zero => intro s f g h _ _ _ _; rfl
  | succ n ih =>
    intro s f g h hs vf vg vh
    simp only [ite]
    rw [iteNew_congr hag vf vg vh, firstEssential_congr hag vf vg vh]
    split
    · rfl
    · split
      · rfl
      · split
        · rfl
        · rename_i x hx
          have e1 := ih s _ _ _ hs (condEssential_varsLt x true vf) (condEssential_varsLt x true vg)
            (condEssential_varsLt x true vh)
          rw [← e1]
          cases ht : ite C lvl n s (condEssential f x true) (condEssential g x true) (condEssential h x true) with
          | none => rfl
          | some st =>
            obtain ⟨s1, t⟩ := st
            obtain ⟨hs1, _⟩ := ite_vars C lvl N n _ _ _ _ _ _ hs (condEssential_varsLt x true vf)
              (condEssential_varsLt x true vg) (condEssential_varsLt x true vh) ht
            have e2 := ih s1 _ _ _ hs1 (condEssential_varsLt x false vf) (condEssential_varsLt x false vg)
              (condEssential_varsLt x false vh)
            simp only []
            rw [← e2]

end
end Bdd
