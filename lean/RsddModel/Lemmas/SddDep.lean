import RsddModel.Lemmas.SddWmc
/-!
# SDD lemmas: semantic variable sides (`DepIn`) and the invariant `WFd`

`DepIn L p`: the function of `p` depends only on the variables in `L`.  `WFd vt p`: `WF` with the
primes of a node depending only on the variables of the left child of its vtree index, the subs only
on those of the right child.  `WFd → WF`, `WFd → DD`, `WFs → WFd`, the element lists of a `WFd` node,
and where two operands sit relative to the least common ancestor of their vtree indices.
-/
namespace SddSem
open Sdd Spec

/-! ## semantic dependence -/

/-- `p` depends only on the variables in `L` -/
def DepIn (L : List Nat) (p : Ptr) : Prop :=
  ∀ a a' : Assign, (∀ v ∈ L, a v = a' v) → p.eval a = p.eval a'

theorem depIn_tru (L) : DepIn L .tru := fun _ _ _ => by simp
theorem depIn_fls (L) : DepIn L .fls := fun _ _ _ => by simp
theorem depIn_neg {L p} (h : DepIn L p) : DepIn L p.neg := fun a a' e => by simp [h a a' e]
theorem depIn_equiv {L p q} (h : DepIn L p) (e : ∀ a, q.eval a = p.eval a) : DepIn L q :=
  fun a a' ha => by rw [e, e, h a a' ha]
theorem depIn_and {L p q r} (hp : DepIn L p) (hq : DepIn L q)
    (e : ∀ a, r.eval a = (p.eval a && q.eval a)) : DepIn L r :=
  fun a a' ha => by rw [e, e, hp a a' ha, hq a a' ha]
theorem depIn_mono {L L' p} (h : DepIn L p) (hs : ∀ v ∈ L, v ∈ L') : DepIn L' p :=
  fun a a' ha => h a a' fun v hv => ha v (hs v hv)
theorem depIn_lit {L : List Nat} {l : Nat} (pol : Bool) (h : l ∈ L) : DepIn L (.lit l pol) :=
  fun a a' ha => by simp [eval_lit, ha l h]
theorem depIn_of_vars {L : List Nat} {p : Ptr} (h : ∀ v ∈ p.vars, v ∈ L) : DepIn L p :=
  fun _ _ ha => eval_congr p fun v hv => ha v (h v hv)
theorem depIn_cond {L p r} {x : Nat} {v : Bool} (hp : DepIn L p)
    (e : ∀ a, r.eval a = p.eval (upd a x v)) : DepIn L r := by
  intro a a' ha
  rw [e, e]
  apply hp
  intro u hu
  by_cases hux : u = x
  · subst hux; simp
  · simp [upd, hux, ha u hu]

theorem depIn_lit_mem {L : List Nat} {l : Nat} {pol : Bool} (h : DepIn L (.lit l pol)) : l ∈ L := by
  apply Classical.byContradiction
  intro hl
  have := h (fun _ => false) (upd (fun _ => false) l true) (fun v hv => by
    have : v ≠ l := fun e => hl (e ▸ hv)
    simp [upd, this])
  cases pol <;> simp [eval_lit, upd] at this

theorem depIn_indep {L : List Nat} {p : Ptr} {v : Nat} (h : DepIn L p) (hv : v ∉ L) : IndepP p v := by
  intro a b
  apply h
  intro u hu
  exact upd_other _ _ (fun e => hv (e ▸ hu))

theorem depW_of_depIn {vt : VTree} {i : Nat} {p : Ptr} (h : DepIn (vt.leftVars i) p) :
    DepW (vt.leftLeaf? i) p := by
  intro w hw a a' e
  apply h
  intro v hv
  rw [leftLeaf_leftVars hw, List.mem_singleton] at hv
  rw [hv]; exact e

theorem evalElems_depIn {L R : List Nat} {es : List Elem}
    (h : ∀ e ∈ es, DepIn L e.1 ∧ DepIn R e.2) {a a' : Assign}
    (hL : ∀ v ∈ L, a v = a' v) (hR : ∀ v ∈ R, a v = a' v) : evalElems a es = evalElems a' es := by
  induction es with
  | nil => rfl
  | cons e l ih =>
    obtain ⟨h1, h2⟩ := h e List.mem_cons_self
    rw [evalElems_cons, evalElems_cons, h1 a a' hL, h2 a a' hR,
      ih (fun e he => h e (List.mem_cons_of_mem _ he))]

/-! ## the invariant -/

mutual
/-- well formed for the semantic builder: labels in the vtree, node indices internal, decision
primes a partition, primes over (semantically) the left child's variables, subs over the right
child's -/
def WFd (vt : VTree) : Ptr → Prop
  | .tru => True
  | .fls => True
  | .lit v _ => v ∈ vt.leaves
  | .bdd _ l i lo hi =>
    Internal vt i ∧ l ∈ vt.leftVars i ∧ DepIn (vt.rightVars i) lo ∧ DepIn (vt.rightVars i) hi ∧
      WFd vt lo ∧ WFd vt hi
  | .dec _ i es => Internal vt i ∧ Partition es ∧ WFdElems vt i es
def WFdElems (vt : VTree) (i : Nat) : List (Ptr × Ptr) → Prop
  | [] => True
  | (p, s) :: r =>
    (WFd vt p ∧ WFd vt s ∧ DepIn (vt.leftVars i) p ∧ DepIn (vt.rightVars i) s) ∧ WFdElems vt i r
end

/-- element-wise reading; `L`, `R` = variables of the left / right child -/
def ElemsOKd (vt : VTree) (L R : List Nat) (es : List Elem) : Prop :=
  ∀ e ∈ es, WFd vt e.1 ∧ WFd vt e.2 ∧ DepIn L e.1 ∧ DepIn R e.2

theorem wfdElems_iff {vt : VTree} {i : Nat} {es : List Elem} :
    WFdElems vt i es ↔ ElemsOKd vt (vt.leftVars i) (vt.rightVars i) es := by
  induction es with
  | nil => simp [WFdElems, ElemsOKd]
  | cons e l ih =>
    obtain ⟨p, s⟩ := e
    simp only [WFdElems, ih, ElemsOKd, List.mem_cons, forall_eq_or_imp]

theorem WFd_tru (vt) : WFd vt .tru := by simp [WFd]
theorem WFd_fls (vt) : WFd vt .fls := by simp [WFd]

theorem WFd_neg {vt} {p : Ptr} (h : WFd vt p) : WFd vt p.neg := by
  cases p <;> first | exact h | (simp only [Ptr.neg, WFd] at h ⊢; exact h)

theorem WFd_dec {vt c i es} : WFd vt (.dec c i es) ↔
    Internal vt i ∧ Partition es ∧ ElemsOKd vt (vt.leftVars i) (vt.rightVars i) es := by
  simp [WFd, wfdElems_iff]

theorem ElemsOKd_negSubs {vt L R es} (h : ElemsOKd vt L R es) : ElemsOKd vt L R (negSubs es) := by
  intro e he
  simp only [negSubs, List.mem_map] at he
  obtain ⟨e', he', rfl⟩ := he
  obtain ⟨h1, h2, h3, h4⟩ := h e' he'
  exact ⟨h1, WFd_neg h2, h3, depIn_neg h4⟩

mutual
theorem WFd_vars {vt : VTree} : ∀ (p : Ptr), WFd vt p → ∀ v ∈ p.vars, v ∈ vt.leaves
  | .tru, _, v, hv => by cases hv
  | .fls, _, v, hv => by cases hv
  | .lit w _, h, v, hv => by
    simp only [Ptr.vars, List.mem_singleton] at hv; subst hv; exact h
  | .bdd _ l i lo hi, h, v, hv => by
    obtain ⟨_, hl, _, _, wlo, whi⟩ := h
    simp only [Ptr.vars, List.mem_cons, List.mem_append] at hv
    rcases hv with rfl | hv | hv
    · exact leftVars_leaves hl
    · exact WFd_vars lo wlo v hv
    · exact WFd_vars hi whi v hv
  | .dec _ i es, h, v, hv => WFdElems_vars es h.2.2 v (by simpa [Ptr.vars] using hv)
theorem WFdElems_vars {vt : VTree} {i : Nat} : ∀ (es : List (Ptr × Ptr)), WFdElems vt i es →
    ∀ v ∈ varsElems es, v ∈ vt.leaves
  | [], _, v, hv => by cases hv
  | (p, s) :: r, h, v, hv => by
    obtain ⟨⟨wp, ws, _, _⟩, hr⟩ := h
    simp only [varsElems, List.mem_append] at hv
    rcases hv with hv | hv | hv
    · exact WFd_vars p wp v hv
    · exact WFd_vars s ws v hv
    · exact WFdElems_vars r hr v hv
end

mutual
theorem WFd_WF {vt : VTree} : ∀ (p : Ptr), WFd vt p → WF vt p
  | .tru, _ => WF_tru vt
  | .fls, _ => WF_fls vt
  | .lit v _, h => by simpa [WF] using hasVar_iff.2 h
  | .bdd c l i lo hi, h => by
    obtain ⟨hint, hl, _, _, wlo, whi⟩ := h
    refine ⟨hasVar_iff.2 (leftVars_leaves hl), hint, ?_, WFd_WF lo wlo, WFd_WF hi whi⟩
    intro w hw
    rw [leftLeaf_leftVars hw, List.mem_singleton] at hl
    exact hl.symm
  | .dec c i es, h => ⟨h.1, h.2.1, WFdElems_WF es h.2.2⟩
theorem WFdElems_WF {vt : VTree} {i : Nat} : ∀ (es : List (Ptr × Ptr)), WFdElems vt i es →
    WFElems vt (vt.leftLeaf? i) es
  | [], _ => by simp [WFElems]
  | (p, s) :: r, h => by
    obtain ⟨⟨wp, ws, dp, _⟩, hr⟩ := h
    exact ⟨WFd_WF p wp, WFd_WF s ws, depW_of_depIn dp, WFdElems_WF r hr⟩
end

mutual
/-- the hash of every `WFd` pointer is the weighted sum of its function: `WFd → DD` -/
theorem WFd_DD {vt : VTree} (hnd : vt.leaves.Nodup) : ∀ (p : Ptr), WFd vt p → DD p
  | .tru, _ => trivial
  | .fls, _ => trivial
  | .lit _ _, _ => trivial
  | .bdd c l i lo hi, h => by
    obtain ⟨_, hl, dlo, dhi, wlo, whi⟩ := h
    have hlr : l ∉ vt.rightVars i := fun hr => VTree.left_right_disj hnd hl hr
    exact ⟨depIn_indep dlo hlr, depIn_indep dhi hlr, WFd_DD hnd lo wlo, WFd_DD hnd hi whi⟩
  | .dec c i es, h => ⟨h.2.1, WFdElems_DD hnd es h.2.2⟩
theorem WFdElems_DD {vt : VTree} (hnd : vt.leaves.Nodup) {i : Nat} : ∀ (es : List (Ptr × Ptr)),
    WFdElems vt i es → DDElems es
  | [], _ => trivial
  | (p, s) :: r, h => by
    obtain ⟨⟨wp, ws, dp, ds⟩, hr⟩ := h
    refine ⟨⟨fun v => ?_, WFd_DD hnd p wp, WFd_DD hnd s ws⟩, WFdElems_DD hnd r hr⟩
    by_cases hv : v ∈ vt.leftVars i
    · exact Or.inr (depIn_indep ds fun hr => VTree.left_right_disj hnd hv hr)
    · exact Or.inl (depIn_indep dp hv)
end

mutual
theorem WFs_WFd {vt : VTree} : ∀ (p : Ptr), WFs vt p → WFd vt p
  | .tru, _ => trivial
  | .fls, _ => trivial
  | .lit _ _, h => h
  | .bdd c l i lo hi, h => by
    obtain ⟨hint, hl, wlo, whi, vlo, vhi, _⟩ := h
    exact ⟨hint, hl, depIn_of_vars vlo, depIn_of_vars vhi, WFs_WFd lo wlo, WFs_WFd hi whi⟩
  | .dec c i es, h => ⟨h.1, h.2.1, WFsElems_WFd es h.2.2.1⟩
theorem WFsElems_WFd {vt : VTree} {i : Nat} : ∀ (es : List (Ptr × Ptr)), WFsElems vt i es →
    WFdElems vt i es
  | [], _ => trivial
  | (p, s) :: r, h => by
    obtain ⟨⟨wp, ws, _, vp, vs⟩, hr⟩ := h
    exact ⟨⟨WFs_WFd p wp, WFs_WFd s ws, depIn_of_vars vp, depIn_of_vars vs⟩, WFsElems_WFd r hr⟩
end

/-! ## vtree facts -/

theorem varsAt_internal {vt : VTree} {i : Nat} (h : Internal vt i) :
    ∀ v, v ∈ vt.varsAt i ↔ v ∈ vt.leftVars i ∨ v ∈ vt.rightVars i := by
  obtain ⟨l, r, hs⟩ := h
  intro v
  simp [VTree.varsAt, VTree.leftVars, VTree.rightVars, hs, VTree.leaves]

/-- a non-constant `WFd` pointer depends only on the variables under its vtree index -/
theorem WFd_depIn {vt : VTree} {p : Ptr} (h : WFd vt p) (h1 : p.isTrue = false) (h2 : p.isFalse = false) :
    DepIn (vt.varsAt (vtreeIndex vt p)) p := by
  cases p with
  | tru => simp [Ptr.isTrue] at h1
  | fls => simp [Ptr.isFalse] at h2
  | lit v pol =>
    have hv := hasVar_iff.2 h
    simp only [VTree.hasVar, Option.isSome_iff_exists] at hv
    obtain ⟨i, hi⟩ := hv
    apply depIn_lit
    simp [vtreeIndex, hi, VTree.varsAt, VTree.varIndex?_sub hi, VTree.leaves]
  | bdd c l i lo hi =>
    obtain ⟨hint, hl, dlo, dhi, _, _⟩ := h
    intro a a' ha
    have hL : a l = a' l := ha l ((varsAt_internal hint l).2 (Or.inl hl))
    have hR : ∀ v ∈ vt.rightVars i, a v = a' v := fun v hv => ha v ((varsAt_internal hint v).2 (Or.inr hv))
    simp only [eval_bdd, hL, dlo a a' hR, dhi a a' hR]
  | dec c i es =>
    obtain ⟨hint, _, hok⟩ := WFd_dec.1 h
    intro a a' ha
    simp only [eval_dec]
    rw [evalElems_depIn (fun e he => ⟨(hok e he).2.2.1, (hok e he).2.2.2⟩)
      (fun v hv => ha v ((varsAt_internal hint v).2 (Or.inl hv)))
      (fun v hv => ha v ((varsAt_internal hint v).2 (Or.inr hv)))]

/-- the complement-adjusted children of a `WFd` binary node (`low()`, `high()`) -/
theorem bdd_cofactors {vt : VTree} {c : Bool} {l i : Nat} {lo hi : Ptr} (w : WFd vt (.bdd c l i lo hi)) :
    (WFd vt (if c then lo.neg else lo) ∧ DepIn (vt.rightVars i) (if c then lo.neg else lo)) ∧
    (WFd vt (if c then hi.neg else hi) ∧ DepIn (vt.rightVars i) (if c then hi.neg else hi)) ∧
    ∀ a, (Ptr.bdd c l i lo hi).eval a =
      if a l then (if c then hi.neg else hi).eval a else (if c then lo.neg else lo).eval a := by
  obtain ⟨_, _, dlo, dhi, wlo, whi⟩ := w
  cases c
  · exact ⟨⟨wlo, dlo⟩, ⟨whi, dhi⟩, fun a => by rw [eval_bdd]; cases a l <;> simp⟩
  · exact ⟨⟨WFd_neg wlo, depIn_neg dlo⟩, ⟨WFd_neg whi, depIn_neg dhi⟩,
      fun a => by rw [eval_bdd]; cases a l <;> simp⟩

theorem elems?_okd {vt : VTree} {r : Ptr} {es : List Elem} (wr : WFd vt r) (h : r.elems? = some es) :
    ElemsOKd vt (vt.leftVars (vtreeIndex vt r)) (vt.rightVars (vtreeIndex vt r)) es := by
  cases r with
  | tru => cases h
  | fls => cases h
  | lit v p => cases h
  | bdd c l i lo hi =>
    cases h
    obtain ⟨⟨wlo, dlo⟩, ⟨whi, dhi⟩, _⟩ := bdd_cofactors wr
    have hl : l ∈ vt.leftVars i := wr.2.1
    exact List.forall_mem_cons.2 ⟨⟨leftVars_leaves hl, whi, depIn_lit _ hl, dhi⟩,
      List.forall_mem_cons.2 ⟨⟨leftVars_leaves hl, wlo, depIn_lit _ hl, dlo⟩, List.forall_mem_nil _⟩⟩
  | dec c i es0 =>
    cases h
    obtain ⟨_, _, hok⟩ := WFd_dec.1 wr
    cases c
    · exact hok
    · exact ElemsOKd_negSubs hok

theorem ElemsOKd_WF {vt : VTree} {i : Nat} {es : List Elem}
    (h : ElemsOKd vt (vt.leftVars i) (vt.rightVars i) es) : ElemsOK vt (vt.leftLeaf? i) es :=
  fun e he => ⟨WFd_WF _ (h e he).1, WFd_WF _ (h e he).2.1, depW_of_depIn (h e he).2.2.1⟩

theorem elems?_sem {vt : VTree} {r : Ptr} {es : List Elem} (wr : WFd vt r) (h : r.elems? = some es) :
    Partition es ∧ Internal vt (vtreeIndex vt r) ∧ ∀ a, evalElems a es = r.eval a :=
  (elems?_ok (WFd_WF r wr) h).2

theorem pairS_okd {vt : VTree} {L R : List Nat} {d s : Ptr} (wd : WFd vt d) (ws : WFd vt s)
    (dd : DepIn L d) (ds : DepIn R s) :
    ElemsOKd vt L R [(d, s), (d.neg, .fls)] ∧ Partition [(d, s), (d.neg, .fls)] ∧
      ∀ a, evalElems a [(d, s), (d.neg, .fls)] = (d.eval a && s.eval a) := by
  refine ⟨List.forall_mem_cons.2 ⟨⟨wd, ws, dd, ds⟩, List.forall_mem_cons.2
    ⟨⟨WFd_neg wd, WFd_fls vt, depIn_neg dd, depIn_fls R⟩, List.forall_mem_nil _⟩⟩, ?_, ?_⟩
  · intro a; simp only [cnt_cons, cnt_nil, eval_neg]; cases d.eval a <;> simp
  · intro a; simp

theorem pairD_okd {vt : VTree} {L R : List Nat} {d : Ptr} (wd : WFd vt d) (dd : DepIn L d) :
    ElemsOKd vt L R [(d, .tru), (d.neg, .fls)] ∧ Partition [(d, .tru), (d.neg, .fls)] ∧
      ∀ a, evalElems a [(d, .tru), (d.neg, .fls)] = d.eval a :=
  (pairS_okd wd (WFd_tru vt) dd (depIn_tru R)).imp id (.imp id fun h a => by rw [h]; simp)

/-- operands at different vtree nodes: their least common ancestor `k` is internal, the earlier
operand lives in its left child unless it sits at `k` itself, the later one in its right child -/
theorem lca_depIn {vt : VTree} {x y : Ptr} (wx : WFd vt x) (wy : WFd vt y)
    (hx1 : x.isTrue = false) (hx2 : x.isFalse = false) (hy1 : y.isTrue = false) (hy2 : y.isFalse = false)
    (hlt : vtreeIndex vt x < vtreeIndex vt y) :
    Internal vt (vt.lca 0 (vtreeIndex vt x) (vtreeIndex vt y)) ∧
    (vt.lca 0 (vtreeIndex vt x) (vtreeIndex vt y) ≠ vtreeIndex vt x →
      DepIn (vt.leftVars (vt.lca 0 (vtreeIndex vt x) (vtreeIndex vt y))) x) ∧
    (vt.lca 0 (vtreeIndex vt x) (vtreeIndex vt y) ≠ vtreeIndex vt y →
      DepIn (vt.rightVars (vt.lca 0 (vtreeIndex vt x) (vtreeIndex vt y))) y) := by
  obtain ⟨sx, hsx⟩ := vtreeIndex_sub (WFd_WF x wx) hx1 hx2
  obtain ⟨sy, hsy⟩ := vtreeIndex_sub (WFd_WF y wy) hy1 hy2
  have dx := WFd_depIn wx hx1 hx2
  have dy := WFd_depIn wy hy1 hy2
  simp only [VTree.varsAt, hsx] at dx
  simp only [VTree.varsAt, hsy] at dy
  obtain ⟨l, r0, hlca, hleft, hright, hlo, hhi⟩ := VTree.lca_sides hsx hsy hlt
  refine ⟨⟨l, r0, hlca⟩, fun hne => depIn_mono dx ?_, fun hne => depIn_mono dy ?_⟩
  · simp only [VTree.leftVars, hlca]
    exact hleft (Nat.lt_of_le_of_ne hlo (Ne.symm hne))
  · simp only [VTree.rightVars, hlca]
    exact hright (Nat.lt_of_le_of_ne hhi hne)

end SddSem
