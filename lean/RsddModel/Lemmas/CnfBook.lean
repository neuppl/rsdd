import RsddModel.Lemmas.Primes
/-!
# Lemmas: bookkeeping types of property C15 — `Literal` word, `VarSet`, `PartialModel`
-/
namespace CnfUtil
open Spec

/-! ## the `Literal` word -/

/-- `Literal::new` for a label below `2^63`: label in bits 0..62, polarity in bit 63 -/
theorem packNew_eq (label : Nat) (pol : Bool) (h : label < 2 ^ 63) :
    packNew label pol = label + (if pol then 2 ^ 63 else 0) := by
  have m1 : shl64 (shl64 1 (63 - 0) - 1) 0 = 2 ^ 63 - 1 := by decide
  have m2 : shl64 (shl64 1 (64 - 63) - 1) 63 = 2 ^ 63 := by decide
  have n2 : not64 (2 ^ 63) = 2 ^ 63 - 1 := by decide
  have hl : shl64 label 0 = label := by
    simp only [shl64, W64, Nat.shiftLeft_zero]
    exact Nat.mod_eq_of_lt (Nat.lt_trans h (by decide))
  have e1 : bfSet 0 label 0 63 = label := by
    simp only [bfSet, m1, hl, Nat.zero_and, Nat.zero_or, Nat.and_two_pow_sub_one_eq_mod]
    exact Nat.mod_eq_of_lt h
  rw [packNew, e1]
  simp only [bfSet, m2, n2, Nat.and_two_pow_sub_one_eq_mod, Nat.mod_eq_of_lt h]
  cases pol
  · have : shl64 0 63 &&& 2 ^ 63 = 0 := by decide
    simp [this]
  · have : shl64 1 63 &&& 2 ^ 63 = 2 ^ 63 := by decide
    simp only [if_true, this]
    have := Nat.two_pow_add_eq_or_of_lt h 1
    rw [Nat.mul_one] at this
    rw [Nat.or_comm, ← this, Nat.add_comm]

/-- `raw_label`: shifting left by one and back drops bit 63 -/
theorem rawLabel_eq (d : Nat) : rawLabel d = d % 2 ^ 63 := by
  show 2 * d % (2 * 2 ^ 63) / 2 = d % 2 ^ 63
  rw [Nat.mul_mod_mul_left, Nat.mul_div_cancel_left _ (by decide)]

theorem rawPolarity_eq (d : Nat) (h : d < 2 ^ 64) : rawPolarity d = d / 2 ^ 63 := by
  show (d % 2 ^ 64) >>> 63 = d / 2 ^ 63
  rw [Nat.mod_eq_of_lt h, Nat.shiftRight_eq_div_pow]

theorem packLit_eq (l : Lit) (h : l.var < 2 ^ 63) :
    packLit l = l.var + (if l.pol then 2 ^ 63 else 0) := packNew_eq _ _ h

theorem packLit_lt (l : Lit) (h : l.var < 2 ^ 63) : packLit l < 2 ^ 64 := by
  rw [packLit_eq l h, show 2 ^ 64 = 2 ^ 63 + 2 ^ 63 by decide]
  exact Nat.add_lt_add_of_lt_of_le h (by split <;> decide)

theorem packedLabel_packLit (l : Lit) (h : l.var < 2 ^ 63) : packedLabel (packLit l) = l.var := by
  rw [packedLabel, rawLabel_eq, packLit_eq l h]
  cases l.pol
  · exact Nat.mod_eq_of_lt h
  · rw [if_pos rfl, Nat.add_mod_right, Nat.mod_eq_of_lt h]

theorem packedPolarity_packLit (l : Lit) (h : l.var < 2 ^ 63) :
    packedPolarity (packLit l) = l.pol := by
  rw [packedPolarity, rawPolarity_eq _ (packLit_lt l h), packLit_eq l h]
  cases l.pol
  · rw [if_neg Bool.false_ne_true, Nat.add_zero, Nat.div_eq_of_lt h]
    rfl
  · rw [if_pos rfl, Nat.add_div_right _ (by decide), Nat.div_eq_of_lt h]
    rfl

/-- `label()`/`polarity()` invert `Literal::new` for labels below `2^63` -/
theorem literal_pack_roundtrip (l : Lit) (h : l.var < 2 ^ 63) : unpackLit (packLit l) = l := by
  cases l with | mk v p =>
  simp only [unpackLit, packedLabel_packLit _ h, packedPolarity_packLit _ h]

theorem packLit_injective (l l' : Lit) (h : l.var < 2 ^ 63) (h' : l'.var < 2 ^ 63)
    (e : packLit l = packLit l') : l = l' := by
  rw [← literal_pack_roundtrip l h, ← literal_pack_roundtrip l' h', e]

/-- `negated()` on the word is `negated` on (label, polarity) -/
theorem packedNegated_eq (l : Lit) (h : l.var < 2 ^ 63) :
    packedNegated (packLit l) = packLit (litNegated l) := by
  rw [packedNegated, packedLabel_packLit _ h, packedPolarity_packLit _ h]; rfl

theorem packedImpliesTrue_eq (l o : Lit) (h : l.var < 2 ^ 63) (h' : o.var < 2 ^ 63) :
    packedImpliesTrue (packLit l) (packLit o) = litImpliesTrue l o := by
  simp only [packedImpliesTrue, litImpliesTrue, packedLabel_packLit _ h, packedPolarity_packLit _ h,
    packedLabel_packLit _ h', packedPolarity_packLit _ h']

theorem packedImpliesFalse_eq (l o : Lit) (h : l.var < 2 ^ 63) (h' : o.var < 2 ^ 63) :
    packedImpliesFalse (packLit l) (packLit o) = litImpliesFalse l o := by
  simp only [packedImpliesFalse, litImpliesFalse, packedLabel_packLit _ h, packedPolarity_packLit _ h,
    packedLabel_packLit _ h', packedPolarity_packLit _ h']

theorem litImpliesTrue_iff (l o : Lit) : litImpliesTrue l o = true ↔ l = o := by
  cases l; cases o; simp [litImpliesTrue]

theorem litImpliesFalse_iff (l o : Lit) : litImpliesFalse l o = true ↔ l = o.neg := by
  cases l with | mk v p => cases o with | mk v' p' =>
  cases p <;> cases p' <;> simp [litImpliesFalse, Lit.neg]

/-! ## `VarSet` -/

namespace VarSet

theorem mem_insertL {x v : Nat} : ∀ {l : List Nat}, x ∈ insertL v l ↔ x = v ∨ x ∈ l
  | [] => by simp [insertL]
  | y :: ys => by
    rw [insertL]
    by_cases hlt : v < y
    · rw [if_pos hlt, List.mem_cons]
    · rw [if_neg hlt]
      by_cases he : v = y
      · rw [if_pos he, he, List.mem_cons, or_self_left]
      · rw [if_neg he, List.mem_cons, mem_insertL (l := ys), List.mem_cons, or_left_comm]

theorem insertL_sorted (v : Nat) : ∀ (l : List Nat), l.Pairwise (· < ·) → (insertL v l).Pairwise (· < ·)
  | [], _ => by simp [insertL]
  | y :: ys, h => by
    have hy := List.pairwise_cons.mp h
    rw [insertL]
    by_cases hlt : v < y
    · rw [if_pos hlt]
      refine List.pairwise_cons.mpr ⟨?_, h⟩
      intro z hz
      rcases List.mem_cons.mp hz with rfl | hz
      · exact hlt
      · exact Nat.lt_trans hlt (hy.1 z hz)
    · rw [if_neg hlt]
      by_cases he : v = y
      · rw [if_pos he]
        exact h
      · rw [if_neg he]
        refine List.pairwise_cons.mpr ⟨?_, insertL_sorted v ys hy.2⟩
        intro z hz
        rcases mem_insertL.mp hz with rfl | hz
        · exact Nat.lt_of_le_of_ne (Nat.le_of_not_lt hlt) (Ne.symm he)
        · exact hy.1 z hz

def Mem (s : VarSet) (x : Nat) : Prop := x ∈ s.elems

instance (s : VarSet) (x : Nat) : Decidable (s.Mem x) := inferInstanceAs (Decidable (x ∈ s.elems))

theorem contains_iff (s : VarSet) (x : Nat) : s.contains x = true ↔ s.Mem x := by
  simp [contains, Mem]

theorem wf_new : new.WF := List.Pairwise.nil
theorem not_mem_new (x : Nat) : ¬ new.Mem x := by simp [Mem, new]
theorem not_mem_newWithNumVars (n x : Nat) : ¬ (newWithNumVars n).Mem x := by
  simp [Mem, newWithNumVars]

theorem mem_insert (s : VarSet) (v x : Nat) : (s.insert v).Mem x ↔ x = v ∨ s.Mem x := mem_insertL
theorem wf_insert {s : VarSet} (h : s.WF) (v : Nat) : (s.insert v).WF := insertL_sorted v _ h

theorem mem_remove (s : VarSet) (v x : Nat) : (s.remove v).Mem x ↔ s.Mem x ∧ x ≠ v := by
  simp [remove, Mem]
theorem wf_remove {s : VarSet} (h : s.WF) (v : Nat) : (s.remove v).WF := List.Pairwise.filter _ h

theorem foldl_insertL_mem {x : Nat} : ∀ (t acc : List Nat),
    x ∈ t.foldl (fun acc v => insertL v acc) acc ↔ x ∈ acc ∨ x ∈ t
  | [], acc => by simp
  | v :: t, acc => by
    rw [List.foldl_cons, foldl_insertL_mem t, mem_insertL, List.mem_cons, or_comm (a := x = v),
      or_assoc]

theorem foldl_insertL_sorted : ∀ (t acc : List Nat), acc.Pairwise (· < ·) →
    (t.foldl (fun acc v => insertL v acc) acc).Pairwise (· < ·)
  | [], _, h => h
  | v :: t, acc, h => foldl_insertL_sorted t _ (insertL_sorted v acc h)

theorem mem_union (s t : VarSet) (x : Nat) : (s.union t).Mem x ↔ s.Mem x ∨ t.Mem x :=
  foldl_insertL_mem _ _
theorem wf_union {s : VarSet} (h : s.WF) (t : VarSet) : (s.union t).WF :=
  foldl_insertL_sorted _ _ h

theorem mem_minus (s t : VarSet) (x : Nat) : (s.minus t).Mem x ↔ s.Mem x ∧ ¬ t.Mem x := by
  simp [minus, Mem]
theorem wf_minus {s : VarSet} (h : s.WF) (t : VarSet) : (s.minus t).WF := List.Pairwise.filter _ h

theorem mem_intersectVarset (s t : VarSet) (x : Nat) :
    (s.intersectVarset t).Mem x ↔ s.Mem x ∧ t.Mem x := by
  simp [intersectVarset, Mem]
theorem wf_intersectVarset {s : VarSet} (h : s.WF) (t : VarSet) : (s.intersectVarset t).WF :=
  List.Pairwise.filter _ h

/-- the iterators `difference` / `intersect` yield the members of the set difference /
intersection in ascending order -/
theorem mem_difference (s t : VarSet) (x : Nat) : x ∈ s.difference t ↔ s.Mem x ∧ ¬ t.Mem x :=
  mem_minus s t x
theorem difference_sorted {s : VarSet} (h : s.WF) (t : VarSet) : (s.difference t).Pairwise (· < ·) :=
  wf_minus h t
theorem mem_intersect (s t : VarSet) (x : Nat) : x ∈ s.intersect t ↔ s.Mem x ∧ t.Mem x :=
  mem_intersectVarset s t x
theorem intersect_sorted {s : VarSet} (h : s.WF) (t : VarSet) : (s.intersect t).Pairwise (· < ·) :=
  wf_intersectVarset h t

theorem mem_iter (s : VarSet) (x : Nat) : x ∈ s.iter ↔ s.Mem x := Iff.rfl
theorem iter_sorted {s : VarSet} (h : s.WF) : s.iter.Pairwise (· < ·) := h

theorem len_eq (s : VarSet) : s.len = s.iter.length := rfl
theorem iter_nodup {s : VarSet} (h : s.WF) : s.iter.Nodup := nodup_of_sorted h

theorem isEmpty_iff (s : VarSet) : s.isEmpty = true ↔ ∀ x, ¬ s.Mem x := by
  cases s with | mk l =>
  cases l with
  | nil => simp [isEmpty, Mem]
  | cons a t =>
    simp only [isEmpty, Mem, List.isEmpty_cons, Bool.false_eq_true, false_iff]
    intro h; exact h a List.mem_cons_self

theorem isEmpty_iff_len (s : VarSet) : s.isEmpty = true ↔ s.len = 0 := by
  cases s with | mk l => cases l <;> simp [isEmpty, len]

/-- equality of (well-formed) sets is extensional, as `BitSet`'s `PartialEq` is -/
theorem ext {s t : VarSet} (hs : s.WF) (ht : t.WF) (h : ∀ x, s.Mem x ↔ t.Mem x) : s = t := by
  cases s; cases t
  simp only [VarSet.mk.injEq]
  exact sorted_ext hs ht h

theorem foldl_insert_eq : ∀ (l : List Nat) (s : VarSet),
    l.foldl insert s = ⟨l.foldl (fun acc v => insertL v acc) s.elems⟩
  | [], _ => rfl
  | v :: l, s => foldl_insert_eq l (s.insert v)

theorem mem_ofList (l : List Nat) (x : Nat) : (ofList l).Mem x ↔ x ∈ l := by
  rw [ofList, foldl_insert_eq]
  exact (foldl_insertL_mem l []).trans (or_iff_right (List.not_mem_nil))
theorem wf_ofList (l : List Nat) : (ofList l).WF := by
  rw [ofList, foldl_insert_eq]
  exact foldl_insertL_sorted l [] List.Pairwise.nil

end VarSet

/-! ## `PartialModel` -/

namespace PartialModel
open VarSet

theorem get_eq (m : PartialModel) (x : Nat) :
    m.get x = if m.trueA.Mem x then some true else if m.falseA.Mem x then some false else none := by
  simp only [get, ← contains_iff]

theorem get_new (n x : Nat) : (new n).get x = none := by
  simp [get, new, VarSet.contains, newWithNumVars]

theorem get_set (m : PartialModel) (x : Nat) (b : Bool) (y : Nat) :
    (m.set x b).get y = if y = x then some b else m.get y := by
  cases b <;> by_cases h : y = x <;> simp [set, get_eq, mem_insert, mem_remove, h]

theorem get_unset (m : PartialModel) (x y : Nat) :
    (m.unset x).get y = if y = x then none else m.get y := by
  simp only [get_eq, unset, mem_remove]
  by_cases h : y = x <;> simp [h]

theorem isSet_eq (m : PartialModel) (x : Nat) : m.isSet x = (m.get x).isSome := by
  simp only [isSet, get]
  cases m.trueA.contains x <;> cases m.falseA.contains x <;> rfl

/-- in `Spec` terms: `set`/`unset` are the updates of the partial assignment function -/
theorem toSpec_set (m : PartialModel) (x : Nat) (b : Bool) : (m.set x b).toSpec = m.toSpec.set x b := by
  funext y; simp [toSpec, get_set, PModel.set]

theorem toSpec_new (n : Nat) : (new n).toSpec = PModel.empty := by
  funext y; simp [toSpec, get_new, PModel.empty]

theorem wf_new (n : Nat) : (new n).WF := ⟨List.Pairwise.nil, List.Pairwise.nil⟩
theorem wf_set {m : PartialModel} (h : m.WF) (x : Nat) (b : Bool) : (m.set x b).WF := by
  cases b
  · exact ⟨wf_remove h.1 x, wf_insert h.2 x⟩
  · exact ⟨wf_insert h.1 x, wf_remove h.2 x⟩
theorem wf_unset {m : PartialModel} (h : m.WF) (x : Nat) : (m.unset x).WF :=
  ⟨wf_remove h.1 x, wf_remove h.2 x⟩

/-- no variable is in both sets -/
def Disjoint (m : PartialModel) : Prop := ∀ x, ¬ (m.trueA.Mem x ∧ m.falseA.Mem x)

theorem disjoint_new (n : Nat) : (new n).Disjoint := fun x h => not_mem_newWithNumVars n x h.1
theorem disjoint_set {m : PartialModel} (h : m.Disjoint) (x : Nat) (b : Bool) : (m.set x b).Disjoint := by
  intro y
  cases b
  · simp only [set, Bool.false_eq_true, if_false, mem_insert, mem_remove]
    rintro ⟨⟨h1, h2⟩, h3 | h3⟩
    · exact h2 h3
    · exact h y ⟨h1, h3⟩
  · simp only [set, if_true, mem_insert, mem_remove]
    rintro ⟨h3 | h3, ⟨h1, h2⟩⟩
    · exact h2 h3
    · exact h y ⟨h3, h1⟩
theorem disjoint_unset {m : PartialModel} (h : m.Disjoint) (x : Nat) : (m.unset x).Disjoint := by
  intro y
  simp only [unset, mem_remove]
  rintro ⟨⟨h1, _⟩, ⟨h2, _⟩⟩
  exact h y ⟨h1, h2⟩

theorem get_true_iff (m : PartialModel) (x : Nat) : m.get x = some true ↔ m.trueA.Mem x := by
  rw [get_eq]; by_cases h : m.trueA.Mem x <;> simp [h]

theorem get_false_iff {m : PartialModel} (hd : m.Disjoint) (x : Nat) :
    m.get x = some false ↔ m.falseA.Mem x := by
  rw [get_eq]
  by_cases h : m.trueA.Mem x
  · simp only [h, if_true]
    constructor
    · intro e; cases e
    · intro h'; exact absurd ⟨h, h'⟩ (hd x)
  · by_cases h' : m.falseA.Mem x <;> simp [h, h']

theorem assignmentIter_eq (m : PartialModel) :
    m.assignmentIter = m.falseA.iter.map (fun x => ⟨x, false⟩) ++ m.trueA.iter.map (fun x => ⟨x, true⟩) :=
  rfl

theorem mem_falseTrue (F T : List Nat) (x : Nat) (p : Bool) :
    (⟨x, p⟩ : Lit) ∈ F.map (fun x => ⟨x, false⟩) ++ T.map (fun x => ⟨x, true⟩) ↔
      x ∈ (if p then T else F) := by
  cases p <;> simp

/-- `assignment_iter` lists exactly the assigned literals -/
theorem mem_assignmentIter {m : PartialModel} (hd : m.Disjoint) (l : Lit) :
    l ∈ m.assignmentIter ↔ m.get l.var = some l.pol := by
  cases l with | mk x p =>
  rw [assignmentIter, mem_falseTrue]
  cases p
  · exact (get_false_iff hd x).symm
  · exact (get_true_iff m x).symm

theorem assignmentIter_nodup {m : PartialModel} (h : m.WF) : m.assignmentIter.Nodup := by
  have inj : ∀ (b : Bool) (l : List Nat), l.Nodup → (l.map (fun x => (⟨x, b⟩ : Lit))).Nodup := by
    intro b l hl
    rw [List.Nodup, List.pairwise_map]
    exact List.Pairwise.imp (fun hne e => hne (by injection e)) hl
  rw [assignmentIter, List.Nodup, List.pairwise_append]
  refine ⟨inj false _ (iter_nodup h.2), inj true _ (iter_nodup h.1), ?_⟩
  intro a ha b hb e
  obtain ⟨x, _, rfl⟩ := List.mem_map.mp ha
  obtain ⟨y, _, rfl⟩ := List.mem_map.mp hb
  injection e with _ e2
  cases e2

/-- `difference`: the literals assigned by `m` and not assigned the same way by `o`, false
literals first, each group ascending -/
theorem mem_difference {m o : PartialModel} (hm : m.Disjoint) (ho : o.Disjoint) (l : Lit) :
    l ∈ m.difference o ↔ m.get l.var = some l.pol ∧ o.get l.var ≠ some l.pol := by
  cases l with | mk x p =>
  rw [difference, mem_falseTrue]
  cases p
  · rw [get_false_iff hm, ne_eq, get_false_iff ho]
    exact VarSet.mem_difference _ _ x
  · rw [get_true_iff, ne_eq, get_true_iff]
    exact VarSet.mem_difference _ _ x

/-! `from_assignments` -/

/-- the model after the loop body of `from_assignments` for entry `i` -/
def faStep (m : PartialModel) (i : Nat) : Option Bool → PartialModel
  | some true => { m with trueA := m.trueA.insert i }
  | some false => { m with falseA := m.falseA.insert i }
  | none => m

theorem fromAssignmentsAux_cons (a : Option Bool) (r : List (Option Bool)) (i : Nat) (m : PartialModel) :
    fromAssignmentsAux (a :: r) i m = fromAssignmentsAux r (i + 1) (faStep m i a) := by
  cases a with
  | none => rfl
  | some b => cases b <;> rfl

theorem get_faStep_ne (m : PartialModel) {i z : Nat} (hz : z ≠ i) (a : Option Bool) :
    (faStep m i a).get z = m.get z := by
  cases a with
  | none => rfl
  | some b => cases b <;> simp [faStep, get_eq, mem_insert, hz]

theorem get_faStep_self {m : PartialModel} {i : Nat} (h : m.get i = none) (a : Option Bool) :
    (faStep m i a).get i = a := by
  cases a with
  | none => exact h
  | some b =>
    cases b
    · have ht : ¬ m.trueA.Mem i := fun ht => by rw [get_eq, if_pos ht] at h; cases h
      simp [faStep, get_eq, mem_insert, ht]
    · simp [faStep, get_eq, mem_insert]

theorem fromAssignmentsAux_get_lt : ∀ (as : List (Option Bool)) (i : Nat) (m : PartialModel) (y : Nat),
    y < i → (fromAssignmentsAux as i m).get y = m.get y
  | [], _, _, _, _ => rfl
  | a :: r, i, m, y, h => by
    rw [fromAssignmentsAux_cons, fromAssignmentsAux_get_lt r (i + 1) _ y (Nat.lt_succ_of_lt h),
      get_faStep_ne m (Nat.ne_of_lt h)]

theorem fromAssignmentsAux_get_add : ∀ (as : List (Option Bool)) (i : Nat) (m : PartialModel),
    (∀ z, i ≤ z → m.get z = none) → ∀ k, (fromAssignmentsAux as i m).get (i + k) = as.getD k none
  | [], i, m, h, k => h _ (Nat.le_add_right i k)
  | a :: r, i, m, h, 0 => by
    show (fromAssignmentsAux (a :: r) i m).get i = a
    rw [fromAssignmentsAux_cons, fromAssignmentsAux_get_lt r (i + 1) _ i (Nat.lt_succ_self i),
      get_faStep_self (h i (Nat.le_refl i))]
  | a :: r, i, m, h, k + 1 => by
    rw [fromAssignmentsAux_cons, show i + (k + 1) = i + 1 + k from (Nat.add_right_comm i 1 k).symm,
      fromAssignmentsAux_get_add r (i + 1) _ (fun z hz => by
        rw [get_faStep_ne m (Nat.ne_of_gt hz)]; exact h z (Nat.le_of_succ_le hz)) k]
    rfl

/-- `from_assignments(as).get(y) = as[y]` (unset beyond the end) -/
theorem get_fromAssignments (as : List (Option Bool)) (y : Nat) :
    (fromAssignments as).get y = as.getD y none := by
  have := fromAssignmentsAux_get_add as 0 (new as.length) (fun z _ => get_new _ z) y
  rwa [Nat.zero_add] at this

theorem get_fromTotalModel (as : List Bool) (y : Nat) :
    (fromTotalModel as).get y = as[y]? := by
  rw [fromTotalModel, get_fromAssignments]
  simp [List.getD, List.getElem?_map]
  cases as[y]? <;> rfl

/-- the first loop of `from_litvec`: a sequence of in-range writes, or a panic -/
theorem litvecFill_eq : ∀ (lits : List Lit) (acc : List (Option Bool)),
    litvecFill lits acc =
      if lits.all (fun l => decide (l.var < acc.length))
      then some (lits.foldl (fun a l => a.set l.var (some l.pol)) acc) else none
  | [], acc => by simp [litvecFill]
  | l :: r, acc => by
    simp only [litvecFill, List.all_cons, List.foldl_cons]
    by_cases h : l.var < acc.length
    · simp only [h, if_true, decide_true, Bool.true_and]
      rw [litvecFill_eq r]
      simp only [List.length_set]
    · simp [h]

/-- `from_litvec` panics exactly when a label is out of range -/
theorem fromLitvec_none_iff (lits : List Lit) (n : Nat) :
    fromLitvec lits n = none ↔ ∃ l ∈ lits, n ≤ l.var := by
  simp [fromLitvec, litvecFill_eq]

theorem foldl_set_getD : ∀ (lits : List Lit) (acc : List (Option Bool)) (y : Nat),
    (lits.foldl (fun a l => a.set l.var (some l.pol)) acc).getD y none =
      match lits.reverse.find? (fun l => l.var == y) with
      | some l => if y < acc.length then some l.pol else none
      | none => acc.getD y none
  | [], acc, y => by simp
  | l :: r, acc, y => by
    rw [List.foldl_cons, foldl_set_getD r]
    simp only [List.reverse_cons, List.find?_append, List.length_set]
    cases hf : r.reverse.find? (fun l => l.var == y) with
    | some l' => simp
    | none =>
      by_cases hy : l.var = y
      · by_cases hlt : y < acc.length <;> simp [List.getD, hy, hlt]
      · simp [List.getD, hy]

/-- `from_litvec`: the last literal over a variable wins -/
theorem get_fromLitvec {lits : List Lit} {n : Nat} {m : PartialModel}
    (h : fromLitvec lits n = some m) (y : Nat) :
    m.get y = (lits.reverse.find? (fun l => l.var == y)).map (·.pol) := by
  have hall : ∀ l ∈ lits, l.var < n := fun l hl => Nat.lt_of_not_le fun hle => by
    have := (fromLitvec_none_iff lits n).mpr ⟨l, hl, hle⟩
    rw [h] at this; cases this
  rw [fromLitvec, litvecFill_eq, if_pos (by simpa using hall)] at h
  cases h
  rw [get_fromAssignments, foldl_set_getD, List.length_replicate]
  cases hf : lits.reverse.find? (fun l => l.var == y) with
  | none => by_cases hy : y < n <;> simp [hy]
  | some l =>
    have hy : l.var = y := by simpa using List.find?_some hf
    have : y < n := hy ▸ hall l (List.mem_reverse.mp (List.mem_of_find?_eq_some hf))
    simp [this]
end PartialModel

end CnfUtil
