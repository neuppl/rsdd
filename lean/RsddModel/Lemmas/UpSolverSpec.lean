import RsddModel.Model.UpSolver
import RsddModel.Lemmas.TopDownSolver
import RsddModel.Lemmas.UnitPropTotal
/-!
# The mirrored real `SATSolver` satisfies the solver contract of the top-down compiler (C06)

`TopDown.UpSolver` (`Model/UpSolver.lean`) is the executable model of `SATSolver`/`UnitPropagate`
behind the abstract solver interface of the compiler model.  This file proves that it satisfies
the contract `TopDown.SolverSpec` (+ `NewSpec`, `FreeDecide`, and — under the explicit no-wrap
hypothesis — `HashSound`) for every clause list in `Cnf::new` normal form.

* valid states: `UpInv cnf s := ∃ ds, Reach cnf s ds` (everything reachable from
  `SATSolver::new(cnf)` by decides and matching pops);
* frames: one per `SatState` of the stack (the dummy bottom state included);
* the specification is about `ntCnf cnf`, the NON-tautological clauses of `cnf` (same models:
  `cnfSat_ntCnf`); `SATSolver::new` is called on `cnf` itself.

Why the contract of `Lemmas/TopDownSolver.lean` is weak in three places (`Var`, `pop_ok` above the
bottom only, `cnf0` ≠ `cnf`): see the three witnesses at the end of this file.
-/
namespace TopDown
open Spec

/-! ## tautological clauses -/

/-- the non-tautological clauses: what `SATSolver::new` hashes and counts -/
def ntCnf (cnf : Cnf) : Cnf := cnf.filter fun c => !UnitProp.isTaut c

theorem isTaut_iff {c : Clause} :
    UnitProp.isTaut c = true ↔ ∃ x ∈ c, ∃ y ∈ c, x.var = y.var ∧ x.pol ≠ y.pol := by
  unfold UnitProp.isTaut
  simp only [List.any_eq_true, Bool.and_eq_true, beq_iff_eq, bne_iff_ne, ne_eq]

theorem taut_sat {c : Clause} (h : UnitProp.isTaut c = true) (a : Assign) : clauseSat a c = true := by
  obtain ⟨x, hx, y, hy, hv, hp⟩ := isTaut_iff.1 h
  simp only [clauseSat, List.any_eq_true]
  by_cases e : a x.var = x.pol
  · exact ⟨x, hx, beq_iff_eq.mpr e⟩
  · -- `a` gives the common variable the value `¬x.pol = y.pol`
    exact ⟨y, hy, beq_iff_eq.mpr (by
      rw [← hv, Bool.eq_not_of_ne e, Bool.eq_not_of_ne hp, Bool.not_not])⟩

/-- dropping the tautological clauses does not change the models -/
theorem cnfSat_ntCnf (a : Assign) (cnf : Cnf) : cnfSat a (ntCnf cnf) = cnfSat a cnf := by
  induction cnf with
  | nil => rfl
  | cons c cs ih =>
    unfold ntCnf at ih ⊢
    simp only [List.filter_cons]
    cases ht : UnitProp.isTaut c
    · simp only [Bool.not_false, if_true, cnfSat, List.all_cons] at ih ⊢
      rw [ih]
    · simp only [Bool.not_true, Bool.false_eq_true, if_false, cnfSat, List.all_cons] at ih ⊢
      rw [ih, taut_sat ht a, Bool.true_and]

theorem mem_ntCnf {cnf : Cnf} {c : Clause} : c ∈ ntCnf cnf ↔ c ∈ cnf ∧ UnitProp.isTaut c = false := by
  simp [ntCnf, List.mem_filter]

theorem ntCnf_eq_self {cnf : Cnf} (h : ∀ c, c ∈ cnf → UnitProp.isTaut c = false) : ntCnf cnf = cnf := by
  unfold ntCnf
  rw [List.filter_eq_self]
  intro c hc
  rw [h c hc]; rfl

theorem InCnf_ntCnf {cnf : Cnf} {v : Nat} (h : InCnf (ntCnf cnf) v) : InCnf cnf v := by
  obtain ⟨c, hc, l, hl, e⟩ := h
  exact ⟨c, (mem_ntCnf.1 hc).1, l, hl, e⟩

/-- a tautological clause without a true literal has two different unassigned literals -/
theorem taut_two_unset {c : Clause} {m : PModel} (ht : UnitProp.isTaut c = true)
    (hs : c.any (litTrue m) = false) :
    ∃ x ∈ c.filter (litUnset m), ∃ y ∈ c.filter (litUnset m), x ≠ y := by
  obtain ⟨x, hx, y, hy, hv, hp⟩ := isTaut_iff.1 ht
  have hnt : ∀ z ∈ c, m z.var ≠ some z.pol := by
    intro z hz e
    have : c.any (litTrue m) = true := List.any_eq_true.2 ⟨z, hz, litTrue_iff.mpr e⟩
    rw [hs] at this; cases this
  -- the common variable has neither the value `x.pol` nor `y.pol = ¬x.pol`
  have hxu : m x.var = none := by
    cases hm : m x.var with
    | none => rfl
    | some b =>
      by_cases e : b = x.pol
      · exact absurd (e ▸ hm) (hnt x hx)
      · refine absurd ?_ (hnt y hy)
        rw [← hv, hm, Bool.eq_not_of_ne e, Bool.eq_not_of_ne hp, Bool.not_not]
  refine ⟨x, List.mem_filter.2 ⟨hx, litUnset_iff.mpr hxu⟩, y,
    List.mem_filter.2 ⟨hy, litUnset_iff.mpr (hv ▸ hxu)⟩, ?_⟩
  intro e; subst e; exact hp rfl

/-! ## frames and validity -/

/-- the abstract view of one `SatState` of a solver with `n` hashed clauses -/
def upFrame (n : Nat) (st : UnitProp.SatState) : Frame UpSolver.κ :=
  ⟨st.model, st.hash, decide (UnitProp.satCount n st.sat = n)⟩

/-- the state stack, top first (the dummy bottom state included) -/
def upFrames (s : UnitProp.Solver) : List (Frame UpSolver.κ) := s.stack.map (upFrame s.clauses.length)

/-- valid states: reachable from `SATSolver::new(cnf)` by decides and matching pops -/
def UpInv (cnf : Cnf) (s : UnitProp.Solver) : Prop := ∃ ds, UnitProp.Reach cnf s ds

theorem upFrames_cons {s : UnitProp.Solver} {f : Frame UpSolver.κ} {rest : List (Frame UpSolver.κ)}
    (h : upFrames s = f :: rest) :
    ∃ top srest, s.stack = top :: srest ∧ f = upFrame s.clauses.length top ∧
      rest = srest.map (upFrame s.clauses.length) :=
  let ⟨top, srest, hs, e1, e2⟩ := List.map_eq_cons_iff.1 h
  ⟨top, srest, hs, e1.symm, e2.symm⟩

theorem upFrames_cons2 {s : UnitProp.Solver} {f1 f0 : Frame UpSolver.κ} {rest : List (Frame UpSolver.κ)}
    (h : upFrames s = f1 :: f0 :: rest) :
    ∃ top below srest, s.stack = top :: below :: srest ∧ f1 = upFrame s.clauses.length top ∧
      f0 = upFrame s.clauses.length below ∧ rest = srest.map (upFrame s.clauses.length) :=
  let ⟨top, _, hs, e1, e2⟩ := upFrames_cons h
  let ⟨below, srest, hs', e3, e4⟩ := List.map_eq_cons_iff.1 e2.symm
  ⟨top, below, srest, hs' ▸ hs, e1, e3.symm, e4.symm⟩

/-! ## the observers -/

theorem up_obs_sat {s : UnitProp.Solver} {f : Frame UpSolver.κ} {rest} (hfr : upFrames s = f :: rest) :
    UpSolver.isSat s = f.sat := by
  obtain ⟨top, srest, hs, rfl, _⟩ := upFrames_cons hfr
  show (UnitProp.Solver.isSat s).getD false = _
  simp [UnitProp.Solver.isSat, hs, upFrame]

theorem up_obs_hash {s : UnitProp.Solver} {f : Frame UpSolver.κ} {rest} (hfr : upFrames s = f :: rest) :
    UpSolver.curHash s = f.hash := by
  obtain ⟨top, srest, hs, rfl, _⟩ := upFrames_cons hfr
  show (UnitProp.Solver.curHash s).getD 0 = _
  simp [UnitProp.Solver.curHash, hs, upFrame]

theorem up_obs_set {s : UnitProp.Solver} {f : Frame UpSolver.κ} {rest} (hfr : upFrames s = f :: rest)
    (v : Nat) : UpSolver.isSet s v = (f.model v).isSome := by
  obtain ⟨top, srest, hs, rfl, _⟩ := upFrames_cons hfr
  show (UnitProp.Solver.isSet s v).getD false = _
  simp [UnitProp.Solver.isSet, hs, upFrame]

theorem up_isSat_iff {s : UnitProp.Solver} {top : UnitProp.SatState} {srest}
    (hs : s.stack = top :: srest) :
    s.isSat = some true ↔ (upFrame s.clauses.length top).sat = true := by
  simp [UnitProp.Solver.isSat, hs, upFrame]

/-! ## (d) and (c): `is_sat`, total models -/

theorem up_sat_sound {cnf : Cnf} {s : UnitProp.Solver} {f : Frame UpSolver.κ} {rest}
    (hI : UpInv cnf s) (hfr : upFrames s = f :: rest) (hsat : f.sat = true) :
    ∀ a, Extends a f.model → cnfSat a (ntCnf cnf) = true := by
  obtain ⟨ds, hR⟩ := hI
  obtain ⟨top, srest, hs, rfl, _⟩ := upFrames_cons hfr
  obtain ⟨hInv, rfl⟩ := UnitProp.reach_inv hR
  have hall := (hInv.isSat_iff hs).1 ((up_isSat_iff hs).2 hsat)
  intro a ha
  simp only [cnfSat, List.all_eq_true]
  intro c hc
  obtain ⟨hc1, hc2⟩ := mem_ntCnf.1 hc
  exact clauseSat_of_litTrue ha (hall c hc1 hc2)

theorem up_total_sound {cnf : Cnf} (hN : UnitProp.CnfNormal cnf) {s : UnitProp.Solver}
    {f : Frame UpSolver.κ} {rest}
    (hI : UpInv cnf s) (hfr : upFrames s = f :: rest)
    (htot : ∀ v, InCnf (ntCnf cnf) v → f.model v ≠ none) :
    ∀ a, Extends a f.model → cnfSat a (ntCnf cnf) = true := by
  obtain ⟨ds, hR⟩ := hI
  obtain ⟨top, srest, hs, rfl, _⟩ := upFrames_cons hfr
  obtain ⟨hInv, rfl⟩ := UnitProp.reach_inv hR
  exact fun a => noFalsified_total_sat
    (fun c hc => (hInv.fixpoint hN hs c (mem_ntCnf.1 hc).1).1) htot

/-! ## `difference_iter` -/

theorem up_difference {s : UnitProp.Solver} {top below : UnitProp.SatState} {srest}
    (hs : s.stack = top :: below :: srest) :
    UpSolver.difference s = UnitProp.pmDifference s.numVars top.model below.model := by
  show (UnitProp.Solver.differenceIter s).getD [] = _
  simp [UnitProp.Solver.differenceIter, hs]

theorem reach_below {cnf : Cnf} {s : UnitProp.Solver} {ds : List Lit} (h : UnitProp.Reach cnf s ds)
    {top below : UnitProp.SatState} {srest} (hs : s.stack = top :: below :: srest) :
    PExt below.model top.model := by
  obtain ⟨hI, _⟩ := UnitProp.reach_inv h
  exact hI.stack.pext_top top (below :: srest) hs below (by rw [hs]; simp)

theorem up_diff {cnf : Cnf} {s : UnitProp.Solver} {f1 f0 : Frame UpSolver.κ} {rest}
    (hI : UpInv cnf s) (hfr : upFrames s = f1 :: f0 :: rest) :
    ((UpSolver.difference s).map (·.var)).Nodup ∧
    (∀ l ∈ UpSolver.difference s, f0.model l.var = none ∧ f1.model l.var = some l.pol) ∧
    (∀ v b, f1.model v = some b → f0.model v = none → (⟨v, b⟩ : Lit) ∈ UpSolver.difference s) := by
  obtain ⟨ds, hR⟩ := hI
  obtain ⟨top, below, srest, hs, rfl, rfl, _⟩ := upFrames_cons2 hfr
  rw [up_difference hs]
  have h := UnitProp.pmDifference_spec (n := s.numVars) (reach_below hR hs)
  exact ⟨UnitProp.pmDifference_vars_nodup _ _ _, h.1, fun v b h1 => h.2 v b
    ((UnitProp.reach_level hR hs).bounded v (by rw [show top.model v = some b from h1]; nofun)) h1⟩

/-! ## relevance of propagated variables -/

theorem unit_not_taut {c : Clause} {m : PModel} {u : Lit} (hs : c.any (litTrue m) = false)
    (hf : c.filter (litUnset m) = [u]) : UnitProp.isTaut c = false := by
  cases ht : UnitProp.isTaut c
  · rfl
  · obtain ⟨x, hx, y, hy, hne⟩ := taut_two_unset ht hs
    rw [hf] at hx hy
    simp only [List.mem_singleton] at hx hy
    exact absurd (hx.trans hy.symm) hne

/-- every variable the watcher loop assigns occurs in the residual (of the non-tautological
clauses) under the model the loop started with: it was the last unassigned literal of a clause
without a true literal -/
theorem loop_relevant {cnf rep wl m l idx wl' r} (h : UnitProp.LoopRel cnf rep wl m l idx wl' r)
    (hv : UnitProp.WatchValid cnf wl) :
    ∀ m', r = some m' → ∀ x, m' x ≠ none → m x = none → InCnf (residual (ntCnf cnf) m) x := by
  induction h with
  | done _ => intro m' e x hx h0; cases e; exact absurd h0 hx
  | skip _ _ _ ih => exact ih hv
  | conflict _ _ _ => intro m' e; cases e
  | unitConflict _ _ _ _ _ => intro m' e; cases e
  | @unitOk wl m l idx u wl1 m1 wl' r hlt hs hf h1 _ ih1 ih2 =>
    intro m' e x hx h0
    have hu0 : m u.var = none := UnitProp.mem_filter_unset hf
    have hext1 : PExt (m.set u.var u.pol) m1 := h1.ext
    have hext0 : PExt m (m.set u.var u.pol) := PExt_set _ hu0
    by_cases hm1 : m1 x = none
    · exact residual_mono (hext0.trans hext1) (ih2 (h1.valid hv) m' e x hx hm1)
    · by_cases ex : x = u.var
      · subst ex
        have humem : u ∈ UnitProp.curClause cnf wl l idx := UnitProp.mem_of_filter_unset hf
        refine InCnf_residual.2 ⟨_, mem_ntCnf.2 ⟨UnitProp.curClause_mem hv hlt, unit_not_taut hs hf⟩,
          hs, u, humem, ?_, rfl⟩
        simp [litFalse, hu0]
      · have h0' : (m.set u.var u.pol) x = none := by rw [pset_other _ _ ex]; exact h0
        exact residual_mono hext0 (ih1 hv m1 rfl x hm1 h0')
  | move hlt _ _ _ ih => exact ih (hv.moveWatch hlt)

theorem decide_relevant {cnf rep wl m l wl' m'} (h : UnitProp.DecideRel cnf rep wl m l wl' (some m'))
    (hv : UnitProp.WatchValid cnf wl) (hl : m l.var = none) :
    ∀ x, m' x ≠ none → m x = none → x = l.var ∨ InCnf (residual (ntCnf cnf) m) x := by
  cases h with
  | same h => rw [hl] at h; cases h
  | fresh _ h =>
    intro x hx h0
    by_cases ex : x = l.var
    · exact .inl ex
    · right
      have h0' : (m.set l.var l.pol) x = none := by rw [pset_other _ _ ex]; exact h0
      exact residual_mono (PExt_set _ hl) (loop_relevant h hv m' rfl x hx h0')

/-! ## `decide` -/

/-- `DecisionResult` of the propagator model ↦ `DecideResult` of the compiler model -/
def tagOf : UnitProp.DecisionResult → DecideResult
  | .sat => .sat | .unsat => .unsat | .unknown => .unknown

theorem up_decide_eq {s s' : UnitProp.Solver} {l : Lit} {r : UnitProp.DecisionResult}
    (h : s.decide l = .ok s' r) : UpSolver.decide s l = (tagOf r, s') := by
  show (match s.decide l with
    | .ok s' .sat => (DecideResult.sat, s')
    | .ok s' .unsat => (.unsat, s')
    | .ok s' .unknown => (.unknown, s')
    | .error => (.unsat, s)) = _
  rw [h]
  cases r <;> rfl

theorem tagOf_unsat {r : UnitProp.DecisionResult} : tagOf r = .unsat ↔ r = .unsat := by
  cases r <;> simp [tagOf]

theorem tagOf_sat {r : UnitProp.DecisionResult} : tagOf r = .sat ↔ r = .sat := by
  cases r <;> simp [tagOf]

/-- the range of decidable variables: labels below `num_vars` -/
def UpVar (cnf : Cnf) (v : Nat) : Prop := v < cnfNumVars cnf

/-- an assignment extending the top model plus a fresh decision satisfies all open decisions -/
theorem extends_decisions {cnf : Cnf} {s : UnitProp.Solver} {ds : List Lit} (hR : UnitProp.Reach cnf s ds)
    {top : UnitProp.SatState} {srest} (hs : s.stack = top :: srest) {l : Lit}
    (hl0 : top.model l.var = none) {a : Assign} (ha : Extends a (top.model.set l.var l.pol)) :
    ∀ d, d ∈ l :: ds → litSat a d = true := by
  intro d hd
  rcases List.mem_cons.1 hd with e | hd
  · subst e
    have := ha d.var d.pol (by simp [PModel.set])
    simp [litSat, this]
  · have hdm := UnitProp.history_decisions_hold hR hs d hd
    by_cases e : d.var = l.var
    · rw [e, hl0] at hdm; cases hdm
    · have := ha d.var d.pol (by simp [PModel.set, e, hdm])
      simp [litSat, this]


/-- (b) UNSAT: nothing is pushed; no extension of model + literal satisfies the clauses -/
theorem up_decide_unsat {cnf : Cnf} (hN : UnitProp.CnfNormal cnf) {s : UnitProp.Solver}
    {f0 : Frame UpSolver.κ} {rest} {l : Lit}
    (hI : UpInv cnf s) (hfr : upFrames s = f0 :: rest) (hvar : UpVar cnf l.var)
    (hl0 : f0.model l.var = none) (hun : (UpSolver.decide s l).1 = .unsat) :
    UpInv cnf (UpSolver.decide s l).2 ∧ upFrames (UpSolver.decide s l).2 = f0 :: rest ∧
    UnsatUnder (ntCnf cnf) (f0.model.set l.var l.pol) := by
  obtain ⟨ds, hR⟩ := hI
  obtain ⟨s', r, hd⟩ := UnitProp.history_decide_total hN hR l
  rw [up_decide_eq hd] at hun ⊢
  have hr : r = .unsat := tagOf_unsat.1 hun
  subst hr
  obtain ⟨top, srest, hs, rfl, _⟩ := upFrames_cons hfr
  have hlt : l.var < s.numVars := by rw [UnitProp.reach_numVars hR]; exact hvar
  refine ⟨⟨ds, .decideUnsat hR hlt hd⟩, ?_, ?_⟩
  · show upFrames s' = _
    rw [← hfr]; unfold upFrames
    rw [UnitProp.unsat_keeps_stack hR hd, (UnitProp.decide_static hd).2.2.1]
  · intro a ha
    rw [cnfSat_ntCnf]
    obtain ⟨hInv, rfl⟩ := UnitProp.reach_inv hR
    exact hInv.unsat_sound hd a (extends_decisions hR hs hl0 ha)

/-- (a) not UNSAT: one state is pushed -/
theorem up_decide_ok {cnf : Cnf} (hN : UnitProp.CnfNormal cnf) {s : UnitProp.Solver}
    {f0 : Frame UpSolver.κ} {rest} {l : Lit}
    (hI : UpInv cnf s) (hfr : upFrames s = f0 :: rest) (hvar : UpVar cnf l.var)
    (hl0 : f0.model l.var = none) (hok : (UpSolver.decide s l).1 ≠ .unsat) :
    ∃ f1, UpInv cnf (UpSolver.decide s l).2 ∧ upFrames (UpSolver.decide s l).2 = f1 :: f0 :: rest ∧
      PExt (f0.model.set l.var l.pol) f1.model ∧
      (∀ v b, f1.model v = some b → f0.model v = none →
        Entails (ntCnf cnf) (f0.model.set l.var l.pol) ⟨v, b⟩) ∧
      (∀ v, f1.model v ≠ none → f0.model v = none →
        v = l.var ∨ InCnf (residual (ntCnf cnf) f0.model) v) ∧
      ((UpSolver.decide s l).1 = .sat ↔ f1.sat = true) := by
  obtain ⟨ds, hR⟩ := hI
  obtain ⟨s', r, hd⟩ := UnitProp.history_decide_total hN hR l
  rw [up_decide_eq hd] at hok ⊢
  have hr : r ≠ .unsat := fun e => hok (tagOf_unsat.2 e)
  obtain ⟨top, srest, hs, rfl, _⟩ := upFrames_cons hfr
  have hlt : l.var < s.numVars := by rw [UnitProp.reach_numVars hR]; exact hvar
  have hR' : UnitProp.Reach cnf s' (l :: ds) := .decide hR hlt hd hr
  obtain ⟨hInv, hcnf⟩ := UnitProp.reach_inv hR
  obtain ⟨top', srest', hs', wl', r', hrel, hcase⟩ := UnitProp.decide_cases hd
  rw [hs] at hs'; cases hs'
  rcases hcase with ⟨_, h2, _⟩ | ⟨m', rfl, rfl, _⟩
  · exact absurd h2 hr
  · have hstk : ({ s with wl := wl', stack := UnitProp.pushState s top m' :: s.stack } : UnitProp.Solver).stack
        = UnitProp.pushState s top m' :: top :: srest := by rw [← hs]
    refine ⟨upFrame s.clauses.length (UnitProp.pushState s top m'), ⟨_, hR'⟩, ?_, ?_, ?_, ?_, ?_⟩
    · show upFrames _ = _
      unfold upFrames
      rw [hstk, ← hfr]
      unfold upFrames
      rw [hs]; rfl
    · -- the new model extends model + literal
      have hext := hrel.ext
      intro x b hx
      show m' x = some b
      by_cases e : x = l.var
      · subst e
        simp only [PModel.set, if_true] at hx
        cases hx; exact hext.2
      · simp only [PModel.set, e, if_false] at hx
        exact hext.1 x b hx
    · -- entailed
      intro v b hv _ a ha hsat
      have := (UnitProp.reach_level hR' hstk).entailed v b hv a (by rw [← cnfSat_ntCnf]; exact hsat)
        (extends_decisions hR hs hl0 ha)
      exact this
    · -- relevance
      intro v hv h0
      rw [← hcnf]
      exact decide_relevant hrel hInv.valid hl0 v hv h0
    · -- the sat flag
      rw [tagOf_sat, UnitProp.decide_result_sat_iff hd hr, up_isSat_iff hstk]

/-! ## (e) `pop` -/

theorem up_pop_ok {cnf : Cnf} {s : UnitProp.Solver} {f1 f0 : Frame UpSolver.κ} {rest}
    (hI : UpInv cnf s) (hfr : upFrames s = f1 :: f0 :: rest) (hrest : rest ≠ []) :
    UpInv cnf (UpSolver.pop s) ∧ upFrames (UpSolver.pop s) = f0 :: rest := by
  obtain ⟨ds, hR⟩ := hI
  obtain ⟨top, below, srest, hs, rfl, rfl, rfl⟩ := upFrames_cons2 hfr
  have hlen := (UnitProp.reach_inv hR).1.stack.length
  cases ds with
  | nil =>
    exfalso
    rw [hs] at hlen
    cases srest with
    | nil => exact hrest rfl
    | cons _ _ => simp at hlen
  | cons d ds' =>
    refine ⟨⟨ds', .pop hR⟩, ?_⟩
    show upFrames s.pop = _
    unfold upFrames UnitProp.Solver.pop
    simp only [hs, List.tail_cons, List.map_cons]

/-! ## the specification instance -/

/-- **the mirrored `SATSolver` satisfies the solver contract**, for the
non-tautological clauses of every clause list in `Cnf::new` normal form -/
def upSpec (cnf : Cnf) (hN : UnitProp.CnfNormal cnf) : SolverSpec (ntCnf cnf) UpSolver where
  Inv := UpInv cnf
  frames := upFrames
  Var := UpVar cnf
  obs_sat := fun _ _ _ _ hfr => up_obs_sat hfr
  obs_hash := fun _ _ _ _ hfr => up_obs_hash hfr
  obs_set := fun _ _ _ _ hfr => up_obs_set hfr
  sat_sound := fun _ _ _ hI hfr hsat => up_sat_sound hI hfr hsat
  total_sound := fun _ _ _ hI hfr htot => up_total_sound hN hI hfr htot
  diff_nodup := fun _ _ _ _ hI hfr => (up_diff hI hfr).1
  diff_sound := fun _ _ _ _ hI hfr => (up_diff hI hfr).2.1
  diff_complete := fun _ _ _ _ hI hfr => (up_diff hI hfr).2.2
  decide_unsat := fun _ _ _ _ hI hfr hvar hl0 hun => up_decide_unsat hN hI hfr hvar hl0 hun
  decide_ok := fun _ _ _ _ hI hfr hvar hl0 hok => up_decide_ok hN hI hfr hvar hl0 hok
  pop_ok := fun _ _ _ _ hI hfr hrest => up_pop_ok hI hfr hrest

theorem upSpec_modelOf {cnf : Cnf} (hN : UnitProp.CnfNormal cnf) {s : UnitProp.Solver}
    {top : UnitProp.SatState} {srest} (hs : s.stack = top :: srest) :
    (upSpec cnf hN).modelOf s = top.model := by
  have : (upSpec cnf hN).frames s = upFrame s.clauses.length top :: srest.map (upFrame s.clauses.length) := by
    show upFrames s = _
    unfold upFrames; rw [hs]; rfl
  rw [(upSpec cnf hN).modelOf_eq this]; rfl

/-! ## `SATSolver::new` -/

theorem up_new_eq_some {cnf : Cnf} {n : Nat} {s : UnitProp.Solver} (h : UpSolver.new cnf n = some s) :
    UnitProp.Solver.new cnf = some (some s) := by
  have h' : (match UnitProp.Solver.new cnf with
    | some (some s) => some s
    | _ => none) = some s := h
  split at h'
  · next s' e => cases h'; exact e
  · cases h'

theorem up_new_eq_none {cnf : Cnf} (hN : UnitProp.CnfNormal cnf) {n : Nat} (h : UpSolver.new cnf n = none) :
    UnitProp.Solver.new cnf = some none := by
  have h' : (match UnitProp.Solver.new cnf with
    | some (some s) => some s
    | _ => none) = none := h
  obtain ⟨o, ho⟩ := UnitProp.new_total_normal hN
  rw [ho] at h' ⊢
  cases o with
  | none => rfl
  | some s => cases h'

/-- **`SATSolver::new`**: `None` only for unsatisfiable clause lists; otherwise a valid state
with the propagated model above the empty dummy state, every assigned literal entailed -/
theorem up_newSpec (cnf : Cnf) (hN : UnitProp.CnfNormal cnf) (n : Nat) :
    NewSpec (upSpec cnf hN) cnf n where
  none_unsat := by
    intro h a
    rw [cnfSat_ntCnf]
    exact UnitProp.new_unsat_sound (up_new_eq_none hN h) a
  some_ok := by
    intro s h
    have hnew := up_new_eq_some h
    have hR : UnitProp.Reach cnf s [] := .init hnew
    obtain ⟨hI, hcnf⟩ := UnitProp.reach_inv hR
    have hstk := hI.stack
    generalize hst : s.stack = stk at hstk
    cases hstk with
    | @base st hlev =>
      refine ⟨upFrame s.clauses.length st, upFrame s.clauses.length UnitProp.initState, ⟨[], hR⟩, ?_, ?_, ?_⟩
      · show upFrames s = _
        unfold upFrames; rw [hst]; rfl
      · intro v; rfl
      · intro v b hv a hsat
        have := hlev.entailed v b hv a (by rw [hcnf, ← cnfSat_ntCnf]; exact hsat) (by intro d hd; cases hd)
        simpa [litSat] using this

/-! ## (f) the hash clause, conditional on no wrap-around -/

theorem wclause_of_nt {cnf : Cnf} {c : Clause} (hc : c ∈ cnf) (ht : UnitProp.isTaut c = false) :
    ∃ wc, wc ∈ UnitProp.weighClauses (UnitProp.normClauses cnf) 1 ∧ wc.map (·.1) = UnitProp.normClause c := by
  have hmem : UnitProp.normClause c ∈ UnitProp.normClauses cnf := by
    unfold UnitProp.normClauses
    exact List.mem_filter.mpr ⟨List.mem_map.mpr ⟨c, hc, rfl⟩, by rw [UnitProp.isTaut_normClause, ht]; rfl⟩
  rw [← (UnitProp.weighClauses_spec (UnitProp.normClauses cnf) 1).1] at hmem
  obtain ⟨wc, hwc, e⟩ := List.mem_map.mp hmem
  exact ⟨wc, hwc, e⟩

theorem wcSat_of_map {wc : UnitProp.WClause} {c : Clause} (e : wc.map (·.1) = UnitProp.normClause c)
    (m : PModel) : UnitProp.wcSat m wc = c.any (litTrue m) := by
  rw [← UnitProp.normClause_any, ← e, List.any_map]; rfl

/-- **equal cache keys ⇒ equal residual formulas** (of the non-tautological clauses), IF the
product of all clause-literal primes is below `2^128` (the code multiplies with `wrapping_mul`) -/
theorem up_hashSound (cnf : Cnf) (hN : UnitProp.CnfNormal cnf)
    (hnowrap : UnitProp.totalWeight (UnitProp.weighClauses (UnitProp.normClauses cnf) 1) < 2 ^ 128) :
    HashSound (upSpec cnf hN) := by
  intro (s1 : UnitProp.Solver) (s2 : UnitProp.Solver) h1 h2 hk
  obtain ⟨ds1, hR1⟩ := h1
  obtain ⟨ds2, hR2⟩ := h2
  obtain ⟨top1, rest1, hs1, _, _⟩ := UnitProp.reach_top hR1
  obtain ⟨top2, rest2, hs2, _, _⟩ := UnitProp.reach_top hR2
  rw [upSpec_modelOf hN hs1, upSpec_modelOf hN hs2]
  have hk' : (UnitProp.Solver.curHash s1).getD 0 = (UnitProp.Solver.curHash s2).getD 0 := hk
  rw [(UnitProp.reach_inv hR1).1.curHash hs1, (UnitProp.reach_inv hR1).2,
    (UnitProp.reach_inv hR2).1.curHash hs2, (UnitProp.reach_inv hR2).2] at hk'
  simp only [Option.getD_some] at hk'
  have key := UnitProp.hash_inj_clauses (UnitProp.weighClauses_ok _ _) hnowrap
    (UnitProp.reach_noFalsified hN hR1 hs1) (UnitProp.reach_noFalsified hN hR2 hs2) hk'
  -- per clause of the list
  have hcl : ∀ c, c ∈ ntCnf cnf → c.any (litTrue top1.model) = c.any (litTrue top2.model) ∧
      (c.any (litTrue top1.model) = false → ∀ l, l ∈ c → litFalse top1.model l = litFalse top2.model l) := by
    intro c hc
    obtain ⟨hc1, hc2⟩ := mem_ntCnf.1 hc
    obtain ⟨wc, hwc, e⟩ := wclause_of_nt hc1 hc2
    obtain ⟨k1, k2⟩ := key wc hwc
    rw [wcSat_of_map e, wcSat_of_map e] at k1
    refine ⟨k1, ?_⟩
    intro hs l hl
    have hl' : l ∈ wc.map (·.1) := by rw [e]; exact UnitProp.mem_normClause.mpr hl
    obtain ⟨lw, hlw, rfl⟩ := List.mem_map.mp hl'
    exact k2 (by rw [wcSat_of_map e]; exact hs) lw hlw
  exact residual_congr hcl

/-! ## `FreeDecide`: a variable outside the residual formula triggers nothing -/

theorem neg_mem_curClause {cnf : Cnf} {wl : UnitProp.WL} (h2 : UnitProp.TwoWatch cnf wl) {l : Lit} {idx : Nat}
    (hlt : idx < (wl.get (!l.pol) l.var).length) : l.neg ∈ UnitProp.curClause cnf wl l idx := by
  have hW : UnitProp.Watches wl (UnitProp.curIdx wl l idx) l.neg := UnitProp.curIdx_mem hlt
  obtain ⟨hi, hlen⟩ := h2.only _ _ hW
  obtain ⟨w1, w2, _, hw1, hw2, hiff⟩ := h2.two _ hi hlen
  rcases (hiff l.neg).1 hW with e | e
  · rw [e]; exact hw1
  · rw [e]; exact hw2

/-- if every non-tautological clause that mentions the variable of `l` has a true literal, the
watcher loop for `l` assigns nothing and reports no conflict: satisfied clauses are skipped, and a
tautological clause without a true literal has two unassigned literals, so its watch is moved -/
theorem loop_free {cnf wl m l idx wl' r} (h : UnitProp.LoopRel cnf true wl m l idx wl' r)
    (hN : UnitProp.CnfNormal cnf) :
    m l.var = some l.pol → UnitProp.TwoWatch cnf wl →
    (∀ c, c ∈ cnf → UnitProp.isTaut c = false → (∃ x ∈ c, x.var = l.var) → c.any (litTrue m) = true) →
    r = some m := by
  -- a visited clause without a true literal is tautological
  have taut : ∀ {wl : UnitProp.WL} {m : PModel} {l : Lit} {idx : Nat}, UnitProp.TwoWatch cnf wl →
      (∀ c, c ∈ cnf → UnitProp.isTaut c = false → (∃ x ∈ c, x.var = l.var) → c.any (litTrue m) = true) →
      idx < (wl.get (!l.pol) l.var).length → (UnitProp.curClause cnf wl l idx).any (litTrue m) = false →
      UnitProp.isTaut (UnitProp.curClause cnf wl l idx) = true := by
    intro wl m l idx h2 H hlt hs
    cases ht : UnitProp.isTaut (UnitProp.curClause cnf wl l idx)
    · have := H _ (UnitProp.curClause_mem h2.valid hlt) ht ⟨_, neg_mem_curClause h2 hlt, rfl⟩
      rw [hs] at this; cases this
    · rfl
  induction h with
  | done _ => intros; rfl
  | skip _ _ _ ih => exact ih
  | conflict hlt hs hf =>
    intro _ h2 H
    obtain ⟨x, hx, _⟩ := taut_two_unset (taut h2 H hlt hs) hs
    rw [hf] at hx; cases hx
  | unitConflict hlt hs hf _ _ =>
    intro _ h2 H
    have ht := taut h2 H hlt hs
    rw [unit_not_taut hs hf] at ht; cases ht
  | unitOk hlt hs hf _ _ _ _ =>
    intro _ h2 H
    have ht := taut h2 H hlt hs
    rw [unit_not_taut hs hf] at ht; cases ht
  | move hlt _ hf _ ih => intro hl h2 H; exact ih hl (h2.move hN hl hlt hf) H

/-- a decision outside the residual formula (of the non-tautological clauses) changes neither the
hash product nor the satisfied set: every hashed clause keeps its status -/
theorem hash_sat_irrelevant {cnf : Cnf} {m : PModel} {v : Nat} (b : Bool) (hv : m v = none)
    (hirr : ¬ InCnf (residual (ntCnf cnf) m) v) :
    UnitProp.hashOf (UnitProp.weighClauses (UnitProp.normClauses cnf) 1) (m.set v b) =
      UnitProp.hashOf (UnitProp.weighClauses (UnitProp.normClauses cnf) 1) m ∧
    ∀ i, UnitProp.satOf (UnitProp.weighClauses (UnitProp.normClauses cnf) 1) (m.set v b) i =
      UnitProp.satOf (UnitProp.weighClauses (UnitProp.normClauses cnf) 1) m i := by
  refine UnitProp.hashOf_congr fun wc hwc => ?_
  obtain ⟨c, hc, hnt, e⟩ := UnitProp.mem_weighClauses_norm hwc
  obtain ⟨h1, h2⟩ := irrelevant_clause b hv hirr (mem_ntCnf.2 ⟨hc, hnt⟩)
  rw [wcSat_of_map e, wcSat_of_map e]
  refine ⟨h1, fun hs lw hl => h2 hs lw.1 (UnitProp.mem_normClause.1 ?_)⟩
  rw [← e]; exact List.mem_map.2 ⟨lw, hl, rfl⟩

/-- a non-tautological clause mentioning a variable outside the residual formula has a true literal -/
theorem free_cnf {cnf : Cnf} {m : PModel} {v : Nat} (hirr : ¬ InCnf (residual (ntCnf cnf) m) v)
    (hv : m v = none) :
    ∀ c, c ∈ cnf → UnitProp.isTaut c = false → (∃ x ∈ c, x.var = v) → c.any (litTrue m) = true := by
  intro c hc hnt ⟨x, hx, ev⟩
  refine (irrelevant_cases true hv hirr (mem_ntCnf.2 ⟨hc, hnt⟩)).resolve_right fun h => ?_
  have := h x hx
  rw [ev, hv, pset_same] at this; cases this

/-- **deciding an unassigned in-range variable that does not occur in the residual formula** (of
the non-tautological clauses) is never UNSAT, assigns only that variable, and leaves the hash and
the satisfied flag unchanged -/
theorem up_freeDecide (cnf : Cnf) (hN : UnitProp.CnfNormal cnf) : FreeDecide (upSpec cnf hN) := by
  intro (s : UnitProp.Solver) f0 rest v b hI hfr _ hvar hv0 hirr
  have hfr' : upFrames s = f0 :: rest := hfr
  obtain ⟨ds, hR⟩ := hI
  obtain ⟨s', r, hd⟩ := UnitProp.history_decide_total hN hR ⟨v, b⟩
  obtain ⟨top, srest, hs, rfl, _⟩ := upFrames_cons hfr'
  have hv0' : top.model v = none := hv0
  have hirr' : ¬ InCnf (residual (ntCnf cnf) top.model) v := hirr
  obtain ⟨hInv, hcnf⟩ := UnitProp.reach_inv hR
  have hlt : v < s.numVars := by rw [UnitProp.reach_numVars hR]; exact hvar
  obtain ⟨top', srest', hs', wl', r', hrel, hcase⟩ := UnitProp.decide_cases hd
  rw [hs] at hs'; cases hs'
  -- the propagator assigns `v` and nothing else
  have hr' : r' = some (top.model.set v b) := by
    cases hrel with
    | same h => rw [hv0'] at h; cases h
    | clash h => rw [hv0'] at h; cases h
    | fresh _ hloop =>
      refine loop_free hloop (hcnf ▸ hN) (pset_same _ _ _) (hInv.two (hcnf ▸ hN)) ?_
      intro c hc hnt hx
      have := free_cnf hirr' hv0' c (hcnf ▸ hc) hnt hx
      exact anyTrue_mono (UnitProp.PExt.set b hv0') this
  rcases hcase with ⟨h1, _, _⟩ | ⟨m', hm', hs'eq, hres⟩
  · rw [hr'] at h1; cases h1
  · rw [hr'] at hm'; cases hm'
    have hrne : r ≠ .unsat := by rw [hres]; split <;> simp
    have hR' : UnitProp.Reach cnf s' (⟨v, b⟩ :: ds) := .decide hR hlt hd hrne
    have hstk : s'.stack = UnitProp.pushState s top (top.model.set v b) :: top :: srest := by
      rw [hs'eq, ← hs]
    have hcl' : s'.clauses = s.clauses := (UnitProp.decide_static hd).2.2.1
    have hlev' := UnitProp.reach_level hR' hstk
    have hlev := UnitProp.reach_level hR hs
    rw [hcl'] at hlev'
    have hfree := hash_sat_irrelevant b hv0' hirr'
    rw [← hcnf, ← hInv.clauses] at hfree
    rw [up_decide_eq hd]
    refine ⟨fun e => hrne (tagOf_unsat.1 e), ?_⟩
    intro f1 rest' hfr1
    have hfr1' : upFrames s' = f1 :: rest' := hfr1
    obtain ⟨top1, srest1, hs1, rfl, _⟩ := upFrames_cons hfr1'
    rw [hstk] at hs1; cases hs1
    rw [hcl']
    refine ⟨rfl, ?_, ?_⟩
    · show (UnitProp.pushState s top (top.model.set v b)).hash = top.hash
      rw [hlev'.hash, hlev.hash]
      show UnitProp.hashOf s.clauses (top.model.set v b) % UnitProp.M128 = _
      rw [hfree.1]
    · show decide (UnitProp.satCount s.clauses.length (UnitProp.pushState s top (top.model.set v b)).sat = s.clauses.length)
        = decide (UnitProp.satCount s.clauses.length top.sat = s.clauses.length)
      rw [show (UnitProp.pushState s top (top.model.set v b)).sat = top.sat from
        funext fun i => by rw [hlev'.sat i, hlev.sat i]; exact hfree.2 i]

/-! ## why the contract is weak in three places: witnesses on the mirrored real solver

None of these is a defect of the real compiler (it never pops the state `SATSolver::new` returned,
never decides a label out of range, and tautological clauses have no models to lose); they show
that the stronger contract clauses are FALSE of the real solver, so could not be assumed. -/

/-- run `k` on the solver for `cnf`, `dflt` if construction fails -/
def withUp {α : Type} (cnf : Cnf) (dflt : α) (k : UnitProp.Solver → α) : α :=
  match UpSolver.new cnf 0 with
  | some s => k s
  | none => dflt

/-- (1) `pop` below the constructed state: `(x0) ∧ (x1 ∨ x2)`; `new` propagates `x0`; after
`pop` the dummy bottom state is on top, and `decide ¬x0` is NOT reported UNSAT (unit clauses are
not watched); two more decisions give a total model, flag not raised, that falsifies the CNF.
So `pop_ok` cannot be required of the two-frame state of `NewSpec` (with it, `decide_ok` and
`total_sound` would apply to these states). -/
example :
    withUp [[⟨0, true⟩], [⟨1, true⟩, ⟨2, true⟩]] none (fun s =>
      let r0 := UpSolver.decide (UpSolver.pop s) ⟨0, false⟩
      let r1 := UpSolver.decide r0.2 ⟨1, true⟩
      let r2 := UpSolver.decide r1.2 ⟨2, true⟩
      some (s.modelList, [r0.1, r1.1, r2.1], r2.2.modelList, UpSolver.isSat r2.2))
    = some ([some true, none, none], [.unknown, .unknown, .unknown], [some false, some true, some true], false) := by
  decide +kernel

/-- (2) a label out of range: the model assigns it (`is_set`), `difference_iter` (which ranges
over `num_vars`) does not list it — `diff_complete` would fail; the Rust code panics instead.
Hence `Var`. -/
example :
    withUp [[⟨0, true⟩], [⟨1, true⟩, ⟨2, true⟩]] none (fun s =>
      let r := UpSolver.decide s ⟨7, true⟩
      some (r.1, UpSolver.isSet r.2 7, UpSolver.difference r.2))
    = some (.unknown, true, []) := by
  decide +kernel

/-- (3) a tautological clause: `(x0 ∨ ¬x0) ∧ (x1 ∨ x2)`.  The state after construction and the
state after `decide x0` have the same hash (tautologies are not hashed) but different residuals
of the clause list itself — `HashSound` holds of `ntCnf cnf`, not of `cnf`. -/
example :
    withUp [[⟨0, true⟩, ⟨0, false⟩], [⟨1, true⟩, ⟨2, true⟩]] none (fun s =>
      let r := UpSolver.decide s ⟨0, true⟩
      some (s.curHash, r.2.curHash, r.2.modelList))
    = some (some 1, some 1, [some true, none, none]) ∧
    residual [[⟨0, true⟩, ⟨0, false⟩], [⟨1, true⟩, ⟨2, true⟩]] PModel.empty ≠
    residual [[⟨0, true⟩, ⟨0, false⟩], [⟨1, true⟩, ⟨2, true⟩]] (PModel.empty.set 0 true) := by
  decide +kernel

/-! ## axioms -/
#print axioms cnfSat_ntCnf
#print axioms loop_relevant
#print axioms up_decide_unsat
#print axioms up_decide_ok
#print axioms up_pop_ok
#print axioms upSpec
#print axioms up_newSpec
#print axioms up_hashSound
#print axioms loop_free
#print axioms up_freeDecide

end TopDown
