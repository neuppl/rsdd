import RsddModel.Lemmas.SddDep
import RsddModel.Lemmas.SddLoops
/-!
# Lemmas: the canonical SDD builder hands out `WFd` pointers, with compression on or off

`WF` (C03) records that decision primes are partitions but not on which side of the vtree node the
variables of primes and subs lie; `WFs` (C04) does, syntactically, but only holds with compression
on.  `WFd` (`Lemmas/SddDep.lean`: `WF` + primes depend only on the left child's variables,
subs only on the right child's) is kept by the builder whatever the compression setting (merging
two primes by `or` stays on the left side): this file proves it for `Sdd.and` and `condition` from
the loop and compress rules of `Lemmas/SddRules.lean`, taking the cache invariant and the
denotations from `Lemmas/SddSem.lean`; the derived operations and the operation language then keep
it by `Keeps` (`Lemmas/SddLoops.lean`).  Consequence (`Props/C07Sdd`): the weighted model count /
semantic hash of an uncompressed result is the weighted sum of its function, too.
-/
namespace Sdd
open Spec SddSem

/-! ## unique_bdd / unique_or / canonicalize_base_case -/

theorem uniqueBdd_wfd {vt : VTree} {l idx : Nat} {lo hi : Ptr} (hint : Internal vt idx)
    (hl : l ∈ vt.leftVars idx) (wlo : WFd vt lo) (whi : WFd vt hi)
    (dlo : DepIn (vt.rightVars idx) lo) (dhi : DepIn (vt.rightVars idx) hi) :
    WFd vt (uniqueBdd l lo hi idx) :=
  uniqueBdd_cases (motive := WFd vt) (fun _ => whi) (fun _ _ => leftVars_leaves hl)
    (fun _ _ => leftVars_leaves hl)
    (fun _ _ _ _ => ⟨hint, hl, depIn_neg dlo, depIn_neg dhi, WFd_neg wlo, WFd_neg whi⟩)
    (fun _ _ _ _ => ⟨hint, hl, dlo, dhi, wlo, whi⟩)

theorem uniqueOr_wfd {vt : VTree} {es : List Elem} {table : Nat} {r : Ptr}
    (hint : Internal vt table) (hpart : Partition es)
    (hok : ElemsOKd vt (vt.leftVars table) (vt.rightVars table) es)
    (h : uniqueOr es table = some r) : WFd vt r := by
  simp only [uniqueOr] at h
  split at h
  · rename_i l lo hi hb
    cases h
    obtain ⟨x, pol, p1, s0, s1, rfl, rfl, rfl⟩ := asBdd?_some hb
    obtain ⟨rfl, rfl⟩ := partition_two_lits hpart
    obtain ⟨_, ws0, _, ds0⟩ := hok _ (List.mem_cons_self ..)
    obtain ⟨_, ws1, dl1, ds1⟩ := hok _ (List.mem_cons_of_mem _ (List.mem_cons_self ..))
    cases p1
    · exact uniqueBdd_wfd hint (depIn_lit_mem dl1) ws1 ws0 ds1 ds0
    · exact uniqueBdd_wfd hint (depIn_lit_mem dl1) ws0 ws1 ds0 ds1
  · split at h
    · cases h
    · rename_i p0 s0 rest hs
      have hcnt : ∀ a, cnt a ((p0, s0) :: rest) = 1 := by
        intro a; rw [← hs, cnt_sortByPrime]; exact hpart a
      have hok' : ElemsOKd vt (vt.leftVars table) (vt.rightVars table) ((p0, s0) :: rest) := by
        intro e he; rw [← hs, mem_sortByPrime] at he; exact hok e he
      split at h
      · cases h
        exact WFd_dec.2 ⟨hint, fun a => by rw [cnt_negSubs]; exact hcnt a, ElemsOKd_negSubs hok'⟩
      · cases h
        exact WFd_dec.2 ⟨hint, hcnt, hok'⟩

theorem canonBase_wfd {vt : VTree} {L R : List Nat} {es : List Elem} {r : Ptr}
    (hok : ElemsOKd vt L R es) (h : canonBase? es = some r) : WFd vt r := by
  rcases canonBase?_eq_some h with ⟨_, rfl⟩ | rfl | ⟨p, _, rfl⟩ | ⟨p1, rfl⟩ | ⟨p0, rfl⟩
  · exact WFd_tru vt
  · exact (hok _ (List.mem_cons_self ..)).2.1
  · exact WFd_fls vt
  · exact (hok _ (List.mem_cons_self ..)).1
  · exact (hok _ (List.mem_cons_of_mem _ (List.mem_cons_self ..))).1

/-! ## the recursive call -/

def AndOKD {σ : Type} (P : σ → Prop) (vt : VTree) (andF : AndF σ) : Prop :=
  ∀ st a b st' r, P st → WFd vt a → WFd vt b → andF st a b = some (st', r) →
    P st' ∧ WFd vt r ∧ ∀ asg, r.eval asg = (a.eval asg && b.eval asg)

/-! ## the loops: the produced elements keep their sides -/

/-- `WFd`, and dependence on the variables `L` only -/
def Dd (vt : VTree) (L : List Nat) (p : Ptr) : Prop := WFd vt p ∧ DepIn L p

abbrev ElemD (vt : VTree) (L R : List Nat) : Elem → Prop := ElemG (Dd vt L) (Dd vt R) fun _ => True

theorem elemsOKd_iff {vt : VTree} {L R : List Nat} {es : List Elem} :
    ElemsOKd vt L R es ↔ ∀ e ∈ es, ElemD vt L R e :=
  forall₂_congr fun _ _ =>
    ⟨fun ⟨a, b, c, d⟩ => ⟨⟨a, c⟩, ⟨b, d⟩, trivial⟩, fun ⟨⟨a, c⟩, ⟨b, d⟩, _⟩ => ⟨a, b, c, d⟩⟩

section loopsD
variable {σ : Type} {P : σ → Prop} {vt : VTree} {andF : AndF σ}

theorem AndOKD.dd (hand : AndOKD P vt andF) (L : List Nat) : CallsW True P (Dd vt L) IsAnd andF :=
  Calls.w (Calls.side hand fun _ _ _ => depIn_and)

/-- `canonicalize`, with or without compression: merging primes of equal subs keeps the sides -/
theorem canonicalize_wfd (hand : AndOKD P vt andF) {cmpr : Bool} {st st' : σ} {es : List Elem}
    {table : Nat} {r : Ptr} (hP : P st) (hint : Internal vt table) (hpart : Partition es)
    (hok : ElemsOKd vt (vt.leftVars table) (vt.rightVars table) es)
    (h : canonicalize cmpr andF st es table = some (st', r)) : P st' ∧ WFd vt r := by
  have fin : ∀ {st1 : σ} {l : List Elem}, Partition l →
      ElemsOKd vt (vt.leftVars table) (vt.rightVars table) l → P st1 →
      (match canonBase? l with
        | some r => some (st1, r)
        | none => (uniqueOr l table).map fun r => (st1, r)) = some (st', r) → P st' ∧ WFd vt r := by
    intro st1 l hpl hl hP1 h
    split at h
    · rename_i r0 hb; cases h; exact ⟨hP1, canonBase_wfd hl hb⟩
    · obtain ⟨r0, hr0, he⟩ := Option.map_eq_some_iff.1 h
      cases he; exact ⟨hP1, uniqueOr_wfd hint hpl hl hr0⟩
  rw [canonicalize] at h
  cases hb : canonBase? es with
  | some r0 => rw [hb] at h; cases h; exact ⟨hP, canonBase_wfd hok hb⟩
  | none =>
    rw [hb] at h
    cases cmpr with
    | false =>
      simp only [Bool.false_eq_true, if_false] at h
      exact fin hpart hok hP (by rw [hb]; exact h)
    | true =>
      simp only [if_true] at h
      rcases hc : compress andF st es with _ | ⟨st1, l⟩
      · rw [hc] at h; cases h
      rw [hc] at h
      obtain ⟨hP1, hl, _, _, hsem⟩ := (compressOuter_w
        (orF_w (hand.dd (vt.leftVars table)) (fun _ g => ⟨WFd_neg g.1, depIn_neg g.2⟩) fun _ _ _ h => h)
        es.length st es hP fun e he => ⟨(hok e he).1, (hok e he).2.2.1⟩).partial hc
      have h1 := fun a => hsem a (Nat.le_of_eq (hpart a))
      refine fin (fun a => by rw [(h1 a).1]; exact hpart a) (fun e he => ?_) hP1 h
      obtain ⟨g, e', he', hee⟩ := hl e he
      exact ⟨g.1, hee ▸ (hok e' he').2.1, g.2, hee ▸ (hok e' he').2.2.2⟩

/-- after a loop: an early result is returned, an element list goes to `canonicalize` -/
theorem finish_D (hand : AndOKD P vt andF) {cmpr : Bool} {i : Nat} (hint : Internal vt i)
    {o : Option (σ × LoopRes)} {st' : σ} {res : Ptr}
    (h : (match o with
      | none => none
      | some (st1, .early x) => some (st1, x)
      | some (st1, .elems l) => canonicalize cmpr andF st1 l i) = some (st', res))
    (hloop : ∀ st1 lr, o = some (st1, lr) →
      P st1 ∧ LoopG (ElemD vt (vt.leftVars i) (vt.rightVars i)) (WFd vt) lr ∧
        ∀ l, lr = .elems l → Partition l) :
    P st' ∧ WFd vt res := by
  rcases o with _ | ⟨st1, x | l⟩
  · cases h
  · cases h; exact ⟨(hloop _ _ rfl).1, (hloop _ _ rfl).2.1⟩
  · obtain ⟨hP1, hok, hpart⟩ := hloop _ _ rfl
    exact canonicalize_wfd hand hP1 hint (hpart _ rfl) (elemsOKd_iff.2 hok) h

/-- the product loop against the elements `eb`, for `finish_D` -/
theorem prodLoop_D (hand : AndOKD P vt andF) {L R : List Nat} {cart : Bool} {ea eb : List Elem}
    (hoka : ElemsOKd vt L R ea) (hpa : Partition ea) (hokb : ElemsOKd vt L R eb) (hpb : Partition eb)
    {st st1 : σ} {lr : LoopRes} (hP : P st) (hl : prodLoop andF cart eb st ea = some (st1, lr)) :
    P st1 ∧ LoopG (ElemD vt L R) (WFd vt) lr ∧ ∀ l, lr = .elems l → Partition l := by
  obtain ⟨hP1, hres, hsem⟩ := (prodLoop_w (hand.dd L) (hand.dd R) (fun _ _ _ h => h)
    (fun _ _ => trivial) cart (elemsOKd_iff.1 hokb) hpb _ _ hP (elemsOKd_iff.1 hoka)).partial hl
  refine ⟨hP1, hres.mono (fun _ h => h) fun _ h => h ▸ WFd_tru vt, fun l hl a => ?_⟩
  subst hl
  rw [(hsem a).1]; exact hpa a

end loopsD

/-! ## the four vtree cases -/
section casesD
variable {σ : Type} {P P0 : σ → Prop} {vt : VTree} {andF : AndF σ} {cmpr : Bool}

/-- the binary shortcut of `and_sub_desc` and `and_cartesian`: two products of children over the
right part, joined by `unique_bdd` -/
theorem andBdd_D (hand : AndOKD P vt andF) {i l : Nat} (hint : Internal vt i)
    (hl : l ∈ vt.leftVars i) {lo lo' hi hi' : Ptr} (wlo : WFd vt lo) (wlo' : WFd vt lo')
    (whi : WFd vt hi) (whi' : WFd vt hi') (dlo : DepIn (vt.rightVars i) lo)
    (dlo' : DepIn (vt.rightVars i) lo') (dhi : DepIn (vt.rightVars i) hi)
    (dhi' : DepIn (vt.rightVars i) hi') {st st' : σ} {res : Ptr} (hP : P st)
    (h : (match andF st lo lo' with
      | none => none
      | some (st1, lr) =>
        match andF st1 hi hi' with
        | none => none
        | some (st2, hr) => some (st2, uniqueBdd l lr hr i)) = some (st', res)) :
    P st' ∧ WFd vt res := by
  obtain ⟨lr, hr, rfl, hP', ⟨wlr, elr⟩, whr, ehr⟩ := ((Calls.w hand).two hP wlo wlo' whi whi').partial h
  exact ⟨hP', uniqueBdd_wfd hint hl wlr whr (depIn_and dlo dlo' elr) (depIn_and dhi dhi' ehr)⟩

theorem andSubDesc_D (hand : AndOKD P vt andF)
    {st st' : σ} {r d res : Ptr} (hP : P st) (wr : WFd vt r) (wd : WFd vt d)
    (dd : DepIn (vt.rightVars (vtreeIndex vt r)) d)
    (h : andSubDesc cmpr andF st r d = some (st', res)) : P st' ∧ WFd vt res := by
  cases r with
  | tru => simp [andSubDesc] at h
  | fls => simp [andSubDesc] at h
  | lit v p => simp [andSubDesc] at h
  | bdd c l i lo hi =>
    have hok := elems?_okd wr rfl
    obtain ⟨_, whi, _, dhi⟩ := hok _ (List.mem_cons_self ..)
    obtain ⟨_, wlo, _, dlo⟩ := hok _ (List.mem_cons_of_mem _ (List.mem_cons_self ..))
    simp only [andSubDesc] at h
    exact andBdd_D hand wr.1 wr.2.1 wlo wd whi wd dlo dd dhi dd hP h
  | dec c i es =>
    simp only [andSubDesc] at h
    split at h
    · cases h
    · rename_i st1 v hloop
      have hokd := elems?_okd wr (es := if c then negSubs es else es) rfl
      obtain ⟨_, hpart, hint, _⟩ := elems?_ok (WFd_WF _ wr) (es := if c then negSubs es else es) rfl
      obtain ⟨hP1, hokv, hsem'⟩ := (subDescLoop_w (hand.dd _) (fun _ _ _ h => h) ⟨wd, dd⟩ _ _ hP
        (elemsOKd_iff.1 hokd)).partial hloop
      have hpv : Partition v := fun a => by rw [(hsem' a).1]; exact hpart a
      exact canonicalize_wfd hand hP1 hint hpv (elemsOKd_iff.2 hokv) h

theorem andPrimeDesc_D (hand : AndOKD P vt andF)
    {st st' : σ} {r d res : Ptr} (hP : P st) (wr : WFd vt r) (wd : WFd vt d)
    (dd : DepIn (vt.leftVars (vtreeIndex vt r)) d)
    (h : andPrimeDesc cmpr andF st r d = some (st', res)) : P st' ∧ WFd vt res := by
  obtain ⟨er, her, h⟩ := andPrimeDesc_some vt h
  obtain ⟨_, hpart, hint, _⟩ := elems?_ok (WFd_WF _ wr) her
  obtain ⟨hokdd, hpd, _⟩ := pairD_okd (R := vt.rightVars (vtreeIndex vt r)) wd dd
  exact finish_D hand hint h fun st1 lr hl => prodLoop_D hand (elems?_okd wr her) hpart hokdd hpd hP hl

theorem andCartesian_D (hand : AndOKD P vt andF)
    {st st' : σ} {a b res : Ptr} (hP : P st) (wa : WFd vt a) (wb : WFd vt b)
    (hidx : vtreeIndex vt a = vtreeIndex vt b)
    (h : andCartesian vt cmpr andF st a b (vtreeIndex vt a) = some (st', res)) :
    P st' ∧ WFd vt res := by
  refine andCartesian_cases (motive := fun o => o = some (st', res) → P st' ∧ WFd vt res)
    ?_ ?_ ?_ ?_ h <;> clear h
  · intro c l i lo hi c' l' i' lo' hi' _ ha hb h
    subst ha hb
    have hoka := elems?_okd wa rfl
    have hokb := elems?_okd wb rfl
    rw [← hidx] at hokb
    obtain ⟨_, whi, _, dhi⟩ := hoka _ (List.mem_cons_self ..)
    obtain ⟨_, wlo, _, dlo⟩ := hoka _ (List.mem_cons_of_mem _ (List.mem_cons_self ..))
    obtain ⟨_, whi', _, dhi'⟩ := hokb _ (List.mem_cons_self ..)
    obtain ⟨_, wlo', _, dlo'⟩ := hokb _ (List.mem_cons_of_mem _ (List.mem_cons_self ..))
    exact andBdd_D hand (i := i) wa.1 wa.2.1 wlo wlo' whi whi' dlo dlo' dhi dhi' hP h
  · intro _ _ _ h; cases h
  · intro ea eb _ hea heb h
    obtain ⟨_, hpa, hinta, _⟩ := elems?_ok (WFd_WF _ wa) hea
    obtain ⟨_, hpb, _, _⟩ := elems?_ok (WFd_WF _ wb) heb
    have hokbd := elems?_okd wb heb
    rw [← hidx] at hokbd
    exact finish_D hand hinta h fun st1 lr hl => prodLoop_D hand (elems?_okd wa hea) hpa hokbd hpb hP hl
  · intro _ _ h; cases h

theorem andIndep_D {a b res : Ptr} {k : Nat} (wa : WFd vt a) (wb : WFd vt b) (hint : Internal vt k)
    (da : DepIn (vt.leftVars k) a) (db : DepIn (vt.rightVars k) b)
    (h : andIndep vt a b k = some res) : WFd vt res := by
  simp only [andIndep] at h
  split at h
  · split at h
    · cases h
      exact uniqueBdd_wfd hint (depIn_lit_mem da) (WFd_fls _) wb (depIn_fls _) db
    · cases h
      exact uniqueBdd_wfd hint (depIn_lit_mem da) wb (WFd_fls _) db (depIn_fls _)
    · cases h
  · have hok : ElemsOKd vt (vt.leftVars k) (vt.rightVars k) [(a, b), (a.neg, .fls)] := by
      intro e he
      simp only [List.mem_cons, List.not_mem_nil, or_false] at he
      rcases he with rfl | rfl
      · exact ⟨wa, wb, da, db⟩
      · exact ⟨WFd_neg wa, WFd_fls _, depIn_neg da, depIn_fls _⟩
    have hpart : Partition [(a, b), (a.neg, .fls)] := by
      intro asg; simp only [cnt_cons, cnt_nil, eval_neg]; cases a.eval asg <;> simp
    exact uniqueOr_wfd hint hpart hok h

end casesD

/-! ## `and` -/

def AppInvD (A : CacheImpl (Ptr × Ptr)) (vt : VTree) (s : A.σ) : Prop :=
  AppInv A vt s ∧ ∀ k r, A.get s k = some r → WFd vt r

theorem appInvD_empty (A : CacheImpl (Ptr × Ptr)) (vt : VTree) : AppInvD A vt A.empty :=
  ⟨appInv_empty A vt, fun k r h => by rw [A.empty_get] at h; cases h⟩

theorem appInvD_insert {A : CacheImpl (Ptr × Ptr)} {vt : VTree} {s : A.σ} {k : Ptr × Ptr} {r : Ptr}
    (h : AppInvD A vt s) (hsem : AppInv A vt (A.insert s k r)) (wr : WFd vt r) :
    AppInvD A vt (A.insert s k r) := by
  refine ⟨hsem, fun k' r' hk => ?_⟩
  rcases A.lawful _ _ _ _ _ hk with ⟨_, rfl⟩ | hk'
  · exact wr
  · exact h.2 _ _ hk'

theorem andCore_D {A : CacheImpl (Ptr × Ptr)} {vt : VTree} {andF : AndF A.σ} {cmpr : Bool}
    (hsem : AndOK (AppInv A vt) vt andF) (hand : AndOKD (AppInvD A vt) vt andF)
    {st st' : A.σ} {x y r : Ptr} (hP : AppInvD A vt st) (wx : WFd vt x) (wy : WFd vt y)
    (hx1 : x.isTrue = false) (hx2 : x.isFalse = false)
    (hy1 : y.isTrue = false) (hy2 : y.isFalse = false)
    (hle : vtreeIndex vt x = vtreeIndex vt y ∨ vtreeIndex vt x < vtreeIndex vt y)
    (h : andCore A vt cmpr andF st x y = some (st', r)) :
    AppInvD A vt st' ∧ WFd vt r := by
  have hsemr := andCore_ok hsem hP.1 (WFd_WF _ wx) (WFd_WF _ wy) hx1 hx2 hy1 hy2 hle h
  have side := fun hne => lca_depIn wx wy hx1 hx2 hy1 hy2 (hle.resolve_left hne)
  -- a miss: the result of the vtree case is entered into the cache
  have ins : ∀ {o : Option (A.σ × Ptr)},
      (∀ st1 r1, o = some (st1, r1) → AppInvD A vt st1 ∧ WFd vt r1) →
      o.map (fun p => (A.insert p.1 (x, y) p.2, p.2)) = some (st', r) →
      AppInvD A vt st' ∧ WFd vt r := by
    intro o ho h
    obtain ⟨⟨st1, r1⟩, rfl, he⟩ := Option.map_eq_some_iff.1 h
    cases he
    obtain ⟨h1, h2⟩ := ho st1 r1 rfl
    exact ⟨appInvD_insert h1 hsemr.1 h2, h2⟩
  refine andCore_cases (motive := fun o => o = some (st', r) → AppInvD A vt st' ∧ WFd vt r)
    ?_ ?_ ?_ ?_ ?_ h
  · intro v hget h
    cases h
    exact ⟨hP, hP.2 _ _ hget⟩
  · intro _ heq
    obtain ⟨sx, hsx⟩ := vtreeIndex_sub (WFd_WF x wx) hx1 hx2
    rw [← heq, VTree.lca_self hsx]
    exact ins fun st1 r1 hr => andCartesian_D hand hP wx wy heq hr
  · intro _ hne hka
    have dd := (side hne).2.2 (by rw [hka]; exact hne)
    rw [hka] at dd
    exact ins fun st1 r1 hr => andSubDesc_D hand hP wx wy dd hr
  · intro _ hne hna hkb
    have dd := (side hne).2.1 hna
    rw [hkb] at dd
    exact ins fun st1 r1 hr => andPrimeDesc_D hand hP wy wx dd hr
  · intro _ hne hna hnb h
    obtain ⟨r2, hr2, he⟩ := Option.map_eq_some_iff.1 h
    cases he
    obtain ⟨hint, da, db⟩ := side hne
    have wr := andIndep_D wx wy hint (da hna) (db hnb) hr2
    exact ⟨appInvD_insert hP hsemr.1 wr, wr⟩

theorem andBody_D {A : CacheImpl (Ptr × Ptr)} {vt : VTree} {andF : AndF A.σ} {cmpr : Bool}
    (hsem : AndOK (AppInv A vt) vt andF) (hand : AndOKD (AppInvD A vt) vt andF) :
    AndOKD (AppInvD A vt) vt (andBody A vt cmpr andF) := by
  intro st a b st' r hP wa wb h
  have hsemr := andBody_ok (cmpr := cmpr) hsem _ _ _ _ _ hP.1 (WFd_WF _ wa) (WFd_WF _ wb) h
  suffices hw : AppInvD A vt st' ∧ WFd vt r from ⟨hw.1, hw.2, hsemr.2.2⟩
  refine andBody_cases (motive := fun o => o = some (st', r) → AppInvD A vt st' ∧ WFd vt r)
    ?_ ?_ ?_ ?_ ?_ ?_ ?_ ?_ h
  · intro _ h; cases h; exact ⟨hP, wb⟩
  · intro _ h; cases h; exact ⟨hP, wa⟩
  · intro _ h; cases h; exact ⟨hP, WFd_fls vt⟩
  · intro _ h; cases h; exact ⟨hP, WFd_fls vt⟩
  · intro _ h; cases h; exact ⟨hP, wa⟩
  · intro _ h; cases h; exact ⟨hP, WFd_fls vt⟩
  · intro ha1 hb1 ha2 hb2 _ _ hle h
    exact andCore_D hsem hand hP wa wb ha1 ha2 hb1 hb2 hle h
  · intro ha1 hb1 ha2 hb2 _ _ hlt h
    exact andCore_D hsem hand hP wb wa hb1 hb2 ha1 ha2 (Or.inr hlt) h

/-- **`and` hands out `WFd` pointers** -/
theorem and_D (A : CacheImpl (Ptr × Ptr)) (vt : VTree) (cmpr : Bool) :
    ∀ fuel, AndOKD (AppInvD A vt) vt (and A vt cmpr fuel)
  | 0 => by intro st a b st' r _ _ _ h; simp [and] at h
  | fuel + 1 => by
    have := andBody_D (cmpr := cmpr) (and_ok A vt cmpr fuel) (and_D A vt cmpr fuel)
    simpa [and] using this

/-! ## `condition` -/
section condD
variable {σ : Type} {P P0 : σ → Prop} {vt : VTree} {andF : AndF σ} {L R : List Nat}

def CondOKD (P : σ → Prop) (vt : VTree) (x : Nat) (v : Bool)
    (condF : σ → Ptr → Option (σ × Ptr)) : Prop :=
  ∀ st f st' r, P st → WFd vt f → condF st f = some (st', r) →
    P st' ∧ WFd vt r ∧ ∀ a, r.eval a = f.eval (upd a x v)

theorem condition_D (hP0 : ∀ st, P st → P0 st) (hsem : AndOK P0 vt andF) (hand : AndOKD P vt andF)
    (cmpr : Bool) (x : Nat) (v : Bool) : ∀ n, CondOKD P vt x v (condition cmpr andF x v n)
  | 0 => by intro st f st' r _ _ h; simp [condition] at h
  | n + 1 => by
    intro st f st' r hP wf h
    have hsemr := condition_ok hsem cmpr x v (n + 1) _ _ _ _ (hP0 _ hP) (WFd_WF _ wf) h
    suffices hw : P st' ∧ WFd vt r from ⟨hw.1, hw.2, hsemr.2.2⟩
    -- both kinds of node: condition the (complement-adjusted) elements, then `canonicalize`
    have node : ∀ es : List Elem, f.elems? = some es → P st' ∧ WFd vt r := by
      intro es hes
      rw [condition_node vt hes] at h
      obtain ⟨_, hpart, hint, _⟩ := elems?_ok (WFd_WF _ wf) hes
      have ih := fun L => CallsC.w (CallsC.side (S := DepIn L) (condition_D hP0 hsem hand cmpr x v n)
        fun _ _ => depIn_cond)
      refine finish_D hand hint h fun st1 lr hl => ?_
      obtain ⟨hP1, hres, hsp⟩ := (condLoop_w (ih _) (ih _) (fun _ _ h => h) (fun _ _ => trivial)
        _ _ hP (elemsOKd_iff.1 (elems?_okd wf hes))).partial hl
      refine ⟨hP1, hres.mono (fun _ h => h) fun _ h => h.1, fun l hl a => ?_⟩
      subst hl
      rw [(hsp a (by rw [hpart]; exact Nat.le_refl 1)).1]; exact hpart _
    cases f with
    | tru => simp only [condition] at h; cases h; exact ⟨hP, WFd_tru vt⟩
    | fls => simp only [condition] at h; cases h; exact ⟨hP, WFd_fls vt⟩
    | lit l p =>
      simp only [condition] at h
      cases h
      refine ⟨hP, ?_⟩
      split
      · split
        · exact WFd_tru vt
        · exact WFd_fls vt
      · exact wf
    | bdd c l i lo hi => exact node _ rfl
    | dec c i es => exact node _ rfl

end condD

/-! ## the derived operations -/

theorem keeps_D (A : CacheImpl (Ptr × Ptr)) (cfg : Config) (fuel : Nat) :
    Keeps A cfg fuel (AppInvD A cfg.vt) (WFd cfg.vt) where
  tru := WFd_tru _
  fls := WFd_fls _
  lit := fun _ _ hx => hasVar_iff.1 hx
  neg := fun _ => WFd_neg
  and := fun st a b st' r hP wa wb h => by
    obtain ⟨h1, h2, _⟩ := and_D A cfg.vt cfg.compress fuel _ _ _ _ _ hP wa wb h
    exact ⟨h1, h2⟩
  cond := fun st f x v st' r hP wf h => by
    obtain ⟨h1, h2, _⟩ := condition_D (P0 := AppInv A cfg.vt) (fun _ h => h.1) (bAnd_ok A cfg fuel)
      (and_D A cfg.vt cfg.compress fuel) cfg.compress x v fuel _ _ _ _ hP wf h
    exact ⟨h1, h2⟩

/-- **every SDD the builder returns is `WFd`** (hence deterministic and decomposable): any program,
any vtree, either compression setting, any fuel -/
theorem run_wfd (cfg : Config) (fuel : Nat) (ops : List Op) (pool : List Ptr)
    (h : run cfg fuel ops = some pool) : ∀ p ∈ pool, WFd cfg.vt p := by
  obtain ⟨st, hst, rfl⟩ := Option.map_eq_some_iff.1 h
  exact (keeps_D _ cfg fuel).run (appInvD_empty _ cfg.vt) hst

theorem run_wfd_uncompressed (vt : VTree) (fuel : Nat) (ops : List Op) (pool : List Ptr)
    (h : run ⟨vt, false⟩ fuel ops = some pool) : ∀ p ∈ pool, WFd vt p :=
  run_wfd ⟨vt, false⟩ fuel ops pool h

end Sdd
