import RsddModel.Model.BddCompile
import RsddModel.Lemmas.BddSem
import RsddModel.Lemmas.CnfNorm
/-!
# Lemmas: the compile functions compute the function of their input

Generic part (`namespace Compile`): for ANY record of builder operations `O : Ops σ P` that meets
a specification `S : OpsSpec O` (an invariant on builder states, a predicate on pointers, a
denotation, and one clause per operation), every compile function of `Model/BddCompile` is
partially correct.  ROBDD part (`namespace Bdd`): `bddSpec` shows that the ROBDD builder model
meets the specification for every lawful cache, every injective level map and every fuel
(invariant: cache sound and well formed; pointers: `WF`), and the canonicity theorem turns the
semantic statement about `compile_cnf_with_assignments` into an equality of diagrams.
-/
namespace Compile
open Spec

/-! ## builder computations and their specification

The compile functions thread the builder state through `match … with | none => none | some (s, r) => …`.
`Post Inv x Q` says of such a computation `x` that, if it returns, the state meets `Inv` and the value `Q`.
Proofs use it through `Post.intro`, `Post.out`, `Post.pure`, `Post.fail`, `Post.bind`, `Post.step`, `Post.mono` only.
`Post.bind` is for a step whose result is a state and a pointer, where the model's `match` is the one of the
rule.  A `match` on another result type (a list, an optional pointer) is compiled to another matcher, which does
not unify with it; `Post.step` does not mention a `match` at all: `y` is whatever the goal computes, and the two
case equations are used by rewriting, after which the model's own matcher reduces. -/

def Post {σ α : Type} (Inv : σ → Prop) (x : Option (σ × α)) (Q : α → Prop) : Prop :=
  ∀ s r, x = some (s, r) → Inv s ∧ Q r

section post
variable {σ α β : Type} {Inv : σ → Prop} {Q : α → Prop} {R : β → Prop} {x : Option (σ × α)}

theorem Post.intro (h : ∀ {s r}, x = some (s, r) → Inv s ∧ Q r) : Post Inv x Q := fun _ _ e => h e

theorem Post.out {s : σ} {r : α} (hx : Post Inv x Q) (e : x = some (s, r)) : Inv s ∧ Q r := hx s r e

theorem Post.fail : Post Inv (none : Option (σ × α)) Q := fun _ _ e => nomatch e

theorem Post.pure {s : σ} {r : α} (hi : Inv s) (h : Q r) : Post Inv (some (s, r)) Q :=
  fun _ _ e => by cases e; exact ⟨hi, h⟩

theorem Post.mono {Q' : α → Prop} (hx : Post Inv x Q) (h : ∀ r, Q r → Q' r) : Post Inv x Q' :=
  fun s r e => ⟨(hx s r e).1, h r (hx s r e).2⟩

theorem Post.step {y : Option (σ × β)} (hx : Post Inv x Q) (hn : x = none → y = none)
    (hs : ∀ s r, x = some (s, r) → Inv s → Q r → Post Inv y R) : Post Inv y R := by
  cases e : x with
  | none => rw [hn e]; exact .fail
  | some p => exact hs p.1 p.2 e (hx _ _ e).1 (hx _ _ e).2

theorem Post.bind {k : σ → α → Option (σ × β)} (hx : Post Inv x Q)
    (hk : ∀ s r, Inv s → Q r → Post Inv (k s r) R) :
    Post Inv (match x with | none => none | some (s, r) => k s r) R := by
  cases x with
  | none => exact .fail
  | some p => exact hk p.1 p.2 (hx _ _ rfl).1 (hx _ _ rfl).2

end post

/-- `op` keeps the invariant and computes the connective `F` on good diagrams -/
def BinOk {σ P : Type} (Inv : σ → Prop) (Good : P → Prop) (den : P → BoolFn)
    (op : σ → P → P → Option (σ × P)) (F : BoolFn → BoolFn → BoolFn) : Prop :=
  ∀ {s p q f g}, Inv s → Good p ∧ den p = f → Good q ∧ den q = g →
    Post Inv (op s p q) fun r => Good r ∧ den r = F f g

/-- what the compile functions need from a builder -/
structure OpsSpec {σ P : Type} (O : Ops σ P) where
  Inv : σ → Prop
  Good : P → Prop
  /-- labels the builder accepts (`True` for the ROBDD model, "occurs in the vtree" for SDDs) -/
  VarOk : Nat → Prop
  den : P → BoolFn
  tru_ok : Good O.tru ∧ den O.tru = fTrue
  fls_ok : Good O.fls ∧ den O.fls = fFalse
  var_ok : ∀ x pol, VarOk x → Good (O.var x pol) ∧ den (O.var x pol) = fVar x pol
  neg_ok : ∀ {p f}, Good p ∧ den p = f → Good (O.neg p) ∧ den (O.neg p) = fNot f
  and_ok : BinOk Inv Good den O.and fAnd
  or_ok : BinOk Inv Good den O.or fOr
  iff_ok : BinOk Inv Good den O.iff fIff
  xor_ok : BinOk Inv Good den O.xor fXor
  ite_ok : ∀ {s p q t f g h}, Inv s → Good p ∧ den p = f → Good q ∧ den q = g → Good t ∧ den t = h →
    Post Inv (O.ite s p q t) fun r => Good r ∧ den r = fIte f g h

/-- `r` is a good diagram denoting `f` -/
abbrev OpsSpec.Den {σ P : Type} {O : Ops σ P} (S : OpsSpec O) (r : P) (f : BoolFn) : Prop :=
  S.Good r ∧ S.den r = f

/-- what a compile lemma says of a returned state and diagram, the denotation read pointwise -/
theorem Post.out_den {σ P : Type} {O : Ops σ P} {S : OpsSpec O} {x : Option (σ × P)} {f : BoolFn}
    {s : σ} {r : P} (hx : Post S.Inv x (S.Den · f)) (e : x = some (s, r)) :
    S.Inv s ∧ S.Good r ∧ ∀ a, S.den r a = f a :=
  (hx.out e).imp_right (.imp_right congrFun)

/-! ## spec-level facts -/

theorem fVar_litSat (l : Lit) (a : Assign) : fVar l.var l.pol a = litSat a l := by
  unfold fVar litSat
  cases l.pol <;> cases a l.var <;> rfl

theorem clauseSat_cons (a : Assign) (l : Lit) (c : Clause) :
    clauseSat a (l :: c) = (litSat a l || clauseSat a c) := rfl

theorem cnfSat_cons (a : Assign) (c : Clause) (cs : Cnf) :
    cnfSat a (c :: cs) = (clauseSat a c && cnfSat a cs) := rfl

theorem cnfSat_append (a : Assign) (cs ds : Cnf) :
    cnfSat a (cs ++ ds) = (cnfSat a cs && cnfSat a ds) := by
  simp [cnfSat]

theorem cnfSat_perm (a : Assign) {cs cs' : Cnf} (h : List.Perm cs cs') :
    cnfSat a cs = cnfSat a cs' := h.all_eq

/-- the Rust `eval` computes `xor` as `(!l && r) || (l && !r)` -/
theorem fXor_rust (f g : BoolFn) : fXor f g = fun a => (!f a && g a) || (f a && !g a) := by
  funext a; simp only [fXor]; cases f a <;> cases g a <;> rfl

/-! ## `from_dtree` -/

theorem planSem_foldl_or (a : Assign) : ∀ (rest : Clause) (p : Plan),
    planSem (rest.foldl (fun acc i => Plan.or acc (.lit i.var i.pol)) p) a
      = (planSem p a || clauseSat a rest)
  | [], p => by simp [clauseSat]
  | l :: ls, p => by
    rw [List.foldl_cons, planSem_foldl_or a ls, clauseSat_cons]
    simp only [planSem, fOr, fVar_litSat, Bool.or_assoc]

theorem planSem_ofClause (c : Clause) : planSem (Plan.ofClause c) = fun a => clauseSat a c := by
  funext a
  match c with
  | [] => rfl
  | [l] => simp [Plan.ofClause, planSem, fVar_litSat, clauseSat, List.any]
  | l :: l' :: ls =>
    simp only [Plan.ofClause]
    rw [planSem_foldl_or]
    simp only [planSem, fVar_litSat, clauseSat_cons]

/-- **the plan of a dtree denotes the conjunction of the clauses at its leaves** -/
theorem planFromDtree_sem : ∀ t : DTree, planSem (Plan.fromDtree t) = cnfFn t.clauses
  | .leaf c => by
    rw [Plan.fromDtree, planSem_ofClause]
    funext a; simp [DTree.clauses, cnfFn, cnfSat]
  | .node l r => by
    rw [Plan.fromDtree, planSem, planFromDtree_sem l, planFromDtree_sem r]
    funext a; simp only [fAnd, cnfFn, DTree.clauses, cnfSat_append]

theorem allVars_foldl_or (Q : Nat → Prop) : ∀ (rest : Clause) (p : Plan), p.AllVars Q →
    (∀ l ∈ rest, Q l.var) →
    (rest.foldl (fun acc i => Plan.or acc (.lit i.var i.pol)) p).AllVars Q
  | [], _, hp, _ => hp
  | l :: ls, p, hp, h => by
    rw [List.foldl_cons]
    exact allVars_foldl_or Q ls _ ⟨hp, h l (List.mem_cons_self ..)⟩
      (fun l' h' => h l' (List.mem_cons_of_mem _ h'))

theorem allVars_ofClause (Q : Nat → Prop) (c : Clause) (h : ∀ l ∈ c, Q l.var) :
    (Plan.ofClause c).AllVars Q := by
  match c with
  | [] => trivial
  | [l] => exact h l (List.mem_cons_self ..)
  | l :: l' :: ls =>
    simp only [Plan.ofClause]
    exact allVars_foldl_or Q _ _ (h l (List.mem_cons_self ..))
      (fun x hx => h x (List.mem_cons_of_mem _ hx))

theorem allVars_fromDtree (Q : Nat → Prop) : ∀ t : DTree, (∀ c ∈ t.clauses, ∀ l ∈ c, Q l.var) →
    (Plan.fromDtree t).AllVars Q
  | .leaf c, h => allVars_ofClause Q c (h c (by simp [DTree.clauses]))
  | .node l r, h => by
    refine ⟨allVars_fromDtree Q l fun c hc => h c ?_, allVars_fromDtree Q r fun c hc => h c ?_⟩
    · simp [DTree.clauses, hc]
    · simp [DTree.clauses, hc]

/-! ## `AllVars Q` when every label meets `Q` -/

theorem LogicalExpr.allVars_of_forall {Q : Nat → Prop} (h : ∀ x, Q x) (e : LogicalExpr) :
    e.AllVars Q := by
  induction e with
  | lit x _ => exact h x
  | not _ ih => exact ih
  | and _ _ ihl ihr | or _ _ ihl ihr | iff _ _ ihl ihr | xor _ _ ihl ihr => exact ⟨ihl, ihr⟩
  | ite _ _ _ ihg iht ihe => exact ⟨ihg, iht, ihe⟩

theorem Plan.allVars_of_forall {Q : Nat → Prop} (h : ∀ x, Q x) (p : Plan) : p.AllVars Q := by
  induction p with
  | lit x _ => exact h x
  | constTrue | constFalse => trivial
  | not _ ih => exact ih
  | and _ _ ihl ihr | or _ _ ihl ihr | iff _ _ ihl ihr => exact ⟨ihl, ihr⟩
  | ite _ _ _ ihg iht ihe => exact ⟨ihg, iht, ihe⟩

/-! ## a partial model and the list of its literals; removing one entry of a list -/

/-- the total assignment `a` overridden by the partial model `m` -/
def under (m : PModel) (a : Assign) : Assign := fun y => (m y).getD (a y)

/-- the assignment `fCondList` evaluates at: earlier pairs of the list win -/
def ovr : List (Nat × Bool) → Assign → Assign
  | [], a => a
  | (x, b) :: rest, a => upd (ovr rest a) x b

theorem fCondList_eq_ovr : ∀ (lits : List (Nat × Bool)) (f : BoolFn) (a : Assign),
    fCondList f lits a = f (ovr lits a)
  | [], _, _ => rfl
  | (x, b) :: rest, f, a => by
    rw [fCondList, fCondList_eq_ovr rest]; rfl

/-- the list `lits` lists exactly the assigned literals of `m` (any order, repetitions allowed) -/
def Represents (lits : List (Nat × Bool)) (m : PModel) : Prop :=
  ∀ x b, m x = some b ↔ (x, b) ∈ lits

theorem ovr_spec (a : Assign) (y : Nat) : ∀ lits : List (Nat × Bool),
    (∃ b, (y, b) ∈ lits ∧ ovr lits a y = b) ∨ ((∀ b, (y, b) ∉ lits) ∧ ovr lits a y = a y)
  | [] => Or.inr ⟨fun _ h => (nomatch h), rfl⟩
  | (x, c) :: rest => by
    by_cases hyx : y = x
    · subst hyx; exact Or.inl ⟨c, List.mem_cons_self, upd_same ..⟩
    · rw [ovr, upd_other _ _ hyx]
      rcases ovr_spec a y rest with ⟨b, hb, e⟩ | ⟨hn, e⟩
      · exact Or.inl ⟨b, List.mem_cons_of_mem _ hb, e⟩
      · exact Or.inr ⟨fun b hb => (List.mem_cons.1 hb).elim
          (fun e => hyx (congrArg Prod.fst e)) (hn b), e⟩

theorem fCondList_represents {lits : List (Nat × Bool)} {m : PModel} (hr : Represents lits m)
    (f : BoolFn) : fCondList f lits = fun a => f (under m a) := by
  funext a
  rw [fCondList_eq_ovr]
  congr 1
  funext y
  rcases ovr_spec a y lits with ⟨b, hb, e⟩ | ⟨hn, e⟩
  · rw [e, under, (hr y b).2 hb]; rfl
  · rw [e, under]
    cases hm : m y with
    | none => rfl
    | some b => exact absurd ((hr y b).1 hm) (hn b)

theorem extract_perm {α : Type} : ∀ (i : Nat) (l : List α) {x : α} {r : List α},
    extract i l = some (x, r) → List.Perm l (x :: r)
  | _, [], _, _, h => by rw [extract] at h; cases h
  | 0, y :: ys, x, r, h => by cases h; exact List.Perm.refl _
  | i + 1, y :: ys, x, r, h => by
    rw [extract] at h
    generalize h1 : extract i ys = o at h
    obtain _ | ⟨z, r'⟩ := o <;> cases h
    exact ((extract_perm i ys h1).cons y).trans (List.Perm.swap _ _ _)

theorem extract_isSome {α : Type} : ∀ (i : Nat) (l : List α), i < l.length →
    (extract i l).isSome = true
  | _, [], h => absurd h (Nat.not_lt_zero _)
  | 0, _ :: _, _ => rfl
  | i + 1, y :: ys, h => by
    obtain ⟨p, h1⟩ := Option.isSome_iff_exists.1 (extract_isSome i ys (Nat.lt_of_succ_lt_succ h))
    rw [extract, h1]; rfl

/-- a computation returns if its first step does and the rest does from whatever that step returns -/
theorem bind_isSome {σ α β : Type} {x : Option (σ × α)} {k : σ → α → Option β}
    (hx : x.isSome = true) (hk : ∀ s r, (k s r).isSome = true) :
    (match x with | none => none | some (s, r) => k s r).isSome = true := by
  cases x with
  | none => cases hx
  | some p => exact hk p.1 p.2

section generic
variable {σ P : Type} {O : Ops σ P} (S : OpsSpec O)

/-! ## `compile_logical_expr`, `compile_plan` -/

theorem compileExpr_ok (e : LogicalExpr) : ∀ {s : σ}, S.Inv s → e.AllVars S.VarOk →
    Post S.Inv (compileExpr O s e) (S.Den · (exprSem e)) := by
  induction e with
  | lit x pol => exact fun hi hv => .pure hi (S.var_ok x pol hv)
  | not e ih => exact fun hi hv => (ih hi hv).bind fun _ _ i1 d1 => .pure i1 (S.neg_ok d1)
  | and l r ihl ihr =>
    exact fun hi hv => (ihl hi hv.1).bind fun _ _ i1 d1 =>
      (ihr i1 hv.2).bind fun _ _ i2 d2 => S.and_ok i2 d1 d2
  | or l r ihl ihr =>
    exact fun hi hv => (ihl hi hv.1).bind fun _ _ i1 d1 =>
      (ihr i1 hv.2).bind fun _ _ i2 d2 => S.or_ok i2 d1 d2
  | iff l r ihl ihr =>
    exact fun hi hv => (ihl hi hv.1).bind fun _ _ i1 d1 =>
      (ihr i1 hv.2).bind fun _ _ i2 d2 => S.iff_ok i2 d1 d2
  | xor l r ihl ihr =>
    exact fun hi hv => (ihl hi hv.1).bind fun _ _ i1 d1 =>
      (ihr i1 hv.2).bind fun _ _ i2 d2 => S.xor_ok i2 d1 d2
  | ite g t e ihg iht ihe =>
    exact fun hi ⟨vg, vt, ve⟩ => (ihg hi vg).bind fun _ _ i1 d1 =>
      (iht i1 vt).bind fun _ _ i2 d2 => (ihe i2 ve).bind fun _ _ i3 d3 => S.ite_ok i3 d1 d2 d3

theorem compilePlan_ok (p : Plan) : ∀ {s : σ}, S.Inv s → p.AllVars S.VarOk →
    Post S.Inv (compilePlan O s p) (S.Den · (planSem p)) := by
  induction p with
  | lit x pol => exact fun hi hv => .pure hi (S.var_ok x pol hv)
  | constTrue => exact fun hi _ => .pure hi S.tru_ok
  | constFalse => exact fun hi _ => .pure hi S.fls_ok
  | not e ih => exact fun hi hv => (ih hi hv).bind fun _ _ i1 d1 => .pure i1 (S.neg_ok d1)
  | and l r ihl ihr =>
    exact fun hi hv => (ihl hi hv.1).bind fun _ _ i1 d1 =>
      (ihr i1 hv.2).bind fun _ _ i2 d2 => S.and_ok i2 d1 d2
  | or l r ihl ihr =>
    exact fun hi hv => (ihl hi hv.1).bind fun _ _ i1 d1 =>
      (ihr i1 hv.2).bind fun _ _ i2 d2 => S.or_ok i2 d1 d2
  | iff l r ihl ihr =>
    exact fun hi hv => (ihl hi hv.1).bind fun _ _ i1 d1 =>
      (ihr i1 hv.2).bind fun _ _ i2 d2 => S.iff_ok i2 d1 d2
  | ite g t e ihg iht ihe =>
    exact fun hi ⟨vg, vt, ve⟩ => (ihg hi vg).bind fun _ _ i1 d1 =>
      (iht i1 vt).bind fun _ _ i2 d2 => (ihe i2 ve).bind fun _ _ i3 d3 => S.ite_ok i3 d1 d2 d3

/-! ## `compile_cnf` -/

theorem compileClause_ok (c : Clause) : ∀ {s : σ} {acc : P}, S.Inv s → S.Good acc →
    (∀ l ∈ c, S.VarOk l.var) →
    Post S.Inv (compileClause O s acc c) fun r =>
      S.Good r ∧ ∀ a, S.den r a = (S.den acc a || clauseSat a c) := by
  induction c with
  | nil => exact fun hi hg _ => .pure hi ⟨hg, fun a => (Bool.or_false _).symm⟩
  | cons l ls ih =>
    intro s acc hi hg hv
    refine (S.or_ok hi ⟨hg, rfl⟩ (S.var_ok l.var l.pol (hv l (List.mem_cons_self ..)))).bind
      fun _ _ i1 d1 => (ih i1 d1.1 fun l' h' => hv l' (List.mem_cons_of_mem _ h')).mono
        fun r d => ⟨d.1, fun a => ?_⟩
    rw [d.2 a, d1.2, clauseSat_cons, ← fVar_litSat]; exact Bool.or_assoc ..

/-- every clause diagram denotes its clause: the re-disjoined first literal is absorbed -/
theorem compileClauses_ok (cs : List Clause) : ∀ {s : σ}, S.Inv s →
    (∀ c ∈ cs, ∀ l ∈ c, S.VarOk l.var) →
    Post S.Inv (compileClauses O s cs) fun ps =>
      (∀ p ∈ ps, S.Good p) ∧ ∀ a, ps.all (fun p => S.den p a) = cnfSat a cs := by
  induction cs with
  | nil => exact fun hi _ => .pure hi ⟨fun _ hp => (nomatch hp), fun _ => rfl⟩
  | cons c cs ih =>
    intro s hi hv
    have hvc := hv c (List.mem_cons_self ..)
    cases c with
    | nil => exact .fail
    | cons l ls =>
      have dv := S.var_ok l.var l.pol (hvc l (List.mem_cons_self ..))
      rw [compileClauses]
      refine (compileClause_ok S (l :: ls) hi dv.1 hvc).bind fun s1 p i1 d1 => ?_
      refine (ih i1 fun c hc => hv c (List.mem_cons_of_mem _ hc)).step (fun e => by rw [e])
        fun s2 ps e i2 d2 => ?_
      rw [e]
      refine .pure i2 ⟨List.forall_mem_cons.2 ⟨d1.1, d2.1⟩, fun a => ?_⟩
      rw [List.all_cons, d2.2 a, cnfSat_cons, d1.2 a, dv.2, fVar_litSat, clauseSat_cons,
        ← Bool.or_assoc, Bool.or_self]

/-- the value of an optional diagram (`None` stands for the empty conjunction) -/
def optDen (r : Option P) (a : Assign) : Bool :=
  match r with
  | none => true
  | some x => S.den x a

/-- the last step of `collapse`: the conjunction of two optional diagrams -/
theorem andOpt_ok {s : σ} {subL subR : Option P} (hi : S.Inv s)
    (gL : ∀ x, subL = some x → S.Good x) (gR : ∀ x, subR = some x → S.Good x) :
    Post S.Inv (match (generalizing := false) subL, subR with
      | none, none => some (s, none)
      | some x, none => some (s, some x)
      | none, some x => some (s, some x)
      | some x, some y =>
        match O.and s x y with
        | none => none
        | some (s3, r) => some (s3, some r)) fun r =>
      (∀ x, r = some x → S.Good x) ∧ ∀ a, optDen S r a = (optDen S subL a && optDen S subR a) := by
  cases subL with
  | none => cases subR <;> exact .pure hi ⟨gR, fun a => rfl⟩
  | some x =>
    cases subR with
    | none => exact .pure hi ⟨gL, fun a => (Bool.and_true _).symm⟩
    | some y =>
      exact (S.and_ok hi ⟨gL x rfl, rfl⟩ ⟨gR y rfl, rfl⟩).bind fun _ _ i3 d3 =>
        .pure i3 ⟨fun _ e => Option.some.inj e ▸ d3.1, fun a => congrFun d3.2 a⟩

theorem collapse_ok : ∀ (n : Nat) {s : σ} (ps : List P), S.Inv s → (∀ p ∈ ps, S.Good p) →
    Post S.Inv (collapse O n s ps) fun r =>
      (∀ x, r = some x → S.Good x) ∧ ∀ a, optDen S r a = ps.all (fun p => S.den p a)
  | _, s, [], hi, _ => by
    rw [collapse]; exact .pure hi ⟨fun x hx => (nomatch hx), fun a => rfl⟩
  | _, s, [p], hi, hg => by
    rw [collapse]
    exact .pure hi ⟨fun x hx => Option.some.inj hx ▸ hg p (List.mem_cons_self ..),
      fun a => (Bool.and_true _).symm⟩
  | 0, s, _ :: _ :: _, _, _ => .fail
  | n + 1, s, p :: q :: ps, hi, hg => by
    rw [collapse]
    generalize p :: q :: ps = v at hg
    refine (collapse_ok n (v.take (v.length / 2)) hi fun x hx => hg x (List.mem_of_mem_take hx)).step
      (fun e => by simp only [e]) fun s1 subL e1 i1 d1 => ?_
    simp only [e1]
    refine (collapse_ok n (v.drop (v.length / 2)) i1 fun x hx => hg x (List.mem_of_mem_drop hx)).step
      (fun e => by simp only [e]) fun s2 subR e2 i2 d2 => ?_
    simp only [e2]
    exact (andOpt_ok S i2 d1.1 d2.1).mono fun r d3 => ⟨d3.1, fun a => by
      rw [d3.2, d1.2, d2.2, ← List.all_append, List.take_append_drop]⟩

/-- **`compile_cnf` is correct for every permutation of the clause list** -/
theorem compileCnf_ok {cs cs' : Cnf} (hperm : List.Perm cs cs') {s : σ}
    (hi : S.Inv s) (hv : ∀ c ∈ cs, ∀ l ∈ c, S.VarOk l.var) :
    Post S.Inv (compileCnf O s cs') (S.Den · (cnfFn cs)) := by
  unfold compileCnf
  by_cases he : cs'.isEmpty
  · rw [if_pos he]
    obtain rfl := List.isEmpty_iff.1 he
    obtain rfl := hperm.eq_nil
    exact .pure hi S.tru_ok
  rw [if_neg he]
  by_cases he' : cs'.any List.isEmpty
  · rw [if_pos he']
    obtain ⟨c, hc, hce⟩ := List.any_eq_true.1 he'
    obtain rfl := List.isEmpty_iff.1 hce
    exact .pure hi ⟨S.fls_ok.1, S.fls_ok.2.trans (funext fun a =>
      (List.all_eq_false.2 ⟨[], hperm.mem_iff.2 hc, Bool.false_ne_true⟩).symm)⟩
  rw [if_neg he']
  refine (compileClauses_ok S cs' hi fun c hc => hv c (hperm.mem_iff.2 hc)).step (fun e => by rw [e])
    fun s1 ps e1 i1 d1 => ?_
  simp only [e1, collapseClauses]
  refine (collapse_ok S ps.length ps i1 d1.1).step (fun e => by rw [e]) fun s2 o e2 i2 d2 => ?_
  have d : optDen S o = cnfFn cs := funext fun a => by rw [d2.2, d1.2, ← cnfSat_perm a hperm]; rfl
  rw [e2]
  cases o with
  | none => exact .pure i2 ⟨S.tru_ok.1, S.tru_ok.2.trans d⟩
  | some x => exact .pure i2 ⟨d2.1 _ rfl, d⟩

/-! ## `compile_cnf_with_assignments` -/

theorem clauseUnder_ok (m : PModel) (c : Clause) : ∀ {s : σ} {cur : P}, S.Inv s → S.Good cur →
    (∀ l ∈ c, S.VarOk l.var) →
    Post S.Inv (clauseUnder O m s cur c) fun r =>
      S.Good r ∧ ∀ a, S.den r a = (S.den cur a || clauseSat (under m a) c) := by
  induction c with
  | nil => exact fun hi hg _ => .pure hi ⟨hg, fun a => (Bool.or_false _).symm⟩
  | cons l ls ih =>
    intro s cur hi hg hv
    have hvs : ∀ l' ∈ ls, S.VarOk l'.var := fun l' h' => hv l' (List.mem_cons_of_mem _ h')
    have hl : ∀ a, litSat (under m a) l = ((m l.var).getD (a l.var) == l.pol) := fun _ => rfl
    rw [clauseUnder]
    cases hm : m l.var with
    | none =>
      rw [hm] at hl
      refine (S.or_ok hi (S.var_ok l.var l.pol (hv l (List.mem_cons_self ..))) ⟨hg, rfl⟩).bind
        fun _ _ i1 d1 => (ih i1 d1.1 hvs).mono fun r d => ⟨d.1, fun a => ?_⟩
      rw [d.2 a, d1.2, clauseSat_cons, hl a, ← Bool.or_assoc, Bool.or_comm (S.den cur a)]
      exact congrArg (· || S.den cur a || _) (fVar_litSat l a)
    | some v =>
      rw [hm] at hl
      dsimp only
      by_cases hvp : v = l.pol
      · -- the literal is true: `cur = true; break`
        rw [if_pos hvp]
        refine .pure hi ⟨S.tru_ok.1, fun a => ?_⟩
        rw [S.tru_ok.2, clauseSat_cons, hl a, hvp, Option.getD_some, beq_self_eq_true,
          Bool.true_or, Bool.or_true]
        rfl
      · -- the literal is false: `continue`
        rw [if_neg hvp]
        refine (ih hi hg hvs).mono fun r d => ⟨d.1, fun a => ?_⟩
        rw [d.2 a, clauseSat_cons, hl a, Option.getD_some, beq_eq_false_iff_ne.2 hvp, Bool.false_or]

theorem clausesUnder_ok (m : PModel) (cs : List Clause) : ∀ {s : σ}, S.Inv s →
    (∀ c ∈ cs, ∀ l ∈ c, S.VarOk l.var) →
    Post S.Inv (clausesUnder O m s cs) fun es =>
      (∀ e ∈ es, S.Good e.1) ∧ ∀ a, es.all (fun e => S.den e.1 a) = cnfSat (under m a) cs := by
  induction cs with
  | nil => exact fun hi _ => .pure hi ⟨fun _ hp => (nomatch hp), fun _ => rfl⟩
  | cons c cs ih =>
    intro s hi hv
    rw [clausesUnder]
    refine (clauseUnder_ok S m c hi S.fls_ok.1 (hv c (List.mem_cons_self ..))).bind fun s1 p i1 d1 => ?_
    refine (ih i1 fun c hc => hv c (List.mem_cons_of_mem _ hc)).step (fun e => by rw [e])
      fun s2 es e i2 d2 => ?_
    rw [e]
    refine .pure i2 ⟨List.forall_mem_cons.2 ⟨d1.1, d2.1⟩, fun a => ?_⟩
    rw [List.all_cons, d2.2 a, cnfSat_cons, d1.2 a, S.fls_ok.2]
    rfl

/-- **the merge loop conjoins all entries, whatever the strategy picks** -/
theorem mergeLoop_ok (strat : Strategy P) : ∀ (n : Nat) {s : σ} (es : List (P × Nat)),
    S.Inv s → (∀ e ∈ es, S.Good e.1) →
    Post S.Inv (mergeLoop O strat n s es) fun r =>
      S.Good r ∧ ∀ a, S.den r a = es.all (fun e => S.den e.1 a)
  | _, s, [], _, _ => by rw [mergeLoop]; exact .fail
  | _, s, [e], hi, hg => by
    rw [mergeLoop]
    exact .pure hi ⟨hg _ (List.mem_cons_self ..), fun a => (Bool.and_true _).symm⟩
  | 0, s, _ :: _ :: _, _, _ => .fail
  | n + 1, s, e :: f :: es, hi, hg => by
    simp only [mergeLoop]
    generalize e :: f :: es = v at hg
    split
    · exact .fail
    rename_i e1 rest h1
    split
    · exact .fail
    rename_i e2 rest2 h2
    -- the two entries picked and what is left are the old entries in another order
    have p : List.Perm v (e1 :: e2 :: rest2) :=
      (extract_perm _ _ h1).trans ((extract_perm _ _ h2).cons e1)
    obtain ⟨ge1, hg'⟩ := List.forall_mem_cons.1 fun y hy => hg y (p.mem_iff.2 hy)
    obtain ⟨ge2, grest⟩ := List.forall_mem_cons.1 hg'
    refine (S.and_ok hi ⟨ge1, rfl⟩ ⟨ge2, rfl⟩).bind fun _ x i1 d1 =>
      (mergeLoop_ok strat n _ i1
        (List.forall_mem_append.2 ⟨grest, List.forall_mem_singleton.2 d1.1⟩)).mono
        fun r d => ⟨d.1, fun a => ?_⟩
    rw [d.2 a, p.all_eq, List.all_append, List.all_cons, List.all_cons, List.all_cons,
      List.all_nil, Bool.and_true, d1.2, Bool.and_comm]
    exact Bool.and_assoc ..

/-- **`compile_cnf_with_assignments` denotes the CNF evaluated under the partial model, for
every merge strategy** -/
theorem compileWithAssign_ok (strat : Strategy P) (m : PModel) {cs : Cnf} {s : σ}
    (hi : S.Inv s) (hv : ∀ c ∈ cs, ∀ l ∈ c, S.VarOk l.var) :
    Post S.Inv (compileWithAssign O strat m s cs) (S.Den · fun a => cnfSat (under m a) cs) := by
  unfold compileWithAssign
  by_cases he : cs.isEmpty
  · rw [if_pos he]
    obtain rfl := List.isEmpty_iff.1 he
    exact .pure hi S.tru_ok
  rw [if_neg he]
  refine (clausesUnder_ok S m cs hi hv).step (fun e => by rw [e]) fun s1 es e1 i1 d1 => ?_
  rw [e1]
  exact (mergeLoop_ok S strat es.length es i1 d1.1).mono fun r d =>
    ⟨d.1, funext fun a => by rw [d.2 a, d1.2 a]⟩

end generic

/-! ## the recursion bounds and the panics are never the reason for `none`

If the builder operations themselves always return (`isSome`), so do the compile functions: the
depth bound of `collapse`, the iteration bound of `mergeLoop`, the `lit_vec[0]` panic and the
`pop().unwrap()` panic are unreachable from the entry points. -/

section total
variable {σ P : Type} (O : Ops σ P)

theorem half_le {l n : Nat} (h2 : 2 ≤ l) (h : l ≤ n + 1 + 1) :
    l / 2 ≤ n + 1 ∧ l - l / 2 ≤ n + 1 :=
  have h1 : 1 ≤ l / 2 := (Nat.le_div_iff_mul_le (by decide)).2 h2
  ⟨Nat.div_le_of_le_mul
      (Nat.le_trans h (Nat.two_mul (n + 1) ▸ Nat.add_le_add_left (Nat.succ_pos n) _)),
    Nat.sub_le_iff_le_add.2 (Nat.le_trans h (Nat.add_le_add_left h1 _))⟩

theorem collapse_total (hand : ∀ s p q, (O.and s p q).isSome = true) :
    ∀ (n : Nat) (s : σ) (ps : List P), ps.length ≤ n + 1 → (collapse O n s ps).isSome = true
  | _, _, [], _ => by rw [collapse]; rfl
  | _, _, [_], _ => by rw [collapse]; rfl
  | 0, _, _ :: _ :: _, h => (Nat.not_succ_le_zero _ (Nat.le_of_succ_le_succ h)).elim
  | n + 1, s, p :: q :: ps, h => by
    rw [collapse]
    generalize hv : p :: q :: ps = v at h
    obtain ⟨b1, b2⟩ := half_le (hv ▸ Nat.le_add_left 2 ps.length) h
    obtain ⟨⟨s1, subL⟩, e1⟩ := Option.isSome_iff_exists.1
      (collapse_total hand n s (v.take (v.length / 2)) (Nat.le_trans (List.length_take_le ..) b1))
    obtain ⟨⟨s2, subR⟩, e2⟩ := Option.isSome_iff_exists.1
      (collapse_total hand n s1 (v.drop (v.length / 2)) (List.length_drop ▸ b2))
    simp only [e1, e2]
    cases subL with
    | none => cases subR <;> rfl
    | some x =>
      cases subR with
      | none => rfl
      | some y => exact bind_isSome (hand s2 x y) fun _ _ => rfl

theorem compileClause_total (hor : ∀ s p q, (O.or s p q).isSome = true) :
    ∀ (c : Clause) (s : σ) (acc : P), (compileClause O s acc c).isSome = true
  | [], _, _ => rfl
  | l :: ls, s, acc => bind_isSome (hor s acc (O.var l.var l.pol)) fun s1 r => compileClause_total hor ls s1 r

theorem compileClauses_total (hor : ∀ s p q, (O.or s p q).isSome = true) :
    ∀ (cs : List Clause) (s : σ), (∀ c ∈ cs, c ≠ []) → (compileClauses O s cs).isSome = true
  | [], _, _ => rfl
  | [] :: _, _, h => absurd rfl (h [] (List.mem_cons_self ..))
  | (l :: ls) :: cs, s, h =>
    bind_isSome (compileClause_total O hor (l :: ls) s _) fun s1 p => by
      obtain ⟨⟨s2, ps⟩, e2⟩ := Option.isSome_iff_exists.1
        (compileClauses_total hor cs s1 (fun c hc => h c (List.mem_cons_of_mem _ hc)))
      rw [e2]; rfl

theorem compileCnf_total (hand : ∀ s p q, (O.and s p q).isSome = true)
    (hor : ∀ s p q, (O.or s p q).isSome = true) (s : σ) (cs : Cnf) :
    (compileCnf O s cs).isSome = true := by
  unfold compileCnf
  by_cases he : cs.isEmpty
  · rw [if_pos he]; rfl
  rw [if_neg he]
  by_cases he' : cs.any List.isEmpty
  · rw [if_pos he']; rfl
  rw [if_neg he']
  have hne : ∀ c ∈ cs, c ≠ [] := fun c hc e => he' (List.any_eq_true.2 ⟨c, hc, e ▸ rfl⟩)
  obtain ⟨⟨s1, ps⟩, e1⟩ := Option.isSome_iff_exists.1 (compileClauses_total O hor cs s hne)
  obtain ⟨⟨s2, r⟩, e2⟩ := Option.isSome_iff_exists.1
    (collapse_total O hand ps.length s1 ps (Nat.le_succ _))
  simp only [e1, collapseClauses, e2]
  cases r <;> rfl

theorem clauseUnder_total (hor : ∀ s p q, (O.or s p q).isSome = true) (m : PModel) :
    ∀ (c : Clause) (s : σ) (cur : P), (clauseUnder O m s cur c).isSome = true
  | [], _, _ => rfl
  | l :: ls, s, cur => by
    rw [clauseUnder]
    split
    · exact bind_isSome (hor s _ cur) fun s1 r => clauseUnder_total hor m ls s1 r
    · split
      · rfl
      · exact clauseUnder_total hor m ls s cur

/-- the heap is filled with one entry per clause -/
theorem clausesUnder_total (hor : ∀ s p q, (O.or s p q).isSome = true) (m : PModel) :
    ∀ (cs : List Clause) (s : σ),
      ∃ s' es, clausesUnder O m s cs = some (s', es) ∧ es.length = cs.length
  | [], s => ⟨s, [], rfl, rfl⟩
  | c :: cs, s => by
    obtain ⟨⟨s1, p⟩, e1⟩ := Option.isSome_iff_exists.1 (clauseUnder_total O hor m c s O.fls)
    obtain ⟨s2, es, e2, hl⟩ := clausesUnder_total hor m cs s1
    exact ⟨s2, (p, O.size p) :: es, by simp only [clausesUnder, e1, e2], congrArg (· + 1) hl⟩

theorem mergeLoop_total (hand : ∀ s p q, (O.and s p q).isSome = true) (strat : Strategy P) :
    ∀ (n : Nat) (s : σ) (es : List (P × Nat)), es ≠ [] → es.length ≤ n + 1 →
      (mergeLoop O strat n s es).isSome = true
  | _, _, [], h, _ => absurd rfl h
  | _, _, [_], _, _ => by rw [mergeLoop]; rfl
  | 0, _, _ :: _ :: _, _, h => (Nat.not_succ_le_zero _ (Nat.le_of_succ_le_succ h)).elim
  | n + 1, s, e :: f :: es, _, h => by
    simp only [mergeLoop]
    generalize hv : e :: f :: es = v at h
    have hl : 2 ≤ v.length := hv ▸ Nat.le_add_left 2 es.length
    obtain ⟨⟨e1, rest⟩, x1⟩ := Option.isSome_iff_exists.1
      (extract_isSome ((strat v).1 % v.length) v (Nat.mod_lt _ (Nat.lt_of_lt_of_le (by decide) hl)))
    rw [(extract_perm _ _ x1).length_eq, List.length_cons] at hl h
    obtain ⟨⟨e2, rest2⟩, x2⟩ := Option.isSome_iff_exists.1
      (extract_isSome ((strat v).2 % rest.length) rest (Nat.mod_lt _ (Nat.le_of_succ_le_succ hl)))
    rw [(extract_perm _ _ x2).length_eq] at h
    obtain ⟨⟨s1, r⟩, x3⟩ := Option.isSome_iff_exists.1 (hand s e1.1 e2.1)
    simp only [x1, x2, x3]
    refine mergeLoop_total hand strat n s1 _
      (List.append_ne_nil_of_right_ne_nil _ (List.cons_ne_nil _ _)) ?_
    rw [List.length_append]
    exact Nat.le_of_succ_le_succ h

/-- `compile_cnf_with_assignments` returns whenever `and`/`or` do, for every strategy -/
theorem compileWithAssign_total (hand : ∀ s p q, (O.and s p q).isSome = true)
    (hor : ∀ s p q, (O.or s p q).isSome = true) (strat : Strategy P) (m : PModel) (s : σ)
    (cs : Cnf) : (compileWithAssign O strat m s cs).isSome = true := by
  unfold compileWithAssign
  by_cases he : cs.isEmpty
  · rw [if_pos he]; rfl
  rw [if_neg he]
  obtain ⟨s1, es, e1, hl⟩ := clausesUnder_total O hor m cs s
  have hne : es ≠ [] := fun e =>
    he (List.isEmpty_iff.2 (List.length_eq_zero_iff.1 (e ▸ hl).symm))
  rw [e1]
  exact mergeLoop_total O hand strat es.length s1 es hne (Nat.le_succ _)

end total
end Compile

/-! ## the ROBDD builder meets the specification -/
namespace Bdd
open Spec Compile

/-- builder-state invariant for the compile theorems: the apply cache is semantically sound and
holds only well formed results -/
def CInv (C : CacheImpl) (lvl : Nat → Nat) (s : C.σ) : Prop := CacheSound C s ∧ CacheWF C lvl s

theorem cinv_empty (C : CacheImpl) (lvl : Nat → Nat) : CInv C lvl C.empty :=
  ⟨cacheSound_empty C, cacheWF_empty C lvl⟩

/-- the ROBDD builder model, for every lawful cache, injective level map and fuel -/
def bddSpec (C : CacheImpl) (lvl : Nat → Nat) (inj : ∀ x y, lvl x = lvl y → x = y) (fuel : Nat) :
    OpsSpec (ops C lvl fuel) :=
  have mk {s : C.σ} {r : Ptr} {f : BoolFn} (h1 : CacheSound C s ∧ den r = f)
      (h2 : CacheWF C lvl s ∧ WF lvl r) : CInv C lvl s ∧ WF lvl r ∧ den r = f :=
    ⟨⟨h1.1, h2.1⟩, h2.2, h1.2⟩
  { Inv := CInv C lvl
    Good := WF lvl
    VarOk := fun _ => True
    den := den
    tru_ok := ⟨WF_tru lvl, rfl⟩
    fls_ok := ⟨WF_fls lvl, rfl⟩
    var_ok := fun x pol _ => ⟨mkVar_WF lvl x pol, mkVar_sem x pol⟩
    neg_ok := fun ⟨hp, e⟩ => ⟨WF_neg hp, e ▸ den_neg _⟩
    and_ok := fun hi ⟨hp, rfl⟩ ⟨hq, rfl⟩ => .intro fun h =>
      mk (bAnd_sem hi.1 h) (bAnd_WF C lvl inj hi.2 hp hq h)
    or_ok := fun hi ⟨hp, rfl⟩ ⟨hq, rfl⟩ => .intro fun h =>
      mk (bOr_sem hi.1 h) (bOr_WF C lvl inj hi.2 hp hq h)
    iff_ok := fun hi ⟨hp, rfl⟩ ⟨hq, rfl⟩ => .intro fun h =>
      mk (bIff_sem hi.1 h) (bIff_WF C lvl inj hi.2 hp hq h)
    xor_ok := fun hi ⟨hp, rfl⟩ ⟨hq, rfl⟩ => .intro fun h =>
      mk (bXor_sem hi.1 h) (bXor_WF C lvl inj hi.2 hp hq h)
    ite_ok := fun hi ⟨hf, rfl⟩ ⟨hg, rfl⟩ ⟨hh, rfl⟩ => .intro fun h =>
      mk (ite_den hi.1 h) (ite_WF C lvl inj hi.2 hf hg hh h) }

theorem mem_iterHalf (m : List (Option Bool)) (c : Bool) (x : Nat) (b : Bool) :
    (x, b) ∈ m.zipIdx.filterMap (fun (o, i) => if o == some c then some (i, c) else none) ↔
      m[x]? = some (some c) ∧ b = c := by
  simp only [List.mem_filterMap, Prod.exists, List.mem_zipIdx_iff_getElem?]
  constructor
  · rintro ⟨o, i, hi, h⟩
    by_cases ho : (o == some c) = true
    · rw [if_pos ho] at h; cases h; exact ⟨hi.trans (congrArg some (beq_iff_eq.1 ho)), rfl⟩
    · rw [if_neg ho] at h; cases h
  · rintro ⟨h, rfl⟩
    exact ⟨some b, x, h, if_pos (beq_self_eq_true _)⟩

/-- `assignment_iter` of a partial model given as a vector lists exactly its assigned literals -/
theorem assignmentIter_represents (m : List (Option Bool)) :
    Represents (assignmentIter m) (pmodelOfList m) := by
  intro x b
  rw [assignmentIter, List.mem_append, mem_iterHalf, mem_iterHalf, pmodelOfList]
  rcases m[x]? with _ | _ | _ | _ <;> cases b <;> simp

theorem insertClause_perm (lvl : Nat → Nat) (c : Clause) : ∀ ds : List Clause,
    List.Perm (insertClause lvl c ds) (c :: ds)
  | [] => List.Perm.refl _
  | d :: ds => by
    rw [insertClause]
    by_cases h : clauseKey lvl d < clauseKey lvl c
    · rw [if_pos h]; exact ((insertClause_perm lvl c ds).cons d).trans (List.Perm.swap _ _ _)
    · rw [if_neg h]

theorem foldr_insert_perm {α : Type} {ins : α → List α → List α}
    (h : ∀ x l, List.Perm (ins x l) (x :: l)) : ∀ l : List α, List.Perm l (l.foldr ins [])
  | [] => List.Perm.refl _
  | x :: l => ((foldr_insert_perm h l).cons x).trans (h x _).symm

/-! `Compile.cnfNew` is `CnfUtil.normClause` on every clause (the sort tests `d.var < l.var` with
the branches exchanged, the rest is the same text): its facts are those of `Lemmas/CnfNorm.lean` -/

theorem insertLit_eq (l : Lit) : ∀ ds, insertLit l ds = CnfUtil.insertByLabel l ds
  | [] => rfl
  | d :: ds => by
    rw [insertLit, CnfUtil.insertByLabel, insertLit_eq l ds]
    by_cases h : d.var < l.var
    · rw [if_pos h, if_neg (Nat.not_le_of_gt h)]
    · rw [if_neg h, if_pos (Nat.le_of_not_gt h)]

theorem sortLits_eq : ∀ c, sortLits c = CnfUtil.sortByLabel c
  | [] => rfl
  | l :: ls => by
    rw [sortLits, List.foldr_cons, ← sortLits, sortLits_eq ls, insertLit_eq, CnfUtil.sortByLabel]

theorem dedupLits_eq : ∀ c, dedupLits c = CnfUtil.dedupAdj c
  | [] => rfl
  | [_] => rfl
  | x :: y :: r => by rw [dedupLits, CnfUtil.dedupAdj, dedupLits_eq (y :: r)]

theorem cnfNew_eq (cs : List Clause) : cnfNew cs = cs.map CnfUtil.normClause :=
  List.map_congr_left fun c _ => by rw [dedupLits_eq, sortLits_eq]; rfl

/-- the normalisation of `Cnf::new` does not change the set of models -/
theorem cnfSat_cnfNew (a : Assign) (cs : List Clause) : cnfSat a (cnfNew cs) = cnfSat a cs :=
  cnfNew_eq cs ▸ CnfUtil.cnfSat_map_normClause a cs

theorem sortClauses_perm (lvl : Nat → Nat) (cs : List Clause) : List.Perm cs (sortClauses lvl cs) :=
  foldr_insert_perm (insertClause_perm lvl) cs

end Bdd
