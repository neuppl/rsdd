/-!
# The flat order on `Option`: `x'` returns whatever `x` returns

A fuelled function is monotone in its fuel, and a builder helper in the recursive call it is
parametrised by, in this order.  The rules here are those that mention no `match`.  A congruence
rule for a `match` applies to a `match` of a model only when both elaborate to the same auxiliary
matcher, that is when the discriminant type is written as in the model; such rules are stated next
to the model they serve (`Sdd.Le.pair` …, `Bdd.Le.pair`).
-/

/-- `x'` returns whatever `x` returns -/
def Option.Le {α : Type} (x x' : Option α) : Prop := ∀ y, x = some y → x' = some y

namespace Option.Le
variable {α β : Type}

theorem refl (x : Option α) : Le x x := fun _ h => h

theorem trans {x y z : Option α} (h : Le x y) (h' : Le y z) : Le x z := fun _ e => h' _ (h _ e)

theorem none_le (x : Option α) : Le none x := fun _ h => nomatch h

theorem of_some {x x' : Option α} {v : α} (hx : Le x x') (h : x = some v) : x' = some v := hx v h

theorem ite {c : Prop} [Decidable c] {A B A' B' : Option α} (hA : Le A A') (hB : Le B B') :
    Le (if c then A else B) (if c then A' else B') := by
  split
  · exact hA
  · exact hB

theorem map {x x' : Option α} (f : α → β) (hx : Le x x') : Le (x.map f) (x'.map f) := by
  intro y h
  obtain ⟨a, ha, hy⟩ := Option.map_eq_some_iff.1 h
  exact Option.map_eq_some_iff.2 ⟨a, hx a ha, hy⟩

end Option.Le
