import RsddModel.Model.Semirings
import RsddModel.Lemmas.SemiringLaws
/-!
# Lemmas for C13: the shipped weight types are commutative semirings (rings, lattices)

* finite fields: `ffAdd_spec`, `ffMul_spec` (loop invariant of double-and-add), `ffSub_spec'`,
  `ff_sub_add`, `ffNegate_spec`; the checked `u128` reading never fails on reduced operands when
  `P ≤ 2^127` (`ffAddC_eq`, `ffMulC_eq`, `ffMulLoopC_eq`, `ffSubC_eq`, `ffNegateC_eq`);
  `ffLaws : SROps.Laws (ffOpsFF P _)`;
* `realLaws`, `boolLaws`, `euLaws`, `cxLaws`; `max` on `Rat` as least upper bound; lattice laws and
  order compatibility for reals, on which those of expected utility rest component by component;
* truncated polynomials: invariant `PolyWF` (established by every constructor and preserved by
  every operation), coefficient characterisation `polyMul_coef` (truncated product = product
  modulo `X^maxCoeffs`), the eight laws for the derived structural equality (`polyLaws`).

Core Lean only (no Mathlib needed: `omega`, `grind`, `decide`).
-/
namespace Sem

/-! ## finite fields -/

theorem ffAdd_spec (P a b : Nat) : ffAdd P a b = (a + b) % P := by
  simp [ffAdd, ffNew]

theorem ffSub_spec' (P a b : Nat) (hb : b ≤ P) : ffSub P a b = (a + P - b) % P := by
  rw [Nat.add_sub_assoc hb]
  exact Nat.mod_mod _ _

theorem add_mod_mul (x y z P : Nat) : (x + y % P * z) % P = (x + y * z) % P := by
  rw [Nat.add_mod, Nat.mul_mod, Nat.mod_mod, ← Nat.mul_mod, ← Nat.add_mod]

/-- loop invariant of double-and-add: `acc + a*b` is preserved modulo `P` -/
theorem ffMulLoop_spec (P : Nat) : ∀ (fuel a b acc : Nat), b < 2 ^ fuel → acc < P →
    ffMulLoop P fuel a b acc = (acc + a * b) % P := by
  intro fuel
  induction fuel with
  | zero =>
    intro a b acc hb hacc
    obtain rfl : b = 0 := Nat.lt_one_iff.1 hb
    exact (Nat.mod_eq_of_lt hacc).symm
  | succ n ih =>
    intro a b acc hb hacc
    have hP : 0 < P := Nat.zero_lt_of_lt hacc
    rw [ffMulLoop]
    by_cases hb0 : b > 0
    · have hlt : b / 2 < 2 ^ n := Nat.div_lt_of_lt_mul (by rwa [Nat.pow_succ, Nat.mul_comm] at hb)
      have e : a * b = a * (b % 2) + (a + a) * (b / 2) := by
        rw [← Nat.two_mul, Nat.mul_comm 2 a, Nat.mul_assoc, ← Nat.mul_add, Nat.add_comm,
          Nat.div_add_mod]
      rw [if_pos hb0, Nat.shiftRight_eq_div_pow, Nat.pow_one, Nat.and_one_is_mod, e]
      rcases Nat.mod_two_eq_zero_or_one b with h | h
      · rw [h, if_neg (by decide), ih _ _ _ hlt hacc, Nat.mul_zero, Nat.zero_add, add_mod_mul]
      · rw [h, if_pos (by decide), ih _ _ _ hlt (Nat.mod_lt _ hP), Nat.mul_one, ← Nat.add_assoc,
          add_mod_mul, Nat.mod_add_mod]
    · obtain rfl : b = 0 := Nat.eq_zero_of_not_pos hb0
      rw [if_neg hb0]
      exact (Nat.mod_eq_of_lt hacc).symm

/-- `ffMul` is multiplication modulo `P` for every pair of `u128` operands (128 units of fuel
are enough for a 128-bit multiplier). -/
theorem ffMul_spec' {P a b : Nat} (hP : 0 < P) (hb : b < 2 ^ 128) : ffMul P a b = a * b % P := by
  unfold ffMul ffNew
  split
  · exact Nat.mod_mod _ _
  · rw [ffMulLoop_spec P 128 a b 0 hb hP]; simp

theorem ffMul_spec {P a b : Nat} (_ha : a < P) (hb : b < P) (h1 : 1 < P) (hP : P < 2 ^ 127) :
    ffMul P a b = a * b % P :=
  ffMul_spec' (Nat.zero_lt_of_lt h1) (Nat.lt_trans hb (Nat.lt_trans hP (by decide)))

/-! ### no overflow: the checked `u128` reading never fails on reduced operands -/

theorem cadd_some {a b : Nat} (h : a + b < 2 ^ 128) : cadd a b = some (a + b) := by simp [cadd, h]
theorem cmod_some {a P : Nat} (h : 0 < P) : cmod a P = some (a % P) := by
  simp [cmod]; omega
theorem csub_some {a b : Nat} (h : b ≤ a) : csub a b = some (a - b) := by simp [csub, h]

/-- two reduced operands of a modulus `P ≤ 2^127` add up within a `u128` -/
theorem add_lt_u128 {P x y : Nat} (hP : P ≤ 2 ^ 127) (hx : x < P) (hy : y ≤ P) : x + y < 2 ^ 128 :=
  Nat.lt_of_lt_of_le (Nat.add_lt_add_of_lt_of_le hx hy) (Nat.add_le_add hP hP)

theorem ffNewC_eq {P : Nat} (hP : 0 < P) (v : Nat) : ffNewC P v = some (ffNew P v) := by
  simp [ffNewC, ffNew, cmod_some hP]

theorem ffAddC_eq {P a b : Nat} (ha : a < P) (hb : b < P) (hP : P ≤ 2 ^ 127) :
    ffAddC P a b = some (ffAdd P a b) := by
  have h0 : 0 < P := by omega
  simp only [ffAddC, cadd_some (add_lt_u128 hP ha (Nat.le_of_lt hb)), cmod_some h0, ffNewC_eq h0,
    Option.bind_eq_bind, Option.bind_some]
  rfl

theorem ffSubC_eq {P a b : Nat} (ha : a < P) (hb : b < P) (hP : P ≤ 2 ^ 127) :
    ffSubC P a b = some (ffSub P a b) := by
  have h0 : 0 < P := by omega
  simp only [ffSubC, csub_some (Nat.le_of_lt hb), cadd_some (add_lt_u128 hP ha (Nat.sub_le P b)),
    cmod_some h0, ffNewC_eq h0, Option.bind_eq_bind, Option.bind_some]
  rfl

theorem ffNegateC_eq {P a : Nat} (ha : a < P) (hP : P ≤ 2 ^ 127) :
    ffNegateC P a = some (ffNegate P a) := by
  have h0 : 0 < P := by omega
  simp only [ffNegateC, csub_some (Nat.le_of_lt ha), cadd_some (show P - a + 1 < 2 ^ 128 by omega),
    ffNewC_eq h0, Option.bind_eq_bind, Option.bind_some]
  rfl

/-- every sum `acc + a` and `a + a` formed by the loop is below `2^128` (operands stay reduced and
`P ≤ 2^127`), and 128 iterations exhaust a 128-bit multiplier: the checked loop returns exactly
what the unbounded-integer loop returns. -/
theorem ffMulLoopC_eq (P : Nat) (hP : P ≤ 2 ^ 127) : ∀ (fuel a b acc : Nat), b < 2 ^ fuel → a < P →
    acc < P → ffMulLoopC P fuel a b acc = some (ffMulLoop P fuel a b acc) := by
  intro fuel
  induction fuel with
  | zero =>
    intro a b acc hb _ _
    obtain rfl : b = 0 := Nat.lt_one_iff.1 hb
    rfl
  | succ n ih =>
    intro a b acc hb ha hacc
    have h0 : 0 < P := Nat.zero_lt_of_lt ha
    unfold ffMulLoopC ffMulLoop
    by_cases hb0 : b > 0
    · simp only [hb0, if_true]
      have hlt : b >>> 1 < 2 ^ n := by
        rw [Nat.shiftRight_eq_div_pow, Nat.pow_one]
        exact Nat.div_lt_of_lt_mul (by rwa [Nat.pow_succ, Nat.mul_comm] at hb)
      have haa := cadd_some (add_lt_u128 hP ha (Nat.le_of_lt ha))
      have hca := cadd_some (add_lt_u128 hP hacc (Nat.le_of_lt ha))
      by_cases hodd : (b &&& 1 == 1) = true
      · simp only [hodd, if_true, haa, hca, cmod_some h0, Option.bind_eq_bind, Option.bind_some]
        exact ih _ _ _ hlt (Nat.mod_lt _ h0) (Nat.mod_lt _ h0)
      · simp only [hodd, Bool.false_eq_true, if_false, haa, cmod_some h0, Option.bind_eq_bind,
          Option.bind_some]
        exact ih _ _ _ hlt (Nat.mod_lt _ h0) hacc
    · simp [hb0]

/-- the repaired `Mul::mul` neither overflows nor runs out of loop iterations on reduced
operands when `P ≤ 2^127` -/
theorem ffMulC_eq {P a b : Nat} (ha : a < P) (hb : b < P) (hP : P ≤ 2 ^ 127) :
    ffMulC P a b = some (ffMul P a b) := by
  have h0 : 0 < P := Nat.zero_lt_of_lt ha
  have hb128 : b < 2 ^ 128 := Nat.lt_trans hb (Nat.lt_of_le_of_lt hP (by decide))
  by_cases hlt : a * b < 2 ^ 128
  · rw [ffMulC, cmul, ffMul, if_pos hlt, if_pos hlt]
    simp only [cmod_some h0, ffNewC_eq h0, Option.bind_eq_bind, Option.bind_some]
  · rw [ffMulC, cmul, ffMul, if_neg hlt, if_neg hlt]
    simp only [ffMulLoopC_eq P hP 128 a b 0 hb128 ha h0, ffNewC_eq h0, Option.bind_eq_bind,
      Option.bind_some]

theorem ffMulC_spec {P a b : Nat} (ha : a < P) (hb : b < P) (hP : P ≤ 2 ^ 127) :
    ffMulC P a b = some (a * b % P) := by
  rw [ffMulC_eq ha hb hP,
    ffMul_spec' (Nat.zero_lt_of_lt ha) (Nat.lt_trans hb (Nat.lt_of_le_of_lt hP (by decide)))]

/-! ### subtraction and `negate` -/

theorem ff_sub_add {P a b : Nat} (ha : a < P) (hb : b < P) : ffAdd P (ffSub P a b) b = a := by
  rw [ffAdd_spec, ffSub_spec' P a b (Nat.le_of_lt hb), Nat.mod_add_mod]
  rw [Nat.sub_add_cancel (Nat.le_trans (Nat.le_of_lt hb) (Nat.le_add_left P a)), Nat.add_mod_right,
    Nat.mod_eq_of_lt ha]

theorem ff_add_sub {P a b : Nat} (ha : a < P) (hb : b < P) : ffSub P (ffAdd P a b) b = a := by
  rw [ffAdd_spec, ffSub_spec' P _ b (Nat.le_of_lt hb), Nat.add_sub_assoc (Nat.le_of_lt hb),
    Nat.mod_add_mod, Nat.add_assoc, Nat.add_sub_of_le (Nat.le_of_lt hb), Nat.add_mod_right,
    Nat.mod_eq_of_lt ha]

/-- `negate` is "one minus `a`": `negate a + a = 1` -/
theorem ffNegate_spec {P a : Nat} (ha : a ≤ P) : ffAdd P (ffNegate P a) a = 1 % P := by
  rw [ffAdd_spec]; unfold ffNegate ffNew
  rw [Nat.mod_add_mod]
  rw [Nat.add_right_comm, Nat.sub_add_cancel ha, Nat.add_comm, Nat.add_mod_right]

/-! ### commutative-semiring laws on the carrier `FF P` (`P < 2^128`: a `u128` constant) -/

theorem FF.ext {P : Nat} {x y : FF P} (h : x.v = y.v) : x = y := by
  cases x; cases y; cases h; rfl

theorem FF.add_v {P : Nat} (x y : FF P) : (x.add y).v = (x.v + y.v) % P := ffAdd_spec _ _ _
theorem FF.mul_v {P : Nat} (hP : P < 2 ^ 128) (x y : FF P) : (x.mul y).v = x.v * y.v % P :=
  ffMul_spec' x.pos (Nat.lt_trans y.lt hP)

theorem ffLaws (P : Nat) (h0 : 0 < P) (hP : P < 2 ^ 128) : SROps.Laws (ffOpsFF P h0) where
  add_assoc a b c := FF.ext (by
    simp only [ffOpsFF, FF.add_v, Nat.mod_add_mod, Nat.add_mod_mod, Nat.add_assoc])
  add_comm a b := FF.ext (by simp only [ffOpsFF, FF.add_v, Nat.add_comm])
  add_zero a := FF.ext (by simp [ffOpsFF, FF.add_v, FF.new, ffNew, Nat.mod_eq_of_lt a.lt])
  mul_assoc a b c := FF.ext (by
    simp only [ffOpsFF, FF.mul_v hP, Nat.mod_mul_mod, Nat.mul_mod_mod, Nat.mul_assoc])
  mul_comm a b := FF.ext (by simp only [ffOpsFF, FF.mul_v hP, Nat.mul_comm])
  mul_one a := FF.ext (by simp [ffOpsFF, FF.mul_v hP, FF.new, ffNew, Nat.mod_eq_of_lt a.lt])
  mul_zero a := FF.ext (by simp [ffOpsFF, FF.mul_v hP, FF.new, ffNew])
  left_distrib a b c := FF.ext (by
    simp only [ffOpsFF, FF.mul_v hP, FF.add_v, Nat.mul_mod_mod, Nat.mod_add_mod, Nat.add_mod_mod,
      Nat.mul_add])

theorem FF.sub_add {P : Nat} (x y : FF P) : (x.sub y).add y = x :=
  FF.ext (ff_sub_add x.lt y.lt)

theorem FF.negate_add {P : Nat} (x : FF P) : x.negate.add x = FF.new x.pos 1 :=
  FF.ext (ffNegate_spec (Nat.le_of_lt x.lt))

/-- the repaired `sub` on the witness of finding F5 (the original `|a - b|` gives `3`) -/
example : ffAdd 7 (ffSub 7 1 2) 2 = 1 := by decide

/-! ## reals / rationals -/

theorem realLaws : SROps.Laws realOps where
  add_assoc := Rat.add_assoc
  add_comm := Rat.add_comm
  add_zero := Rat.add_zero
  mul_assoc := Rat.mul_assoc
  mul_comm := Rat.mul_comm
  mul_one := Rat.mul_one
  mul_zero := Rat.mul_zero
  left_distrib := Rat.mul_add

/-! `f64::max` is the least upper bound and returns one of its arguments -/

theorem realJoin_left (a b : Rat) : a ≤ realJoin a b := by
  show a ≤ max a b
  rw [Rat.max_def]; split
  · assumption
  · exact Rat.le_refl
theorem realJoin_right (a b : Rat) : b ≤ realJoin a b := by
  show b ≤ max a b
  rw [Rat.max_def]; split
  · exact Rat.le_refl
  · rename_i h; exact Rat.le_of_lt (Rat.not_le.1 h)
theorem realJoin_le {a b c : Rat} (ha : a ≤ c) (hb : b ≤ c) : realJoin a b ≤ c := by
  show max a b ≤ c
  rw [Rat.max_def]; split <;> assumption
theorem realJoin_or (a b : Rat) : realJoin a b = a ∨ realJoin a b = b := by
  show max a b = a ∨ max a b = b
  rw [Rat.max_def]; split
  · exact Or.inr rfl
  · exact Or.inl rfl

theorem realJoin_idem (a : Rat) : realJoin a a = a := by simp only [realJoin]; grind
theorem realJoin_comm (a b : Rat) : realJoin a b = realJoin b a := by simp only [realJoin]; grind
theorem realJoin_assoc (a b c : Rat) : realJoin (realJoin a b) c = realJoin a (realJoin b c) := by
  simp only [realJoin]; grind
theorem realMeet_idem (a : Rat) : realMeet a a = a := by simp only [realMeet]; grind
theorem realMeet_comm (a b : Rat) : realMeet a b = realMeet b a := by simp only [realMeet]; grind
theorem realMeet_assoc (a b c : Rat) : realMeet (realMeet a b) c = realMeet a (realMeet b c) := by
  simp only [realMeet]; grind

theorem real_order_compat {a b : Rat} (h : a ≤ b) :
    realJoin a b = b ∧ realChoose a b = b ∧ realMeet a b = a :=
  ⟨if_pos h, if_pos h, if_pos h⟩
theorem real_order_compat' {a b : Rat} (h : b ≤ a) :
    realJoin a b = a ∧ realChoose a b = a ∧ realMeet a b = b := by
  simp only [realChoose, realJoin, realMeet]; grind

theorem boolLaws : SROps.Laws boolOps := by constructor <;> decide

/-! ## expected utility -/

theorem EU.ext' {a b : EU} (h1 : a.p = b.p) (h2 : a.u = b.u) : a = b := by
  cases a; cases b; cases h1; cases h2; rfl

/-! `ExpectedUtility` and `Complex` multiply pairs alike in the second component,
`(x, y)(x', y') = (…, x y' + y x')`: its share of each law is a fact about `Rat` -/

theorem cross_comm (x y x' y' : Rat) : x * y' + y * x' = x' * y + y' * x := by grind
theorem cross_one (x y : Rat) : x * 0 + y * 1 = y := by grind
theorem cross_zero (x y : Rat) : x * 0 + y * 0 = 0 := by grind
theorem cross_distrib (x y x' y' x'' y'' : Rat) :
    x * (y' + y'') + y * (x' + x'') = x * y' + y * x' + (x * y'' + y * x'') := by grind

theorem euLaws : SROps.Laws euOps where
  add_assoc a b c := EU.ext' (Rat.add_assoc ..) (Rat.add_assoc ..)
  add_comm a b := EU.ext' (Rat.add_comm ..) (Rat.add_comm ..)
  add_zero a := EU.ext' (Rat.add_zero _) (Rat.add_zero _)
  mul_assoc a b c := EU.ext' (Rat.mul_assoc ..) (by simp only [euOps, euMul]; grind)
  mul_comm a b := EU.ext' (Rat.mul_comm ..) (cross_comm ..)
  mul_one a := EU.ext' (Rat.mul_one _) (cross_one ..)
  mul_zero a := EU.ext' (Rat.mul_zero _) (cross_zero ..)
  left_distrib a b c := EU.ext' (Rat.mul_add ..) (cross_distrib ..)

theorem euPartialCmp_lt {a b : EU} : euPartialCmp a b = some .lt ↔ a.p < b.p ∧ a.u < b.u := by
  simp only [euPartialCmp]; grind
theorem euPartialCmp_gt {a b : EU} : euPartialCmp a b = some .gt ↔ b.p < a.p ∧ b.u < a.u := by
  simp only [euPartialCmp]; grind
theorem euPartialCmp_eq {a b : EU} : euPartialCmp a b = some .eq ↔ a = b := by
  constructor
  · intro h; apply EU.ext' <;> (simp only [euPartialCmp] at h; grind)
  · rintro rfl; simp only [euPartialCmp]; grind

theorem eu_order_compat_le {a b : EU} (hp : a.p ≤ b.p) (hu : a.u ≤ b.u) :
    euJoin a b = b ∧ euChoose a b = b ∧ euMeet a b = a :=
  ⟨EU.ext' (real_order_compat hp).1 (real_order_compat hu).1, if_neg (Rat.not_lt.2 hu),
   EU.ext' (real_order_compat hp).2.2 (real_order_compat hu).2.2⟩

/-! ## complex -/

theorem Cx.ext' {a b : Cx} (h1 : a.re = b.re) (h2 : a.im = b.im) : a = b := by
  cases a; cases b; cases h1; cases h2; rfl

theorem cxLaws : SROps.Laws cxOps where
  add_assoc a b c := Cx.ext' (Rat.add_assoc ..) (Rat.add_assoc ..)
  add_comm a b := Cx.ext' (Rat.add_comm ..) (Rat.add_comm ..)
  add_zero a := Cx.ext' (Rat.add_zero _) (Rat.add_zero _)
  mul_assoc a b c := by apply Cx.ext' <;> simp only [cxOps, cxMul] <;> grind
  mul_comm a b := Cx.ext' (by simp only [cxOps, cxMul]; grind) (cross_comm ..)
  mul_one a := Cx.ext' (by simp only [cxOps, cxMul, cxOne]; grind) (cross_one ..)
  mul_zero a := Cx.ext' (by simp only [cxOps, cxMul, cxZero]; grind) (cross_zero ..)
  left_distrib a b c := Cx.ext' (by simp only [cxOps, cxMul, cxAdd]; grind) (cross_distrib ..)

variable {α : Type}

/-! ## truncated polynomials -/

/-- representation invariant of `Polynomial<C>`: the array has `maxCoeffs` entries, `len` is within
the array, and every entry at or beyond `len` is zero -/
def PolyWF (S : SROps α) (M : Nat) (p : Poly α) : Prop :=
  p.coeffs.length = M ∧ p.len ≤ M ∧ ∀ i, p.len ≤ i → p.coef S i = S.zero

theorem getD_set (l : List α) (i k : Nat) (x d : α) :
    (l.set i x).getD k d = if k = i ∧ i < l.length then x else l.getD k d := by
  simp only [List.getD_eq_getElem?_getD, List.getElem?_set]
  grind

theorem getD_replicate (n k : Nat) (d : α) : (List.replicate n d).getD k d = d := by
  simp only [List.getD_eq_getElem?_getD, List.getElem?_replicate]
  grind

theorem getD_of_le (l : List α) (k : Nat) (d : α) (h : l.length ≤ k) : l.getD k d = d := by
  simp [List.getD_eq_getElem?_getD, List.getElem?_eq_none h]

theorem list_ext_getD (d : α) {l₁ l₂ : List α} (hl : l₁.length = l₂.length)
    (h : ∀ k, k < l₁.length → l₁.getD k d = l₂.getD k d) : l₁ = l₂ := by
  apply List.ext_getElem hl
  intro i h1 h2
  have := h i h1
  simpa [List.getD_eq_getElem?_getD, List.getElem?_eq_getElem h1, List.getElem?_eq_getElem h2]
    using this

theorem ite_iff {c d : Prop} [Decidable c] [Decidable d] (h : c ↔ d) (x y : α) :
    (if c then x else y) = if d then x else y := by
  by_cases hd : d
  · rw [if_pos hd, if_pos (h.2 hd)]
  · rw [if_neg hd, if_neg (mt h.1 hd)]

theorem PolyWF.ext {S : SROps α} {M : Nat} {p q : Poly α} (hp : PolyWF S M p) (hq : PolyWF S M q)
    (hlen : p.len = q.len) (h : ∀ k, k < M → p.coef S k = q.coef S k) : p = q := by
  cases p; cases q
  simp only [Poly.mk.injEq]
  exact ⟨list_ext_getD S.zero (hp.1.trans hq.1.symm) (fun k hk => h k (Nat.lt_of_lt_of_eq hk hp.1)),
    hlen⟩

/-! ### the addition loop -/

theorem foldl_set_range (f : Nat → α) (d : α) (l : List α) (n : Nat) :
    ((List.range n).foldl (fun acc i => acc.set i (f i)) l).length = l.length ∧
    ∀ k, ((List.range n).foldl (fun acc i => acc.set i (f i)) l).getD k d =
      if k < n ∧ k < l.length then f k else l.getD k d := by
  induction n with
  | zero => exact ⟨rfl, fun k => (if_neg (fun h => Nat.not_lt_zero k h.1)).symm⟩
  | succ n ih =>
    rw [List.range_succ, List.foldl_append]
    simp only [List.foldl_cons, List.foldl_nil, List.length_set]
    refine ⟨ih.1, fun k => ?_⟩
    rw [getD_set, ih.2 k, ih.1]
    by_cases hk : k = n
    · subst hk
      by_cases hl : k < l.length
      · rw [if_pos ⟨rfl, hl⟩, if_pos ⟨Nat.lt_succ_self k, hl⟩]
      · rw [if_neg (fun h => hl h.2), if_neg (fun h => hl h.2), if_neg (fun h => hl h.2)]
    · rw [if_neg (fun h => hk h.1)]
      exact ite_iff (and_congr_left' ⟨Nat.lt_succ_of_lt, fun h => by omega⟩) _ _

theorem polyAdd_length (S : SROps α) (M : Nat) (p q : Poly α) :
    (polyAdd S M p q).coeffs.length = M := by
  simp [polyAdd, (foldl_set_range _ S.zero _ _).1, polyZeros]

theorem polyAdd_len (S : SROps α) (M : Nat) (p q : Poly α) :
    (polyAdd S M p q).len = min (max p.len q.len) M := rfl

theorem polyAdd_coef (S : SROps α) (M : Nat) (p q : Poly α) (k : Nat) :
    (polyAdd S M p q).coef S k =
      if k < min (max p.len q.len) M then S.add (p.coef S k) (q.coef S k) else S.zero := by
  simp only [polyAdd, Poly.coef]
  rw [(foldl_set_range _ S.zero _ _).2 k]
  simp only [polyZeros, List.length_replicate, getD_replicate]
  grind

theorem polyZero_coef (S : SROps α) (M k : Nat) : (polyZero S M).coef S k = S.zero := by
  simp only [polyZero, Poly.coef, polyZeros, getD_replicate]

theorem polyOne_coef (S : SROps α) (M k : Nat) (hM : 0 < M) :
    (polyOne S M).coef S k = if k = 0 then S.one else S.zero := by
  simp only [polyOne, Poly.coef, polyZeros, getD_set, getD_replicate, List.length_replicate]
  grind

theorem polyZero_wf (S : SROps α) (M : Nat) : PolyWF S M (polyZero S M) :=
  ⟨by simp [polyZero, polyZeros], Nat.zero_le _, fun i _ => polyZero_coef S M i⟩

theorem polyOne_wf (S : SROps α) (M : Nat) (hM : 0 < M) : PolyWF S M (polyOne S M) :=
  ⟨by simp [polyOne, polyZeros], hM, fun i hi => by
    rw [polyOne_coef S M i hM]; have : (polyOne S M).len = 1 := rfl; grind⟩

theorem polyAdd_wf (S : SROps α) (M : Nat) (p q : Poly α) : PolyWF S M (polyAdd S M p q) :=
  ⟨polyAdd_length S M p q, by rw [polyAdd_len]; omega, fun i hi => by
    rw [polyAdd_coef]; rw [polyAdd_len] at hi; grind⟩

/-! ### the multiplication loops -/

/-- the inner `for j in 0..n` loop at row `i`, the products `g j = p_i * q_j` abstract -/
def innerLoop (S : SROps α) (M i : Nat) (g : Nat → α) (n : Nat) (acc : List α) : List α :=
  (List.range n).foldl
    (fun acc j =>
      if i + j < M then acc.set (i + j) (S.add (acc.getD (i + j) S.zero) (g j)) else acc) acc

theorem polyMulInner_eq (S : SROps α) (M : Nat) (p q : Poly α) (i : Nat) (acc : List α) :
    polyMulInner S M p q i acc =
      innerLoop S M i (fun j => S.mul (p.coef S i) (q.coef S j)) q.len acc := rfl

/-- row `i` adds `g (k - i)` to entry `k` when `k - i` is one of the `n` columns and `k` is inside
the array -/
theorem innerLoop_spec (S : SROps α) (M i : Nat) (g : Nat → α) (n : Nat) (acc : List α)
    (hacc : acc.length = M) :
    (innerLoop S M i g n acc).length = M ∧ ∀ k, (innerLoop S M i g n acc).getD k S.zero =
      if i ≤ k ∧ k - i < n ∧ k < M then S.add (acc.getD k S.zero) (g (k - i))
      else acc.getD k S.zero := by
  induction n with
  | zero => exact ⟨hacc, fun k => (if_neg (fun h => Nat.not_lt_zero _ h.2.1)).symm⟩
  | succ n ih =>
    obtain ⟨h1, h2⟩ := ih
    have step : innerLoop S M i g (n + 1) acc =
        if i + n < M then
          (innerLoop S M i g n acc).set (i + n)
            (S.add ((innerLoop S M i g n acc).getD (i + n) S.zero) (g n))
        else innerLoop S M i g n acc := by
      simp only [innerLoop, List.range_succ, List.foldl_append, List.foldl_cons, List.foldl_nil]
    rw [step]
    generalize innerLoop S M i g n acc = L at h1 h2
    by_cases hlt : i + n < M
    · rw [if_pos hlt]
      refine ⟨by rw [List.length_set]; exact h1, fun k => ?_⟩
      rw [getD_set, h1, h2 k, h2 (i + n)]
      by_cases hk : k = i + n
      · subst hk
        rw [Nat.add_sub_cancel_left, if_pos ⟨rfl, hlt⟩, if_neg (fun h => Nat.lt_irrefl n h.2.1),
          if_pos ⟨Nat.le_add_right i n, Nat.lt_succ_self n, hlt⟩]
      · rw [if_neg (fun h => hk h.1)]
        exact ite_iff (and_congr_right fun hik => and_congr_left' ⟨Nat.lt_succ_of_lt, fun h =>
          Nat.lt_of_le_of_ne (Nat.le_of_lt_succ h) fun e =>
            hk ((Nat.sub_eq_iff_eq_add' hik).1 e)⟩) _ _
    · rw [if_neg hlt]
      -- no column beyond `n` lands inside the array
      exact ⟨h1, fun k => (h2 k).trans (ite_iff (and_congr_right fun hik =>
        ⟨fun h => ⟨Nat.lt_succ_of_lt h.1, h.2⟩, fun h =>
          ⟨Nat.sub_lt_left_of_lt_add hik (Nat.lt_of_lt_of_le h.2 (Nat.not_lt.1 hlt)), h.2⟩⟩) _ _)⟩

/-- what the outer loop has accumulated at index `k` after `n` iterations -/
def partialConv (S : SROps α) (p q : Poly α) : Nat → Nat → α
  | 0, _ => S.zero
  | n + 1, k =>
    if n ≤ k ∧ k - n < q.len then
      S.add (partialConv S p q n k) (S.mul (p.coef S n) (q.coef S (k - n)))
    else partialConv S p q n k

theorem polyMulOuter_spec (S : SROps α) (M : Nat) (p q : Poly α) (n : Nat) :
    ((List.range n).foldl (fun acc i => polyMulInner S M p q i acc) (polyZeros S M)).length = M ∧
    ∀ k, k < M →
      ((List.range n).foldl (fun acc i => polyMulInner S M p q i acc) (polyZeros S M)).getD k S.zero
        = partialConv S p q n k := by
  induction n with
  | zero =>
    exact ⟨List.length_replicate, fun k _ => getD_replicate M k S.zero⟩
  | succ n ih =>
    rw [List.range_succ, List.foldl_append]
    simp only [List.foldl_cons, List.foldl_nil]
    obtain ⟨h1, h2⟩ := ih
    rw [polyMulInner_eq]
    have := innerLoop_spec S M n (fun j => S.mul (p.coef S n) (q.coef S j)) q.len _ h1
    refine ⟨this.1, fun k hk => ?_⟩
    rw [this.2 k, h2 k hk]
    exact ite_iff ⟨fun h => ⟨h.1, h.2.1⟩, fun h => ⟨h.1, h.2, hk⟩⟩ _ _

theorem polyMul_length (S : SROps α) (M : Nat) (p q : Poly α) :
    (polyMul S M p q).coeffs.length = M := by
  by_cases h : p.len = 0 ∨ q.len = 0
  · rw [polyMul, if_pos h]; exact List.length_replicate
  · rw [polyMul, if_neg h]; exact (polyMulOuter_spec S M p q p.len).1

/-- `len` of a product as a function of the operands' `len`s -/
def mulLen (M a b : Nat) : Nat := if a = 0 ∨ b = 0 then 0 else min (a + b - 1) M

theorem polyMul_len (S : SROps α) (M : Nat) (p q : Poly α) :
    (polyMul S M p q).len = mulLen M p.len q.len := by
  unfold polyMul mulLen; split <;> rfl

theorem mulLen_zero_left (M b : Nat) : mulLen M 0 b = 0 := if_pos (Or.inl rfl)
theorem mulLen_zero_right (M a : Nat) : mulLen M a 0 = 0 := if_pos (Or.inr rfl)
theorem mulLen_succ (M a b : Nat) : mulLen M (a + 1) (b + 1) = min (a + b + 1) M :=
  (if_neg (by omega)).trans (by rw [← Nat.add_assoc, Nat.add_sub_cancel, Nat.add_right_comm])

theorem mulLen_le (M a b : Nat) : mulLen M a b ≤ M := by
  unfold mulLen; split
  · exact Nat.zero_le M
  · exact Nat.min_le_right _ _

theorem mulLen_comm (M a b : Nat) : mulLen M a b = mulLen M b a := by
  unfold mulLen
  by_cases h : a = 0 ∨ b = 0
  · rw [if_pos h, if_pos h.symm]
  · rw [if_neg h, if_neg (fun h' => h h'.symm), Nat.add_comm]

theorem mulLen_one_right {M a : Nat} (h : a ≤ M) : mulLen M a 1 = a := by
  cases a with
  | zero => exact mulLen_zero_left M 1
  | succ a => exact (mulLen_succ M a 0).trans (Nat.min_eq_left h)

theorem mulLen_mono (M a : Nat) {b c : Nat} (h : b ≤ c) : mulLen M a b ≤ mulLen M a c := by
  cases a with
  | zero => rw [mulLen_zero_left]; exact Nat.zero_le _
  | succ a =>
    cases b with
    | zero => rw [mulLen_zero_right]; exact Nat.zero_le _
    | succ b =>
      cases c with
      | zero => exact absurd h (Nat.not_succ_le_zero b)
      | succ c =>
        rw [mulLen_succ, mulLen_succ]
        exact Nat.le_min.2 ⟨Nat.le_trans (Nat.min_le_left _ _)
          (Nat.succ_le_succ (Nat.add_le_add_left (Nat.le_of_succ_le_succ h) a)), Nat.min_le_right _ _⟩

/-- a monotone function commutes with `max` -/
theorem mulLen_max (M a b c : Nat) : mulLen M a (max b c) = max (mulLen M a b) (mulLen M a c) := by
  rcases Nat.le_total b c with h | h
  · rw [Nat.max_eq_right h, Nat.max_eq_right (mulLen_mono M a h)]
  · rw [Nat.max_eq_left h, Nat.max_eq_left (mulLen_mono M a h)]

theorem min_add_min (x y M : Nat) : min (min x M + y) M = min (x + y) M := by
  rcases Nat.le_total x M with h | h
  · rw [Nat.min_eq_left h]
  · rw [Nat.min_eq_right h, Nat.min_eq_right (Nat.le_add_right M y),
      Nat.min_eq_right (Nat.le_trans h (Nat.le_add_right x y))]

/-- with all three positive and `M = M' + 1` both sides are `min (a + b + c) M' + 1`
in terms of the predecessors -/
theorem mulLen_assoc (M a b c : Nat) :
    mulLen M (mulLen M a b) c = mulLen M a (mulLen M b c) := by
  cases M with
  | zero => exact (Nat.le_zero.1 (mulLen_le 0 _ _)).trans (Nat.le_zero.1 (mulLen_le 0 _ _)).symm
  | succ M =>
  cases a with
  | zero => rw [mulLen_zero_left, mulLen_zero_left, mulLen_zero_left]
  | succ a =>
  cases b with
  | zero => rw [mulLen_zero_left, mulLen_zero_right, mulLen_zero_left]
  | succ b =>
  cases c with
  | zero => rw [mulLen_zero_right, mulLen_zero_right, mulLen_zero_right]
  | succ c =>
  rw [mulLen_succ, mulLen_succ, Nat.add_min_add_right, Nat.add_min_add_right, mulLen_succ,
    mulLen_succ, Nat.add_min_add_right, Nat.add_min_add_right, min_add_min, Nat.add_comm a,
    Nat.add_comm a, min_add_min, Nat.add_right_comm]

theorem partialConv_zero (S : SROps α) (p q : Poly α) (k : Nat) :
    ∀ n, (∀ i, i < n → ¬ (i ≤ k ∧ k - i < q.len)) → partialConv S p q n k = S.zero := by
  intro n
  induction n with
  | zero => intro _; rfl
  | succ n ih =>
    intro h
    simp only [partialConv]
    rw [if_neg (h n (Nat.lt_succ_self n))]
    exact ih (fun i hi => h i (Nat.lt_succ_of_lt hi))

/-- loop-level characterisation (no laws needed): entry `k` of the product -/
theorem polyMul_coef_partial (S : SROps α) (M : Nat) (p q : Poly α) (k : Nat) (hk : k < M) :
    (polyMul S M p q).coef S k = partialConv S p q p.len k := by
  by_cases h : p.len = 0 ∨ q.len = 0
  · rw [polyMul, if_pos h, polyZero_coef]
    -- no row or no column: nothing is ever added
    refine (partialConv_zero S p q k _ fun i hi hik => ?_).symm
    rcases h with h | h
    · rw [h] at hi; exact Nat.not_lt_zero i hi
    · rw [h] at hik; exact Nat.not_lt_zero _ hik.2
  · rw [polyMul, if_neg h]; exact (polyMulOuter_spec S M p q p.len).2 k hk

/-- row `i < a` and column `k - i < b` land at an index below the `len` of the product -/
theorem lt_mulLen {M a b i k : Nat} (hi : i < a) (hik : i ≤ k) (hkb : k - i < b) (hkM : k < M) :
    k < mulLen M a b := by
  cases a with
  | zero => exact absurd hi (Nat.not_lt_zero i)
  | succ a =>
  cases b with
  | zero => exact absurd hkb (Nat.not_lt_zero _)
  | succ b =>
    rw [mulLen_succ]
    exact Nat.lt_min.2 ⟨by omega, hkM⟩

theorem polyMul_wf (S : SROps α) (M : Nat) (p q : Poly α) : PolyWF S M (polyMul S M p q) := by
  refine ⟨polyMul_length S M p q, by rw [polyMul_len]; exact mulLen_le _ _ _, fun k hk => ?_⟩
  rw [polyMul_len] at hk
  by_cases hkM : k < M
  · rw [polyMul_coef_partial S M p q k hkM]
    exact partialConv_zero S p q k _ fun i hi h => Nat.not_lt.2 hk (lt_mulLen hi h.1 h.2 hkM)
  · exact getD_of_le _ _ _ (by rw [polyMul_length]; exact Nat.not_lt.1 hkM)
/-! ### finite sums and convolution in a commutative semiring given as an `SROps` record -/

/-- `f 0 + f 1 + … + f (n-1)`, associated to the left as the loops do -/
def sumTo (S : SROps α) : Nat → (Nat → α) → α
  | 0, _ => S.zero
  | n + 1, f => S.add (sumTo S n f) (f n)

/-- coefficient `k` of the product of two power series: `Σ_{i+j=k} f i * g j` -/
def conv (S : SROps α) (f g : Nat → α) (k : Nat) : α :=
  sumTo S (k + 1) (fun i => S.mul (f i) (g (k - i)))

section
variable {S : SROps α} (hS : SROps.Laws S)
include hS

theorem sr_zero_mul (a : α) : S.mul S.zero a = S.zero := by rw [hS.mul_comm, hS.mul_zero]
theorem sr_one_mul (a : α) : S.mul S.one a = a := Bdd.sr_one_mul hS a
theorem sr_right_distrib (a b c : α) :
    S.mul (S.add a b) c = S.add (S.mul a c) (S.mul b c) := Bdd.sr_right_distrib hS a b c

omit hS in
theorem sumTo_congr {n : Nat} {f g : Nat → α} (h : ∀ i, i < n → f i = g i) :
    sumTo S n f = sumTo S n g := by
  induction n with
  | zero => rfl
  | succ n ih =>
    simp only [sumTo]
    rw [ih (fun i hi => h i (Nat.lt_succ_of_lt hi)), h n (Nat.lt_succ_self n)]

theorem sumTo_zero {n : Nat} {f : Nat → α} (h : ∀ i, i < n → f i = S.zero) :
    sumTo S n f = S.zero := by
  induction n with
  | zero => rfl
  | succ n ih =>
    simp only [sumTo]
    rw [ih (fun i hi => h i (Nat.lt_succ_of_lt hi)), h n (Nat.lt_succ_self n), hS.add_zero]

/-- dropping a tail of zero terms -/
theorem sumTo_extend {m n : Nat} {f : Nat → α} (hmn : m ≤ n)
    (h : ∀ i, m ≤ i → i < n → f i = S.zero) : sumTo S n f = sumTo S m f := by
  induction n with
  | zero => obtain rfl := Nat.le_zero.1 hmn; rfl
  | succ n ih =>
    by_cases hm : m = n + 1
    · subst hm; rfl
    · simp only [sumTo]
      rw [h n (by omega) (by omega), hS.add_zero]
      exact ih (by omega) (fun i h1 h2 => h i h1 (by omega))

theorem sumTo_add (n : Nat) (f g : Nat → α) :
    sumTo S n (fun i => S.add (f i) (g i)) = S.add (sumTo S n f) (sumTo S n g) := by
  induction n with
  | zero => simp only [sumTo]; rw [hS.add_zero]
  | succ n ih => simp only [sumTo]; rw [ih, Bdd.sr_add4 hS]

theorem mul_sumTo (a : α) (n : Nat) (f : Nat → α) :
    S.mul a (sumTo S n f) = sumTo S n (fun i => S.mul a (f i)) := by
  induction n with
  | zero => simp only [sumTo]; rw [hS.mul_zero]
  | succ n ih => simp only [sumTo]; rw [hS.left_distrib, ih]

theorem sumTo_mul (a : α) (n : Nat) (f : Nat → α) :
    S.mul (sumTo S n f) a = sumTo S n (fun i => S.mul (f i) a) := by
  rw [hS.mul_comm, mul_sumTo hS]
  exact sumTo_congr (fun i _ => hS.mul_comm _ _)

theorem sumTo_succ_first (n : Nat) (f : Nat → α) :
    sumTo S (n + 1) f = S.add (f 0) (sumTo S n (fun i => f (i + 1))) := by
  induction n with
  | zero => simp only [sumTo]; rw [hS.add_zero, Bdd.sr_zero_add hS]
  | succ n ih =>
    rw [sumTo, ih]; simp only [sumTo]; rw [hS.add_assoc]

theorem sumTo_reverse (n : Nat) (f : Nat → α) :
    sumTo S n f = sumTo S n (fun i => f (n - 1 - i)) := by
  induction n generalizing f with
  | zero => rfl
  | succ n ih =>
    rw [sumTo_succ_first hS n (fun i => f (n + 1 - 1 - i))]
    simp only [sumTo, Nat.add_sub_cancel, Nat.sub_zero]
    rw [hS.add_comm, ih f]
    congr 1
    apply sumTo_congr
    intro i hi
    congr 1; omega

/-- interchange of summation over the triangle `j ≤ i < n` -/
theorem sumTo_triangle (n : Nat) (G : Nat → Nat → α) :
    sumTo S n (fun i => sumTo S (i + 1) (fun j => G i j)) =
    sumTo S n (fun j => sumTo S (n - j) (fun m => G (j + m) j)) := by
  induction n with
  | zero => rfl
  | succ n ih =>
    rw [sumTo, ih]
    -- right-hand side: split off `j = n`, and the last term `m = n - j` of every inner sum
    have e1 : sumTo S (n + 1) (fun j => sumTo S (n + 1 - j) (fun m => G (j + m) j)) =
        S.add (sumTo S n (fun j => S.add (sumTo S (n - j) (fun m => G (j + m) j)) (G n j)))
          (G n n) := by
      rw [sumTo]
      congr 1
      · apply sumTo_congr
        intro j hj
        rw [Nat.succ_sub (Nat.le_of_lt hj), sumTo, Nat.add_sub_of_le (Nat.le_of_lt hj)]
      · rw [Nat.add_sub_cancel_left]; simp only [sumTo]; rw [Bdd.sr_zero_add hS]; rfl
    rw [e1, sumTo_add hS, sumTo, hS.add_assoc]

/-! convolution -/

omit hS in
theorem conv_congr {f f' g g' : Nat → α} {k : Nat} (hf : ∀ i, i ≤ k → f i = f' i)
    (hg : ∀ i, i ≤ k → g i = g' i) : conv S f g k = conv S f' g' k := by
  apply sumTo_congr
  intro i hi
  rw [hf i (by omega), hg (k - i) (by omega)]

theorem conv_comm (f g : Nat → α) (k : Nat) : conv S f g k = conv S g f k := by
  unfold conv
  rw [sumTo_reverse hS]
  apply sumTo_congr
  intro i hi
  rw [hS.mul_comm]
  congr 2 <;> omega

theorem conv_add_right (f g h : Nat → α) (k : Nat) :
    conv S f (fun i => S.add (g i) (h i)) k = S.add (conv S f g k) (conv S f h k) := by
  unfold conv
  rw [← sumTo_add hS]
  exact sumTo_congr (fun i _ => hS.left_distrib _ _ _)

theorem conv_zero_left (f g : Nat → α) (k : Nat) (hf : ∀ i, i ≤ k → f i = S.zero) :
    conv S f g k = S.zero := by
  apply sumTo_zero hS
  intro i hi
  rw [hf i (Nat.le_of_lt_succ hi), sr_zero_mul hS]

theorem conv_one_right (f : Nat → α) (k : Nat) :
    conv S f (fun i => if i = 0 then S.one else S.zero) k = f k := by
  unfold conv
  rw [sumTo]
  have hz : sumTo S k (fun i => S.mul (f i) (if k - i = 0 then S.one else S.zero)) = S.zero := by
    apply sumTo_zero hS
    intro i hi
    have : k - i ≠ 0 := by omega
    simp only [this, if_false]; exact hS.mul_zero _
  rw [hz, Bdd.sr_zero_add hS]
  simp [hS.mul_one]

/-- both sides are the sum of `f j * g m * h l` over `j + m + l = k`, once by rows and once by columns
of the triangle `j ≤ i ≤ k` (`sumTo_triangle`) -/
theorem conv_assoc (f g h : Nat → α) (k : Nat) :
    conv S (conv S f g) h k = conv S f (conv S g h) k := by
  have lhs : conv S (conv S f g) h k =
      sumTo S (k + 1) (fun i => sumTo S (i + 1)
        (fun j => S.mul (S.mul (f j) (g (i - j))) (h (k - i)))) := by
    unfold conv
    exact sumTo_congr (fun i _ => sumTo_mul hS _ _ _)
  have rhs : conv S f (conv S g h) k =
      sumTo S (k + 1) (fun j => sumTo S (k + 1 - j)
        (fun m => S.mul (S.mul (f j) (g (j + m - j))) (h (k - (j + m))))) := by
    unfold conv
    apply sumTo_congr
    intro j hj
    rw [mul_sumTo hS]
    have : k - j + 1 = k + 1 - j := by omega
    rw [this]
    apply sumTo_congr
    intro m hm
    have e1 : j + m - j = m := by omega
    have e2 : k - (j + m) = k - j - m := by omega
    rw [← hS.mul_assoc, e1, e2]
  rw [lhs, rhs]
  exact sumTo_triangle hS (k + 1)
    (fun i j => S.mul (S.mul (f j) (g (i - j))) (h (k - i)))
end

/-! ### coefficient-wise characterisation of the operations on well-formed polynomials -/

section
variable {S : SROps α} (hS : SROps.Laws S) {M : Nat}
include hS

theorem partialConv_eq_sum (p q : Poly α) (hq : ∀ i, q.len ≤ i → q.coef S i = S.zero) (k : Nat) :
    ∀ n, partialConv S p q n k =
      sumTo S (min n (k + 1)) (fun i => S.mul (p.coef S i) (q.coef S (k - i))) := by
  intro n
  induction n with
  | zero => rw [Nat.zero_min]; rfl
  | succ n ih =>
    rw [partialConv, ih]
    by_cases hn : n ≤ k
    · rw [Nat.min_eq_left (Nat.succ_le_succ hn), Nat.min_eq_left (Nat.le_succ_of_le hn), sumTo]
      split
      · rfl
      · rename_i h
        rw [hq (k - n) (Nat.not_lt.1 fun h' => h ⟨hn, h'⟩), hS.mul_zero, hS.add_zero]
    · have hk : k + 1 ≤ n := Nat.not_le.1 hn
      rw [if_neg (fun h => hn h.1), Nat.min_eq_right hk, Nat.min_eq_right (Nat.le_succ_of_le hk)]

/-- **Truncated product = product modulo `X^maxCoeffs`**: below `maxCoeffs` the `k`-th entry of
`p * q` is `Σ_{i+j=k} p_i q_j`. -/
theorem polyMul_coef {p q : Poly α} (hp : PolyWF S M p) (hq : PolyWF S M q) (k : Nat) (hk : k < M) :
    (polyMul S M p q).coef S k = conv S (p.coef S) (q.coef S) k := by
  rw [polyMul_coef_partial S M p q k hk, partialConv_eq_sum hS p q hq.2.2 k]
  unfold conv
  symm
  apply sumTo_extend hS (by omega)
  intro i h1 h2
  rw [hp.2.2 i (by omega), sr_zero_mul hS]

omit hS in
theorem polyAdd_len_wf {p q : Poly α} (hp : PolyWF S M p) (hq : PolyWF S M q) :
    (polyAdd S M p q).len = max p.len q.len :=
  Nat.min_eq_left (Nat.max_le.2 ⟨hp.2.1, hq.2.1⟩)

theorem polyAdd_coef_wf {p q : Poly α} (hp : PolyWF S M p) (hq : PolyWF S M q) (k : Nat) :
    (polyAdd S M p q).coef S k = S.add (p.coef S k) (q.coef S k) := by
  rw [polyAdd_coef]
  split
  · rfl
  · rename_i h
    rw [← polyAdd_len, polyAdd_len_wf hp hq] at h
    obtain ⟨h1, h2⟩ := Nat.max_le.1 (Nat.not_lt.1 h)
    rw [hp.2.2 k h1, hq.2.2 k h2, hS.add_zero]

/-! ### the semiring laws, for the derived (structural) equality, on well-formed polynomials -/

theorem polyAdd_assoc {p q r : Poly α} (hp : PolyWF S M p) (hq : PolyWF S M q)
    (hr : PolyWF S M r) :
    polyAdd S M (polyAdd S M p q) r = polyAdd S M p (polyAdd S M q r) := by
  have hpq := polyAdd_wf S M p q
  have hqr := polyAdd_wf S M q r
  refine (polyAdd_wf S M _ r).ext (polyAdd_wf S M p _) ?_ (fun k _ => ?_)
  · rw [polyAdd_len_wf hpq hr, polyAdd_len_wf hp hq, polyAdd_len_wf hp hqr, polyAdd_len_wf hq hr,
      Nat.max_assoc]
  · rw [polyAdd_coef_wf hS hpq hr, polyAdd_coef_wf hS hp hq, polyAdd_coef_wf hS hp hqr,
      polyAdd_coef_wf hS hq hr, hS.add_assoc]

theorem polyAdd_comm {p q : Poly α} (hp : PolyWF S M p) (hq : PolyWF S M q) :
    polyAdd S M p q = polyAdd S M q p := by
  refine (polyAdd_wf S M p q).ext (polyAdd_wf S M q p) ?_ (fun k _ => ?_)
  · rw [polyAdd_len_wf hp hq, polyAdd_len_wf hq hp, Nat.max_comm]
  · rw [polyAdd_coef_wf hS hp hq, polyAdd_coef_wf hS hq hp, hS.add_comm]

theorem polyAdd_zero {p : Poly α} (hp : PolyWF S M p) : polyAdd S M p (polyZero S M) = p := by
  refine (polyAdd_wf S M p _).ext hp ?_ (fun k _ => ?_)
  · exact (polyAdd_len_wf hp (polyZero_wf S M)).trans (Nat.max_eq_left (Nat.zero_le _))
  · rw [polyAdd_coef_wf hS hp (polyZero_wf S M), polyZero_coef, hS.add_zero]

theorem polyMul_comm {p q : Poly α} (hp : PolyWF S M p) (hq : PolyWF S M q) :
    polyMul S M p q = polyMul S M q p := by
  refine (polyMul_wf S M p q).ext (polyMul_wf S M q p) ?_ (fun k hk => ?_)
  · rw [polyMul_len, polyMul_len, mulLen_comm]
  · rw [polyMul_coef hS hp hq k hk, polyMul_coef hS hq hp k hk, conv_comm hS]

theorem polyMul_one (hM : 0 < M) {p : Poly α} (hp : PolyWF S M p) :
    polyMul S M p (polyOne S M) = p := by
  refine (polyMul_wf S M p _).ext hp ?_ (fun k hk => ?_)
  · exact (polyMul_len S M p _).trans (mulLen_one_right hp.2.1)
  · rw [polyMul_coef hS hp (polyOne_wf S M hM) k hk,
      conv_congr (fun _ _ => rfl) (fun i _ => polyOne_coef S M i hM)]
    exact conv_one_right hS _ k

omit hS in
theorem polyMul_zero (p : Poly α) : polyMul S M p (polyZero S M) = polyZero S M :=
  if_pos (Or.inr rfl)

omit hS in
theorem polyZero_mul (p : Poly α) : polyMul S M (polyZero S M) p = polyZero S M :=
  if_pos (Or.inl rfl)

theorem polyMul_assoc {p q r : Poly α} (hp : PolyWF S M p) (hq : PolyWF S M q)
    (hr : PolyWF S M r) :
    polyMul S M (polyMul S M p q) r = polyMul S M p (polyMul S M q r) := by
  have hpq := polyMul_wf S M p q
  have hqr := polyMul_wf S M q r
  refine (polyMul_wf S M _ r).ext (polyMul_wf S M p _) ?_ (fun k hk => ?_)
  · simp only [polyMul_len]
    exact mulLen_assoc _ _ _ _
  · rw [polyMul_coef hS hpq hr k hk, polyMul_coef hS hp hqr k hk,
      conv_congr (fun i hi => polyMul_coef hS hp hq i (by omega)) (fun _ _ => rfl),
      conv_congr (fun _ _ => rfl) (fun i hi => polyMul_coef hS hq hr i (by omega))]
    exact conv_assoc hS _ _ _ k

theorem polyMul_add {p q r : Poly α} (hp : PolyWF S M p) (hq : PolyWF S M q)
    (hr : PolyWF S M r) :
    polyMul S M p (polyAdd S M q r) =
      polyAdd S M (polyMul S M p q) (polyMul S M p r) := by
  have hpq := polyMul_wf S M p q
  have hpr := polyMul_wf S M p r
  refine (polyMul_wf S M p _).ext (polyAdd_wf S M _ _) ?_ (fun k hk => ?_)
  · rw [polyMul_len, polyAdd_len_wf hq hr, mulLen_max, polyAdd_len_wf hpq hpr, polyMul_len,
      polyMul_len]
  · rw [polyMul_coef hS hp (polyAdd_wf S M q r) k hk, polyAdd_coef_wf hS hpq hpr,
      polyMul_coef hS hp hq k hk, polyMul_coef hS hp hr k hk, ← conv_add_right hS]
    exact conv_congr (fun _ _ => rfl) (fun i _ => polyAdd_coef_wf hS hq hr i)
end

/-! ### the carrier of well-formed polynomials -/

/-- `from_c_parts` (the FFI constructor) produces well-formed polynomials -/
theorem polyOfList_wf (S : SROps α) (M : Nat) (cs : List α) : PolyWF S M (polyOfList S M cs) := by
  have hl : (polyOfList S M cs).coeffs.length = M := by
    simp only [polyOfList, List.length_map, List.length_range]
  refine ⟨hl, Nat.min_le_right _ _, fun i hi => ?_⟩
  by_cases h : i < M
  · have hc : cs.length ≤ i := by
      rcases Nat.le_total cs.length M with hcm | hcm
      · exact Nat.min_eq_left hcm ▸ hi
      · exact absurd (Nat.min_eq_right hcm ▸ hi) (Nat.not_le.2 h)
    simp only [polyOfList, Poly.coef, List.getD_eq_getElem?_getD, List.getElem?_map,
      List.getElem?_range h, Option.map_some, Option.getD_some, List.getElem?_eq_none hc,
      Option.getD_none]
  · exact getD_of_le _ _ _ (by rw [hl]; exact Nat.not_lt.1 h)

/-- every value of type `Polynomial<C>` the library can build -/
def WFPoly (S : SROps α) (M : Nat) : Type := { p : Poly α // PolyWF S M p }

/-- the shipped operations restricted to well-formed polynomials (they preserve the invariant
unconditionally: `polyAdd_wf`, `polyMul_wf`) -/
def polyOpsWF (S : SROps α) (M : Nat) (hM : 0 < M) : SROps (WFPoly S M) :=
  { zero := ⟨polyZero S M, polyZero_wf S M⟩
    one := ⟨polyOne S M, polyOne_wf S M hM⟩
    add := fun p q => ⟨polyAdd S M p.1 q.1, polyAdd_wf S M p.1 q.1⟩
    mul := fun p q => ⟨polyMul S M p.1 q.1, polyMul_wf S M p.1 q.1⟩ }

theorem polyLaws {S : SROps α} (hS : SROps.Laws S) (M : Nat) (hM : 0 < M) :
    SROps.Laws (polyOpsWF S M hM) where
  add_assoc a b c := Subtype.ext (polyAdd_assoc hS a.2 b.2 c.2)
  add_comm a b := Subtype.ext (polyAdd_comm hS a.2 b.2)
  add_zero a := Subtype.ext (polyAdd_zero hS a.2)
  mul_assoc a b c := Subtype.ext (polyMul_assoc hS a.2 b.2 c.2)
  mul_comm a b := Subtype.ext (polyMul_comm hS a.2 b.2)
  mul_one a := Subtype.ext (polyMul_one hS hM a.2)
  mul_zero a := Subtype.ext (polyMul_zero a.1)
  left_distrib a b c := Subtype.ext (polyMul_add hS a.2 b.2 c.2)

/-- the invariant is needed: with `len` smaller than the data, `p + 0 ≠ p` (such a value can only
be made through the public fields, never by the library's own constructors) -/
theorem polyAdd_zero_needs_wf :
    polyAdd boolOps 2 ⟨[true, false], 0⟩ (polyZero boolOps 2) ≠ ⟨[true, false], 0⟩ := by decide

/-- observation (not a law): the representation of the zero polynomial is not unique — the
truncated product `X * X = 0` in `Bool[X]/(X^2)` has all-zero coefficients but `len = 2`, and the
derived `PartialEq` distinguishes it from `zero()` -/
theorem polyMul_truncated_zero_ne_zero :
    polyMul boolOps 2 ⟨[false, true], 2⟩ ⟨[false, true], 2⟩ = ⟨[false, false], 2⟩ ∧
    polyMul boolOps 2 ⟨[false, true], 2⟩ ⟨[false, true], 2⟩ ≠ polyZero boolOps 2 := by decide
end Sem
