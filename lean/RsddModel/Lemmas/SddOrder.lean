import RsddModel.Model.Sdd
/-!
# The derived `Ord` of `SddPtr` (`Ptr.cmp`) is a strict total order on trees

`cmp a b = .eq ↔ a = b`, `cmp b a = (cmp a b).swap`, transitivity; hence the stable insertion
sort by prime returns a strictly increasing list whenever the primes are pairwise different, and
two strictly increasing lists with the same members are equal.
-/
namespace Sdd

/-- "transitivity triple": `x = cmp a b`, `y = cmp b c`, `z = cmp a c` -/
def OT (x y z : Ordering) : Prop :=
  (x = .lt → y = .lt → z = .lt) ∧ (x = .eq → z = y) ∧ (y = .eq → z = x)

/-- lexicographic combination; the second triple only matters where both first comparisons say
"equal" -/
theorem OT_then {x y z x' y' z' : Ordering} (h : OT x y z)
    (h' : x = .eq → y = .eq → OT x' y' z') : OT (x.then x') (y.then y') (z.then z') := by
  obtain ⟨h1, h2, h3⟩ := h
  cases x <;> cases y
  case eq.eq => cases h2 rfl; exact h' rfl rfl
  all_goals
    clear h'
    simp_all [OT, Ordering.then]

theorem then_eq_eq {a b : Ordering} : a.then b = .eq ↔ a = .eq ∧ b = .eq := by
  cases a <;> cases b <;> simp [Ordering.then]

theorem OT_nat (a b c : Nat) : OT (compare a b) (compare b c) (compare a c) := by
  refine ⟨fun h1 h2 => ?_, fun h1 => ?_, fun h1 => ?_⟩
  · rw [Nat.compare_eq_lt] at *; omega
  · rw [Nat.compare_eq_eq] at h1; subst h1; rfl
  · rw [Nat.compare_eq_eq] at h1; subst h1; rfl

theorem OT_bool (a b c : Bool) : OT (compare a b) (compare b c) (compare a c) := by
  cases a <;> cases b <;> cases c <;> simp [OT] <;> decide

theorem bool_compare_eq {a b : Bool} : compare a b = .eq ↔ a = b := by
  cases a <;> cases b <;> decide
theorem bool_compare_swap (a b : Bool) : compare b a = (compare a b).swap := by
  cases a <;> cases b <;> rfl

/-! ## `cmp a b = eq ↔ a = b` -/

mutual
theorem Ptr.cmp_refl : ∀ a : Ptr, Ptr.cmp a a = .eq
  | .tru => by simp [Ptr.cmp]
  | .fls => by simp [Ptr.cmp]
  | .lit v p => by simp [Ptr.cmp]
  | .bdd c l i lo hi => by simp [Ptr.cmp, Ptr.cmp_refl lo, Ptr.cmp_refl hi]
  | .dec c i es => by simp [Ptr.cmp, cmpElems_refl es]
theorem cmpElems_refl : ∀ l : List (Ptr × Ptr), cmpElems l l = .eq
  | [] => by simp [cmpElems]
  | (p, s) :: r => by simp [cmpElems, Ptr.cmp_refl p, Ptr.cmp_refl s, cmpElems_refl r]
end

theorem Ptr.cmp_of_rank_ne {a b : Ptr} (h : a.rank ≠ b.rank) :
    Ptr.cmp a b = compare a.rank b.rank := by
  cases a with
  | tru => cases b <;> simp_all [Ptr.cmp]
  | fls => cases b <;> simp_all [Ptr.cmp]
  | lit v p => cases b <;> simp_all [Ptr.cmp, Ptr.rank]
  | bdd c l i lo hi =>
    cases b with
    | bdd c' l' i' lo' hi' =>
      have : c ≠ c' := by rintro rfl; cases c <;> simp [Ptr.rank] at h
      simp [Ptr.cmp, this]
    | _ => simp [Ptr.cmp]
  | dec c i es =>
    cases b with
    | dec c' i' es' =>
      have : c ≠ c' := by rintro rfl; cases c <;> simp [Ptr.rank] at h
      simp [Ptr.cmp, this]
    | _ => simp [Ptr.cmp]

/-- pointers of equal rank have the same constructor and complement flag -/
inductive SameShape : Ptr → Ptr → Prop
  | tru : SameShape .tru .tru
  | fls : SameShape .fls .fls
  | lit (v p v' p') : SameShape (.lit v p) (.lit v' p')
  | bdd (c l i lo hi l' i' lo' hi') : SameShape (.bdd c l i lo hi) (.bdd c l' i' lo' hi')
  | dec (c i es i' es') : SameShape (.dec c i es) (.dec c i' es')

theorem sameShape_of_rank {a b : Ptr} (h : a.rank = b.rank) : SameShape a b := by
  rcases a with _ | _ | ⟨v, p⟩ | ⟨_ | _, l, i, lo, hi⟩ | ⟨_ | _, i, es⟩ <;>
    rcases b with _ | _ | ⟨v', p'⟩ | ⟨_ | _, l', i', lo', hi'⟩ | ⟨_ | _, i', es'⟩ <;>
    first | constructor | cases h

mutual
theorem Ptr.cmp_eq : ∀ a b : Ptr, Ptr.cmp a b = .eq → a = b
  | a, b, h => by
    by_cases hr : a.rank = b.rank
    · cases sameShape_of_rank hr with
      | tru => rfl
      | fls => rfl
      | lit v p v' p' =>
        simp only [Ptr.cmp, then_eq_eq, Nat.compare_eq_eq, bool_compare_eq] at h
        rw [h.1, h.2]
      | bdd c l i lo hi l' i' lo' hi' =>
        simp only [Ptr.cmp, if_true, then_eq_eq, Nat.compare_eq_eq] at h
        rw [h.1, h.2.1, Ptr.cmp_eq _ _ h.2.2.1, Ptr.cmp_eq _ _ h.2.2.2]
      | dec c i es i' es' =>
        simp only [Ptr.cmp, if_true, then_eq_eq, Nat.compare_eq_eq] at h
        rw [h.1, cmpElems_eq _ _ h.2]
    · rw [Ptr.cmp_of_rank_ne hr, Nat.compare_eq_eq] at h; exact absurd h hr
theorem cmpElems_eq : ∀ a b : List (Ptr × Ptr), cmpElems a b = .eq → a = b
  | [], b, h => by cases b <;> simp_all [cmpElems]
  | (p, s) :: r, b, h => by
    cases b with
    | nil => simp [cmpElems] at h
    | cons x r' =>
      obtain ⟨p', s'⟩ := x
      simp only [cmpElems, then_eq_eq] at h
      rw [Ptr.cmp_eq _ _ h.1, Ptr.cmp_eq _ _ h.2.1, cmpElems_eq _ _ h.2.2]
end

theorem Ptr.cmp_eq_iff {a b : Ptr} : Ptr.cmp a b = .eq ↔ a = b :=
  ⟨Ptr.cmp_eq a b, fun h => h ▸ Ptr.cmp_refl a⟩

/-! ## `cmp b a = (cmp a b).swap` -/

mutual
theorem Ptr.cmp_swap : ∀ a b : Ptr, Ptr.cmp b a = (Ptr.cmp a b).swap
  | a, b => by
    by_cases hr : a.rank = b.rank
    · cases sameShape_of_rank hr with
      | tru => simp [Ptr.cmp]
      | fls => simp [Ptr.cmp]
      | lit v p v' p' =>
        simp only [Ptr.cmp, Ordering.swap_then, Nat.compare_swap, ← bool_compare_swap]
      | bdd c l i lo hi l' i' lo' hi' =>
        simp only [Ptr.cmp, if_true, Ordering.swap_then, Nat.compare_swap,
          ← Ptr.cmp_swap lo lo', ← Ptr.cmp_swap hi hi']
      | dec c i es i' es' =>
        simp only [Ptr.cmp, if_true, Ordering.swap_then, Nat.compare_swap, ← cmpElems_swap es es']
    · rw [Ptr.cmp_of_rank_ne hr, Ptr.cmp_of_rank_ne (fun e => hr e.symm), Nat.compare_swap]
theorem cmpElems_swap : ∀ a b : List (Ptr × Ptr), cmpElems b a = (cmpElems a b).swap
  | [], [] => rfl
  | [], _ :: _ => rfl
  | _ :: _, [] => rfl
  | (p, s) :: r, (p', s') :: r' => by
    simp only [cmpElems, Ordering.swap_then, ← Ptr.cmp_swap p p', ← Ptr.cmp_swap s s',
      ← cmpElems_swap r r']
end

theorem Ptr.cmp_gt_iff {a b : Ptr} : Ptr.cmp a b = .gt ↔ Ptr.cmp b a = .lt := by
  rw [Ptr.cmp_swap a b]; cases Ptr.cmp a b <;> simp

/-! ## transitivity -/

/-- the rank is compared first -/
theorem Ptr.cmp_rank (a b : Ptr) : Ptr.cmp a b = (compare a.rank b.rank).then (Ptr.cmp a b) := by
  by_cases h : a.rank = b.rank
  · rw [h, Nat.compare_eq_eq.2 rfl]; rfl
  · rw [Ptr.cmp_of_rank_ne h]
    cases hc : compare a.rank b.rank
    · rfl
    · exact absurd (Nat.compare_eq_eq.1 hc) h
    · rfl

mutual
theorem Ptr.cmp_OT : ∀ a b c : Ptr, OT (Ptr.cmp a b) (Ptr.cmp b c) (Ptr.cmp a c)
  | a, b, c => by
    rw [Ptr.cmp_rank a b, Ptr.cmp_rank b c, Ptr.cmp_rank a c]
    refine OT_then (OT_nat ..) fun hab hbc => ?_
    rw [Nat.compare_eq_eq] at hab hbc
    cases sameShape_of_rank hab with
    | tru => cases sameShape_of_rank hbc; simp [Ptr.cmp, OT]
    | fls => cases sameShape_of_rank hbc; simp [Ptr.cmp, OT]
    | lit v p v' p' =>
      cases sameShape_of_rank hbc
      simp only [Ptr.cmp]
      exact OT_then (OT_nat ..) fun _ _ => OT_bool ..
    | bdd c0 l i lo hi l' i' lo' hi' =>
      cases sameShape_of_rank hbc with
      | bdd _ _ _ _ _ l2 i2 lo2 hi2 =>
        simp only [Ptr.cmp, if_true]
        exact OT_then (OT_nat ..) fun _ _ => OT_then (OT_nat ..) fun _ _ =>
          OT_then (Ptr.cmp_OT lo lo' lo2) fun _ _ => Ptr.cmp_OT hi hi' hi2
    | dec c0 i es i' es' =>
      cases sameShape_of_rank hbc with
      | dec _ _ _ i2 es2 =>
        simp only [Ptr.cmp, if_true]
        exact OT_then (OT_nat ..) fun _ _ => cmpElems_OT es es' es2
theorem cmpElems_OT : ∀ a b c : List (Ptr × Ptr),
    OT (cmpElems a b) (cmpElems b c) (cmpElems a c)
  | [], [], c => by cases c <;> simp [cmpElems, OT]
  | [], _ :: _, [] => by simp [cmpElems, OT]
  | [], _ :: _, _ :: _ => by simp [cmpElems, OT]
  | _ :: _, [], [] => by simp [cmpElems, OT]
  | _ :: _, [], _ :: _ => by simp [cmpElems, OT]
  | (p, s) :: r, (p', s') :: r', [] => by simp [cmpElems, OT]
  | (p, s) :: r, (p', s') :: r', (p2, s2) :: r2 => by
    simp only [cmpElems]
    exact OT_then (Ptr.cmp_OT p p' p2) fun _ _ =>
      OT_then (Ptr.cmp_OT s s' s2) fun _ _ => cmpElems_OT r r' r2
end

theorem Ptr.cmp_lt_trans {a b c : Ptr} (h1 : Ptr.cmp a b = .lt) (h2 : Ptr.cmp b c = .lt) :
    Ptr.cmp a c = .lt := (Ptr.cmp_OT a b c).1 h1 h2

theorem Ptr.cmp_lt_irrefl (a : Ptr) : Ptr.cmp a a ≠ .lt := by rw [Ptr.cmp_refl]; decide

theorem Ptr.cmp_lt_asymm {a b : Ptr} (h : Ptr.cmp a b = .lt) : Ptr.cmp b a ≠ .lt := by
  rw [Ptr.cmp_swap a b, h]; decide

#print axioms Ptr.cmp_eq_iff
#print axioms Ptr.cmp_swap
#print axioms Ptr.cmp_lt_trans
end Sdd
