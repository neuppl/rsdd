import RsddModel.Model.VTree
import RsddModel.Lemmas.CnfBook
/-!
# Lemmas: dtrees (`DTree.fromCnf`) and the vtree derived from a dtree (`VTree.fromDtree`), C14
-/
namespace VT
open Spec

/-- `x` occurs in the CNF -/
def Occurs (x : Nat) (cs : Spec.Cnf) : Prop := ∃ c ∈ cs, ∃ l ∈ c, l.var = x

/-- strictly ascending -/
def VarSet.Sorted (l : List Nat) : Prop := l.Pairwise (· < ·)

/-! ## VarSet algebra -/

/-- `VarSet` is modelled twice (here on bare lists, in `CnfUtil.VarSet` inside a structure): the same
insertion, so the same lemmas -/
theorem VarSet.insert_eq_insertL (x : Nat) : ∀ s, VarSet.insert x s = CnfUtil.VarSet.insertL x s
  | [] => rfl
  | y :: ys => by rw [VarSet.insert, CnfUtil.VarSet.insertL, VarSet.insert_eq_insertL x ys]

theorem VarSet.union_eq (a b : List Nat) :
    VarSet.union a b = b.foldl (fun acc v => CnfUtil.VarSet.insertL v acc) a := by
  unfold VarSet.union; congr; funext s x; exact VarSet.insert_eq_insertL x s

theorem VarSet.mem_insert {x y : Nat} {s : List Nat} :
    y ∈ VarSet.insert x s ↔ y = x ∨ y ∈ s := by
  rw [VarSet.insert_eq_insertL]; exact CnfUtil.VarSet.mem_insertL

theorem VarSet.sorted_insert {x : Nat} {s : List Nat} (h : VarSet.Sorted s) :
    VarSet.Sorted (VarSet.insert x s) := by
  rw [VarSet.insert_eq_insertL]; exact CnfUtil.VarSet.insertL_sorted x s h

theorem VarSet.insert_of_mem {x : Nat} {s : List Nat} (h : VarSet.Sorted s) (hx : x ∈ s) :
    VarSet.insert x s = s := by
  unfold VarSet.Sorted at *
  induction s with
  | nil => cases hx
  | cons z zs ih =>
    have hz := List.pairwise_cons.1 h
    unfold VarSet.insert
    by_cases h2 : x = z
    · subst h2; simp
    · have hx' : x ∈ zs := by
        rcases List.mem_cons.1 hx with h' | h'
        · exact absurd h' h2
        · exact h'
      have : z < x := hz.1 x hx'
      have h1 : ¬ x < z := by omega
      simp only [h1, h2, if_false, ih hz.2 hx']

theorem VarSet.mem_union {a b : List Nat} {x : Nat} :
    x ∈ VarSet.union a b ↔ x ∈ a ∨ x ∈ b := by
  rw [VarSet.union_eq]; exact CnfUtil.VarSet.foldl_insertL_mem b a

theorem VarSet.sorted_union {a b : List Nat} (h : VarSet.Sorted a) :
    VarSet.Sorted (VarSet.union a b) := by
  rw [VarSet.union_eq]; exact CnfUtil.VarSet.foldl_insertL_sorted b a h

@[simp] theorem VarSet.union_nil (a : List Nat) : VarSet.union a [] = a := rfl

theorem VarSet.mem_inter {a b : List Nat} {x : Nat} :
    x ∈ VarSet.inter a b ↔ x ∈ a ∧ x ∈ b := by
  simp [VarSet.inter, List.mem_filter]

theorem VarSet.mem_minus {a b : List Nat} {x : Nat} :
    x ∈ VarSet.minus a b ↔ x ∈ a ∧ x ∉ b := by
  simp [VarSet.minus, List.mem_filter]

theorem VarSet.sorted_inter {a b : List Nat} (h : VarSet.Sorted a) :
    VarSet.Sorted (VarSet.inter a b) :=
  List.Pairwise.filter _ h

theorem VarSet.sorted_minus {a b : List Nat} (h : VarSet.Sorted a) :
    VarSet.Sorted (VarSet.minus a b) :=
  List.Pairwise.filter _ h

theorem VarSet.Sorted.nodup {l : List Nat} (h : VarSet.Sorted l) : l.Nodup :=
  List.Pairwise.imp (fun {a b} (hab : a < b) => Nat.ne_of_lt hab) h

/-! ## clause variable sets -/

/-- the variable set of a clause, as `init_vars` computes it on a fresh leaf -/
def clauseVars (c : Spec.Clause) : List Nat := c.foldl (fun s l => VarSet.insert l.var s) []

theorem mem_foldl_insert {c : Spec.Clause} {s : List Nat} {x : Nat} :
    x ∈ c.foldl (fun s l => VarSet.insert l.var s) s ↔ x ∈ s ∨ ∃ l ∈ c, l.var = x := by
  induction c generalizing s with
  | nil => simp
  | cons l ls ih =>
    simp only [List.foldl_cons, ih, VarSet.mem_insert, List.mem_cons, or_and_right, exists_or,
      exists_eq_left, @eq_comm _ x]
    exact (or_congr_left or_comm).trans or_assoc

theorem sorted_foldl_insert {c : Spec.Clause} {s : List Nat} (h : VarSet.Sorted s) :
    VarSet.Sorted (c.foldl (fun s l => VarSet.insert l.var s) s) := by
  induction c generalizing s with
  | nil => simpa using h
  | cons l ls ih => simp only [List.foldl_cons]; exact ih (VarSet.sorted_insert h)

theorem foldl_insert_of_subset {c : Spec.Clause} {s : List Nat} (h : VarSet.Sorted s)
    (hs : ∀ l ∈ c, l.var ∈ s) : c.foldl (fun s l => VarSet.insert l.var s) s = s := by
  induction c with
  | nil => rfl
  | cons l ls ih =>
    simp only [List.foldl_cons]
    rw [VarSet.insert_of_mem h (hs l (List.mem_cons_self ..))]
    exact ih (fun l' hl' => hs l' (List.mem_cons_of_mem _ hl'))

theorem mem_clauseVars {c : Spec.Clause} {x : Nat} : x ∈ clauseVars c ↔ ∃ l ∈ c, l.var = x := by
  simp [clauseVars, mem_foldl_insert]

theorem sorted_clauseVars (c : Spec.Clause) : VarSet.Sorted (clauseVars c) :=
  sorted_foldl_insert (List.Pairwise.nil)

theorem foldl_insert_clauseVars (c : Spec.Clause) :
    c.foldl (fun s l => VarSet.insert l.var s) (clauseVars c) = clauseVars c :=
  foldl_insert_of_subset (sorted_clauseVars c) (fun l hl => mem_clauseVars.2 ⟨l, hl, rfl⟩)

/-! ## dtree invariants -/

/-- every leaf's `vars` is its clause's variable set, every node's `vars` is the union of its
children's -/
def DTree.VarsOk : DTree → Prop
  | .leaf c _ vs => vs = clauseVars c
  | .node l r _ vs => vs = VarSet.union l.vars r.vars ∧ DTree.VarsOk l ∧ DTree.VarsOk r

/-- `anc` = union of the cutsets of the proper ancestors; every node's cutset is
`(vars l ∩ vars r) \ anc`, every leaf's is `vars \ anc` (as `gen_cutset` defines it for leaves) -/
def DTree.CutsOk (anc : List Nat) : DTree → Prop
  | .leaf _ cut vs => cut = VarSet.minus vs anc
  | .node l r cut _ => cut = VarSet.minus (VarSet.inter l.vars r.vars) anc ∧
      DTree.CutsOk (VarSet.union anc cut) l ∧ DTree.CutsOk (VarSet.union anc cut) r

/-- every leaf's `vars` is its clause's variable set (nothing is said about inner nodes) -/
def DTree.LeafVarsOk : DTree → Prop
  | .leaf c _ vs => vs = clauseVars c
  | .node l r _ _ => DTree.LeafVarsOk l ∧ DTree.LeafVarsOk r

theorem DTree.VarsOk.leafVarsOk {d : DTree} (h : d.VarsOk) : d.LeafVarsOk := by
  induction d with
  | leaf c cut vs => exact h
  | node l r cut vs ihl ihr => exact ⟨ihl h.2.1, ihr h.2.2⟩

/-! ### `initVars` -/

@[simp] theorem initVars_leaves (d : DTree) : (DTree.initVars d).leaves = d.leaves := by
  induction d with
  | leaf c cut vs => rfl
  | node l r cut vs ihl ihr => simp [DTree.initVars, DTree.leaves, ihl, ihr]

theorem initVars_varsOk {d : DTree} (h : d.LeafVarsOk) : (DTree.initVars d).VarsOk := by
  induction d with
  | leaf c cut vs =>
    obtain rfl : vs = clauseVars c := h
    simp only [DTree.initVars, DTree.VarsOk]
    exact foldl_insert_clauseVars c
  | node l r cut vs ihl ihr =>
    exact ⟨rfl, ihl h.1, ihr h.2⟩

theorem initVars_eq_self {d : DTree} (h : d.VarsOk) : DTree.initVars d = d := by
  induction d with
  | leaf c cut vs =>
    obtain rfl : vs = clauseVars c := h
    simp only [DTree.initVars]
    rw [foldl_insert_clauseVars c]
  | node l r cut vs ihl ihr =>
    obtain ⟨h1, h2, h3⟩ := h
    simp only [DTree.initVars, ihl h2, ihr h3]
    rw [h1]

theorem leafOf_varsOk (c : Clause) : (DTree.leafOf c).VarsOk := by
  simp [DTree.leafOf, DTree.initVars, DTree.VarsOk, clauseVars]

@[simp] theorem leafOf_leaves (c : Clause) : (DTree.leafOf c).leaves = [c] := rfl

/-! ### `balanced` -/

/-- `d` is obtained from the non-empty forest `ts` by putting fresh nodes (empty `vars`, empty
cutset) on top, keeping the left-to-right order -/
inductive Built : List DTree → DTree → Prop
  | single (t : DTree) : Built [t] t
  | node {a b : List DTree} {l r : DTree} : Built a l → Built b r → Built (a ++ b) (.node l r [] [])

theorem balancedAux_nil (fuel : Nat) : DTree.balancedAux fuel [] = none := by
  cases fuel <;> rfl

theorem balancedAux_cons_cons {n : Nat} {a b : DTree} {rest : List DTree} {l r : DTree}
    (hl : DTree.balancedAux n ((a :: b :: rest).take ((a :: b :: rest).length / 2)) = some l)
    (hr : DTree.balancedAux n ((a :: b :: rest).drop ((a :: b :: rest).length / 2)) = some r) :
    DTree.balancedAux (n + 1) (a :: b :: rest) = some (.node l r [] []) := by
  unfold DTree.balancedAux; simp only [hl, hr]

theorem halves_length {α : Type} (ts : List α) (h : 2 ≤ ts.length) :
    (0 < (ts.take (ts.length / 2)).length ∧ (ts.take (ts.length / 2)).length < ts.length) ∧
    (0 < (ts.drop (ts.length / 2)).length ∧ (ts.drop (ts.length / 2)).length < ts.length) := by
  have hk1 : 0 < ts.length / 2 := Nat.div_pos h Nat.zero_lt_two
  have hk2 : ts.length / 2 < ts.length :=
    Nat.div_lt_self (Nat.lt_of_lt_of_le Nat.zero_lt_two h) (Nat.lt_succ_self 1)
  rw [List.length_take_of_le (Nat.le_of_lt hk2), List.length_drop]
  exact ⟨⟨hk1, hk2⟩, Nat.sub_pos_of_lt hk2, Nat.sub_lt (Nat.lt_of_lt_of_le Nat.zero_lt_two h) hk1⟩

theorem balancedAux_built (fuel : Nat) : ∀ (ts : List DTree), ts ≠ [] → ts.length ≤ fuel →
    ∃ d, DTree.balancedAux fuel ts = some d ∧ Built ts d := by
  induction fuel with
  | zero => exact fun ts hne hlen => absurd (List.eq_nil_of_length_eq_zero (Nat.le_zero.mp hlen)) hne
  | succ n ih =>
    intro ts hne hlen
    match ts, hne with
    | [t], _ => exact ⟨t, rfl, Built.single t⟩
    | a :: b :: rest, _ =>
      obtain ⟨⟨ht0, ht⟩, hd0, hd⟩ := halves_length (a :: b :: rest) (Nat.le_add_left _ _)
      obtain ⟨l, hl, bl⟩ := ih _ (List.ne_nil_of_length_pos ht0)
        (Nat.le_of_lt_succ (Nat.lt_of_lt_of_le ht hlen))
      obtain ⟨r, hr, br⟩ := ih _ (List.ne_nil_of_length_pos hd0)
        (Nat.le_of_lt_succ (Nat.lt_of_lt_of_le hd hlen))
      exact ⟨_, balancedAux_cons_cons hl hr,
        List.take_append_drop _ (a :: b :: rest) ▸ Built.node bl br⟩

theorem balanced_nil : DTree.balanced [] = none := rfl

theorem balanced_built {ts : List DTree} (h : ts ≠ []) :
    ∃ d, DTree.balanced ts = some d ∧ Built ts d :=
  balancedAux_built ts.length ts h (Nat.le_refl _)

theorem balanced_some {ts : List DTree} {d : DTree} (h : DTree.balanced ts = some d) :
    Built ts d := by
  by_cases hne : ts = []
  · subst hne; cases h
  · obtain ⟨d', h1, h2⟩ := balanced_built hne
    exact Option.some.inj (h1.symm.trans h) ▸ h2

theorem balanced_none {ts : List DTree} (h : DTree.balanced ts = none) : ts = [] :=
  Classical.byContradiction fun hne => by
    obtain ⟨d', h1, _⟩ := balanced_built hne
    cases h1.symm.trans h

/-- all leaf clauses of a forest, left to right -/
def allLeaves (ts : List DTree) : List Clause := ts.flatMap DTree.leaves

theorem Built.leaves {ts : List DTree} {d : DTree} (h : Built ts d) : d.leaves = allLeaves ts := by
  induction h with
  | single t => simp [allLeaves]
  | node _ _ ihl ihr => simp [allLeaves, DTree.leaves, ihl, ihr] at *

theorem Built.ne_nil {ts : List DTree} {d : DTree} (h : Built ts d) : ts ≠ [] := by
  induction h with
  | single t => simp
  | node _ _ ihl ihr => simp [ihl]

theorem Built.leafVarsOk {ts : List DTree} {d : DTree} (h : Built ts d)
    (hts : ∀ t ∈ ts, t.LeafVarsOk) : d.LeafVarsOk := by
  induction h with
  | single t => exact hts t (by simp)
  | node _ _ ihl ihr =>
    exact ⟨ihl (fun t ht => hts t (List.mem_append_left _ ht)),
      ihr (fun t ht => hts t (List.mem_append_right _ ht))⟩

/-! ### `elimStep`, `components` -/

theorem allLeaves_append (a b : List DTree) : allLeaves (a ++ b) = allLeaves a ++ allLeaves b := by
  simp [allLeaves]

theorem allLeaves_filter_perm (p : DTree → Bool) (ts : List DTree) :
    (allLeaves (ts.filter fun d => !p d) ++ allLeaves (ts.filter p)).Perm (allLeaves ts) := by
  rw [← allLeaves_append]
  refine List.Perm.flatMap_right _ ?_
  exact List.perm_append_comm.trans (List.filter_append_perm p ts)

theorem elimStep_cases (ts : List DTree) (o : Nat) :
    (ts.filter (fun d => d.vars.contains o) = [] ∧
      DTree.elimStep ts o = ts.filter fun d => !d.vars.contains o) ∨
    (∃ nt, Built (ts.filter fun d => d.vars.contains o) nt ∧
      DTree.elimStep ts o = (ts.filter fun d => !d.vars.contains o) ++ [DTree.initVars nt]) := by
  cases h : DTree.balanced (ts.filter fun d => d.vars.contains o) with
  | none => exact Or.inl ⟨balanced_none h, by simp only [DTree.elimStep, h]⟩
  | some nt => exact Or.inr ⟨nt, balanced_some h, by simp only [DTree.elimStep, h]⟩

theorem elimStep_leaves (ts : List DTree) (o : Nat) :
    (allLeaves (DTree.elimStep ts o)).Perm (allLeaves ts) := by
  have hp := allLeaves_filter_perm (fun d => d.vars.contains o) ts
  rcases elimStep_cases ts o with ⟨h1, h2⟩ | ⟨nt, h1, h2⟩
  · rw [h2]
    rw [h1] at hp
    simpa [allLeaves] using hp
  · rw [h2, allLeaves_append]
    have : allLeaves [DTree.initVars nt] = allLeaves (ts.filter fun d => d.vars.contains o) := by
      simp [allLeaves, h1.leaves]
    rw [this]
    exact hp

theorem elimStep_varsOk {ts : List DTree} (o : Nat) (h : ∀ t ∈ ts, t.VarsOk) :
    ∀ t ∈ DTree.elimStep ts o, t.VarsOk := by
  rcases elimStep_cases ts o with ⟨_, h2⟩ | ⟨nt, h1, h2⟩
  · rw [h2]
    intro t ht
    exact h t (List.mem_filter.1 ht).1
  · rw [h2]
    intro t ht
    rcases List.mem_append.1 ht with ht | ht
    · exact h t (List.mem_filter.1 ht).1
    · have : t = DTree.initVars nt := by simpa using ht
      subst this
      exact initVars_varsOk
        (h1.leafVarsOk fun t' ht' => (h t' (List.mem_filter.1 ht').1).leafVarsOk)

theorem components_leaves (cs : Cnf) (ord : List Nat) :
    (allLeaves (DTree.components cs ord)).Perm cs := by
  unfold DTree.components
  have h0 : (allLeaves (cs.map DTree.leafOf)).Perm cs := by
    have : allLeaves (cs.map DTree.leafOf) = cs := by
      induction cs with
      | nil => rfl
      | cons c cs ih => simp [allLeaves, List.flatMap_cons] at *; exact ih
    rw [this]
  generalize cs.map DTree.leafOf = ts at h0
  induction ord generalizing ts with
  | nil => exact h0
  | cons o os ih => exact ih _ ((elimStep_leaves ts o).trans h0)

theorem foldl_elimStep_varsOk {ts : List DTree} (ord : List Nat) (hv : ∀ t ∈ ts, t.VarsOk) :
    ∀ t ∈ ord.foldl DTree.elimStep ts, t.VarsOk := by
  induction ord generalizing ts with
  | nil => exact hv
  | cons o os ih => exact ih (elimStep_varsOk o hv)

theorem map_leafOf_varsOk (cs : Cnf) : ∀ t ∈ cs.map DTree.leafOf, t.VarsOk := fun t ht => by
  obtain ⟨c, _, rfl⟩ := List.mem_map.1 ht
  exact leafOf_varsOk c

theorem components_varsOk (cs : Cnf) (ord : List Nat) :
    ∀ t ∈ DTree.components cs ord, t.VarsOk :=
  foldl_elimStep_varsOk ord (map_leafOf_varsOk cs)

theorem components_nil (ord : List Nat) : DTree.components [] ord = [] := by
  unfold DTree.components
  simp only [List.map_nil]
  induction ord with
  | nil => rfl
  | cons o os ih => simpa [DTree.elimStep, balanced_nil] using ih

theorem components_ne_nil {cs : Cnf} (h : cs ≠ []) (ord : List Nat) :
    DTree.components cs ord ≠ [] := by
  intro h'
  have := components_leaves cs ord
  rw [h'] at this
  exact h this.nil_eq.symm

/-! ### `genCutset` -/

@[simp] theorem genCutset_vars (anc : List Nat) (d : DTree) :
    (DTree.genCutset anc d).vars = d.vars := by
  cases d <;> rfl

@[simp] theorem genCutset_leaves (anc : List Nat) (d : DTree) :
    (DTree.genCutset anc d).leaves = d.leaves := by
  induction d generalizing anc with
  | leaf c cut vs => rfl
  | node l r cut vs ihl ihr => simp [DTree.genCutset, DTree.leaves, ihl, ihr]

theorem genCutset_varsOk {d : DTree} (anc : List Nat) (h : d.VarsOk) :
    (DTree.genCutset anc d).VarsOk := by
  induction d generalizing anc with
  | leaf c cut vs => exact h
  | node l r cut vs ihl ihr =>
    obtain ⟨h1, h2, h3⟩ := h
    simp only [DTree.genCutset, DTree.VarsOk, genCutset_vars]
    exact ⟨h1, ihl _ h2, ihr _ h3⟩

theorem genCutset_cutsOk (anc : List Nat) (d : DTree) :
    (DTree.genCutset anc d).CutsOk anc := by
  induction d generalizing anc with
  | leaf c cut vs => simp [DTree.genCutset, DTree.CutsOk]
  | node l r cut vs ihl ihr =>
    simp [DTree.genCutset, DTree.CutsOk, ihl, ihr]

/-! ## `fromCnf` -/

/-- both `fromCnf` and `fromCnfOrig` post-process the balanced tree over the components -/
theorem map_balanced_some {ts : List DTree} {f : DTree → DTree} {d : DTree}
    (h : (DTree.balanced ts).map f = some d) : ∃ res, Built ts res ∧ d = f res := by
  obtain ⟨res, hb, rfl⟩ := Option.map_eq_some_iff.mp h
  exact ⟨res, balanced_some hb, rfl⟩

theorem fromCnf_some {cs : Cnf} {ord : List Nat} {d : DTree} (h : DTree.fromCnf cs ord = some d) :
    ∃ res, Built (DTree.components cs ord) res ∧ d = DTree.genCutset [] (DTree.initVars res) :=
  map_balanced_some h

theorem fromCnfOrig_some {cs : Cnf} {ord : List Nat} {d : DTree}
    (h : DTree.fromCnfOrig cs ord = some d) :
    ∃ res, Built (DTree.components cs ord) res ∧ d = DTree.genCutset [] res :=
  map_balanced_some h

theorem fromCnf_isSome {cs : Spec.Cnf} (h : cs ≠ []) (ord : List Nat) :
    (DTree.fromCnf cs ord).isSome := by
  obtain ⟨d, hd, _⟩ := balanced_built (components_ne_nil h ord)
  simp [DTree.fromCnf, hd]

theorem fromCnfOrig_isSome {cs : Spec.Cnf} (h : cs ≠ []) (ord : List Nat) :
    (DTree.fromCnfOrig cs ord).isSome := by
  obtain ⟨d, hd, _⟩ := balanced_built (components_ne_nil h ord)
  simp [DTree.fromCnfOrig, hd]

theorem fromCnf_none (ord : List Nat) : DTree.fromCnf [] ord = none := by
  simp [DTree.fromCnf, components_nil, balanced_nil]

theorem fromCnfOrig_none (ord : List Nat) : DTree.fromCnfOrig [] ord = none := by
  simp [DTree.fromCnfOrig, components_nil, balanced_nil]

theorem dtree_leaves {cs : Spec.Cnf} {ord : List Nat} {d : DTree}
    (h : DTree.fromCnf cs ord = some d) : d.leaves.Perm cs := by
  obtain ⟨res, hb, rfl⟩ := fromCnf_some h
  rw [genCutset_leaves, initVars_leaves, hb.leaves]
  exact components_leaves cs ord

theorem dtree_leaves_orig {cs : Spec.Cnf} {ord : List Nat} {d : DTree}
    (h : DTree.fromCnfOrig cs ord = some d) : d.leaves.Perm cs := by
  obtain ⟨res, hb, rfl⟩ := fromCnfOrig_some h
  rw [genCutset_leaves, hb.leaves]
  exact components_leaves cs ord

theorem dtree_vars {cs : Spec.Cnf} {ord : List Nat} {d : DTree}
    (h : DTree.fromCnf cs ord = some d) : d.VarsOk := by
  obtain ⟨res, hb, rfl⟩ := fromCnf_some h
  exact genCutset_varsOk _ (initVars_varsOk
    (hb.leafVarsOk fun t ht => (components_varsOk cs ord t ht).leafVarsOk))

theorem dtree_vars_mem {d : DTree} (h : d.VarsOk) (x : Nat) :
    x ∈ d.vars ↔ ∃ c ∈ d.leaves, ∃ l ∈ c, l.var = x := by
  induction d with
  | leaf c cut vs =>
    obtain rfl : vs = clauseVars c := h
    simp [DTree.vars, DTree.leaves, mem_clauseVars]
  | node l r cut vs ihl ihr =>
    obtain ⟨h1, h2, h3⟩ := h
    subst h1
    show x ∈ VarSet.union l.vars r.vars ↔ _
    rw [VarSet.mem_union, ihl h2, ihr h3]
    simp only [DTree.leaves, List.mem_append, or_and_right, exists_or]

theorem dtree_vars_sorted {d : DTree} (h : d.VarsOk) : VarSet.Sorted d.vars := by
  cases d with
  | leaf c cut vs =>
    obtain rfl : vs = clauseVars c := h
    exact sorted_clauseVars c
  | node l r cut vs =>
    obtain ⟨h1, h2, _⟩ := h
    subst h1
    exact VarSet.sorted_union (dtree_vars_sorted h2)

theorem dtree_cutsets {cs : Spec.Cnf} {ord : List Nat} {d : DTree}
    (h : DTree.fromCnf cs ord = some d) : d.CutsOk [] := by
  obtain ⟨res, _, rfl⟩ := fromCnf_some h
  exact genCutset_cutsOk _ _

theorem dtree_cutsets_orig {cs : Spec.Cnf} {ord : List Nat} {d : DTree}
    (h : DTree.fromCnfOrig cs ord = some d) : d.CutsOk [] := by
  obtain ⟨res, _, rfl⟩ := fromCnfOrig_some h
  exact genCutset_cutsOk _ _

/-- the current Rust leaves the root's `vars` empty for a CNF with two components:
(x1) ∧ (¬x2) with elimination order [2,0,1] — checked against the real library -/
theorem dtree_vars_orig_wrong :
    ∃ d, DTree.fromCnfOrig [[⟨1, true⟩], [⟨2, false⟩]] [2, 0, 1] = some d ∧ ¬ d.VarsOk := by
  refine ⟨_, rfl, ?_⟩
  intro h
  have h1 := h.1
  revert h1
  decide +kernel

/-! ## the vtree derived from a dtree -/

/-- leaves of an optional vtree (`[]` for `none`) -/
def optLeaves : Option VTree → List Nat
  | none => []
  | some t => t.leaves

theorem rightLinearC_leaves (cut : List Nat) (sub : Option VTree) :
    optLeaves (VTree.rightLinearC cut sub) = cut ++ optLeaves sub := by
  induction cut with
  | nil => rfl
  | cons v vs ih =>
    unfold VTree.rightLinearC
    cases h : VTree.rightLinearC vs sub with
    | none =>
      rw [h] at ih
      have : vs ++ optLeaves sub = [] := ih.symm
      show [v] = v :: (vs ++ optLeaves sub)
      rw [this]
    | some s =>
      rw [h] at ih
      simp only [optLeaves, VTree.leaves] at ih ⊢
      rw [ih]; rfl

theorem fromDtree_node_leaves (l r : DTree) (cut vs : List Nat) :
    optLeaves (VTree.fromDtree (.node l r cut vs)) =
      cut ++ (optLeaves (VTree.fromDtree l) ++ optLeaves (VTree.fromDtree r)) := by
  have e : VTree.fromDtree (.node l r cut vs) = VTree.rightLinearC cut
      (match VTree.fromDtree l, VTree.fromDtree r with
        | none, none => none
        | some l, none => some l
        | none, some r => some r
        | some l, some r => some (VTree.node l r)) := by
    rw [VTree.fromDtree]
    cases VTree.fromDtree l <;> cases VTree.fromDtree r <;> rfl
  rw [e, rightLinearC_leaves]
  generalize VTree.fromDtree l = a
  generalize VTree.fromDtree r = b
  cases a <;> cases b <;> simp [optLeaves, VTree.leaves]

/-- `match`-free form of `fromDtree_leaves` -/
theorem fromDtree_optLeaves {d : DTree} {anc : List Nat} (hv : d.VarsOk) (hc : d.CutsOk anc) :
    (optLeaves (VTree.fromDtree d)).Nodup ∧
      ∀ x, x ∈ optLeaves (VTree.fromDtree d) ↔ (x ∈ d.vars ∧ x ∉ anc) := by
  induction d generalizing anc with
  | leaf c cut vs =>
    have hc' : cut = VarSet.minus vs anc := hc
    subst hc'
    have hs : VarSet.Sorted vs := dtree_vars_sorted hv
    have e : optLeaves (VTree.fromDtree (.leaf c (VarSet.minus vs anc) vs)) =
        VarSet.minus vs anc := by
      unfold VTree.fromDtree
      rw [rightLinearC_leaves]; simp [optLeaves]
    rw [e]
    exact ⟨(VarSet.sorted_minus hs).nodup, fun x => VarSet.mem_minus⟩
  | node l r cut vs ihl ihr =>
    obtain ⟨hvs, hvl, hvr⟩ := hv
    obtain ⟨hcut, hcl, hcr⟩ := hc
    obtain ⟨nl, ml⟩ := ihl hvl hcl
    obtain ⟨nr, mr⟩ := ihr hvr hcr
    have hcutmem : ∀ x, x ∈ cut ↔ (x ∈ l.vars ∧ x ∈ r.vars) ∧ x ∉ anc := by
      intro x; rw [hcut, VarSet.mem_minus, VarSet.mem_inter]
    have hcutnd : cut.Nodup := by
      rw [hcut]
      exact (VarSet.sorted_minus (VarSet.sorted_inter (dtree_vars_sorted hvl))).nodup
    rw [fromDtree_node_leaves]
    refine ⟨?_, ?_⟩
    · rw [List.nodup_append]
      refine ⟨hcutnd, ?_, ?_⟩
      · rw [List.nodup_append]
        refine ⟨nl, nr, ?_⟩
        intro a ha b hb hab
        subst hab
        have h1 := (ml a).1 ha
        have h2 := (mr a).1 hb
        have hnotcut : a ∉ cut := fun hx => h1.2 (VarSet.mem_union.2 (Or.inr hx))
        have hnotanc : a ∉ anc := fun hx => h1.2 (VarSet.mem_union.2 (Or.inl hx))
        exact hnotcut ((hcutmem a).2 ⟨⟨h1.1, h2.1⟩, hnotanc⟩)
      · intro a ha b hb hab
        subst hab
        have hin : a ∈ VarSet.union anc cut := VarSet.mem_union.2 (Or.inr ha)
        rcases List.mem_append.1 hb with hb | hb
        · exact ((ml a).1 hb).2 hin
        · exact ((mr a).1 hb).2 hin
    · intro x
      show _ ↔ x ∈ vs ∧ x ∉ anc
      rw [hvs, VarSet.mem_union]
      simp only [List.mem_append, ml, mr, VarSet.mem_union, hcutmem]
      by_cases hl : x ∈ l.vars <;> by_cases hr : x ∈ r.vars <;> by_cases ha : x ∈ anc <;>
        simp [hl, hr, ha]

/-- general fact about `fromDtree`: for a dtree with correct vars and cutsets, the derived vtree's
leaves are exactly `vars \ anc`, each once (and it is `none` only when that set is empty) -/
theorem fromDtree_leaves {d : DTree} {anc : List Nat} (hv : d.VarsOk) (hc : d.CutsOk anc) :
    match VTree.fromDtree d with
    | some t => t.leaves.Nodup ∧ ∀ x, x ∈ t.leaves ↔ (x ∈ d.vars ∧ x ∉ anc)
    | none => ∀ x, ¬ (x ∈ d.vars ∧ x ∉ anc) := by
  have h := fromDtree_optLeaves hv hc
  cases hd : VTree.fromDtree d with
  | some t => rw [hd] at h; exact h
  | none => rw [hd] at h; exact fun x hx => List.not_mem_nil ((h.2 x).2 hx)

theorem VTree.leaves_ne_nil (t : VTree) : t.leaves ≠ [] := by
  induction t with
  | leaf v => simp [VTree.leaves]
  | node l r ihl _ => simp [VTree.leaves, ihl]

theorem optLeaves_eq_nil {o : Option VTree} : optLeaves o = [] ↔ o = none := by
  cases o with
  | none => exact ⟨fun _ => rfl, fun _ => rfl⟩
  | some t => exact ⟨fun h => absurd h (VTree.leaves_ne_nil t), fun h => nomatch h⟩

/-- `from_dtree` returns `None` EXACTLY when `vars \ anc` is empty -/
theorem fromDtree_none_iff {d : DTree} {anc : List Nat} (hv : d.VarsOk) (hc : d.CutsOk anc) :
    VTree.fromDtree d = none ↔ ∀ x, ¬ (x ∈ d.vars ∧ x ∉ anc) := by
  rw [← optLeaves_eq_nil, List.eq_nil_iff_forall_not_mem]
  exact forall_congr' fun x => not_congr ((fromDtree_optLeaves hv hc).2 x)

theorem occurs_iff_mem_vars {cs : Spec.Cnf} {ord : List Nat} {d : DTree}
    (h : DTree.fromCnf cs ord = some d) (x : Nat) : x ∈ d.vars ↔ Occurs x cs := by
  rw [dtree_vars_mem (dtree_vars h)]
  exact exists_congr fun c => and_congr_left fun _ => (dtree_leaves h).mem_iff

/-- C14 (reading: "every CNF variable" = every variable OCCURRING in a clause): the vtree derived
from the dtree has every occurring variable as exactly one leaf and no other leaves; `from_dtree`
returns `None` only when no variable occurs -/
theorem vtree_of_dtree_leaves {cs : Spec.Cnf} {ord : List Nat} {d : DTree}
    (h : DTree.fromCnf cs ord = some d) :
    match VTree.fromDtree d with
    | some t => t.leaves.Nodup ∧ ∀ x, x ∈ t.leaves ↔ Occurs x cs
    | none => ∀ x, ¬ Occurs x cs := by
  have hl := fromDtree_leaves (dtree_vars h) (dtree_cutsets h)
  have ho := occurs_iff_mem_vars h
  cases hd : VTree.fromDtree d with
  | some t =>
    rw [hd] at hl
    refine ⟨hl.1, fun x => ?_⟩
    rw [hl.2 x, ← ho x]
    simp
  | none =>
    rw [hd] at hl
    intro x hx
    exact hl x ⟨(ho x).2 hx, by simp⟩

/-- `from_dtree` returns `None` EXACTLY when no variable occurs in the CNF -/
theorem vtree_of_dtree_none_iff {cs : Spec.Cnf} {ord : List Nat} {d : DTree}
    (h : DTree.fromCnf cs ord = some d) :
    VTree.fromDtree d = none ↔ ∀ x, ¬ Occurs x cs := by
  rw [fromDtree_none_iff (dtree_vars h) (dtree_cutsets h)]
  exact forall_congr' fun x => not_congr (by simp [occurs_iff_mem_vars h])

/-! ## the unrepaired `from_cnf` derives the same vtree when the elimination order covers every
occurring variable -/

/-- `a` and `b` share no variable satisfying `P` -/
def DisjOn (P : Nat → Prop) (a b : DTree) : Prop := ∀ x, P x → x ∈ a.vars → x ∈ b.vars → False

theorem DisjOn.symm {P : Nat → Prop} {a b : DTree} (h : DisjOn P a b) : DisjOn P b a :=
  fun x hp hb ha => h x hp ha hb

theorem pairwise_rel_of_mem {α : Type} {R : α → α → Prop} (hs : ∀ a b, R a b → R b a)
    {l : List α} (h : l.Pairwise R) {a b : α} (ha : a ∈ l) (hb : b ∈ l) (hab : a ≠ b) :
    R a b := by
  induction h with
  | nil => cases ha
  | @cons c l hc _ ih =>
    rcases List.mem_cons.1 ha with ha | ha
    · rcases List.mem_cons.1 hb with hb | hb
      · exact absurd (ha.trans hb.symm) hab
      · rw [ha]; exact hc b hb
    · rcases List.mem_cons.1 hb with hb | hb
      · rw [hb]; exact hs _ _ (hc a ha)
      · exact ih ha hb

/-- the stored `vars` of a tree built by `balanced` come from the forest -/
theorem Built.vars_sub {ts : List DTree} {d : DTree} (h : Built ts d) {x : Nat}
    (hx : x ∈ d.vars) : ∃ t ∈ ts, x ∈ t.vars := by
  cases h with
  | single t => exact ⟨d, by simp, hx⟩
  | node _ _ => cases hx

/-- the recomputed `vars` of a tree built by `balanced` come from the forest -/
theorem Built.initVars_vars_sub {ts : List DTree} {d : DTree} (h : Built ts d)
    (hts : ∀ t ∈ ts, t.VarsOk) {x : Nat} (hx : x ∈ (DTree.initVars d).vars) :
    ∃ t ∈ ts, x ∈ t.vars := by
  induction h with
  | single t =>
    rw [initVars_eq_self (hts t (by simp))] at hx
    exact ⟨t, by simp, hx⟩
  | @node a b l r _ _ ihl ihr =>
    have hx' : x ∈ VarSet.union (DTree.initVars l).vars (DTree.initVars r).vars := hx
    rcases VarSet.mem_union.1 hx' with h | h
    · obtain ⟨t, ht, hxt⟩ := ihl (fun t ht => hts t (List.mem_append_left _ ht)) h
      exact ⟨t, List.mem_append_left _ ht, hxt⟩
    · obtain ⟨t, ht, hxt⟩ := ihr (fun t ht => hts t (List.mem_append_right _ ht)) h
      exact ⟨t, List.mem_append_right _ ht, hxt⟩

/-- loop invariant of the elimination loop: once `o` has been processed, at most one subtree
mentions `o` (and it stays that way, because subtrees are only ever merged) -/
theorem elimStep_disj {P : Nat → Prop} {ts : List DTree} (o : Nat) (hv : ∀ t ∈ ts, t.VarsOk)
    (h : ts.Pairwise (DisjOn P)) :
    (DTree.elimStep ts o).Pairwise (DisjOn fun x => P x ∨ x = o) := by
  have hs : (ts.filter fun d => !d.vars.contains o).Pairwise (DisjOn fun x => P x ∨ x = o) := by
    refine List.Pairwise.imp_of_mem ?_ (List.Pairwise.filter _ h)
    intro a b ha _ hab x hp hxa hxb
    rcases hp with hp | rfl
    · exact hab x hp hxa hxb
    · have := (List.mem_filter.1 ha).2
      simp at this
      exact this hxa
  rcases elimStep_cases ts o with ⟨_, h2⟩ | ⟨nt, h1, h2⟩
  · rw [h2]; exact hs
  · rw [h2, List.pairwise_append]
    refine ⟨hs, List.pairwise_singleton _ _, ?_⟩
    intro a ha b hb x hp hxa hxb
    have hb' : b = DTree.initVars nt := by simpa using hb
    subst hb'
    obtain ⟨t, ht, hxt⟩ := h1.initVars_vars_sub (fun t ht => hv t (List.mem_filter.1 ht).1) hxb
    have ha' := List.mem_filter.1 ha
    have ht' := List.mem_filter.1 ht
    have hao : o ∉ a.vars := by simpa using ha'.2
    have hto : o ∈ t.vars := by simpa using ht'.2
    rcases hp with hp | rfl
    · have hne : a ≠ t := by
        intro e; subst e; exact hao hto
      exact pairwise_rel_of_mem (fun _ _ => DisjOn.symm) h ha'.1 ht'.1 hne x hp hxa hxt
    · exact hao hxa

theorem foldl_elimStep_disj {P : Nat → Prop} {ts : List DTree} (ord : List Nat)
    (hv : ∀ t ∈ ts, t.VarsOk) (h : ts.Pairwise (DisjOn P)) :
    (ord.foldl DTree.elimStep ts).Pairwise (DisjOn fun x => P x ∨ x ∈ ord) := by
  induction ord generalizing ts P with
  | nil =>
    refine List.Pairwise.imp ?_ h
    intro a b hab x hp
    rcases hp with hp | hp
    · exact hab x hp
    · cases hp
  | cons o os ih =>
    have := ih (elimStep_varsOk o hv) (elimStep_disj o hv h)
    refine List.Pairwise.imp ?_ this
    intro a b hab x hp
    refine hab x ?_
    rcases hp with hp | hp
    · exact Or.inl (Or.inl hp)
    · rcases List.mem_cons.1 hp with rfl | hp
      · exact Or.inl (Or.inr rfl)
      · exact Or.inr hp

theorem components_disj_partial (cs : Cnf) (ord : List Nat) :
    (DTree.components cs ord).Pairwise (DisjOn fun x => x ∈ ord) := by
  have := foldl_elimStep_disj (P := fun _ => False) ord (map_leafOf_varsOk cs)
    (List.pairwise_of_forall (fun _ _ _ hp => hp.elim))
  refine List.Pairwise.imp ?_ this
  intro a b hab x hp
  exact hab x (Or.inr hp)

theorem components_vars_occur {cs : Cnf} {ord : List Nat} {t : DTree}
    (ht : t ∈ DTree.components cs ord) {x : Nat} (hx : x ∈ t.vars) : Occurs x cs := by
  obtain ⟨c, hc, hl⟩ := (dtree_vars_mem (components_varsOk cs ord t ht) x).1 hx
  refine ⟨c, (components_leaves cs ord).mem_iff.1 ?_, hl⟩
  exact List.mem_flatMap.2 ⟨t, ht, hc⟩

theorem components_disj {cs : Cnf} {ord : List Nat} (hord : ∀ x, Occurs x cs → x ∈ ord) :
    (DTree.components cs ord).Pairwise (DisjOn fun _ => True) := by
  refine List.Pairwise.imp_of_mem ?_ (components_disj_partial cs ord)
  intro a b ha _ hab x _ hxa hxb
  exact hab x (hord x (components_vars_occur ha hxa)) hxa hxb

theorem fromDtree_node_congr {l r l' r' : DTree} (cut vs vs' : List Nat)
    (hl : VTree.fromDtree l = VTree.fromDtree l') (hr : VTree.fromDtree r = VTree.fromDtree r') :
    VTree.fromDtree (.node l r cut vs) = VTree.fromDtree (.node l' r' cut vs') := by
  simp only [VTree.fromDtree, hl, hr]

theorem inter_eq_nil {a b : List Nat} (h : ∀ x, x ∈ a → x ∈ b → False) : VarSet.inter a b = [] := by
  unfold VarSet.inter
  rw [List.filter_eq_nil_iff]
  intro x hx hc
  exact h x hx (by simpa using hc)

/-- on a tree built by `balanced` from variable-disjoint subtrees with correct `vars`, the missing
`init_vars` is invisible to `from_dtree`: all the new nodes get an empty cutset either way -/
theorem Built.fromDtree_genCutset_eq {ts : List DTree} {d : DTree} (h : Built ts d)
    (hv : ∀ t ∈ ts, t.VarsOk) (hd : ts.Pairwise (DisjOn fun _ => True)) (anc : List Nat) :
    VTree.fromDtree (DTree.genCutset anc d) =
      VTree.fromDtree (DTree.genCutset anc (DTree.initVars d)) := by
  induction h with
  | single t => rw [initVars_eq_self (hv t (by simp))]
  | @node a b l r bl br ihl ihr =>
    have hd' := List.pairwise_append.1 hd
    have hva : ∀ t ∈ a, t.VarsOk := fun t ht => hv t (List.mem_append_left _ ht)
    have hvb : ∀ t ∈ b, t.VarsOk := fun t ht => hv t (List.mem_append_right _ ht)
    have e1 : VarSet.inter l.vars r.vars = [] := by
      refine inter_eq_nil fun x hx1 hx2 => ?_
      obtain ⟨t1, ht1, hx1⟩ := bl.vars_sub hx1
      obtain ⟨t2, ht2, hx2⟩ := br.vars_sub hx2
      exact hd'.2.2 t1 ht1 t2 ht2 x trivial hx1 hx2
    have e2 : VarSet.inter (DTree.initVars l).vars (DTree.initVars r).vars = [] := by
      refine inter_eq_nil fun x hx1 hx2 => ?_
      obtain ⟨t1, ht1, hx1⟩ := bl.initVars_vars_sub hva hx1
      obtain ⟨t2, ht2, hx2⟩ := br.initVars_vars_sub hvb hx2
      exact hd'.2.2 t1 ht1 t2 ht2 x trivial hx1 hx2
    have m : VarSet.minus [] anc = [] := rfl
    simp only [DTree.initVars, DTree.genCutset, e1, e2, m, VarSet.union_nil]
    exact fromDtree_node_congr _ _ _ (ihl hva hd'.1) (ihr hvb hd'.2.1)

/-- if every occurring variable is in the elimination order, the vtree derived by the unrepaired
`from_cnf` is the one derived by the repaired `from_cnf` -/
theorem fromDtree_orig_eq {cs : Cnf} {ord : List Nat} (hord : ∀ x, Occurs x cs → x ∈ ord) :
    (DTree.fromCnfOrig cs ord).bind VTree.fromDtree =
      (DTree.fromCnf cs ord).bind VTree.fromDtree := by
  unfold DTree.fromCnfOrig DTree.fromCnf
  cases hb : DTree.balanced (DTree.components cs ord) with
  | none => rfl
  | some res =>
    simp only [Option.map_some, Option.bind_some]
    exact (balanced_some hb).fromDtree_genCutset_eq (components_varsOk cs ord)
      (components_disj hord) []

/-- … so C14 also holds for the unrepaired `from_cnf` under that hypothesis -/
theorem vtree_of_dtree_leaves_orig {cs : Spec.Cnf} {ord : List Nat} {d : DTree}
    (hord : ∀ x, Occurs x cs → x ∈ ord) (h : DTree.fromCnfOrig cs ord = some d) :
    match VTree.fromDtree d with
    | some t => t.leaves.Nodup ∧ ∀ x, x ∈ t.leaves ↔ Occurs x cs
    | none => ∀ x, ¬ Occurs x cs := by
  have hne : cs ≠ [] := by
    rintro rfl
    rw [fromCnfOrig_none] at h
    cases h
  cases h' : DTree.fromCnf cs ord with
  | none =>
    have := fromCnf_isSome hne ord
    rw [h'] at this
    cases this
  | some d' =>
    have e := fromDtree_orig_eq hord
    rw [h, h'] at e
    simp only [Option.bind_some] at e
    rw [e]
    exact vtree_of_dtree_leaves h'

/-! ## non-vacuity -/

section Examples

/-- (x0 ∨ ¬x1) ∧ (x1 ∨ x2) ∧ (¬x2 ∨ x3) -/
def exCnf : Cnf := [[⟨0, true⟩, ⟨1, false⟩], [⟨1, true⟩, ⟨2, true⟩], [⟨2, false⟩, ⟨3, true⟩]]

theorem fromCnf_exCnf : DTree.fromCnf exCnf [0, 1, 2, 3] = some
    (.node
      (.leaf [⟨2, false⟩, ⟨3, true⟩] [3] [2, 3])
      (.node
        (.leaf [⟨1, true⟩, ⟨2, true⟩] [] [1, 2])
        (.leaf [⟨0, true⟩, ⟨1, false⟩] [0] [0, 1])
        [1] [0, 1, 2])
      [2] [0, 1, 2, 3]) := by decide +kernel

example : DTree.fromCnf exCnf [0, 1, 2, 3] = some
    (.node
      (.leaf [⟨2, false⟩, ⟨3, true⟩] [3] [2, 3])
      (.node
        (.leaf [⟨1, true⟩, ⟨2, true⟩] [] [1, 2])
        (.leaf [⟨0, true⟩, ⟨1, false⟩] [0] [0, 1])
        [1] [0, 1, 2])
      [2] [0, 1, 2, 3]) := fromCnf_exCnf

/-- pre-order `(is_leaf, vars, cutset)` -/
example : (DTree.fromCnf exCnf [0, 1, 2, 3]).map DTree.preorder = some
    [(false, [0, 1, 2, 3], [2]), (true, [2, 3], [3]), (false, [0, 1, 2], [1]),
      (true, [1, 2], []), (true, [0, 1], [0])] := by rw [fromCnf_exCnf]; rfl

example : (DTree.fromCnf exCnf [0, 1, 2, 3]).bind VTree.fromDtree = some
    (.node (.leaf 2) (.node (.leaf 3) (.node (.leaf 1) (.leaf 0)))) := by rw [fromCnf_exCnf]; rfl

example : ((DTree.fromCnf exCnf [0, 1, 2, 3]).bind VTree.fromDtree).map VTree.leaves =
    some [2, 3, 1, 0] := by rw [fromCnf_exCnf]; rfl

/-- here the unrepaired code agrees (the order covers all variables) -/
example : DTree.fromCnfOrig exCnf [0, 1, 2, 3] = DTree.fromCnf exCnf [0, 1, 2, 3] := by
  rw [fromCnf_exCnf]; decide +kernel

/-- the hypothesis of `fromDtree_orig_eq` is needed: with the EMPTY elimination order the unrepaired
code derives a vtree in which variable 1 is a leaf twice, the repaired code does not -/
example : ((DTree.fromCnfOrig exCnf []).bind VTree.fromDtree).map VTree.leaves =
    some [0, 1, 2, 1, 3] := by decide +kernel
example : ((DTree.fromCnf exCnf []).bind VTree.fromDtree).map VTree.leaves =
    some [1, 0, 2, 3] := by decide +kernel

/-- the `none` branch of C14 is inhabited: clauses without literals -/
example : (DTree.fromCnf [[], []] [0]).isSome ∧
    (DTree.fromCnf [[], []] [0]).bind VTree.fromDtree = none := by decide +kernel

/-- the defect instance: the root's `vars` stay empty -/
example : (DTree.fromCnfOrig [[⟨1, true⟩], [⟨2, false⟩]] [2, 0, 1]).map DTree.vars = some [] := by
  decide +kernel
example : (DTree.fromCnf [[⟨1, true⟩], [⟨2, false⟩]] [2, 0, 1]).map DTree.vars = some [1, 2] := by
  decide +kernel

example : Occurs 3 exCnf := by unfold Occurs; decide

end Examples

#print axioms VarSet.mem_insert
#print axioms VarSet.sorted_insert
#print axioms VarSet.mem_union
#print axioms VarSet.sorted_union
#print axioms VarSet.mem_inter
#print axioms VarSet.mem_minus
#print axioms mem_clauseVars
#print axioms fromCnf_isSome
#print axioms fromCnf_none
#print axioms dtree_leaves
#print axioms dtree_leaves_orig
#print axioms dtree_vars
#print axioms dtree_vars_mem
#print axioms dtree_vars_sorted
#print axioms dtree_cutsets
#print axioms dtree_cutsets_orig
#print axioms dtree_vars_orig_wrong
#print axioms fromDtree_leaves
#print axioms fromDtree_none_iff
#print axioms vtree_of_dtree_leaves
#print axioms vtree_of_dtree_none_iff
#print axioms fromDtree_orig_eq
#print axioms vtree_of_dtree_leaves_orig

end VT
