import RsddModel.Model.BddBuilder
import RsddModel.Lemmas.BddCanon
import RsddModel.Lemmas.BddCond
import RsddModel.Lemmas.BddWF
/-!
# Lemmas: every builder operation computes the Boolean function it names

Partial correctness (`= some (s', r) → …`) for EVERY lawful cache `C : CacheImpl` and every
level map.  What each statement really needs:

* `ite`, `and`, `or`, `xor`, `iff`, `and_lst`, `or_lst`: nothing but a sound cache — not even
  orderedness of the arguments, not even injectivity of the level map;
* `condition` (hence `cond_model`, `exists`): the argument must be *ordered*, because
  `cond_with_alloc` returns early as soon as `lvl x < lvl (top p)`;
* `compose`: conditions an intermediate `ite` result, so it needs that result ordered, i.e. the
  well-formedness theorem of `BddWF` (well formed arguments, `CacheWF`, injective `lvl`).

The memo transparency of `cond_with_alloc` (`condWithAlloc_eq_pure`) is in `BddCond`.
-/
namespace Bdd
open Spec

def den (p : Ptr) : BoolFn := fun a => p.eval a

@[simp] theorem den_apply (p : Ptr) (a : Assign) : den p a = p.eval a := rfl
theorem den_tru : den .tru = fTrue := rfl
theorem den_fls : den .fls = fFalse := rfl
theorem den_neg (p : Ptr) : den p.neg = fNot (den p) := by funext a; simp [den, fNot]

/-- every cache entry is semantically right -/
def CacheSound (C : CacheImpl) (s : C.σ) : Prop :=
  ∀ f g h r, C.get s (f, g, h) = some r → ∀ a, r.eval a = iteB (f.eval a) (g.eval a) (h.eval a)

theorem cacheSound_empty (C : CacheImpl) : CacheSound C C.empty := by
  intro f g h r hget; rw [C.empty_get] at hget; cases hget

theorem mkNode_eval (x lo hi a) : (mkNode x lo hi).eval a = if a x then hi.eval a else lo.eval a := by
  apply mkNode_cases x lo hi (M := fun r => r.eval a = if a x then hi.eval a else lo.eval a) <;>
    intro _ <;> cases hx : a x <;> simp [Ptr.eval, hx]

theorem eval_ite_neg (c : Bool) (p : Ptr) (a : Assign) :
    (if c then p.neg else p).eval a = xor c (p.eval a) := by
  cases c <;> simp

theorem condEssential_eval (f : Ptr) (x : Nat) (v : Bool) (a : Assign) (hx : a x = v)
    : (condEssential f x v).eval a = f.eval a := by
  cases f with
  | tru => rfl
  | fls => rfl
  | node c y lo hi =>
    rw [condEssential]
    refine if_elim (M := fun r : Ptr => r.eval a = (Ptr.node c y lo hi).eval a) (fun _ => rfl) fun heq => ?_
    cases Decidable.not_not.1 heq
    rw [eval_ite_neg, Ptr.eval, hx]
    cases v <;> rfl

theorem cacheGet_sound (C) (s : C.σ) (hs : CacheSound C s) (key : Ite) (v : Ptr)
    (h : cacheGet C s key = some v) (a) : v.eval a = key.eval a := by
  cases key with
  | choice f g h' => exact hs _ _ _ _ h a
  | complChoice f g h' =>
    simp [cacheGet] at h
    obtain ⟨w, hw, rfl⟩ := h
    simp [Ite.eval, hs _ _ _ _ hw a]
  | const p => simp [cacheGet] at h; subst h; rfl

theorem cacheInsert_sound (C) (s : C.σ) (hs : CacheSound C s) (key : Ite) (r : Ptr)
    (hr : ∀ a, r.eval a = key.eval a) : CacheSound C (cacheInsert C s key r) := by
  cases key with
  | choice f g h' =>
    intro f' g' h'' r' hget a
    rcases C.lawful _ _ _ _ _ hget with ⟨hk, hv⟩ | hold
    · cases hk; subst hv; exact hr a
    · exact hs _ _ _ _ hold a
  | complChoice f g h' =>
    intro f' g' h'' r' hget a
    rcases C.lawful _ _ _ _ _ hget with ⟨hk, hv⟩ | hold
    · cases hk; subst hv; simp [hr a, Ite.eval]
    · exact hs _ _ _ _ hold a
  | const p => exact hs

/-- **partial correctness of `ite`** for every lawful cache and every level map -/
theorem ite_sem (C : CacheImpl) (lvl : Nat → Nat) :
    ∀ fuel s f g h s' r, CacheSound C s → ite C lvl fuel s f g h = some (s', r) →
      CacheSound C s' ∧ ∀ a, r.eval a = iteB (f.eval a) (g.eval a) (h.eval a) := by
  intro fuel
  induction fuel with
  | zero => intro s f g h s' r _ hrun; simp [ite] at hrun
  | succ n ih =>
    intro s f g h s' r hs hrun
    have key_sem := iteNew_sound (ordP lvl) f g h
    refine ite_succ_elim (M := fun s' r => CacheSound C s' ∧
      ∀ a, r.eval a = iteB (f.eval a) (g.eval a) (h.eval a)) ?_ ?_ ?_ hrun
    · intro r hk
      exact ⟨hs, fun a => by rw [← key_sem a, hk]; rfl⟩
    · intro v _ hv
      exact ⟨hs, fun a => by rw [cacheGet_sound C s hs _ _ hv a, key_sem a]⟩
    · intro x s1 t s2 e _ _ ht he
      obtain ⟨hs1, ht_sem⟩ := ih _ _ _ _ _ _ hs ht
      obtain ⟨hs2, he_sem⟩ := ih _ _ _ _ _ _ hs1 he
      have shannon : ∀ a, (if a x then t.eval a else e.eval a)
          = iteB (f.eval a) (g.eval a) (h.eval a) := by
        intro a
        cases hax : a x
        · simp [he_sem a, condEssential_eval _ x false a hax]
        · simp [ht_sem a, condEssential_eval _ x true a hax]
      refine ⟨fun hte => ⟨hs2, fun a => by rw [← shannon a, ← hte]; simp⟩, fun _ => ?_⟩
      have hr : ∀ a, (mkNode x e t).eval a = iteB (f.eval a) (g.eval a) (h.eval a) :=
        fun a => by rw [mkNode_eval, shannon a]
      exact ⟨cacheInsert_sound C s2 hs2 _ _ (fun a => by rw [hr a, key_sem a]), hr⟩

theorem ite_den {C : CacheImpl} {lvl : Nat → Nat} {fuel : Nat} {s s' : C.σ} {f g h r : Ptr}
    (hs : CacheSound C s) (hrun : ite C lvl fuel s f g h = some (s', r)) :
    CacheSound C s' ∧ den r = fIte (den f) (den g) (den h) := by
  obtain ⟨h1, h2⟩ := ite_sem C lvl fuel s f g h s' r hs hrun
  exact ⟨h1, funext fun a => by simp [fIte, h2 a]⟩

/-! ## conditioning -/

/-- **`cond_with_alloc` (memo-free reading) computes the cofactor** of an *ordered* diagram.
Orderedness is needed twice: for the early return `lvl x < lvl y` (then `x` does not occur
below), and at `y = x` (then `x` does not occur in the children).  Injectivity of `lvl` is
not needed. -/
theorem condPure_sem (lvl : Nat → Nat) (x : Nat) (b : Bool) :
    ∀ (p : Ptr) (k : Nat), p.above lvl k → ∀ a, (condPure lvl x b p).eval a = p.eval (upd a x b) := by
  intro p
  induction p with
  | tru => intro k _ a; rfl
  | fls => intro k _ a; rfl
  | node c y lo hi ihlo ihhi =>
    intro k ⟨_, alo, ahi⟩ a
    -- away from `x` the node reads `a y` and its conditioned children
    have other : y ≠ x → (Ptr.node c y lo hi).eval (upd a x b) =
        xor c (if a y then (condPure lvl x b hi).eval a else (condPure lvl x b lo).eval a) := fun hyx => by
      simp only [Ptr.eval, upd_other a b hyx, ihlo _ alo a, ihhi _ ahi a]
    apply condPure_node_elim (M := fun r => r.eval a = (Ptr.node c y lo hi).eval (upd a x b))
    · intro hlt
      exact (eval_upd_of_above b a (show (Ptr.node c y lo hi).above lvl (lvl y) from
        ⟨Nat.le_refl _, alo, ahi⟩) hlt).symm
    · intro hyx
      subst hyx
      have e1 := eval_upd_of_above (x := y) b a alo (Nat.lt_succ_self _)
      have e2 := eval_upd_of_above (x := y) b a ahi (Nat.lt_succ_self _)
      rw [eval_ite_neg]
      cases b <;> simp [Ptr.eval, e1, e2]
    · intro hyx hlh
      rw [other hyx, eval_ite_neg, ← hlh]; simp
    · intro hyx _
      rw [other hyx, eval_ite_neg, mkNode_eval]
    · intro hyx hl hh
      rw [other hyx, hl, hh]; rfl

/-- `condition` (with its fresh memo) computes the cofactor of an ordered diagram -/
theorem condition_sem {lvl : Nat → Nat} {k : Nat} {p : Ptr} (x : Nat) (b : Bool)
    (ha : p.above lvl k) : den (condition lvl p x b) = fCond (den p) x b := by
  rw [condition_eq_pure]; exact funext fun a => condPure_sem lvl x b p k ha a

theorem condModel_sem {lvl : Nat → Nat} {k : Nat} : ∀ (m : List (Nat × Bool)) {p : Ptr},
    p.above lvl k → den (condModel lvl p m) = fCondList (den p) m
  | [], _, _ => rfl
  | (x, b) :: rest, p, ha => by
    rw [condModel, fCondList, ← condition_sem x b ha]
    exact condModel_sem rest (condition_above lvl x b ha)

/-! ## variables and the derived operations -/

theorem mkVar_sem (x : Nat) (pol : Bool) : den (mkVar x pol) = fVar x pol := by
  funext a
  cases pol <;> simp [mkVar, den, fVar, mkNode_eval, Ptr.eval]

section ops
variable {C : CacheImpl} {lvl : Nat → Nat} {fuel : Nat}

theorem bAnd_sem {s s' : C.σ} {f g r : Ptr} (hs : CacheSound C s)
    (hrun : bAnd C lvl fuel s f g = some (s', r)) :
    CacheSound C s' ∧ den r = fAnd (den f) (den g) := by
  obtain ⟨h1, h2⟩ := ite_sem C lvl fuel s f g .fls s' r hs hrun
  refine ⟨h1, funext fun a => ?_⟩
  simp only [den, fAnd, h2 a, iteB, Ptr.eval]
  cases f.eval a <;> simp

theorem bIff_sem {s s' : C.σ} {f g r : Ptr} (hs : CacheSound C s)
    (hrun : bIff C lvl fuel s f g = some (s', r)) :
    CacheSound C s' ∧ den r = fIff (den f) (den g) := by
  obtain ⟨h1, h2⟩ := ite_sem C lvl fuel s f g g.neg s' r hs hrun
  refine ⟨h1, funext fun a => ?_⟩
  simp only [den, fIff, h2 a, iteB, eval_neg]
  cases f.eval a <;> cases g.eval a <;> rfl

theorem bXor_sem {s s' : C.σ} {f g r : Ptr} (hs : CacheSound C s)
    (hrun : bXor C lvl fuel s f g = some (s', r)) :
    CacheSound C s' ∧ den r = fXor (den f) (den g) := by
  obtain ⟨h1, h2⟩ := ite_sem C lvl fuel s f g.neg g s' r hs hrun
  refine ⟨h1, funext fun a => ?_⟩
  simp only [den, fXor, h2 a, iteB, eval_neg]
  cases f.eval a <;> cases g.eval a <;> rfl

theorem bOr_sem {s s' : C.σ} {f g r : Ptr} (hs : CacheSound C s)
    (hrun : bOr C lvl fuel s f g = some (s', r)) :
    CacheSound C s' ∧ den r = fOr (den f) (den g) := by
  unfold bOr at hrun
  split at hrun
  · rename_i s1 r1 h1
    simp only [Option.some.injEq, Prod.mk.injEq] at hrun; obtain ⟨rfl, rfl⟩ := hrun
    obtain ⟨h2, h3⟩ := bAnd_sem hs h1
    refine ⟨h2, ?_⟩
    rw [den_neg, h3, den_neg, den_neg]
    funext a
    simp only [fNot, fAnd, fOr]
    cases den f a <;> cases den g a <;> rfl
  · cases hrun

/-- `exists` needs its argument ordered (it conditions it) -/
theorem bExists_sem {s s' : C.σ} {f r : Ptr} {x k : Nat} (hs : CacheSound C s)
    (ha : f.above lvl k) (hrun : bExists C lvl fuel s f x = some (s', r)) :
    CacheSound C s' ∧ den r = fExists (den f) x := by
  obtain ⟨h1, h2⟩ := bOr_sem hs hrun
  refine ⟨h1, ?_⟩
  rw [h2, condition_sem x true ha, condition_sem x false ha]
  rfl

/-- `compose f x g = ∃ x. (x ⇔ g) ∧ f`; it conditions an intermediate `ite` result, hence the
well-formedness hypotheses -/
theorem bCompose_sem (inj : ∀ x y, lvl x = lvl y → x = y) {s s' : C.σ} {f g r : Ptr} {x : Nat}
    (hs : CacheSound C s) (hw : CacheWF C lvl s) (hf : WF lvl f) (hg : WF lvl g)
    (hrun : bCompose C lvl fuel s f x g = some (s', r)) :
    CacheSound C s' ∧ den r = fCompose (den f) x (den g) := by
  unfold bCompose at hrun
  split at hrun
  · cases hrun
  · rename_i s1 i h1
    obtain ⟨hs1, ei⟩ := bIff_sem hs h1
    obtain ⟨hw1, wi⟩ := bIff_WF C lvl inj hw (mkVar_WF lvl x true) hg h1
    split at hrun
    · cases hrun
    · rename_i s2 a h2
      obtain ⟨hs2, ea⟩ := bAnd_sem hs1 h2
      obtain ⟨hw2, wa⟩ := bAnd_WF C lvl inj hw1 wi hf h2
      obtain ⟨hs3, er⟩ := bExists_sem hs2 wa.1 hrun
      refine ⟨hs3, ?_⟩
      rw [er, ea, ei, mkVar_sem]; rfl

theorem bAndLst_sem : ∀ (ps : List Ptr) {s s' : C.σ} {acc r : Ptr}, CacheSound C s →
    bAndLst C lvl fuel s acc ps = some (s', r) →
    CacheSound C s' ∧ den r = (ps.map den).foldl fAnd (den acc)
  | [], s, s', acc, r, hs, hrun => by
    simp only [bAndLst, Option.some.injEq, Prod.mk.injEq] at hrun
    obtain ⟨rfl, rfl⟩ := hrun; exact ⟨hs, rfl⟩
  | p :: ps, s, s', acc, r, hs, hrun => by
    simp only [bAndLst] at hrun
    split at hrun
    · cases hrun
    · rename_i s1 r1 h1
      obtain ⟨hs1, e1⟩ := bAnd_sem hs h1
      obtain ⟨hs2, e2⟩ := bAndLst_sem ps hs1 hrun
      exact ⟨hs2, by rw [e2, e1]; rfl⟩

theorem bOrLst_sem : ∀ (ps : List Ptr) {s s' : C.σ} {acc r : Ptr}, CacheSound C s →
    bOrLst C lvl fuel s acc ps = some (s', r) →
    CacheSound C s' ∧ den r = (ps.map den).foldl fOr (den acc)
  | [], s, s', acc, r, hs, hrun => by
    simp only [bOrLst, Option.some.injEq, Prod.mk.injEq] at hrun
    obtain ⟨rfl, rfl⟩ := hrun; exact ⟨hs, rfl⟩
  | p :: ps, s, s', acc, r, hs, hrun => by
    simp only [bOrLst] at hrun
    split at hrun
    · cases hrun
    · rename_i s1 r1 h1
      obtain ⟨hs1, e1⟩ := bOr_sem hs h1
      obtain ⟨hs2, e2⟩ := bOrLst_sem ps hs1 hrun
      exact ⟨hs2, by rw [e2, e1]; rfl⟩

end ops

#print axioms ite_sem
#print axioms condPure_sem
#print axioms condModel_sem
#print axioms bCompose_sem
#print axioms bAndLst_sem
#print axioms bOrLst_sem
end Bdd
