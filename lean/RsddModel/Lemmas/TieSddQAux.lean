import RsddModel.Model.SddSemantic
import RsddModel.Model.ScratchSdd
/-!
# Literal mirrors for the translator route of the SDD queries / the semantic SDD builder

`tools/gen_sddq.py` regenerates `Model/GenSddQ.lean` from `src/repr/sdd.rs`,
`src/repr/sdd/{binary_sdd,sdd_or}.rs`, `src/builder/sdd/semantic.rs`.  Where the hand-written model
is shaped differently from the Rust, this file holds a definition that mirrors the Rust literally
(the generated definition is proved EQUAL to it in `Props/TieSddQ.lean`) together with the theorem
relating the mirror to the model definition the property theorems are about.

## 1. the semantic builder's two node tables

The Rust keeps two `BackedRobinhoodTable`s (`bdd_tbl`, `sdd_tbl`) that are only ever addressed by
`FxHash(semantic_hash.value())`; the model (`SddSem.St.tbl`) keeps ONE association list keyed by the
hash value (see the header of `Model/SddSemantic.lean` for why the key is the value).  The mirror
keeps the two tables; `Rel` says that the model's table answers like "the BDD table, else the SDD
table", which every operation preserves.
-/
namespace SddSemAux
open Sdd SddSem

/-- `bdd_tbl`, `sdd_tbl`, `app_cache` -/
structure St2 where
  bdd : List (Nat × Ptr)
  sdd : List (Nat × Ptr)
  app : List (Nat × Ptr)

/-- `BackedRobinhoodTable::get_by_hash` (no element comparison) -/
def getByHash (t : List (Nat × Ptr)) (k : Nat) : Option Ptr := ListCache.get t k

/-- `BackedRobinhoodTable::get_or_insert_by_hash(hash, elem, equality_by_hash = true)` -/
def getOrInsertByHash (t : List (Nat × Ptr)) (k : Nat) (node : Ptr) : List (Nat × Ptr) × Ptr :=
  match ListCache.get t k with
  | some r => (t, r)
  | none => ((k, node) :: t, node)

/-- `get_shared_sdd_ptr` -/
def shared2 (st : St2) (x hash : Nat) : Option Ptr :=
  if x = 0 then some .fls else if x = 1 then some .tru
  else
    match getByHash st.bdd hash with
    | some r => some r
    | none => getByHash st.sdd hash

/-- `check_cached_hash_and_neg` -/
def checkNeg (π : Params) (st : St2) (x : Nat) : Option Ptr :=
  match shared2 st x x with
  | some r => some r
  | none =>
    match shared2 st (π.negH x) (π.negH x) with
    | some r => some r.neg
    | none => none

/-- `get_or_insert_bdd` (the counter is not modelled) -/
def getOrInsertBdd (π : Params) (st : St2) (node : Ptr) : St2 × Ptr :=
  match checkNeg π st (π.h node) with
  | some r => (st, r)
  | none =>
    let a := getOrInsertByHash st.bdd (π.h node) node
    (⟨a.1, st.sdd, st.app⟩, a.2)

/-- `get_or_insert_sdd` -/
def getOrInsertSdd (π : Params) (st : St2) (node : Ptr) : St2 × Ptr :=
  match checkNeg π st (π.h node) with
  | some r => (st, r)
  | none =>
    let a := getOrInsertByHash st.sdd (π.h node) node
    (⟨st.bdd, a.1, st.app⟩, a.2)

/-- `app_cache_get` without the collision detector -/
def appGetRaw (π : Params) (app : List (Nat × Ptr)) (a b : Ptr) : Option Ptr :=
  if appKey π a b = 0 then some Ptr.fls else if appKey π a b = 1 then some Ptr.tru
  else ListCache.get app (appKey π a b)

/-- `app_cache_insert` on the cache alone -/
def appInsertRaw (π : Params) (app : List (Nat × Ptr)) (a b r : Ptr) : List (Nat × Ptr) :=
  if appKey π a b > 1 then (appKey π a b, r) :: app else app

/-- `sdd_eq` without the collision detector -/
def eqRaw (π : Params) (a b : Ptr) : Bool := π.h a == π.h b

/-- the model's table answers like "BDD table, else SDD table"; same apply cache -/
def Rel (s2 : St2) (s : St) : Prop :=
  (∀ x, ListCache.get s.tbl x = (match getByHash s2.bdd x with | some r => some r | none => getByHash s2.sdd x))
  ∧ s.app = s2.app

theorem rel_init : Rel ⟨[], [], []⟩ SddSem.St.init := by
  refine ⟨fun x => ?_, rfl⟩
  simp [SddSem.St.init, getByHash, ListCache.get]

theorem shared_eq {s2 : St2} {s : St} (h : Rel s2 s) (x : Nat) : shared s x = shared2 s2 x x := by
  simp only [shared, shared2, h.1 x]

theorem eqJ_raw (π : Params) (a b : Ptr) :
    eqJ π a b = guardJ π (eqRaw π a b == equivB π.vt a b) (eqRaw π a b) := rfl

theorem appGet_raw (π : Params) (st : St) (a b : Ptr) :
    appGet π st a b =
      (match appGetRaw π st.app a b with
       | none => some none
       | some x => guardJ π (equivAndB π.vt x a b) (some x)) := rfl

theorem appInsert_raw (π : Params) (st : St) (a b r : Ptr) :
    appInsert π st a b r = ⟨st.tbl, appInsertRaw π st.app a b r⟩ := by
  simp only [appInsert, appInsertRaw]; split <;> rfl

theorem getOrInsertByHash_miss {t : List (Nat × Ptr)} {k : Nat} (h : getByHash t k = none) (node : Ptr) :
    getOrInsertByHash t k node = ((k, node) :: t, node) := by
  unfold getOrInsertByHash; rw [show ListCache.get t k = none from h]

theorem getByHash_cons (t : List (Nat × Ptr)) (k : Nat) (v : Ptr) (x : Nat) :
    getByHash ((k, v) :: t) x = if x = k then some v else getByHash t x := by
  simp only [getByHash, ListCache.get]

theorem shared2_none {s2 : St2} {x : Nat} (h : shared2 s2 x x = none) :
    getByHash s2.bdd x = none ∧ getByHash s2.sdd x = none := by
  unfold shared2 at h
  by_cases h0 : x = 0
  · rw [if_pos h0] at h; cases h
  by_cases h1 : x = 1
  · rw [if_neg h0, if_pos h1] at h; cases h
  rw [if_neg h0, if_neg h1] at h
  cases hb : getByHash s2.bdd x with
  | some r => rw [hb] at h; cases h
  | none => rw [hb] at h; exact ⟨rfl, h⟩

theorem Rel.insert {s2 : St2} {s : St} (h : Rel s2 s) {k : Nat} (hb : getByHash s2.bdd k = none) (n : Ptr)
    (isBdd : Bool) :
    Rel (if isBdd then ⟨(k, n) :: s2.bdd, s2.sdd, s2.app⟩ else ⟨s2.bdd, (k, n) :: s2.sdd, s2.app⟩)
      ⟨(k, n) :: s.tbl, s.app⟩ := by
  cases isBdd <;> refine ⟨fun y => ?_, h.2⟩ <;>
    simp only [Bool.false_eq_true, if_false, if_true, getByHash_cons, ListCache.get] <;>
    by_cases hk : y = k
  · subst hk; rw [if_pos rfl, if_pos rfl, hb]
  · rw [if_neg hk, if_neg hk]; exact h.1 y
  · rw [if_pos hk, if_pos hk]
  · rw [if_neg hk, if_neg hk]; exact h.1 y

/-- the two-table `get_or_insert_*` refines the model's `getOrInsert` (and keeps `Rel`) -/
theorem getOrInsert_refines (π : Params) {s2 : St2} {s : St} (h : Rel s2 s) (node : Ptr) (isBdd : Bool) :
    let r2 := if isBdd then getOrInsertBdd π s2 node else getOrInsertSdd π s2 node
    ∃ s', getOrInsert π s node = guardJ π (equivB π.vt r2.2 node) (s', r2.2) ∧ Rel r2.1 s' := by
  simp only [getOrInsert, getOrInsertBdd, getOrInsertSdd, checkNeg, shared_eq h]
  cases hx : shared2 s2 (π.h node) (π.h node) with
  | some r => cases isBdd <;> exact ⟨s, rfl, h⟩
  | none =>
    cases hn : shared2 s2 (π.negH (π.h node)) (π.negH (π.h node)) with
    | some r => cases isBdd <;> exact ⟨s, rfl, h⟩
    | none =>
      have hb := shared2_none hx
      have hr := h.insert hb.1 node isBdd
      simp only [getOrInsertByHash_miss hb.1, getOrInsertByHash_miss hb.2]
      cases isBdd <;> exact ⟨_, rfl, hr⟩
end SddSemAux

/-! ## 2. `SemanticSddBuilder::stats`

The loop `for n in self.node_iter() { let h = n.cached_semantic_hash(&self.vtree, &self.map); if s.contains(&h.value())
{ num_collisions += 1 }; s.insert(h.value()); }` over the node store with its `semantic_hash` memo
(`Sdd.cachedHash`); the `HashSet<u128>` is a list.  The memo it leaves behind is that of
`Sdd.cachedHashes` with the builder's own prime and weight map. -/
namespace SddSemAux
open Sdd

def statsLoop (P : Nat) (w : Spec.Weights Nat) (s : Store) :
    List Ref → List Nat → Nat → HashCache → List Nat × Nat × HashCache
  | [], seen, k, c => (seen, k, c)
  | r :: rs, seen, k, c =>
    let a := cachedHash P w s r c
    statsLoop P w s rs (a.1 :: seen) (if seen.contains a.1 then k + 1 else k) a.2

theorem statsLoop_cache (P : Nat) (w : Spec.Weights Nat) (s : Store) (rs : List Ref) (seen : List Nat) (k : Nat)
    (c : HashCache) : (statsLoop P w s rs seen k c).2.2 = (cachedHashes P w s rs c).2 := by
  induction rs generalizing seen k c with
  | nil => rfl
  | cons r rs ih => simp only [statsLoop, cachedHashes, ih]

end SddSemAux
