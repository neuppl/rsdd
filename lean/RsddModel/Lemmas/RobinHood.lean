import RsddModel.Model.RobinHood
/-!
# Lemmas: the robin-hood table refines find-or-insert on an append-only set
(see the summary at the end of the file)
-/
namespace RH

/-! ## cyclic index arithmetic -/

theorem succ_mod_shift (pos j cap : Nat) : ((pos + 1) % cap + j) % cap = (pos + (j + 1)) % cap := by
  rw [Nat.mod_add_mod, Nat.add_assoc, Nat.add_comm 1 j]

/-- stepping `j` times (`0 < j < cap`) never comes back to `p`: `cap` would divide `j` -/
theorem add_mod_ne {p j cap : Nat} (h0 : 0 < j) (hj : j < cap) : (p + j) % cap ≠ p := fun he => by
  have h := Nat.div_add_mod (p + j) cap
  rw [he, Nat.add_comm] at h
  exact Nat.ne_of_gt h0 (Nat.eq_zero_of_dvd_of_lt ⟨_, (Nat.add_left_cancel h).symm⟩ hj)

/-- the predecessor on `[0, cap)`: `cap - 1` steps on from the successor -/
theorem succ_mod_pred {p cap : Nat} (hp : p < cap) : ((p + 1) % cap + (cap - 1)) % cap = p := by
  rw [Nat.mod_add_mod, Nat.add_assoc, Nat.add_sub_of_le (Nat.succ_le_of_lt (Nat.zero_lt_of_lt hp)),
    Nat.add_mod_right, Nat.mod_eq_of_lt hp]

theorem succ_mod_inj {p q cap : Nat} (hp : p < cap) (hq : q < cap)
    (h : (p + 1) % cap = (q + 1) % cap) : p = q := by
  rw [← succ_mod_pred hp, h, succ_mod_pred hq]

/-- every slot `q` is reached from `h` in fewer than `cap` steps -/
theorem reach (h q cap : Nat) (hq : q < cap) : ∃ d < cap, (h + d) % cap = q := by
  have hc : 0 < cap := Nat.zero_lt_of_lt hq
  refine ⟨(q + (cap - h % cap)) % cap, Nat.mod_lt _ hc, ?_⟩
  rw [Nat.add_mod_mod, Nat.add_left_comm, Nat.add_mod, ← Nat.mod_add_mod h cap (cap - h % cap),
    Nat.add_sub_of_le (Nat.le_of_lt (Nat.mod_lt h hc)), Nat.mod_self, Nat.add_zero, Nat.mod_mod,
    Nat.mod_eq_of_lt hq]

/-! ## reading and writing slots -/

theorem sget_eq_getElem {v : List Slot} {p : Nat} (h : p < v.length) : sget v p = v[p] := by
  simp [sget, List.getD_eq_getElem?_getD, h]

theorem sget_mem {v : List Slot} {p : Nat} (h : p < v.length) : sget v p ∈ v := by
  rw [sget_eq_getElem h]; exact List.getElem_mem h

theorem sget_set_self {v : List Slot} {p : Nat} {x : Slot} (h : p < v.length) :
    sget (v.set p x) p = x := by
  simp [sget, List.getD_eq_getElem?_getD, h]

theorem sget_set_ne {v : List Slot} {p q : Nat} {x : Slot} (h : p ≠ q) :
    sget (v.set p x) q = sget v q := by
  simp [sget, List.getD_eq_getElem?_getD, h]

theorem exists_sget_of_mem {v : List Slot} {x : Slot} (h : x ∈ v) :
    ∃ p, p < v.length ∧ sget v p = x := by
  obtain ⟨p, hp, e⟩ := List.getElem_of_mem h
  exact ⟨p, hp, by rw [sget_eq_getElem hp, e]⟩

theorem countP_set_add {g : Slot → Bool} {v : List Slot} {p : Nat} {x : Slot} (h : p < v.length) :
    (v.set p x).countP g + (if g (sget v p) then 1 else 0)
      = v.countP g + (if g x then 1 else 0) := by
  rw [List.countP_set h, sget_eq_getElem h]
  by_cases hg : g v[p] = true
  · rw [if_pos hg, Nat.add_right_comm,
      Nat.sub_add_cancel (List.countP_pos_iff.2 ⟨_, List.getElem_mem h, hg⟩)]
  · rw [if_neg hg]; rfl

/-! ## the slot-array invariant -/

def Occ (v : List Slot) (p : Nat) : Prop := (sget v p).occ = true

/-- every element sits `psl` steps (cyclically) after its home slot -/
def PosOK (v : List Slot) (cap : Nat) : Prop :=
  ∀ p < cap, Occ v p → ((sget v p).hash + (sget v p).psl) % cap = p

/-- the robin-hood order, local form: an element with `psl > 0` has an occupied predecessor whose
psl is at most one smaller -/
def Loc (v : List Slot) (cap : Nat) : Prop :=
  ∀ p < cap, Occ v ((p + 1) % cap) → 0 < (sget v ((p + 1) % cap)).psl →
    Occ v p ∧ (sget v ((p + 1) % cap)).psl ≤ (sget v p).psl + 1

/-- `SL`, the `Loc` condition of a searcher: an element with probe length `d` may be put at `pos`
as far as its predecessor is concerned -/
def SL (v : List Slot) (cap d pos : Nat) : Prop :=
  ∀ p < cap, (p + 1) % cap = pos → 0 < d → Occ v p ∧ d ≤ (sget v p).psl + 1

/-- `FE`, first empty: the first unoccupied slot at or after `pos` is `m` steps away -/
def FE (v : List Slot) (cap pos m : Nat) : Prop :=
  (∀ j < m, Occ v ((pos + j) % cap)) ∧ ¬ Occ v ((pos + m) % cap)

/-- the slot-array part of the table invariant -/
structure Good (v : List Slot) (cap : Nat) : Prop where
  len : v.length = cap
  pos : PosOK v cap
  loc : Loc v cap

section SlotArray
variable {v : List Slot} {cap pos : Nat} {s : Slot}

theorem occ_set {p : Nat} {x : Slot} (hp : p < v.length) (hx : x.occ = true)
    (ho : Occ v p) (q : Nat) : Occ (v.set p x) q ↔ Occ v q := by
  unfold Occ at *
  by_cases h : p = q
  · subst h; rw [sget_set_self hp]; simp [hx, ho]
  · rw [sget_set_ne h]

theorem FE.emp (h : FE v cap pos 0) (hp : pos < cap) : ¬ Occ v pos := by
  have := h.2; rwa [Nat.add_zero, Nat.mod_eq_of_lt hp] at this

theorem FE.occ {m : Nat} (h : FE v cap pos (m + 1)) (hp : pos < cap) : Occ v pos := by
  have := h.1 0 (Nat.succ_pos m); rwa [Nat.add_zero, Nat.mod_eq_of_lt hp] at this

theorem FE.shift {v' : List Slot} {m : Nat} (h : FE v cap pos (m + 1))
    (ho : ∀ q, Occ v' q ↔ Occ v q) : FE v' cap ((pos + 1) % cap) m := by
  refine ⟨fun j hj => ?_, ?_⟩
  · rw [succ_mod_shift, ho]; exact h.1 (j + 1) (Nat.succ_lt_succ hj)
  · rw [succ_mod_shift, ho]; exact h.2

/-- writing `s` at `pos` keeps the invariant, provided `s` fits after its predecessor (`SL`) and
the successor still fits after `s` -/
theorem good_set (hg : Good v cap)
    (hs : s.occ = true) (hpos : pos < cap) (hh : (s.hash + s.psl) % cap = pos)
    (hsl : SL v cap s.psl pos)
    (hn : Occ v ((pos + 1) % cap) → 0 < (sget v ((pos + 1) % cap)).psl →
      (sget v ((pos + 1) % cap)).psl ≤ s.psl + 1) :
    Good (v.set pos s) cap := by
  have hl : pos < v.length := by rw [hg.len]; exact hpos
  refine ⟨(List.length_set ..).trans hg.len, ?_, ?_⟩
  · intro p hp ho
    by_cases h : pos = p
    · subst h; rw [sget_set_self hl]; exact hh
    · rw [sget_set_ne h]; rw [Occ, sget_set_ne h] at ho; exact hg.pos p hp ho
  · intro p hp ho hps
    by_cases hq : pos = (p + 1) % cap <;> by_cases hpp : pos = p
    · subst hpp; rw [← hq, sget_set_self hl]
      exact ⟨by rw [Occ, sget_set_self hl]; exact hs, Nat.le_succ _⟩
    · rw [← hq, sget_set_self hl] at hps ⊢
      rw [Occ, sget_set_ne hpp]
      exact hsl p hp hq.symm hps
    · subst hpp
      rw [Occ, sget_set_ne hq] at ho
      rw [sget_set_ne hq] at hps ⊢
      rw [sget_set_self hl]
      exact ⟨by rw [Occ, sget_set_self hl]; exact hs, hn ho hps⟩
    · rw [Occ, sget_set_ne hq] at ho
      rw [sget_set_ne hq] at hps ⊢
      rw [Occ, sget_set_ne hpp]
      exact hg.loc p hp ho hps

/-! ## `propagate` -/

theorem propagate_emp {fuel : Nat}
    (h : ¬ Occ v pos) : propagate (fuel + 1) v cap s pos = v.set pos s := by
  unfold Occ at h
  simp [propagate, h]

/-- the resident is richer than the element in hand: they change places -/
theorem propagate_swap {fuel : Nat}
    (h : Occ v pos) (hlt : (sget v pos).psl < s.psl) :
    propagate (fuel + 1) v cap s pos = propagate fuel (v.set pos s) cap
      { sget v pos with psl := (sget v pos).psl + 1 } ((pos + 1) % cap) := by
  unfold Occ at h
  simp [propagate, h, hlt]

theorem propagate_keep {fuel : Nat}
    (h : Occ v pos) (hlt : ¬ (sget v pos).psl < s.psl) :
    propagate (fuel + 1) v cap s pos =
      propagate fuel v cap { s with psl := s.psl + 1 } ((pos + 1) % cap) := by
  unfold Occ at h
  simp [propagate, h, hlt]

theorem propagate_length (fuel : Nat) (v : List Slot) (cap : Nat) (s : Slot) (pos : Nat) :
    (propagate fuel v cap s pos).length = v.length := by
  induction fuel generalizing v s pos with
  | zero => rfl
  | succ f ih =>
    by_cases h : Occ v pos
    · by_cases hlt : (sget v pos).psl < s.psl
      · rw [propagate_swap h hlt, ih, List.length_set]
      · rw [propagate_keep h hlt, ih]
    · rw [propagate_emp h, List.length_set]

/-- Case principle for a run of `propagate` that starts `m` steps before the first unoccupied slot
with more than `m` fuel: it swaps or keeps `m` times and then leaves through `return`; the
out-of-fuel branch is not reached. -/
theorem propagate_cases {motive : Nat → List Slot → Slot → Nat → List Slot → Prop}
    (emp : ∀ v s pos, v.length = cap → pos < cap → ¬ Occ v pos → motive 0 v s pos (v.set pos s))
    (swap : ∀ m v s pos r, v.length = cap → pos < cap → s.occ = true → Occ v pos →
      (sget v pos).psl < s.psl →
      motive m (v.set pos s) { sget v pos with psl := (sget v pos).psl + 1 } ((pos + 1) % cap) r →
      motive (m + 1) v s pos r)
    (keep : ∀ m v s pos r, v.length = cap → pos < cap → s.occ = true → Occ v pos →
      ¬ (sget v pos).psl < s.psl →
      motive m v { s with psl := s.psl + 1 } ((pos + 1) % cap) r → motive (m + 1) v s pos r)
    (m : Nat) : ∀ (f : Nat) (v : List Slot) (s : Slot) (pos : Nat), v.length = cap → pos < cap →
      s.occ = true → FE v cap pos m → m < f → motive m v s pos (propagate f v cap s pos) := by
  induction m with
  | zero =>
    intro f v s pos hl hp _ hfe hf
    obtain ⟨f, rfl⟩ := Nat.exists_eq_add_one.2 hf
    rw [propagate_emp (hfe.emp hp)]
    exact emp v s pos hl hp (hfe.emp hp)
  | succ m ih =>
    intro f v s pos hl hp hs hfe hf
    obtain ⟨f, rfl⟩ := Nat.exists_eq_add_one.2 (Nat.zero_lt_of_lt hf)
    have ho := hfe.occ hp
    have hn : (pos + 1) % cap < cap := Nat.mod_lt _ (Nat.zero_lt_of_lt hp)
    by_cases hlt : (sget v pos).psl < s.psl
    · rw [propagate_swap ho hlt]
      exact swap m v s pos _ hl hp hs ho hlt
        (ih f _ _ _ (by rw [List.length_set, hl]) hn ho (hfe.shift (occ_set (hl ▸ hp) hs ho))
          (Nat.lt_of_succ_lt_succ hf))
    · rw [propagate_keep ho hlt]
      exact keep m v s pos _ hl hp hs ho hlt
        (ih f _ _ _ hl hn hs (hfe.shift fun _ => Iff.rfl) (Nat.lt_of_succ_lt_succ hf))

/-- `PSt`, state of the `propagate` loop: `s` is in hand and wants to go to `pos` -/
structure PSt (v : List Slot) (cap : Nat) (s : Slot) (pos : Nat) : Prop where
  good : Good v cap
  socc : s.occ = true
  hpos : pos < cap
  home : (s.hash + s.psl) % cap = pos
  sl : SL v cap s.psl pos

theorem home_succ {a b : Nat} (h : (a + b) % cap = pos) :
    (a + (b + 1)) % cap = (pos + 1) % cap := by
  rw [← h, Nat.mod_add_mod, Nat.add_assoc]

theorem SL.next {d : Nat} (hp : pos < cap) (ho : Occ v pos)
    (hd : d ≤ (sget v pos).psl + 1) : SL v cap d ((pos + 1) % cap) := by
  intro p hpc hpe _
  cases succ_mod_inj hpc hp hpe
  exact ⟨ho, hd⟩

theorem PSt.swap (h : PSt v cap s pos)
    (ho : Occ v pos) (hlt : (sget v pos).psl < s.psl) :
    PSt (v.set pos s) cap { sget v pos with psl := (sget v pos).psl + 1 } ((pos + 1) % cap) := by
  have hl : pos < v.length := h.good.len ▸ h.hpos
  refine ⟨good_set h.good h.socc h.hpos h.home h.sl ?_, ho,
    Nat.mod_lt _ (Nat.zero_lt_of_lt h.hpos), home_succ (h.good.pos pos h.hpos ho), ?_⟩
  · intro ho' hps
    exact Nat.le_trans (h.good.loc pos h.hpos ho' hps).2 (Nat.succ_le_succ (Nat.le_of_lt hlt))
  · refine SL.next h.hpos ((occ_set hl h.socc ho pos).2 ho) ?_
    rw [sget_set_self hl]
    exact Nat.succ_le_succ (Nat.le_of_lt hlt)

theorem PSt.keep (h : PSt v cap s pos)
    (ho : Occ v pos) (hlt : ¬ (sget v pos).psl < s.psl) :
    PSt v cap { s with psl := s.psl + 1 } ((pos + 1) % cap) :=
  ⟨h.good, h.socc, Nat.mod_lt _ (Nat.zero_lt_of_lt h.hpos), home_succ h.home,
    SL.next h.hpos ho (Nat.succ_le_succ (Nat.not_lt.1 hlt))⟩

theorem PSt.finish (h : PSt v cap s pos)
    (ho : ¬ Occ v pos) : Good (v.set pos s) cap :=
  good_set h.good h.socc h.hpos h.home h.sl
    (fun ho' hps => absurd (h.good.loc pos h.hpos ho' hps).1 ho)

theorem forall_mem_set {Q : Slot → Prop} (hv : ∀ x ∈ v, Q x) (hs : Q s)
    (p : Nat) : ∀ x ∈ v.set p s, Q x := fun x hx =>
  (List.mem_or_eq_of_mem_set hx).elim (hv x) (· ▸ hs)

/-- `Ext`, extension: what inserting the elements `xs` does to the slot array: the invariant is kept, every
psl-independent count grows by that of `xs`, and every slot of the result comes from the old
array or from `xs` (up to psl) -/
structure Ext (v : List Slot) (cap : Nat) (xs v' : List Slot) : Prop where
  good : Good v' cap
  cnt : ∀ g : Slot → Bool, (∀ x n, g { x with psl := n } = g x) → (∀ x, g x = true → x.occ = true) →
    v'.countP g = v.countP g + xs.countP g
  all : ∀ Q : Slot → Prop, (∀ x n, Q x → Q { x with psl := n }) → (∀ x ∈ v, Q x) →
    (∀ x ∈ xs, Q x) → ∀ x ∈ v', Q x

theorem Ext.cons {v₁ v₂ xs : List Slot} {n : Nat} {a : Slot}
    (h₁ : Ext v cap [{ a with psl := n }] v₁) (h₂ : Ext v₁ cap xs v₂) : Ext v cap (a :: xs) v₂ where
  good := h₂.good
  cnt g hg1 hg0 := by
    rw [h₂.cnt g hg1 hg0, h₁.cnt g hg1 hg0, List.countP_singleton, hg1, List.countP_cons,
      Nat.add_assoc, Nat.add_comm (List.countP g xs)]
  all Q hQ hv hxs := h₂.all Q hQ
    (h₁.all Q hQ hv fun x hx => List.mem_singleton.1 hx ▸ hQ _ _ (hxs a (List.mem_cons_self ..)))
    fun x hx => hxs x (List.mem_cons_of_mem _ hx)

theorem Ext.skip {v' xs : List Slot} {a : Slot} (ha : ¬ a.occ = true)
    (h : Ext v cap xs v') : Ext v cap (a :: xs) v' where
  good := h.good
  cnt g hg1 hg0 := by
    rw [h.cnt g hg1 hg0, List.countP_cons, if_neg fun hga => ha (hg0 a hga)]; rfl
  all Q hQ hv hxs := h.all Q hQ hv fun x hx => hxs x (List.mem_cons_of_mem _ hx)

theorem propagate_ext {m f : Nat} (h : PSt v cap s pos) (hfe : FE v cap pos m)
    (hf : m < f) : Ext v cap [s] (propagate f v cap s pos) := by
  refine ⟨?_, fun g hg1 hg0 => ?_, fun Q hQ hv hs => ?_⟩
  · exact propagate_cases (motive := fun _ v s pos r => PSt v cap s pos → Good r cap)
      (fun _ _ _ _ _ ho h => h.finish ho)
      (fun _ _ _ _ _ _ _ _ ho hlt ih h => ih (h.swap ho hlt))
      (fun _ _ _ _ _ _ _ _ ho hlt ih h => ih (h.keep ho hlt))
      m f v s pos h.good.len h.hpos h.socc hfe hf h
  · rw [List.countP_singleton]
    refine propagate_cases
      (motive := fun _ v s _ r => r.countP g = v.countP g + (if g s then 1 else 0))
      (fun v s pos hl hp ho => ?_) (fun _ v s pos r hl hp _ _ _ ih => ?_)
      (fun _ _ _ _ _ _ _ _ _ _ ih => by rw [ih, hg1]) m f v s pos h.good.len h.hpos h.socc hfe hf
    · have := countP_set_add (g := g) (x := s) (hl ▸ hp : pos < v.length)
      rwa [if_neg (fun hg => ho (hg0 _ hg)), Nat.add_zero] at this
    · rw [ih, hg1, ← countP_set_add (g := g) (x := s) (hl ▸ hp : pos < v.length)]
  · exact propagate_cases
      (motive := fun _ v s _ r => (∀ x ∈ v, Q x) → Q s → ∀ x ∈ r, Q x)
      (fun _ _ pos _ _ _ hv hs => forall_mem_set hv hs pos)
      (fun _ v _ pos _ hl hp _ _ _ ih hv hs =>
        ih (forall_mem_set hv hs pos) (hQ _ _ (hv _ (sget_mem (hl ▸ hp)))))
      (fun _ _ _ _ _ _ _ _ _ _ ih hv hs => ih hv (hQ _ _ hs))
      m f v s pos h.good.len h.hpos h.socc hfe hf hv (hs s (List.mem_singleton_self s))

/-- **fuel**: once the fuel exceeds the distance to the first unoccupied slot the loop leaves
through `return`, and more fuel changes nothing -/
theorem propagate_fuel {m f1 f2 : Nat}
    (hl : v.length = cap) (hp : pos < cap) (hs : s.occ = true) (hfe : FE v cap pos m)
    (h1 : m < f1) (h2 : m < f2) : propagate f1 v cap s pos = propagate f2 v cap s pos :=
  have key : ∀ f, m < f → propagate (m + 1) v cap s pos = propagate f v cap s pos := fun f hf =>
    propagate_cases (motive := fun m v s pos r => propagate (m + 1) v cap s pos = r)
      (fun _ _ _ _ _ ho => propagate_emp ho)
      (fun _ _ _ _ _ _ _ _ ho hlt ih => (propagate_swap ho hlt).trans ih)
      (fun _ _ _ _ _ _ _ _ ho hlt ih => (propagate_keep ho hlt).trans ih)
      m f v s pos hl hp hs hfe hf
  (key f1 h1).symm.trans (key f2 h2)

theorem propagate_set_comm {m f : Nat} (p0 : Nat) (x : Slot)
    (hl : v.length = cap) (hp : pos < cap) (hs : s.occ = true) (hfe : FE v cap pos m)
    (hf : m < f) (hne : ∀ j ≤ m, (pos + j) % cap ≠ p0) :
    (propagate f v cap s pos).set p0 x = propagate (m + 1) (v.set p0 x) cap s pos := by
  refine propagate_cases
    (motive := fun m v s pos r => (∀ j ≤ m, (pos + j) % cap ≠ p0) →
      r.set p0 x = propagate (m + 1) (v.set p0 x) cap s pos)
    (fun v s pos _ hp ho hne => ?_) (fun m v s pos r _ hp _ ho hlt ih hne => ?_)
    (fun m v s pos r _ hp _ ho hlt ih hne => ?_) m f v s pos hl hp hs hfe hf hne
  all_goals
    have hp0 : p0 ≠ pos := fun e => hne 0 (Nat.zero_le _) ((Nat.mod_eq_of_lt hp).trans e.symm)
    have hg : sget (v.set p0 x) pos = sget v pos := sget_set_ne hp0
  · rw [propagate_emp (by rwa [Occ, hg]), List.set_comm _ _ hp0.symm]
  · rw [propagate_swap (by rwa [Occ, hg]) (by rwa [hg]), hg, List.set_comm _ _ hp0]
    exact ih fun j hj => succ_mod_shift pos j cap ▸ hne (j + 1) (Nat.succ_le_succ hj)
  · rw [propagate_keep (by rwa [Occ, hg]) (by rwa [hg])]
    exact ih fun j hj => succ_mod_shift pos j cap ▸ hne (j + 1) (Nat.succ_le_succ hj)

/-- `get_or_insert`'s "propagate the resident, then overwrite its slot" is `propagate` of the new
element from that slot (the two differ only in the order of the writes) -/
theorem displace_eq {p m f : Nat} {new : Slot}
    (hlen : v.length = cap) (hp : p < cap) (ho : Occ v p) (hlt : (sget v p).psl < new.psl)
    (hfe : FE v cap p m) (hm : m < cap) (hf : m < f) :
    (propagate f v cap (sget v p) p).set p new = propagate (m + 1) v cap new p := by
  obtain ⟨f, rfl⟩ := Nat.exists_eq_add_one.2 (Nat.zero_lt_of_lt hf)
  cases m with
  | zero => exact absurd ho (hfe.emp hp)
  | succ m =>
    rw [propagate_keep ho (Nat.lt_irrefl _), propagate_swap ho hlt]
    exact propagate_set_comm p new hlen (Nat.mod_lt _ (Nat.zero_lt_of_lt hp)) ho
      (hfe.shift fun _ => Iff.rfl) (Nat.lt_of_succ_lt_succ hf)
      fun j hj => succ_mod_shift p j cap ▸
        add_mod_ne (Nat.succ_pos j) (Nat.lt_of_le_of_lt (Nat.succ_le_succ hj) hm)

/-! ## empty slots, covering, chains -/

theorem exists_first {P : Nat → Prop} (n : Nat) (h : ¬ P n) :
    ∃ m ≤ n, (∀ j < m, P j) ∧ ¬ P m := by
  induction n using Nat.strongRecOn with
  | _ n ih =>
    by_cases hall : ∀ j < n, P j
    · exact ⟨n, Nat.le_refl _, hall, h⟩
    · obtain ⟨j, hj⟩ := Classical.not_forall.1 hall
      obtain ⟨hj, hpj⟩ := Classical.not_imp_iff_and_not.1 hj
      obtain ⟨m, hm, h1, h2⟩ := ih j hj hpj
      exact ⟨m, Nat.le_trans hm (Nat.le_of_lt hj), h1, h2⟩

theorem first_empty (he : ∃ q < cap, ¬ Occ v q) (pos : Nat) :
    ∃ m < cap, FE v cap pos m := by
  obtain ⟨q, hq, hne⟩ := he
  obtain ⟨d, hd, e⟩ := reach pos q cap hq
  obtain ⟨m, hm, h1, h2⟩ := exists_first (P := fun j => Occ v ((pos + j) % cap)) d (by rw [e]; exact hne)
  exact ⟨m, Nat.lt_of_le_of_lt hm hd, h1, h2⟩

theorem exists_empty (hl : v.length = cap) (h : v.countP Slot.occ < cap) :
    ∃ q < cap, ¬ Occ v q := by
  subst hl
  have : ¬ ∀ a ∈ v, a.occ = true := fun hall =>
    Nat.lt_irrefl _ (List.countP_eq_length.2 hall ▸ h)
  obtain ⟨a, ha⟩ := Classical.not_forall.1 this
  obtain ⟨ha, hna⟩ := Classical.not_imp_iff_and_not.1 ha
  obtain ⟨q, hq, e⟩ := exists_sget_of_mem ha
  exact ⟨q, hq, by rw [Occ, e]; exact hna⟩

/-- the probe path of hash `h` up to offset `s`: every slot on it is occupied by an element at
least as far from its own home, so a probe for `h` walks on to offset `s` unless it hits before -/
def Path (v : List Slot) (cap h s : Nat) : Prop :=
  ∀ d ≤ s, Occ v ((h + d) % cap) ∧ d ≤ (sget v ((h + d) % cap)).psl

/-- the robin-hood order, segment form: an element with psl `≥ s` at offset `s` from `h` has the
whole path behind it -/
theorem chain (hloc : Loc v cap) (hc : 0 < cap) {h s : Nat}
    (ho : Occ v ((h + s) % cap)) (hs : s ≤ (sget v ((h + s) % cap)).psl) : Path v cap h s := by
  have back : ∀ n d, Occ v ((h + (d + n)) % cap) → d + n ≤ (sget v ((h + (d + n)) % cap)).psl →
      Occ v ((h + d) % cap) ∧ d ≤ (sget v ((h + d) % cap)).psl := by
    intro n
    induction n with
    | zero => exact fun d ho hs => ⟨ho, hs⟩
    | succ n ih =>
      intro d ho hs
      rw [← Nat.succ_add_eq_add_succ] at ho hs
      obtain ⟨h1, h2⟩ := ih (d + 1) ho hs
      have e : ((h + d) % cap + 1) % cap = (h + (d + 1)) % cap := by
        rw [Nat.mod_add_mod, Nat.add_assoc]
      have := hloc ((h + d) % cap) (Nat.mod_lt _ hc) (by rw [e]; exact h1)
        (by rw [e]; exact Nat.lt_of_lt_of_le (Nat.succ_pos d) h2)
      rw [e] at this
      exact ⟨this.1, Nat.le_of_succ_le_succ (Nat.le_trans h2 this.2)⟩
  intro d hd
  have := back (s - d) d
  rw [Nat.add_sub_of_le hd] at this
  exact this ho hs

theorem psl_lt_cap (hg : Good v cap) (he : ∃ q < cap, ¬ Occ v q)
    {p : Nat} (hp : p < cap) (ho : Occ v p) : (sget v p).psl < cap := by
  obtain ⟨q, hq, hne⟩ := he
  have hpos := hg.pos p hp ho
  obtain ⟨d, hd, e⟩ := reach (sget v p).hash q cap hq
  apply Nat.lt_of_not_le
  intro hge
  have := chain hg.loc (Nat.zero_lt_of_lt hp) (by rw [hpos]; exact ho)
    (by rw [hpos]; exact Nat.le_refl _) d (Nat.le_trans (Nat.le_of_lt hd) hge)
  rw [e] at this
  exact hne this.1

end SlotArray

/-! ## the probe loop of `get_or_insert_by_hash` -/

def hit (t : Tbl) : Tbl := { t with hits := t.hits + 1 }

/-- the result of a miss that leaves the slot array `v'` -/
def ins (t : Tbl) (v' : List Slot) (key : Nat) : Tbl × Nat × Bool :=
  ({ t with slots := v', len := t.len + 1, keys := t.keys ++ [key] }, t.keys.length, false)

theorem insertAt_eq (t : Tbl) (v : List Slot) (pos hash psl key : Nat) :
    insertAt t v pos hash psl key = ins t (v.set pos ⟨some t.keys.length, hash, psl⟩) key := rfl

theorem occ_iff_ptr {v : List Slot} {p : Nat} : Occ v p ↔ ∃ i, (sget v p).ptr = some i :=
  Option.isSome_iff_exists

theorem probe_emp {t : Tbl} {hash key pf f pos d : Nat} (h : ¬ Occ t.slots pos) :
    probe t hash key pf (f + 1) pos d = insertAt t t.slots pos hash d key := by
  rw [probe]; simp only [Option.not_isSome_iff_eq_none.1 h]

theorem probe_some {t : Tbl} {hash key pf f pos d i : Nat} (h : (sget t.slots pos).ptr = some i) :
    probe t hash key pf (f + 1) pos d =
      if hash = (sget t.slots pos).hash ∧ t.keys.getD i 0 = key then (hit t, i, true)
      else if (sget t.slots pos).psl < d then
        insertAt t (propagate pf t.slots t.cap (sget t.slots pos) pos) pos hash d key
      else probe t hash key pf f ((pos + 1) % t.cap) (d + 1) := by
  rw [probe]; simp only [h]; rfl

theorem occ_of_ptr_beq {x : Slot} {i : Nat} (h : (x.ptr == some i) = true) : x.occ = true := by
  rw [Slot.occ, eq_of_beq h]; rfl

theorem mem_of_sget_ptr {v : List Slot} {p i : Nat} (h : (sget v p).ptr = some i) : sget v p ∈ v := by
  by_cases hl : p < v.length
  · exact sget_mem hl
  · have : sget v p = Slot.empty := by
      simp [sget, List.getD_eq_getElem?_getD, Nat.le_of_not_lt hl]
    rw [this] at h; cases h

/-- a probe that meets no match is `propagate` of the new element from where the probe stands: it walks on exactly
where `propagate` keeps, and `displace_eq` is the displacement -/
theorem probe_miss_eq {t : Tbl} {hash key pf : Nat} (hlen : t.slots.length = t.cap)
    (hnm : ∀ p i, (sget t.slots p).ptr = some i →
      ¬ (hash = (sget t.slots p).hash ∧ t.keys.getD i 0 = key))
    (hpf : t.cap < pf) (m : Nat) :
    ∀ (fuel pos d : Nat), pos < t.cap → FE t.slots t.cap pos m → m < t.cap → m < fuel →
      probe t hash key pf fuel pos d =
        ins t (propagate (m + 1) t.slots t.cap ⟨some t.keys.length, hash, d⟩ pos) key := by
  induction m with
  | zero =>
    intro fuel pos d hpos hfe _ hf
    obtain ⟨fuel, rfl⟩ := Nat.exists_eq_add_one.2 hf
    rw [probe_emp (hfe.emp hpos), insertAt_eq, propagate_emp (hfe.emp hpos)]
  | succ m ih =>
    intro fuel pos d hpos hfe hm hf
    obtain ⟨fuel, rfl⟩ := Nat.exists_eq_add_one.2 (Nat.zero_lt_of_lt hf)
    have ho := hfe.occ hpos
    obtain ⟨i, hi⟩ := occ_iff_ptr.1 ho
    rw [probe_some hi, if_neg (hnm pos i hi)]
    by_cases hlt : (sget t.slots pos).psl < d
    · rw [if_pos hlt, insertAt_eq, displace_eq (new := ⟨some t.keys.length, hash, d⟩) hlen hpos ho
        hlt hfe hm (Nat.lt_trans hm hpf)]
    · rw [if_neg hlt, propagate_keep ho hlt]
      exact ih fuel _ (d + 1) (Nat.mod_lt _ (Nat.zero_lt_of_lt hpos)) (hfe.shift fun _ => Iff.rfl)
        (Nat.lt_of_succ_lt hm) (Nat.lt_of_succ_lt_succ hf)

theorem probe_finds {t : Tbl} {hash key pf s i0 : Nat} (hpath : Path t.slots t.cap hash s)
    (hp : (sget t.slots ((hash + s) % t.cap)).ptr = some i0)
    (hh : (sget t.slots ((hash + s) % t.cap)).hash = hash) (hk : t.keys.getD i0 0 = key) (n : Nat) :
    ∀ (fuel d : Nat), d + n = s → n < fuel →
      ∃ i p, probe t hash key pf fuel ((hash + d) % t.cap) d = (hit t, i, true) ∧
        t.keys.getD i 0 = key ∧ (sget t.slots p).ptr = some i := by
  induction n with
  | zero =>
    intro fuel d hn hf
    obtain ⟨fuel, rfl⟩ := Nat.exists_eq_add_one.2 hf
    obtain rfl : d = s := hn
    exact ⟨i0, _, by rw [probe_some hp, if_pos ⟨hh.symm, hk⟩], hk, hp⟩
  | succ n ih =>
    intro fuel d hn hf
    obtain ⟨fuel, rfl⟩ := Nat.exists_eq_add_one.2 (Nat.zero_lt_of_lt hf)
    obtain ⟨ho, hps⟩ := hpath d (hn ▸ Nat.le_add_right d (n + 1))
    obtain ⟨i, hi⟩ := occ_iff_ptr.1 ho
    rw [probe_some hi]
    by_cases hmatch : hash = (sget t.slots ((hash + d) % t.cap)).hash ∧ t.keys.getD i 0 = key
    · rw [if_pos hmatch]; exact ⟨i, _, rfl, hmatch.2, hi⟩
    · rw [if_neg hmatch, if_neg (Nat.not_lt.2 hps), Nat.mod_add_mod, Nat.add_assoc]
      exact ih fuel (d + 1) (by rw [Nat.succ_add_eq_add_succ]; exact hn) (Nat.lt_of_succ_lt_succ hf)

/-! ## the table invariant -/

/-- The invariant of the unique table, relative to the hash function `hashOf` of the keys. -/
structure RHInv (hashOf : Nat → Nat) (t : Tbl) : Prop where
  cap_pos : 0 < t.cap
  /-- `slots.length = cap`, every element is `psl` steps after its home, robin-hood order -/
  good : Good t.slots t.cap
  len_eq : t.len = t.keys.length
  /-- `len` is the number of occupied slots -/
  occ_cnt : t.slots.countP Slot.occ = t.len
  /-- occupied slots point into the arena and carry the hash of the key they point to -/
  ptr_ok : ∀ x ∈ t.slots, ∀ i, x.ptr = some i → ∃ k, t.keys[i]? = some k ∧ x.hash = hashOf k
  /-- every arena index is held by exactly one slot -/
  uniq : ∀ i < t.keys.length, t.slots.countP (fun x => x.ptr == some i) = 1
  /-- the arena holds pairwise distinct keys -/
  nodup : t.keys.Nodup

variable {hashOf : Nat → Nat} {t : Tbl}

theorem getD_of_getElem? {l : List Nat} {i k : Nat} (h : l[i]? = some k) : l.getD i 0 = k := by
  simp [List.getD_eq_getElem?_getD, h]

theorem RHInv.hit (h : RHInv hashOf t) : RHInv hashOf (hit t) :=
  ⟨h.cap_pos, h.good, h.len_eq, h.occ_cnt, h.ptr_ok, h.uniq, h.nodup⟩

theorem RHInv.len_le (h : RHInv hashOf t) : t.len ≤ t.cap := by
  rw [← h.occ_cnt, ← h.good.len]; exact List.countP_le_length

theorem RHInv.exists_empty (h : RHInv hashOf t) (hlt : t.len < t.cap) :
    ∃ q < t.cap, ¬ Occ t.slots q :=
  RH.exists_empty h.good.len (h.occ_cnt.symm ▸ hlt)

/-- the probe path of every stored element: it sits `psl` steps after its home slot, and every
slot on the way is occupied by an element at least as far from its own home -/
theorem RHInv.path {hashOf : Nat → Nat} {t : Tbl} (h : RHInv hashOf t) {p : Nat} (hp : p < t.cap)
    (ho : Occ t.slots p) :
    ((sget t.slots p).hash + (sget t.slots p).psl) % t.cap = p ∧
    Path t.slots t.cap (sget t.slots p).hash (sget t.slots p).psl := by
  have hpos := h.good.pos p hp ho
  exact ⟨hpos, chain h.good.loc h.cap_pos (by rw [hpos]; exact ho) (by rw [hpos]; exact Nat.le_refl _)⟩

theorem RHInv.key_slot (h : RHInv hashOf t) (hlt : t.len < t.cap)
    {i k : Nat} (hi : t.keys[i]? = some k) :
    ∃ s < t.cap, Path t.slots t.cap (hashOf k) s ∧
      (sget t.slots ((hashOf k + s) % t.cap)).ptr = some i ∧
      (sget t.slots ((hashOf k + s) % t.cap)).hash = hashOf k := by
  obtain ⟨x, hx, hxp⟩ := List.countP_pos_iff.1
    (by rw [h.uniq i (List.getElem?_eq_some_iff.1 hi).1]; exact Nat.one_pos)
  have hxp : x.ptr = some i := eq_of_beq hxp
  obtain ⟨p, hp, rfl⟩ := exists_sget_of_mem hx
  rw [h.good.len] at hp
  have ho : Occ t.slots p := occ_iff_ptr.2 ⟨i, hxp⟩
  obtain ⟨k', hk', hhash⟩ := h.ptr_ok _ hx i hxp
  cases hi.symm.trans hk'
  obtain ⟨hpos, hpath⟩ := h.path hp ho
  rw [hhash] at hpos hpath
  exact ⟨_, psl_lt_cap h.good (h.exists_empty hlt) hp ho, hpath, by rw [hpos]; exact hxp,
    by rw [hpos]; exact hhash⟩

theorem RHInv.ins (h : RHInv hashOf t) {k d : Nat} {v' : List Slot}
    (hk : k ∉ t.keys) (he : Ext t.slots t.cap [⟨some t.keys.length, hashOf k, d⟩] v') :
    RHInv hashOf (ins t v' k).1 := by
  have hbound : ∀ x ∈ t.slots, ∀ i, x.ptr = some i → i < t.keys.length := by
    intro x hx i hi
    obtain ⟨k', hk', _⟩ := h.ptr_ok x hx i hi
    exact (List.getElem?_eq_some_iff.1 hk').1
  refine ⟨h.cap_pos, he.good, (congrArg (· + 1) h.len_eq).trans (List.length_append (as := t.keys) (bs := [k])).symm,
    (he.cnt Slot.occ (fun _ _ => rfl) (fun _ hx => hx)).trans (congrArg (· + 1) h.occ_cnt),
    he.all (fun x => ∀ i, x.ptr = some i → ∃ k', (t.keys ++ [k])[i]? = some k' ∧ x.hash = hashOf k')
      (fun _ _ hx => hx) (fun x hx i hi => ?_) (fun x hx i hi => ?_),
    fun i (hi : i < (t.keys ++ [k]).length) => ?_,
    List.nodup_append.2 ⟨h.nodup, List.pairwise_singleton _ k, fun a ha b hb hab => ?_⟩⟩
  · obtain ⟨k', hk', hh⟩ := h.ptr_ok x hx i hi
    exact ⟨k', by rw [List.getElem?_append_left (hbound x hx i hi)]; exact hk', hh⟩
  · cases List.mem_singleton.1 hx
    cases hi
    exact ⟨k, List.getElem?_concat_length, rfl⟩
  · rw [List.length_append] at hi
    show v'.countP (fun x => x.ptr == some i) = 1
    rw [he.cnt (fun x => x.ptr == some i) (fun _ _ => rfl) (fun _ => occ_of_ptr_beq),
      List.countP_singleton]
    by_cases hlt : i < t.keys.length
    · rw [h.uniq i hlt, if_neg (fun hc => Nat.ne_of_lt hlt (Option.some.inj (eq_of_beq hc)).symm)]
    · cases Nat.le_antisymm (Nat.le_of_lt_succ hi) (Nat.le_of_not_lt hlt)
      rw [List.countP_eq_zero.2 fun x hx hp => Nat.lt_irrefl _ (hbound x hx _ (eq_of_beq hp)),
        if_pos (beq_self_eq_true _)]
  · cases List.mem_singleton.1 hb
    exact hk (hab ▸ ha)

/-- the specification of one `find-or-insert` step from `t` to `t'` returning `(i, found)` -/
structure StepSpec (t : Tbl) (k : Nat) (t' : Tbl) (i : Nat) (found : Bool) : Prop where
  found_iff : found = true ↔ k ∈ t.keys
  index : t'.keys[i]? = some k
  hit_keys : found = true → t'.keys = t.keys ∧ t'.len = t.len
  miss_keys : found = false → t'.keys = t.keys ++ [k] ∧ i = t.keys.length
  prefix_keys : t.keys <+: t'.keys

theorem StepSpec.mem {t t' : Tbl} {k i : Nat} {found : Bool} (sp : StepSpec t k t' i found)
    (k' : Nat) : k' ∈ t'.keys ↔ k' ∈ t.keys ∨ k' = k := by
  cases found with
  | true =>
    rw [(sp.hit_keys rfl).1]
    exact ⟨Or.inl, fun h' => h'.elim id (· ▸ sp.found_iff.1 rfl)⟩
  | false => rw [(sp.miss_keys rfl).1, List.mem_append, List.mem_singleton]

theorem probe_spec (h : RHInv hashOf t) (hlt : t.len < t.cap)
    {k pf fuel : Nat} (hpf : t.cap < pf) (hf : t.cap < fuel) {t' : Tbl} {i : Nat} {found : Bool}
    (e : probe t (hashOf k) k pf fuel (hashOf k % t.cap) 0 = (t', i, found)) :
    RHInv hashOf t' ∧ t'.cap = t.cap ∧ StepSpec t k t' i found := by
  by_cases hk : k ∈ t.keys
  · -- the key is in the arena: a slot on its probe path holds its index, and the probe reaches it
    obtain ⟨i0, hi0⟩ := List.mem_iff_getElem?.1 hk
    obtain ⟨s, hs, hpath, hp, hh⟩ := h.key_slot hlt hi0
    obtain ⟨j, q, hres, hjk, hjq⟩ := probe_finds (pf := pf) hpath hp hh (getD_of_getElem? hi0) s
      fuel 0 (Nat.zero_add s) (Nat.lt_trans hs hf)
    obtain ⟨k', hk', _⟩ := h.ptr_ok _ (mem_of_sget_ptr hjq) j hjq
    cases (getD_of_getElem? hk').symm.trans hjk
    rw [Nat.add_zero, e] at hres
    cases hres
    exact ⟨h.hit, rfl, ⟨iff_of_true rfl hk, hk', fun _ => ⟨rfl, rfl⟩, fun hc => Bool.noConfusion hc,
      List.prefix_refl _⟩⟩
  · -- the key is new: no slot matches, the probe ends in an insertion
    have hnm : ∀ p i, (sget t.slots p).ptr = some i →
        ¬ (hashOf k = (sget t.slots p).hash ∧ t.keys.getD i 0 = k) := by
      intro p i hp ⟨_, hkk⟩
      obtain ⟨k', hk', _⟩ := h.ptr_ok _ (mem_of_sget_ptr hp) i hp
      cases (getD_of_getElem? hk').symm.trans hkk
      exact hk (List.mem_iff_getElem?.2 ⟨i, hk'⟩)
    obtain ⟨m, hm, hfe⟩ := first_empty (h.exists_empty hlt) (hashOf k % t.cap)
    have hres := probe_miss_eq h.good.len hnm hpf m fuel _ 0 (Nat.mod_lt _ h.cap_pos) hfe hm (Nat.lt_trans hm hf)
    have hext := propagate_ext (s := ⟨some t.keys.length, hashOf k, 0⟩)
      ⟨h.good, rfl, Nat.mod_lt _ h.cap_pos, rfl, fun _ _ _ hd => absurd hd (Nat.lt_irrefl _)⟩ hfe (Nat.lt_succ_self m)
    have hinv := h.ins hk hext
    rw [e] at hres
    cases hres
    exact ⟨hinv, rfl, ⟨iff_of_false Bool.false_ne_true hk, List.getElem?_concat_length,
      fun hc => Bool.noConfusion hc, fun _ => ⟨rfl, rfl⟩, List.prefix_append _ _⟩⟩

/-! ## `grow` -/

theorem nextPow2Aux_ge (n : Nat) : ∀ (f p : Nat), 1 ≤ p → n ≤ p + f → n ≤ nextPow2Aux n f p := by
  intro f
  induction f with
  | zero => exact fun p _ h => h
  | succ f ih =>
    intro p hp h
    rw [nextPow2Aux]
    by_cases hlt : p < n
    · rw [if_pos hlt]; exact ih (2 * p) (by omega) (by omega)
    · rw [if_neg hlt]; exact Nat.le_of_not_lt hlt

theorem le_nextPow2 (n : Nat) : n ≤ nextPow2 n :=
  nextPow2Aux_ge n n 1 (Nat.le_refl _) (Nat.le_add_left n 1)

theorem sget_replicate (n p : Nat) : sget (List.replicate n Slot.empty) p = Slot.empty := by
  simp only [sget, List.getD_eq_getElem?_getD, List.getElem?_replicate]
  split <;> rfl

theorem good_replicate (n : Nat) : Good (List.replicate n Slot.empty) n :=
  have he : ∀ p, ¬ Occ (List.replicate n Slot.empty) p := fun p ho => by
    rw [Occ, sget_replicate] at ho; cases ho
  ⟨List.length_replicate, fun p _ ho => absurd ho (he p), fun p _ ho => absurd ho (he _)⟩

theorem countP_replicate_empty {g : Slot → Bool} (hg0 : ∀ x, g x = true → x.occ = true) (n : Nat) :
    (List.replicate n Slot.empty).countP g = 0 :=
  List.countP_eq_zero.2 fun x hx hgx => by
    cases List.eq_of_mem_replicate hx
    cases hg0 _ hgx

/-- the re-insertion loop of `grow` -/
def growStep (N f : Nat) (v : List Slot) (i : Slot) : List Slot :=
  if i.occ then propagate f v N { i with psl := 0 } (i.hash % N) else v

theorem growStep_ext {N f : Nat} (hN : 0 < N) (hf : N < f) {v : List Slot} {a : Slot}
    (hg : Good v N) (hcnt : v.countP Slot.occ < N) (ha : a.occ = true) :
    Ext v N [{ a with psl := 0 }] (growStep N f v a) ∧
      ∀ f2, N < f2 → growStep N f v a = growStep N f2 v a := by
  obtain ⟨m, hm, hfe⟩ := first_empty (exists_empty hg.len hcnt) (a.hash % N)
  have hp := Nat.mod_lt a.hash hN
  simp only [growStep, ha, if_true]
  exact ⟨propagate_ext ⟨hg, ha, hp, rfl, fun _ _ _ hd => absurd hd (Nat.lt_irrefl _)⟩ hfe
      (Nat.lt_trans hm hf),
    fun f2 hf2 => propagate_fuel hg.len hp ha hfe (Nat.lt_trans hm hf) (Nat.lt_trans hm hf2)⟩

theorem grow_fold {N f : Nat} (hN : 0 < N) (hf : N < f) :
    ∀ (xs v : List Slot), Good v N → v.countP Slot.occ + xs.countP Slot.occ < N →
      Ext v N xs (xs.foldl (growStep N f) v) ∧
      ∀ f2, N < f2 → xs.foldl (growStep N f) v = xs.foldl (growStep N f2) v := by
  intro xs
  induction xs with
  | nil => exact fun v hg _ => ⟨⟨hg, fun _ _ _ => rfl, fun _ _ hv _ => hv⟩, fun _ _ => rfl⟩
  | cons a xs ih =>
    intro v hg hcnt
    rw [List.foldl_cons]
    rw [List.countP_cons] at hcnt
    by_cases ha : a.occ = true
    · rw [if_pos ha, ← Nat.add_assoc] at hcnt
      obtain ⟨hext, hfuel⟩ := growStep_ext (f := f) hN hf hg
        (Nat.lt_of_le_of_lt (Nat.le_add_right _ _) (Nat.lt_of_succ_lt hcnt)) ha
      have hc := hext.cnt Slot.occ (fun _ _ => rfl) (fun _ hx => hx)
      rw [List.countP_singleton, if_pos (show Slot.occ { a with psl := 0 } = true from ha)] at hc
      obtain ⟨h1, h2⟩ := ih _ hext.good (by rw [hc, Nat.add_right_comm]; exact hcnt)
      exact ⟨hext.cons h1, fun f2 hf2 => by rw [List.foldl_cons, ← hfuel f2 hf2]; exact h2 f2 hf2⟩
    · have hstep : ∀ f, growStep N f v a = v := fun f => if_neg ha
      rw [if_neg ha] at hcnt
      obtain ⟨h1, h2⟩ := ih v hg hcnt
      rw [hstep]
      exact ⟨h1.skip ha, fun f2 hf2 => by rw [List.foldl_cons, hstep]; exact h2 f2 hf2⟩

theorem grow_eq (t : Tbl) (extra : Nat) :
    grow t extra = { t with
      slots := t.slots.foldl (growStep (nextPow2 (t.cap + 1)) (nextPow2 (t.cap + 1) + 1 + extra))
        (List.replicate (nextPow2 (t.cap + 1)) Slot.empty),
      cap := nextPow2 (t.cap + 1) } := rfl

theorem RHInv.grow_room (h : RHInv hashOf t) :
    (List.replicate (nextPow2 (t.cap + 1)) Slot.empty).countP Slot.occ + t.slots.countP Slot.occ
      < nextPow2 (t.cap + 1) := by
  rw [countP_replicate_empty (fun _ hx => hx), h.occ_cnt, Nat.zero_add]
  exact Nat.lt_of_le_of_lt h.len_le (le_nextPow2 _)

/-- `grow` keeps the invariant, the arena and `len`, and strictly enlarges the table -/
theorem grow_preserves {hashOf : Nat → Nat} {t : Tbl} (h : RHInv hashOf t) (extra : Nat := 0) :
    RHInv hashOf (grow t extra) ∧ (grow t extra).keys = t.keys ∧ (grow t extra).len = t.len ∧
      t.cap < (grow t extra).cap := by
  have hN : t.cap < nextPow2 (t.cap + 1) := le_nextPow2 (t.cap + 1)
  obtain ⟨he, _⟩ := grow_fold (f := nextPow2 (t.cap + 1) + 1 + extra) (Nat.zero_lt_of_lt hN)
    (Nat.lt_add_right extra (Nat.lt_succ_self _)) t.slots _ (good_replicate _) h.grow_room
  rw [grow_eq]
  refine ⟨⟨Nat.zero_lt_of_lt hN, he.good, h.len_eq, ?_, ?_, ?_, h.nodup⟩, rfl, rfl, hN⟩
  · show List.countP Slot.occ _ = t.len
    rw [he.cnt _ (fun _ _ => rfl) (fun _ hx => hx), countP_replicate_empty (fun _ hx => hx),
      h.occ_cnt, Nat.zero_add]
  · exact he.all (fun x : Slot => ∀ i, x.ptr = some i → ∃ k, t.keys[i]? = some k ∧ x.hash = hashOf k)
      (fun _ _ hx => hx)
      (fun x hx i hi => by cases List.eq_of_mem_replicate hx; cases hi)
      h.ptr_ok
  · intro i hi
    show List.countP (fun x : Slot => x.ptr == some i) _ = 1
    rw [he.cnt _ (fun _ _ => rfl) (fun _ => occ_of_ptr_beq),
      countP_replicate_empty (fun _ => occ_of_ptr_beq), h.uniq i hi, Nat.zero_add]

/-! ## `get_or_insert_by_hash` -/

/-- `LOAD_FACTOR` is a positive rational `≤ 1` -/
structure LoadFactor.Valid (lf : LoadFactor) : Prop where
  den_pos : 0 < lf.den
  le_one : lf.num ≤ lf.den

theorem LoadFactor.valid_default : LoadFactor.Valid {} := ⟨by decide, by decide⟩

/-- no growth needed means a free slot: `(len + 1) * den ≤ cap * num ≤ cap * den` -/
theorem lt_cap_of_not_needGrow {lf : LoadFactor} (hlf : lf.Valid)
    (h : needGrow lf t = false) : t.len < t.cap :=
  Nat.lt_of_not_le fun hge => of_decide_eq_false h
    (Nat.lt_of_le_of_lt (Nat.mul_le_mul_left _ hlf.le_one)
      (Nat.mul_lt_mul_of_pos_right (Nat.lt_succ_of_le hge) hlf.den_pos))

theorem RHInv.grown {lf : LoadFactor} (hlf : lf.Valid) (h : RHInv hashOf t) (extra : Nat) :
    let t0 := if needGrow lf t then grow t extra else t
    RHInv hashOf t0 ∧ t0.keys = t.keys ∧ t0.len = t.len ∧ t0.len < t0.cap := by
  by_cases hg : needGrow lf t = true
  · simp only [hg, if_true]
    obtain ⟨g1, g2, g3, g4⟩ := grow_preserves h extra
    exact ⟨g1, g2, g3, g3 ▸ Nat.lt_of_le_of_lt h.len_le g4⟩
  · simp only [hg]
    exact ⟨h, rfl, rfl, lt_cap_of_not_needGrow hlf (Bool.not_eq_true _ ▸ hg)⟩

/-- **`get_or_insert` refines find-or-insert on an append-only set.** -/
theorem getOrInsert_spec {hashOf : Nat → Nat} {lf : LoadFactor} (hlf : lf.Valid) {t : Tbl}
    (h : RHInv hashOf t) {k extra : Nat} {t' : Tbl} {i : Nat} {found : Bool}
    (e : getOrInsert lf t (hashOf k) k extra = (t', i, found)) :
    RHInv hashOf t' ∧ StepSpec t k t' i found := by
  obtain ⟨g1, g2, g3, g4⟩ := h.grown hlf extra
  obtain ⟨p1, _, p3⟩ := probe_spec g1 g4 (Nat.lt_add_right extra (Nat.lt_succ_self _))
    (Nat.lt_add_right extra (Nat.lt_succ_self _)) e
  exact ⟨p1, g2 ▸ p3.found_iff, p3.index, fun hf => g2 ▸ g3 ▸ p3.hit_keys hf,
    fun hf => g2 ▸ p3.miss_keys hf, g2 ▸ p3.prefix_keys⟩

/-! ## fuel: the fuel-exhausted branches are unreachable -/

theorem probe_fuel {t : Tbl} {hash key : Nat} (hlen : t.slots.length = t.cap) (m : Nat) :
    ∀ (pf1 pf2 f1 f2 pos d : Nat), pos < t.cap → FE t.slots t.cap pos m → m < t.cap →
      t.cap < pf1 → t.cap < pf2 → m < f1 → m < f2 →
      probe t hash key pf1 f1 pos d = probe t hash key pf2 f2 pos d := by
  induction m with
  | zero =>
    intro pf1 pf2 f1 f2 pos d hpos hfe _ _ _ h1 h2
    obtain ⟨f1, rfl⟩ := Nat.exists_eq_add_one.2 h1
    obtain ⟨f2, rfl⟩ := Nat.exists_eq_add_one.2 h2
    rw [probe_emp (hfe.emp hpos), probe_emp (hfe.emp hpos)]
  | succ m ih =>
    intro pf1 pf2 f1 f2 pos d hpos hfe hm hp1 hp2 h1 h2
    obtain ⟨f1, rfl⟩ := Nat.exists_eq_add_one.2 (Nat.zero_lt_of_lt h1)
    obtain ⟨f2, rfl⟩ := Nat.exists_eq_add_one.2 (Nat.zero_lt_of_lt h2)
    have ho := hfe.occ hpos
    obtain ⟨i, hi⟩ := occ_iff_ptr.1 ho
    rw [probe_some hi, probe_some hi,
      propagate_fuel hlen hpos ho hfe (Nat.lt_trans hm hp1) (Nat.lt_trans hm hp2),
      ih pf1 pf2 f1 f2 _ (d + 1) (Nat.mod_lt _ (Nat.zero_lt_of_lt hpos)) (hfe.shift fun _ => Iff.rfl)
        (Nat.lt_of_succ_lt hm) hp1 hp2 (Nat.lt_of_succ_lt_succ h1) (Nat.lt_of_succ_lt_succ h2)]

theorem grow_fuel (h : RHInv hashOf t) (extra : Nat) :
    grow t extra = grow t 0 := by
  have hN : 0 < nextPow2 (t.cap + 1) := Nat.lt_of_lt_of_le (Nat.succ_pos _) (le_nextPow2 _)
  obtain ⟨_, h4⟩ := grow_fold (f := nextPow2 (t.cap + 1) + 1 + extra) hN
    (Nat.lt_add_right extra (Nat.lt_succ_self _)) t.slots _ (good_replicate _) h.grow_room
  rw [grow_eq, grow_eq, h4 (nextPow2 (t.cap + 1) + 1 + 0) (Nat.lt_succ_self _)]

/-- **Fuel is sufficient.**  Under the invariant the result of `get_or_insert_by_hash` (for any
hash and key) does not depend on the extra fuel given to its three loops (`grow`'s `propagate`s,
the probe loop, the displacement `propagate`): none of them ever takes the out-of-fuel branch, so
the model computes what the unbounded Rust loops compute. -/
theorem getOrInsert_fuel {hashOf : Nat → Nat} {lf : LoadFactor} (hlf : lf.Valid) {t : Tbl}
    (h : RHInv hashOf t) (hash key extra : Nat) :
    getOrInsert lf t hash key extra = getOrInsert lf t hash key 0 := by
  obtain ⟨g1, _, _, g4⟩ := h.grown hlf 0
  unfold getOrInsert getOrInsertWith
  have e : (if needGrow lf t then grow t extra else t) = if needGrow lf t then grow t 0 else t := by
    rw [grow_fuel h extra]
  rw [e]
  obtain ⟨m, hm, hfe⟩ := first_empty (g1.exists_empty g4) (hash % (if needGrow lf t then grow t 0 else t).cap)
  exact probe_fuel g1.good.len m _ _ _ _ _ 0 (Nat.mod_lt _ g1.cap_pos) hfe hm
    (Nat.lt_add_right extra (Nat.lt_succ_self _)) (Nat.lt_succ_self _)
    (Nat.lt_trans hm (Nat.lt_add_right extra (Nat.lt_succ_self _))) (Nat.lt_succ_of_lt hm)

/-! ## histories -/

/-- the table after one call (`hashOf` is the hash function of the keys) -/
def step (lf : LoadFactor) (hashOf : Nat → Nat) (t : Tbl) (k : Nat) : Tbl :=
  (getOrInsert lf t (hashOf k) k).1

/-- the table after a history of calls -/
def run (lf : LoadFactor) (hashOf : Nat → Nat) (t : Tbl) (ks : List Nat) : Tbl :=
  ks.foldl (step lf hashOf) t

theorem RHInv.new (hashOf : Nat → Nat) {cap : Nat} (hc : 0 < cap) : RHInv hashOf (RH.mk cap) :=
  ⟨hc, good_replicate cap, rfl, countP_replicate_empty (fun _ hx => hx) cap,
    fun x hx i hi => (by cases List.eq_of_mem_replicate hx; cases hi),
    fun i hi => absurd hi (Nat.not_lt_zero _), List.nodup_nil⟩

theorem step_spec {lf : LoadFactor} (hlf : lf.Valid) (h : RHInv hashOf t) (k : Nat) :
    RHInv hashOf (step lf hashOf t k) ∧
      StepSpec t k (step lf hashOf t k) (getOrInsert lf t (hashOf k) k).2.1
        (getOrInsert lf t (hashOf k) k).2.2 := by
  unfold step
  generalize e : getOrInsert lf t (hashOf k) k = r
  exact getOrInsert_spec hlf h e

/-- the invariant, stability of the arena and the key set along any history (hence across any
number of growths) -/
theorem run_spec {hashOf : Nat → Nat} {lf : LoadFactor} (hlf : lf.Valid) (ks : List Nat) :
    ∀ {t : Tbl}, RHInv hashOf t →
      RHInv hashOf (run lf hashOf t ks) ∧ t.keys <+: (run lf hashOf t ks).keys ∧
      ∀ k, k ∈ (run lf hashOf t ks).keys ↔ k ∈ t.keys ∨ k ∈ ks := by
  induction ks with
  | nil => exact fun h => ⟨h, List.prefix_refl _, fun k => by simp [run]⟩
  | cons a ks ih =>
    intro t h
    obtain ⟨h1, sp⟩ := step_spec hlf h a
    obtain ⟨r1, r2, r3⟩ := ih h1
    refine ⟨r1, sp.prefix_keys.trans r2, fun k => ?_⟩
    show k ∈ (run lf hashOf (step lf hashOf t a) ks).keys ↔ _
    rw [r3 k, sp.mem, List.mem_cons, or_assoc]

theorem prefix_getElem? {l l' : List Nat} (h : l <+: l') {i k : Nat} (hi : l[i]? = some k) :
    l'[i]? = some k := by
  obtain ⟨r, rfl⟩ := h
  rw [List.getElem?_append_left (List.getElem?_eq_some_iff.1 hi).1]; exact hi

theorem nodup_index_inj {l : List Nat} (h : l.Nodup) {i j k : Nat} (hi : l[i]? = some k)
    (hj : l[j]? = some k) : i = j :=
  (List.getElem?_inj (List.getElem?_eq_some_iff.1 hi).1 h).1 (hi.trans hj.symm)

/-- the index handed out for a key is returned again, as a hit, after any further history -/
theorem index_stable {hashOf : Nat → Nat} {lf : LoadFactor} (hlf : lf.Valid) {t : Tbl}
    (h : RHInv hashOf t) {k : Nat} {t1 : Tbl} {i : Nat} {b : Bool}
    (e : getOrInsert lf t (hashOf k) k = (t1, i, b)) (ks : List Nat) :
    (getOrInsert lf (run lf hashOf t1 ks) (hashOf k) k).2 = (i, true) := by
  obtain ⟨h1, sp1⟩ := getOrInsert_spec hlf h (extra := 0) e
  obtain ⟨r1, r2, _⟩ := run_spec hlf ks h1
  have hik := prefix_getElem? r2 sp1.index
  obtain ⟨h3, sp3⟩ := step_spec hlf r1 k
  have hfound := sp3.found_iff.2 (List.mem_iff_getElem?.2 ⟨i, hik⟩)
  have hj := sp3.index
  rw [(sp3.hit_keys hfound).1] at hj
  exact Prod.ext (nodup_index_inj r1.nodup hj hik) hfound

/-! ## the `u8` side condition -/

/-- stored psl = true displacement `< cap` whenever the table is not full; in particular the `u8`
side condition `PslBound` holds automatically for tables of at most 256 slots -/
theorem RHInv.psl_lt_cap {hashOf : Nat → Nat} {t : Tbl} (h : RHInv hashOf t) (hlt : t.len < t.cap) :
    ∀ s ∈ t.slots, s.occ = true → s.psl < t.cap := by
  intro s hs ho
  obtain ⟨p, hp, rfl⟩ := exists_sget_of_mem hs
  rw [h.good.len] at hp
  exact RH.psl_lt_cap h.good (h.exists_empty hlt) hp ho

theorem RHInv.pslBound {hashOf : Nat → Nat} {t : Tbl} (h : RHInv hashOf t) (hlt : t.len < t.cap)
    (hc : t.cap ≤ 256) : PslBound t := fun s hs ho =>
  Nat.le_of_lt_succ (Nat.lt_of_lt_of_le (h.psl_lt_cap hlt s hs ho) hc)

/-! ## `get_by_hash` -/

theorem probeHash_occ {t : Tbl} {hash f pos d : Nat} (h : Occ t.slots pos) :
    probeHash t hash (f + 1) pos d =
      if hash = (sget t.slots pos).hash then (hit t, (sget t.slots pos).ptr)
      else if (sget t.slots pos).psl < d then (t, none)
      else probeHash t hash f ((pos + 1) % t.cap) (d + 1) := by
  unfold Occ at h
  rw [probeHash]; simp only [h, if_true]; rfl

theorem probeHash_emp {t : Tbl} {hash f pos d : Nat} (h : ¬ Occ t.slots pos) :
    probeHash t hash (f + 1) pos d = (t, none) := by
  unfold Occ at h
  rw [probeHash]; simp only [h]; rfl

theorem probeHash_sound {t : Tbl} {hash : Nat} : ∀ (f pos d : Nat),
    ((probeHash t hash f pos d).1 = t ∨ (probeHash t hash f pos d).1 = hit t) ∧
    ∀ i, (probeHash t hash f pos d).2 = some i →
      ∃ p, (sget t.slots p).ptr = some i ∧ (sget t.slots p).hash = hash := by
  intro f
  induction f with
  | zero => exact fun pos d => ⟨Or.inl rfl, fun i e => nomatch e⟩
  | succ f ih =>
    intro pos d
    by_cases ho : Occ t.slots pos
    · rw [probeHash_occ ho]
      by_cases hh : hash = (sget t.slots pos).hash
      · rw [if_pos hh]; exact ⟨Or.inr rfl, fun i e => ⟨pos, e, hh.symm⟩⟩
      · rw [if_neg hh]
        by_cases hlt : (sget t.slots pos).psl < d
        · rw [if_pos hlt]; exact ⟨Or.inl rfl, fun i e => nomatch e⟩
        · rw [if_neg hlt]; exact ih _ _
    · rw [probeHash_emp ho]; exact ⟨Or.inl rfl, fun i e => nomatch e⟩

theorem probeHash_finds {t : Tbl} {hash s : Nat} (hpath : Path t.slots t.cap hash s)
    (hh : (sget t.slots ((hash + s) % t.cap)).hash = hash) (n : Nat) :
    ∀ (fuel d : Nat), d + n = s → n < fuel →
      ∃ i, (probeHash t hash fuel ((hash + d) % t.cap) d).2 = some i := by
  induction n with
  | zero =>
    intro fuel d hn hf
    obtain ⟨fuel, rfl⟩ := Nat.exists_eq_add_one.2 hf
    obtain rfl : d = s := hn
    obtain ⟨ho, _⟩ := hpath d (Nat.le_refl d)
    rw [probeHash_occ ho, if_pos hh.symm]
    exact occ_iff_ptr.1 ho
  | succ n ih =>
    intro fuel d hn hf
    obtain ⟨fuel, rfl⟩ := Nat.exists_eq_add_one.2 (Nat.zero_lt_of_lt hf)
    obtain ⟨ho, hps⟩ := hpath d (hn ▸ Nat.le_add_right d (n + 1))
    rw [probeHash_occ ho]
    by_cases hmatch : hash = (sget t.slots ((hash + d) % t.cap)).hash
    · rw [if_pos hmatch]; exact occ_iff_ptr.1 ho
    · rw [if_neg hmatch, if_neg (Nat.not_lt.2 hps), Nat.mod_add_mod, Nat.add_assoc]
      exact ih fuel (d + 1) (by rw [Nat.succ_add_eq_add_succ]; exact hn) (Nat.lt_of_succ_lt_succ hf)

theorem probeHash_fuel {t : Tbl} {hash : Nat} (m : Nat) :
    ∀ (f1 f2 pos d : Nat), pos < t.cap → FE t.slots t.cap pos m → m < f1 → m < f2 →
      probeHash t hash f1 pos d = probeHash t hash f2 pos d := by
  induction m with
  | zero =>
    intro f1 f2 pos d hpos hfe h1 h2
    obtain ⟨f1, rfl⟩ := Nat.exists_eq_add_one.2 h1
    obtain ⟨f2, rfl⟩ := Nat.exists_eq_add_one.2 h2
    rw [probeHash_emp (hfe.emp hpos), probeHash_emp (hfe.emp hpos)]
  | succ m ih =>
    intro f1 f2 pos d hpos hfe h1 h2
    obtain ⟨f1, rfl⟩ := Nat.exists_eq_add_one.2 (Nat.zero_lt_of_lt h1)
    obtain ⟨f2, rfl⟩ := Nat.exists_eq_add_one.2 (Nat.zero_lt_of_lt h2)
    rw [probeHash_occ (hfe.occ hpos), probeHash_occ (hfe.occ hpos),
      ih f1 f2 _ (d + 1) (Nat.mod_lt _ (Nat.zero_lt_of_lt hpos)) (hfe.shift fun _ => Iff.rfl)
        (Nat.lt_of_succ_lt_succ h1) (Nat.lt_of_succ_lt_succ h2)]

/-- `get_by_hash` on a table with a free slot: it returns an arena index whose key has this hash,
and returns `None` exactly when no stored key has this hash; the fuel is sufficient. -/
theorem getByHash_spec {hashOf : Nat → Nat} {t : Tbl} (h : RHInv hashOf t) (hlt : t.len < t.cap)
    (hash extra : Nat) :
    ((getByHash t hash extra).1 = t ∨ (getByHash t hash extra).1 = hit t) ∧
    (∀ i, (getByHash t hash extra).2 = some i → ∃ k, t.keys[i]? = some k ∧ hashOf k = hash) ∧
    ((getByHash t hash extra).2 = none ↔ ∀ k ∈ t.keys, hashOf k ≠ hash) ∧
    getByHash t hash extra = getByHash t hash 0 := by
  obtain ⟨htbl, hslot⟩ := probeHash_sound (t := t) (hash := hash) (t.cap + 1 + extra) (hash % t.cap) 0
  have hsound : ∀ i, (getByHash t hash extra).2 = some i →
      ∃ k, t.keys[i]? = some k ∧ hashOf k = hash := by
    intro i hi
    obtain ⟨p, hp, hh⟩ := hslot i hi
    obtain ⟨k, hk, hk'⟩ := h.ptr_ok _ (mem_of_sget_ptr hp) i hp
    exact ⟨k, hk, by rw [← hk', hh]⟩
  refine ⟨htbl, hsound, ⟨fun hn k hk hkh => ?_, fun hall => ?_⟩, ?_⟩
  · obtain ⟨i0, hi0⟩ := List.mem_iff_getElem?.1 hk
    obtain ⟨s, hs, hpath, _, hh⟩ := h.key_slot hlt hi0
    rw [hkh] at hpath hh
    obtain ⟨i, hi⟩ := probeHash_finds hpath hh s (t.cap + 1 + extra) 0 (Nat.zero_add s)
      (Nat.lt_trans hs (Nat.lt_add_right extra (Nat.lt_succ_self _)))
    rw [Nat.add_zero] at hi
    exact nomatch hn.symm.trans hi
  · cases hr : (getByHash t hash extra).2 with
    | none => rfl
    | some i =>
      obtain ⟨k, hk, hkh⟩ := hsound i hr
      exact absurd hkh (hall k (List.mem_iff_getElem?.2 ⟨i, hk⟩))
  · obtain ⟨m, hm, hfe⟩ := first_empty (h.exists_empty hlt) (hash % t.cap)
    exact probeHash_fuel m _ _ _ 0 (Nat.mod_lt _ h.cap_pos) hfe
      (Nat.lt_trans hm (Nat.lt_add_right extra (Nat.lt_succ_self _))) (Nat.lt_succ_of_lt hm)

/-!
## Summary

* `RHInv hashOf t` — the invariant: `0 < cap`; `slots.length = cap`; every occupied slot `p`
  satisfies `(hash + psl) % cap = p` (`PosOK`: stored psl = true displacement, `< cap` by
  `RHInv.psl_lt_cap`); the local robin-hood order `Loc` (an element with `psl > 0` has an occupied
  predecessor with psl at least `psl - 1`), from which the segment form follows (`RHInv.path`:
  all slots between the home slot and `p` are occupied with psl ≥ their offset, so a probe never
  stops early); `len = keys.length` = number of occupied slots; occupied slots hold valid arena
  indices together with `hashOf` of the key they point to; every arena index is in exactly one
  slot; arena keys are pairwise distinct.
* `getOrInsert_spec`, `grow_preserves`, `run_spec`, `index_stable`, `getByHash_spec`.
* Fuel: `propagate_fuel`, `probe_fuel`, `grow_fuel`, `getOrInsert_fuel`, last clause of
  `getByHash_spec`: with the invariant (which gives a free slot whenever a loop starts) the loops
  leave through a `return` within `cap` iterations; results are independent of the extra fuel.
* psl: all statements are about the `Nat`-psl model, unconditionally.  `PslBound` (stored psl of
  occupied slots ≤ 255) is the condition under which the `u8` code takes the same steps; it holds
  automatically for `cap ≤ 256` (`RHInv.pslBound`).
-/

end RH
