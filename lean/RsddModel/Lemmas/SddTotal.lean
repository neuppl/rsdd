import RsddModel.Lemmas.SddSem
import RsddModel.Lemmas.OptionLe
/-!
# SDD lemmas, totality: with `vt.height + 1` units of fuel every builder operation returns

The fuel of `Sdd.and` bounds the *recursion depth* (`and (fuel+1) = andBody (and fuel)`, every
call inside one body — product loops, the `or`s of `compress` — runs on `and fuel`).  The
termination measure is the height of the smallest sub-vtree that contains both operands:
every recursive call of `and_cartesian` / `and_sub_desc` / `and_prime_desc`, and every `or` of
`compress`, is on pointers that live in the left or in the right child of the node the call works
at.  That needs a *positional* invariant (`Pos`): primes sit (by vtree index) in the left child,
subs in the right child, no decision node sits at a right-linear vtree node (there
`and_cartesian` calls `low()/high()` on its second operand).  `WF` alone (C03) is too weak for
totality: `and (bdd …@i) (dec …@i [(⊤, s)])` at a right-linear `i` is well formed for `WF` and
panics.  The file proves that `and` and `condition` keep `Pos` and, on `WF ∧ Pos` operands, do not
fail; the derived operations and the programs follow in `Props/C03Total.lean`.  The element loops and
`compress` are walked by the rules of `Lemmas/SddRules.lean` at `N := False` (the run returns), for a
recursive call that is total on one index range (`AndR`) and the element predicate `ElemR`.

Section "programs" says which calls the builder accepts (`Op.valid`); a returned call was valid
(`step_valid`), the converse is `step_total` in `Props/C03Total.lean`.  The last section shows
that every function of the builder is monotone in its fuel, up to `runFrom_mono`: more fuel never
changes a returned result, so a run with any fuel above `vt.height + 1` equals the run at that bound
(`Props/C03Total.lean`).
-/
namespace Sdd
open Spec

/-! ## vtree: occurrences of sub-vtrees with their in-order offset -/

def VTree.height : VTree → Nat
  | .leaf _ => 0
  | .node l r => max l.height r.height + 1

/-- position of the root inside the in-order numbering of the tree -/
def VTree.rootOff : VTree → Nat
  | .leaf _ => 0
  | .node l _ => l.size

/-- `s` occurs in `t` (numbered from `off`) with its numbering starting at `o` -/
def VTree.At : VTree → Nat → VTree → Nat → Prop
  | .leaf v, off, s, o => s = .leaf v ∧ o = off
  | .node l r, off, s, o =>
    (s = .node l r ∧ o = off) ∨ l.At off s o ∨ r.At (off + l.size + 1) s o

theorem VTree.At_refl (t : VTree) (off : Nat) : t.At off t off := by
  cases t <;> simp [VTree.At]

theorem VTree.At_range {t : VTree} {off : Nat} {s : VTree} {o : Nat} (h : t.At off s o) :
    off ≤ o ∧ o + s.size ≤ off + t.size := by
  induction t generalizing off with
  | leaf v => obtain ⟨rfl, rfl⟩ := h; simp
  | node l r ihl ihr =>
    rcases h with ⟨rfl, rfl⟩ | h | h
    · simp
    · have := ihl h; simp only [VTree.size]; omega
    · have := ihr h; simp only [VTree.size]; omega

theorem VTree.At_height {t : VTree} {off : Nat} {s : VTree} {o : Nat} (h : t.At off s o) :
    s.height ≤ t.height := by
  induction t generalizing off with
  | leaf v => obtain ⟨rfl, rfl⟩ := h; simp
  | node l r ihl ihr =>
    rcases h with ⟨rfl, rfl⟩ | h | h
    · simp
    · have := ihl h; simp only [VTree.height]; omega
    · have := ihr h; simp only [VTree.height]; omega

theorem VTree.At_trans {t : VTree} {off : Nat} {s : VTree} {o : Nat} {s' : VTree} {o' : Nat}
    (h : t.At off s o) (h' : s.At o s' o') : t.At off s' o' := by
  induction t generalizing off with
  | leaf v => obtain ⟨rfl, rfl⟩ := h; exact h'
  | node l r ihl ihr =>
    rcases h with ⟨rfl, rfl⟩ | h | h
    · exact h'
    · exact Or.inr (Or.inl (ihl h))
    · exact Or.inr (Or.inr (ihr h))

theorem VTree.At_left {t : VTree} {off : Nat} {l r : VTree} {o : Nat}
    (h : t.At off (.node l r) o) : t.At off l o :=
  VTree.At_trans h (Or.inr (Or.inl (VTree.At_refl l o)))

theorem VTree.At_right {t : VTree} {off : Nat} {l r : VTree} {o : Nat}
    (h : t.At off (.node l r) o) : t.At off r (o + l.size + 1) :=
  VTree.At_trans h (Or.inr (Or.inr (VTree.At_refl r _)))

theorem VTree.At_sub? {t : VTree} {off : Nat} {s : VTree} {o : Nat} (h : t.At off s o) {k : Nat}
    (h1 : o ≤ k) (h2 : k < o + s.size) : t.sub? off k = s.sub? o k := by
  induction t generalizing off with
  | leaf v => obtain ⟨rfl, rfl⟩ := h; rfl
  | node l r ihl ihr =>
    rcases h with ⟨rfl, rfl⟩ | h | h
    · rfl
    · have := VTree.At_range h
      rw [VTree.sub?_node_lt (by omega)]; exact ihl h
    · have := VTree.At_range h
      rw [VTree.sub?_node_gt (by omega)]; exact ihr h

theorem VTree.At_lca {t : VTree} {off : Nat} {s : VTree} {o : Nat} (h : t.At off s o) {i j : Nat}
    (hi1 : o ≤ i) (hi2 : i < o + s.size) (hj1 : o ≤ j) (hj2 : j < o + s.size) :
    t.lca off i j = s.lca o i j := by
  induction t generalizing off with
  | leaf v => obtain ⟨rfl, rfl⟩ := h; rfl
  | node l r ihl ihr =>
    rcases h with ⟨rfl, rfl⟩ | h | h
    · rfl
    · have := VTree.At_range h
      have c : i < off + l.size ∧ j < off + l.size := by omega
      simp only [VTree.lca, c, and_self, if_true]; exact ihl h
    · have := VTree.At_range h
      have c1 : ¬ (i < off + l.size ∧ j < off + l.size) := by omega
      have c2 : off + l.size < i ∧ off + l.size < j := by omega
      simp only [VTree.lca, c1, c2, and_self, if_true, if_false]; exact ihr h

theorem VTree.sub?_root (s : VTree) (o : Nat) : s.sub? o (o + s.rootOff) = some s := by
  cases s with
  | leaf v => simp [VTree.sub?, VTree.rootOff]
  | node l r => exact VTree.sub?_node_eq l r o

theorem VTree.rootOff_lt (s : VTree) : s.rootOff < s.size := by
  cases s <;> simp [VTree.rootOff, VTree.size]; omega

theorem VTree.At_of_sub? {t : VTree} {off i : Nat} {s : VTree} (h : t.sub? off i = some s) :
    ∃ o, t.At off s o ∧ i = o + s.rootOff := by
  induction t generalizing off with
  | leaf v =>
    simp only [VTree.sub?] at h
    split at h
    · cases h; subst_vars; exact ⟨off, ⟨rfl, rfl⟩, by simp [VTree.rootOff]⟩
    · cases h
  | node l r ihl ihr =>
    simp only [VTree.sub?] at h
    split at h
    · obtain ⟨o, h1, h2⟩ := ihl h
      exact ⟨o, Or.inr (Or.inl h1), h2⟩
    · split at h
      · cases h; subst_vars
        exact ⟨off, Or.inl ⟨rfl, rfl⟩, by simp [VTree.rootOff]⟩
      · obtain ⟨o, h1, h2⟩ := ihr h
        exact ⟨o, Or.inr (Or.inr h1), h2⟩

theorem VTree.At_sub?_root {t : VTree} {off : Nat} {s : VTree} {o : Nat} (h : t.At off s o) :
    t.sub? off (o + s.rootOff) = some s := by
  rw [VTree.At_sub? h (by omega) (by have := s.rootOff_lt; omega)]
  exact VTree.sub?_root s o

/-- laminarity by index: an occurrence whose root index lies in the range of another occurrence
lies inside it -/
theorem VTree.At_laminar {t : VTree} {off : Nat} {s : VTree} {o : Nat} {s' : VTree} {o' : Nat}
    (h : t.At off s o) (h' : t.At off s' o') (h1 : o ≤ o' + s'.rootOff)
    (h2 : o' + s'.rootOff < o + s.size) : s.At o s' o' := by
  have e1 := VTree.At_sub?_root h'
  rw [VTree.At_sub? h h1 h2] at e1
  obtain ⟨o'', h3, h4⟩ := VTree.At_of_sub? e1
  have : o'' = o' := by omega
  subst this
  exact h3

theorem VTree.At_node_inside {t : VTree} {off : Nat} {s : VTree} {o : Nat} {L R : VTree} {k : Nat}
    (h : t.At off s o) (h' : t.At off (.node L R) k) (h1 : o ≤ k + L.size)
    (h2 : k + L.size < o + s.size) :
    L.height + 1 ≤ s.height ∧ R.height + 1 ≤ s.height ∧ o ≤ k ∧
      k + L.size + 1 + R.size ≤ o + s.size := by
  have hin := VTree.At_laminar h h' h1 h2
  have hht := VTree.At_height hin
  have hrg := VTree.At_range hin
  simp only [VTree.height] at hht
  simp only [VTree.size] at hrg
  omega

theorem VTree.lca_pos {t : VTree} {off i j : Nat} {si sj : VTree}
    (hi : t.sub? off i = some si) (hj : t.sub? off j = some sj) (hij : i < j) :
    ∃ L R o, t.At off (.node L R) o ∧ t.lca off i j = o + L.size ∧
      o ≤ i ∧ i ≤ o + L.size ∧ o + L.size ≤ j ∧ j < o + L.size + 1 + R.size := by
  induction t generalizing off with
  | leaf w =>
    have := VTree.sub?_range hi; have := VTree.sub?_range hj
    simp only [VTree.size] at *; omega
  | node l r ihl ihr =>
    unfold VTree.lca
    by_cases hc1 : i < off + l.size ∧ j < off + l.size
    · rw [if_pos hc1]
      rw [VTree.sub?_node_lt hc1.1] at hi; rw [VTree.sub?_node_lt hc1.2] at hj
      obtain ⟨L, R, o, h1, h2⟩ := ihl hi hj
      exact ⟨L, R, o, Or.inr (Or.inl h1), h2⟩
    · rw [if_neg hc1]
      by_cases hc2 : off + l.size < i ∧ off + l.size < j
      · rw [if_pos hc2]
        rw [VTree.sub?_node_gt hc2.1] at hi; rw [VTree.sub?_node_gt hc2.2] at hj
        obtain ⟨L, R, o, h1, h2⟩ := ihr hi hj
        exact ⟨L, R, o, Or.inr (Or.inr h1), h2⟩
      · rw [if_neg hc2]
        have r1 := (VTree.sub?_range hi).1
        have r2 := (VTree.sub?_range hj).2
        simp only [VTree.size] at r2
        exact ⟨l, r, off, Or.inl ⟨rfl, rfl⟩, rfl, r1, by omega, by omega, by omega⟩

/-! ## the positional invariant -/

def Ptr.isConst : Ptr → Bool
  | .tru => true
  | .fls => true
  | _ => false

/-- `p` is a constant or its vtree index lies in `[lo, hi)` -/
def InR (vt : VTree) (lo hi : Nat) (p : Ptr) : Prop :=
  p.isConst = true ∨ (lo ≤ vtreeIndex vt p ∧ vtreeIndex vt p < hi)

/-- first in-order index of the sub-vtree rooted at index `i` -/
def VTree.loOf (t : VTree) (i : Nat) : Nat :=
  match t.sub? 0 i with
  | some (.node l _) => i - l.size
  | _ => i
/-- one past the last in-order index of the sub-vtree rooted at index `i` -/
def VTree.hiOf (t : VTree) (i : Nat) : Nat :=
  match t.sub? 0 i with
  | some (.node _ r) => i + 1 + r.size
  | _ => i + 1

mutual
/-- positional well-formedness: node indices are internal vtree nodes, primes (and the label of a
binary node) sit in the left child of the node's vtree node, subs in the right child, and no
decision node sits at a right-linear vtree node -/
def Pos (vt : VTree) : Ptr → Prop
  | .tru => True
  | .fls => True
  | .lit v _ => vt.hasVar v = true
  | .bdd _ l i lo hi =>
    Internal vt i ∧ vt.hasVar l = true ∧ InR vt (vt.loOf i) i (.lit l true) ∧
      Pos vt lo ∧ Pos vt hi ∧ InR vt (i + 1) (vt.hiOf i) lo ∧ InR vt (i + 1) (vt.hiOf i) hi
  | .dec _ i es => Internal vt i ∧ vt.isRLAt i = false ∧ PosElems vt (vt.loOf i) i (vt.hiOf i) es
def PosElems (vt : VTree) (a i b : Nat) : List (Ptr × Ptr) → Prop
  | [] => True
  | (p, s) :: r => Pos vt p ∧ Pos vt s ∧ InR vt a i p ∧ InR vt (i + 1) b s ∧ PosElems vt a i b r
end

theorem posElems_iff {vt : VTree} {a i b : Nat} {es : List Elem} :
    PosElems vt a i b es ↔
      ∀ e ∈ es, Pos vt e.1 ∧ Pos vt e.2 ∧ InR vt a i e.1 ∧ InR vt (i + 1) b e.2 := by
  induction es with
  | nil => simp [PosElems]
  | cons e l ih =>
    obtain ⟨p, s⟩ := e
    simp only [PosElems, ih, List.mem_cons, forall_eq_or_imp]
    constructor
    · rintro ⟨h1, h2, h3, h4, h5⟩; exact ⟨⟨h1, h2, h3, h4⟩, h5⟩
    · rintro ⟨⟨h1, h2, h3, h4⟩, h5⟩; exact ⟨h1, h2, h3, h4, h5⟩

/-- the invariant of totality: `WF` (C03) and `Pos` -/
def TP (vt : VTree) (p : Ptr) : Prop := WF vt p ∧ Pos vt p

theorem vtreeIndex_neg (vt : VTree) (p : Ptr) : vtreeIndex vt p.neg = vtreeIndex vt p := by
  cases p <;> simp [Ptr.neg, vtreeIndex]
theorem isConst_neg (p : Ptr) : p.neg.isConst = p.isConst := by
  cases p <;> simp [Ptr.neg, Ptr.isConst]

theorem InR_neg {vt : VTree} {lo hi : Nat} {p : Ptr} (h : InR vt lo hi p) : InR vt lo hi p.neg := by
  simpa [InR, vtreeIndex_neg, isConst_neg] using h

theorem InR_mono {vt : VTree} {lo hi lo' hi' : Nat} {p : Ptr} (h : InR vt lo hi p)
    (h1 : lo' ≤ lo) (h2 : hi ≤ hi') : InR vt lo' hi' p := by
  rcases h with h | h
  · exact Or.inl h
  · exact Or.inr ⟨by omega, by omega⟩

theorem InR_tru (vt lo hi) : InR vt lo hi .tru := Or.inl rfl
theorem InR_fls (vt lo hi) : InR vt lo hi .fls := Or.inl rfl

theorem InR_lit {vt : VTree} {lo hi l : Nat} {p q : Bool} (h : InR vt lo hi (.lit l p)) :
    InR vt lo hi (.lit l q) := by
  simpa [InR, vtreeIndex, Ptr.isConst] using h

theorem Pos_neg {vt : VTree} {p : Ptr} (h : Pos vt p) : Pos vt p.neg := by
  cases p <;> first | exact h | (simp only [Ptr.neg, Pos] at h ⊢; exact h)

theorem TP_neg {vt : VTree} {p : Ptr} (h : TP vt p) : TP vt p.neg := ⟨WF_neg h.1, Pos_neg h.2⟩
theorem TP_tru (vt : VTree) : TP vt .tru := ⟨WF_tru vt, trivial⟩
theorem TP_fls (vt : VTree) : TP vt .fls := ⟨WF_fls vt, trivial⟩

theorem isConst_of {p : Ptr} (h1 : p.isTrue = false) (h2 : p.isFalse = false) : p.isConst = false := by
  cases p <;> simp_all [Ptr.isTrue, Ptr.isFalse, Ptr.isConst]

theorem InR_idx {vt : VTree} {lo hi : Nat} {p : Ptr} (h : InR vt lo hi p) (hc : p.isConst = false) :
    lo ≤ vtreeIndex vt p ∧ vtreeIndex vt p < hi := by
  rcases h with h | h
  · rw [hc] at h; cases h
  · exact h

theorem span_at {vt : VTree} {L R : VTree} {o : Nat}
    (h : vt.sub? 0 (o + L.size) = some (.node L R)) :
    vt.loOf (o + L.size) = o ∧ vt.hiOf (o + L.size) = o + L.size + 1 + R.size :=
  ⟨by simp only [VTree.loOf, h]; exact Nat.add_sub_cancel .., by simp only [VTree.hiOf, h]⟩

theorem span_of_sub {vt : VTree} {i : Nat} {L R : VTree} (h : vt.sub? 0 i = some (.node L R)) :
    ∃ o, vt.At 0 (.node L R) o ∧ i = o + L.size ∧ vt.loOf i = o ∧
      vt.hiOf i = o + L.size + 1 + R.size := by
  obtain ⟨o, h1, rfl⟩ := VTree.At_of_sub? h
  exact ⟨o, h1, rfl, span_at h⟩

theorem isRLAt_of_sub {vt : VTree} {i : Nat} {L R : VTree} (h : vt.sub? 0 i = some (.node L R)) :
    vt.isRLAt i = true ↔ ∃ w, L = .leaf w := by
  simp only [VTree.isRLAt, h]
  cases L <;> simp [VTree.isRightLinear]

theorem lit_leaf {vt : VTree} {v : Nat} {p : Bool} (h : Pos vt (.lit v p)) :
    vt.sub? 0 (vtreeIndex vt (.lit v p)) = some (.leaf v) := by
  simp only [Pos, VTree.hasVar, Option.isSome_iff_exists] at h
  obtain ⟨j, hj⟩ := h
  simp only [vtreeIndex, hj, Option.getD_some]
  exact VTree.varIndex?_sub hj

theorem leaf_range {vt : VTree} {w o : Nat} (hat : vt.At 0 (.leaf w) o) {p : Ptr} (hp : Pos vt p)
    (hr : InR vt o (o + 1) p) : p = .tru ∨ p = .fls ∨ ∃ pol, p = .lit w pol := by
  have hs : vt.sub? 0 o = some (.leaf w) := by
    simpa [VTree.rootOff] using VTree.At_sub?_root hat
  have leaf : ∀ i, o ≤ i ∧ i < o + 1 → ¬ Internal vt i := fun i hi ⟨l', r', h'⟩ => by
    rw [show i = o by omega, hs] at h'; cases h'
  cases p with
  | tru => exact Or.inl rfl
  | fls => exact Or.inr (Or.inl rfl)
  | lit v pol =>
    have hi := InR_idx hr rfl
    have h := lit_leaf hp
    rw [show vtreeIndex vt (.lit v pol) = o by omega, hs] at h
    cases h
    exact Or.inr (Or.inr ⟨pol, rfl⟩)
  | bdd c l i lo hi => exact absurd hp.1 (leaf i (InR_idx hr rfl))
  | dec c i es => exact absurd hp.1 (leaf i (InR_idx hr rfl))

/-- element lists whose primes sit in `[a, i)` and subs in `[i+1, b)` -/
def ElemsT (vt : VTree) (a i b : Nat) (es : List Elem) : Prop :=
  ∀ e ∈ es, TP vt e.1 ∧ TP vt e.2 ∧ InR vt a i e.1 ∧ InR vt (i + 1) b e.2

theorem ElemsT_cons {vt a i b} {e : Elem} {l : List Elem} : ElemsT vt a i b (e :: l) ↔
    (TP vt e.1 ∧ TP vt e.2 ∧ InR vt a i e.1 ∧ InR vt (i + 1) b e.2) ∧ ElemsT vt a i b l :=
  List.forall_mem_cons

theorem ElemsT_nil {vt a i b} : ElemsT vt a i b [] := fun _ he => nomatch he

theorem ElemsT_negSubs {vt a i b es} (h : ElemsT vt a i b es) : ElemsT vt a i b (negSubs es) := by
  intro e he
  simp only [negSubs, List.mem_map] at he
  obtain ⟨e', he', rfl⟩ := he
  obtain ⟨h1, h2, h3, h4⟩ := h e' he'
  exact ⟨h1, TP_neg h2, h3, InR_neg h4⟩

/-- `TP`, with the vtree index in `[lo, hi)` -/
def TR (vt : VTree) (lo hi : Nat) (p : Ptr) : Prop := TP vt p ∧ InR vt lo hi p

theorem TR.neg {vt : VTree} {lo hi : Nat} {p : Ptr} (h : TR vt lo hi p) : TR vt lo hi p.neg :=
  ⟨TP_neg h.1, InR_neg h.2⟩

/-- a prime of the node at index `i` whose left child spans `[a, i)`; the dependence on the left
leaf of a right-linear node is the part of `WF` (C03) that is about primes only -/
def PrimeT (vt : VTree) (a i : Nat) (p : Ptr) : Prop := TR vt a i p ∧ DepW (vt.leftLeaf? i) p

/-- what every loop of the builder keeps of the elements of the node at `i` (children `[a, i)` and
`[i+1, b)`).  The loops drop a product whose prime is `⊥`; that matters at a right-linear node,
where `canonicalize` must end in a binary node. -/
def ElemR (vt : VTree) (a i b : Nat) : Elem → Prop :=
  ElemG (PrimeT vt a i) (TR vt (i + 1) b) fun p => vt.isRLAt i = true → p ≠ .fls

theorem ElemsT.elemG {vt a i b es} {N : Ptr → Prop} (h : ElemsT vt a i b es)
    (hok : ElemsOK vt (vt.leftLeaf? i) es) (hN : ∀ e ∈ es, N e.1) :
    ∀ e ∈ es, ElemG (PrimeT vt a i) (TR vt (i + 1) b) N e := fun e he =>
  have ⟨t1, t2, r1, r2⟩ := h e he
  ⟨⟨⟨t1, r1⟩, (hok e he).2.2⟩, ⟨t2, r2⟩, hN e he⟩

theorem ElemR.elemsT {vt a i b es} (h : ∀ e ∈ es, ElemR vt a i b e) : ElemsT vt a i b es :=
  fun e he => have ⟨⟨⟨t1, r1⟩, _⟩, ⟨t2, r2⟩, _⟩ := h e he; ⟨t1, t2, r1, r2⟩

theorem ElemR.elemsOK {vt a i b es} (h : ∀ e ∈ es, ElemR vt a i b e) :
    ElemsOK vt (vt.leftLeaf? i) es :=
  fun e he => have ⟨⟨⟨t1, _⟩, d1⟩, ⟨t2, _⟩, _⟩ := h e he; ⟨t1.1, t2.1, d1⟩

/-- what a well formed positional node looks like -/
structure NodeInfo (vt : VTree) (r : Ptr) (es : List Elem) (L R : VTree) (o : Nat) : Prop where
  at_ : vt.At 0 (.node L R) o
  sub : vt.sub? 0 (o + L.size) = some (.node L R)
  idx : vtreeIndex vt r = o + L.size
  elems : ∀ e ∈ es, ElemR vt o (o + L.size) (o + L.size + 1 + R.size) e
  part : Partition es
  dec_nrl : (∃ c i es', r = .dec c i es') → vt.isRLAt (o + L.size) = false

theorem elems?_T {vt : VTree} {r : Ptr} {es : List Elem} (wr : TP vt r) (h : r.elems? = some es) :
    ∃ L R o, NodeInfo vt r es L R o := by
  obtain ⟨hok, hpart, _, _⟩ := elems?_ok wr.1 h
  obtain ⟨wf, wp⟩ := wr
  cases r with
  | tru => cases h
  | fls => cases h
  | lit v p => cases h
  | bdd c l i lo hi =>
    simp only [Ptr.elems?, Option.some.injEq] at h
    subst h
    obtain ⟨hl, _, _, wlo, whi⟩ := wf
    obtain ⟨⟨L, R, hs⟩, _, hlit, plo, phi, rlo, rhi⟩ := wp
    obtain ⟨o, hat, rfl, e1, e2⟩ := span_of_sub hs
    rw [e1] at hlit; rw [e2] at rlo rhi
    refine ⟨L, R, o, hat, hs, rfl, ?_, hpart, ?_⟩
    · have tl : ∀ pol, TP vt (.lit l pol) := fun pol =>
        ⟨by simpa [WF] using hl, by simpa [Pos] using hl⟩
      have base : ElemsT vt o (o + L.size) (o + L.size + 1 + R.size)
          [(.lit l true, hi), (.lit l false, lo)] :=
        ElemsT_cons.2 ⟨⟨tl _, ⟨whi, phi⟩, hlit, rhi⟩,
          ElemsT_cons.2 ⟨⟨tl _, ⟨wlo, plo⟩, InR_lit hlit, rlo⟩, ElemsT_nil⟩⟩
      have nf : ∀ e ∈ [(Ptr.lit l true, if c then hi.neg else hi),
          (.lit l false, if c then lo.neg else lo)], vt.isRLAt (o + L.size) = true → e.1 ≠ .fls :=
        List.forall_mem_cons.2 ⟨fun _ => nofun, List.forall_mem_cons.2 ⟨fun _ => nofun, nofun⟩⟩
      cases c
      · exact base.elemG hok nf
      · exact (ElemsT_negSubs base).elemG hok nf
    · rintro ⟨c', i', es', h'⟩; cases h'
  | dec c i es0 =>
    simp only [Ptr.elems?, Option.some.injEq] at h
    subst h
    obtain ⟨_, _, hok0⟩ := WF_dec.1 wf
    obtain ⟨⟨L, R, hs⟩, hnrl, hpe⟩ := wp
    obtain ⟨o, hat, rfl, e1, e2⟩ := span_of_sub hs
    rw [e1, e2, posElems_iff] at hpe
    have base : ElemsT vt o (o + L.size) (o + L.size + 1 + R.size) es0 := by
      intro e he
      obtain ⟨h1, h2, h3, h4⟩ := hpe e he
      obtain ⟨w1, w2, _⟩ := hok0 e he
      exact ⟨⟨w1, h1⟩, ⟨w2, h2⟩, h3, h4⟩
    have nrl : ∀ e : Elem, vt.isRLAt (o + L.size) = true → e.1 ≠ .fls := fun _ hr => by
      rw [hnrl] at hr; cases hr
    refine ⟨L, R, o, hat, hs, rfl, ?_, hpart, fun _ => hnrl⟩
    cases c
    · exact base.elemG hok fun e _ => nrl e
    · exact (ElemsT_negSubs base).elemG hok fun e _ => nrl e

/-! ## unique_bdd / unique_or / canonicalize_base_case never fail on non-empty vectors -/

theorem uniqueBdd_T {vt : VTree} {L R : VTree} {o l : Nat} {lo hi : Ptr}
    (hs : vt.sub? 0 (o + L.size) = some (.node L R))
    (hl : vt.hasVar l = true) (hlit : InR vt o (o + L.size) (.lit l true))
    (plo : Pos vt lo) (phi : Pos vt hi) (rlo : InR vt (o + L.size + 1) (o + L.size + 1 + R.size) lo)
    (rhi : InR vt (o + L.size + 1) (o + L.size + 1 + R.size) hi) :
    Pos vt (uniqueBdd l lo hi (o + L.size)) ∧
      InR vt o (o + L.size + 1 + R.size) (uniqueBdd l lo hi (o + L.size)) := by
  obtain ⟨e1, e2⟩ := span_at hs
  have node : ∀ c lo' hi', Pos vt lo' → Pos vt hi' →
      InR vt (o + L.size + 1) (o + L.size + 1 + R.size) lo' →
      InR vt (o + L.size + 1) (o + L.size + 1 + R.size) hi' →
      Pos vt (.bdd c l (o + L.size) lo' hi') ∧
        InR vt o (o + L.size + 1 + R.size) (.bdd c l (o + L.size) lo' hi') :=
    fun c lo' hi' a1 a2 a3 a4 =>
      ⟨⟨⟨L, R, hs⟩, hl, by rw [e1]; exact hlit, a1, a2, by rw [e2]; exact a3, by rw [e2]; exact a4⟩,
        Or.inr ⟨Nat.le_add_right .., Nat.lt_add_right _ (Nat.lt_succ_self _)⟩⟩
  have hle : o ≤ o + L.size + 1 := Nat.le_add_right_of_le (Nat.le_add_right ..)
  have lit : ∀ p, Pos vt (.lit l p) ∧ InR vt o (o + L.size + 1 + R.size) (.lit l p) := fun p =>
    ⟨by simpa only [Pos] using hl,
      InR_mono (InR_lit hlit) (Nat.le_refl _) (Nat.le_add_right_of_le (Nat.le_add_right ..))⟩
  refine uniqueBdd_cases (motive := fun r => Pos vt r ∧ InR vt o (o + L.size + 1 + R.size) r)
    ?_ ?_ ?_ ?_ ?_
  · exact fun _ => ⟨phi, InR_mono rhi hle (Nat.le_refl _)⟩
  · exact fun _ _ => lit false
  · exact fun _ _ => lit true
  · exact fun _ _ _ _ => node _ _ _ (Pos_neg plo) (Pos_neg phi) (InR_neg rlo) (InR_neg rhi)
  · exact fun _ _ _ _ => node _ _ _ plo phi rlo rhi

theorem canonBase_T {vt : VTree} {a i b : Nat} {es : List Elem} {r : Ptr} (hl : ElemsT vt a i b es)
    (hai : a ≤ i) (hib : i < b) (h : canonBase? es = some r) : TP vt r ∧ InR vt a b r := by
  have prime : ∀ {p s : Ptr} {l}, ElemsT vt a i b ((p, s) :: l) → TP vt p ∧ InR vt a b p := fun h =>
    ⟨(ElemsT_cons.1 h).1.1, InR_mono (ElemsT_cons.1 h).1.2.2.1 (Nat.le_refl _) (Nat.le_of_lt hib)⟩
  rcases canonBase?_eq_some h with ⟨_, rfl⟩ | rfl | ⟨_, _, rfl⟩ | ⟨_, rfl⟩ | ⟨_, rfl⟩
  · exact ⟨TP_tru vt, InR_tru ..⟩
  · exact ⟨(ElemsT_cons.1 hl).1.2.1,
      InR_mono (ElemsT_cons.1 hl).1.2.2.2 (Nat.le_succ_of_le hai) (Nat.le_refl _)⟩
  · exact ⟨TP_fls vt, InR_fls ..⟩
  · exact prime hl
  · exact prime (ElemsT_cons.1 hl).2

theorem sortByPrime_ne_nil {l : List Elem} (h : l ≠ []) : sortByPrime l ≠ [] := by
  intro e
  cases l with
  | nil => exact h rfl
  | cons x xs =>
    have : x ∈ sortByPrime (x :: xs) := mem_sortByPrime.2 (List.mem_cons_self ..)
    rw [e] at this; cases this

theorem uniqueOr_T {vt : VTree} {L R : VTree} {o : Nat} {es : List Elem}
    (hs : vt.sub? 0 (o + L.size) = some (.node L R))
    (hl : ElemsT vt o (o + L.size) (o + L.size + 1 + R.size) es) (hne : es ≠ [])
    (hrl : vt.isRLAt (o + L.size) = true → asBdd? es ≠ none) :
    ∃ r, uniqueOr es (o + L.size) = some r ∧ Pos vt r ∧ InR vt o (o + L.size + 1 + R.size) r := by
  unfold uniqueOr
  cases hb : asBdd? es with
  | some t =>
    obtain ⟨l, lo, hi⟩ := t
    obtain ⟨x, pol, p1, s0, s1, rfl, rfl, rfl⟩ := asBdd?_some hb
    obtain ⟨_, t0, _, r0⟩ := hl _ (List.mem_cons_self ..)
    obtain ⟨t1, ts1, r1, rs1⟩ := hl _ (List.mem_cons_of_mem _ (List.mem_cons_self ..))
    have hv : vt.hasVar l = true := by simpa [Pos] using t1.2
    refine ⟨_, rfl, uniqueBdd_T hs hv (InR_lit r1) ?_ ?_ ?_ ?_⟩
    · cases pol
      · exact t0.2
      · exact ts1.2
    · cases pol
      · exact ts1.2
      · exact t0.2
    · cases pol
      · exact r0
      · exact rs1
    · cases pol
      · exact rs1
      · exact r0
  | none =>
    have hnrl : vt.isRLAt (o + L.size) = false := by
      cases hr : vt.isRLAt (o + L.size)
      · rfl
      · exact absurd hb (hrl hr)
    obtain ⟨e1, e2⟩ := span_at hs
    have hsorted : ElemsT vt o (o + L.size) (o + L.size + 1 + R.size) (sortByPrime es) := by
      intro e he; exact hl e (mem_sortByPrime.1 he)
    have mk : ∀ c l', ElemsT vt o (o + L.size) (o + L.size + 1 + R.size) l' →
        Pos vt (.dec c (o + L.size) l') ∧
          InR vt o (o + L.size + 1 + R.size) (.dec c (o + L.size) l') := by
      intro c l' hl'
      refine ⟨⟨⟨L, R, hs⟩, hnrl, ?_⟩, Or.inr ?_⟩
      · rw [e1, e2, posElems_iff]
        intro e he
        obtain ⟨h1, h2, h3, h4⟩ := hl' e he
        exact ⟨h1.2, h2.2, h3, h4⟩
      · exact ⟨Nat.le_add_right .., Nat.lt_add_right _ (Nat.lt_succ_self _)⟩
    dsimp only
    cases hs0 : sortByPrime es with
    | nil => exact absurd hs0 (sortByPrime_ne_nil hne)
    | cons e0 rest =>
      obtain ⟨p0, s0⟩ := e0
      rw [hs0] at hsorted
      dsimp only
      by_cases hc : (s0.isNeg || s0.isFalse || s0.isNegVar) = true
      · rw [if_pos hc]; exact ⟨_, rfl, mk _ _ (ElemsT_negSubs hsorted)⟩
      · rw [if_neg hc]; exact ⟨_, rfl, mk _ _ hsorted⟩

/-! ### at a right-linear node the canonical form is never a decision node -/

/-- the shapes a prime in the range of a leaf can take, once `⊥` is excluded -/
def LitOf (w : Nat) (p : Ptr) : Prop := p = .tru ∨ p = .lit w true ∨ p = .lit w false

theorem litOf_sat {w : Nat} {p : Ptr} (h : LitOf w p) :
    p.eval (fun _ => true) = true ∨ p.eval (fun _ => false) = true := by
  rcases h with rfl | rfl | rfl <;> simp [eval_lit]

theorem length_le_cnt {w : Nat} {es : List Elem} (h : ∀ e ∈ es, LitOf w e.1) :
    es.length ≤ cnt (fun _ => true) es + cnt (fun _ => false) es := by
  induction es with
  | nil => simp
  | cons e l ih =>
    have := ih (fun e he => h e (List.mem_cons_of_mem _ he))
    rw [cnt_cons, cnt_cons, List.length_cons]
    rcases litOf_sat (h e (List.mem_cons_self ..)) with h1 | h1
    · simp only [h1, if_true]; omega
    · simp only [h1, if_true]; omega

theorem rl_shape {w : Nat} {es : List Elem} (h : ∀ e ∈ es, LitOf w e.1) (hpart : Partition es)
    (hb : canonBase? es = none) : asBdd? es ≠ none := by
  have hlen := length_le_cnt h
  rw [hpart, hpart] at hlen
  match es, h, hpart, hb, hlen with
  | [], _, hpart, _, _ => have := hpart (fun _ => true); simp at this
  | [(p, s)], h, hpart, hb, _ =>
    exfalso
    rcases h (p, s) (List.mem_cons_self ..) with rfl | rfl | rfl
    · simp [canonBase?, Ptr.isTrue] at hb
    · have := hpart (fun _ => false); simp [cnt_cons, eval_lit] at this
    · have := hpart (fun _ => true); simp [cnt_cons, eval_lit] at this
  | [(p0, s0), (p1, s1)], h, hpart, _, _ =>
    have h0 := h (p0, s0) (List.mem_cons_self ..)
    have h1 := h (p1, s1) (List.mem_cons_of_mem _ (List.mem_cons_self ..))
    have a1 := hpart (fun _ => true)
    have a0 := hpart (fun _ => false)
    simp only [cnt_cons, cnt_nil] at a1 a0
    rcases h0 with rfl | rfl | rfl <;> rcases h1 with rfl | rfl | rfl <;>
      simp [eval_lit, asBdd?] at a1 a0 ⊢
  | _ :: _ :: _ :: _, _, _, _, hlen => simp at hlen

/-! ## the recursive call, abstractly: total on the pointers of one index range

Totality is the reading `N := False` of the loop rules of `SddRules`: the call returns. -/

section loops
variable {σ : Type} {P : σ → Prop} {vt : VTree} {andF : AndF σ}

/-- the recursive `and` call returns on operands of the index range `[lo, hi)`, keeps the state
invariant, and its result is again in that range -/
def AndR (P : σ → Prop) (vt : VTree) (andF : AndF σ) (lo hi : Nat) : Prop :=
  CallsW False P (TR vt lo hi) IsAnd andF

theorem AndR.prime {a i : Nat} (h : AndR P vt andF a i) :
    CallsW False P (PrimeT vt a i) IsAnd andF :=
  CallsW.side h fun _ _ _ => DepW_and

theorem ne_fls_of_isFalse {p : Ptr} (h : p.isFalse = false) : p ≠ .fls := by
  rintro rfl; cases h

/-! ### compress -/

def Sat (p : Ptr) : Prop := ∃ a, p.eval a = true

/-- `compress` returns; a disjunction of satisfiable primes is satisfiable, which keeps `⊥` out of
the primes at a right-linear node -/
theorem compress_T {a i b : Nat} (h : AndR P vt andF a i) {st : σ} {l : List Elem} (hP : P st)
    (hl : ∀ e ∈ l, ElemR vt a i b e) (hpart : Partition l)
    (hsat : vt.isRLAt i = true → ∀ e ∈ l, Sat e.1) :
    ∃ st' out, compress andF st l = some (st', out) ∧ P st' ∧ (∀ e ∈ out, ElemR vt a i b e) ∧
      Partition out := by
  -- `or` keeps `PrimeT` by `orF_w`; satisfiability is not closed under negation and is added by hand
  obtain ⟨⟨st', out⟩, h1, hP', hout, _, _, hsem⟩ := (compressOuter_w
    (Gp := fun p => PrimeT vt a i p ∧ (vt.isRLAt i = true → Sat p))
    (fun st p q hP gp gq =>
      (orF_w h.prime (fun _ g => ⟨g.1.neg, DepW_neg g.2⟩) (fun _ _ _ h => h) st p q hP gp.1 gq.1).mono
        fun y ⟨h1, h2, h3⟩ =>
          ⟨h1, ⟨h2, fun hr => Exists.imp (fun asg ha => by rw [h3, ha]; rfl) (gp.2 hr)⟩, h3⟩)
    l.length st l hP fun e he => ⟨(hl e he).1, fun hr => hsat hr e he⟩).total
  have hs := fun asg => hsem asg (Nat.le_of_eq (hpart asg))
  refine ⟨st', out, h1, hP', fun e he => ?_, fun asg => by rw [(hs asg).1]; exact hpart asg⟩
  -- an output element has a prime built here and the sub of an input element
  obtain ⟨⟨gp, sp⟩, e', he', hee⟩ := hout e he
  refine ⟨gp, hee ▸ (hl e' he').2.1, fun hr hf => ?_⟩
  obtain ⟨asg, ha⟩ := sp hr
  rw [hf] at ha; cases ha

/-! ### canonicalize -/

theorem canonicalize_T {L R : VTree} {o : Nat}
    (hs : vt.sub? 0 (o + L.size) = some (.node L R)) (hat : vt.At 0 (.node L R) o)
    (hL : AndR P vt andF o (o + L.size)) {cmpr : Bool} {st : σ} {l : List Elem} (hP : P st)
    (hl : ∀ e ∈ l, ElemR vt o (o + L.size) (o + L.size + 1 + R.size) e) (hpart : Partition l) :
    ∃ st' r, canonicalize cmpr andF st l (o + L.size) = some (st', r) ∧ P st' ∧ TP vt r ∧
      InR vt o (o + L.size + 1 + R.size) r := by
  have hint : Internal vt (o + L.size) := ⟨L, R, hs⟩
  -- at a right-linear node the primes are `⊤` or literals of the left leaf
  have shape : ∀ l' : List Elem, (∀ e ∈ l', ElemR vt o (o + L.size) (o + L.size + 1 + R.size) e) →
      vt.isRLAt (o + L.size) = true → ∃ w, ∀ e ∈ l', LitOf w e.1 := by
    intro l' hl' hr
    obtain ⟨w, rfl⟩ := (isRLAt_of_sub hs).1 hr
    refine ⟨w, fun e he => ?_⟩
    obtain ⟨⟨⟨t1, r1⟩, _⟩, _, n1⟩ := hl' e he
    rcases leaf_range (VTree.At_left hat) t1.2 (by simpa [VTree.size] using r1) with h' | h' | ⟨pol, h'⟩
    · exact Or.inl h'
    · exact absurd h' (n1 hr)
    · cases pol
      · exact Or.inr (Or.inr h')
      · exact Or.inr (Or.inl h')
  -- the final `unique_or`
  have fin : ∀ (st1 : σ) (l' : List Elem), P st1 →
      (∀ e ∈ l', ElemR vt o (o + L.size) (o + L.size + 1 + R.size) e) → Partition l' →
      canonBase? l' = none →
      ∃ st' r, (uniqueOr l' (o + L.size)).map (fun r => (st1, r)) = some (st', r) ∧ P st' ∧ TP vt r ∧
        InR vt o (o + L.size + 1 + R.size) r := by
    intro st1 l' hP1 hl' hpart' hb
    have hne : l' ≠ [] := by rintro rfl; simp [canonBase?] at hb
    obtain ⟨r, h1, h2, h3⟩ := uniqueOr_T hs (ElemR.elemsT hl') hne (fun hr => by
      obtain ⟨w, hw⟩ := shape l' hl' hr
      exact rl_shape hw hpart' hb)
    exact ⟨st1, r, by simp [h1], hP1, ⟨(uniqueOr_ok (ElemR.elemsOK hl') hpart' hint h1).1, h2⟩, h3⟩
  have hoi : o ≤ o + L.size := Nat.le_add_right ..
  have hib : o + L.size < o + L.size + 1 + R.size := Nat.lt_add_right _ (Nat.lt_succ_self _)
  unfold canonicalize
  cases hb : canonBase? l with
  | some r =>
    obtain ⟨h1, h2⟩ := canonBase_T (ElemR.elemsT hl) hoi hib hb
    exact ⟨st, r, rfl, hP, h1, h2⟩
  | none =>
    dsimp only
    cases cmpr
    · rw [if_neg Bool.false_ne_true]
      exact fin st l hP hl hpart hb
    · rw [if_pos rfl]
      obtain ⟨st1, out, h1, hP1, hout, hpart1⟩ := compress_T hL hP hl hpart fun hr e he => by
        obtain ⟨w, hw⟩ := shape l hl hr
        exact (litOf_sat (hw e he)).elim (fun h' => ⟨_, h'⟩) fun h' => ⟨_, h'⟩
      rw [h1]
      dsimp only
      cases hb1 : canonBase? out with
      | some r =>
        obtain ⟨h2, h3⟩ := canonBase_T (ElemR.elemsT hout) hoi hib hb1
        exact ⟨st1, r, rfl, hP1, h2, h3⟩
      | none => exact fin st1 out hP1 hout hpart1 hb1

/-! ### the four vtree cases of `and`, at the vtree node `o + L.size` (children `L`, `R`) -/

section cases
variable {L R : VTree} {o : Nat}

theorem andCartesian_rl_bdd {cmpr : Bool} {st : σ} {c : Bool} {l i : Nat} {lo hi b : Ptr} {lca : Nat}
    (hr : vt.isRLAt lca = true) :
    andCartesian vt cmpr andF st (.bdd c l i lo hi) b lca =
      match b.low?, b.high? with
      | some bl, some bh =>
        match andF st (if c then lo.neg else lo) bl with
        | none => none
        | some (st1, lr) =>
          match andF st1 (if c then hi.neg else hi) bh with
          | none => none
          | some (st2, hr) => some (st2, uniqueBdd l lr hr lca)
      | _, _ => none := by
  unfold andCartesian
  rw [hr, if_pos rfl]
  rfl

theorem andCartesian_prod {cmpr : Bool} {st : σ} {a b : Ptr} {lca : Nat}
    (h : vt.isRLAt lca = false ∨ a.isBdd = false) :
    andCartesian vt cmpr andF st a b lca =
      match a.elems?, b.elems? with
      | some ea, some eb =>
        match prodLoop andF true eb st ea with
        | none => none
        | some (st', .early x) => some (st', x)
        | some (st', .elems l) => canonicalize cmpr andF st' l lca
      | _, _ => none := by
  have hb : (if vt.isRLAt lca = true then a else Ptr.tru).isBdd = false := by
    rcases h with h | h
    · rw [h]; rfl
    · by_cases c : vt.isRLAt lca = true
      · rw [if_pos c]; exact h
      · rw [if_neg c]; rfl
  unfold andCartesian
  generalize (if vt.isRLAt lca = true then a else Ptr.tru) = p at hb
  cases p <;> first | rfl | cases hb

theorem andIndep_T (hs : vt.sub? 0 (o + L.size) = some (.node L R)) (hat : vt.At 0 (.node L R) o)
    {a b : Ptr} (ta : TP vt a) (tb : TP vt b) (ra : InR vt o (o + L.size) a)
    (rb : InR vt (o + L.size + 1) (o + L.size + 1 + R.size) b) (hca : a.isConst = false) :
    ∃ res, andIndep vt a b (o + L.size) = some res ∧ Pos vt res ∧
      InR vt o (o + L.size + 1 + R.size) res := by
  cases hr : vt.isRLAt (o + L.size) with
  | true =>
    obtain ⟨w, rfl⟩ := (isRLAt_of_sub hs).1 hr
    rcases leaf_range (VTree.At_left hat) ta.2 (by simpa [VTree.size] using ra) with h' | h' | ⟨pol, h'⟩
    · subst h'; cases hca
    · subst h'; cases hca
    · subst h'
      have hv : vt.hasVar w = true := by simpa [Pos] using ta.2
      cases pol
      · obtain ⟨q1, q2⟩ := uniqueBdd_T hs hv (InR_lit ra) tb.2 (TP_fls vt).2 rb (InR_fls ..)
        exact ⟨_, by simp only [andIndep, hr, if_true], q1, q2⟩
      · obtain ⟨q1, q2⟩ := uniqueBdd_T hs hv (InR_lit ra) (TP_fls vt).2 tb.2 (InR_fls ..) rb
        exact ⟨_, by simp only [andIndep, hr, if_true], q1, q2⟩
  | false =>
    have hl : ElemsT vt o (o + L.size) (o + L.size + 1 + R.size) [(a, b), (a.neg, .fls)] :=
      ElemsT_cons.2 ⟨⟨ta, tb, ra, rb⟩,
        ElemsT_cons.2 ⟨⟨TP_neg ta, TP_fls vt, InR_neg ra, InR_fls ..⟩, ElemsT_nil⟩⟩
    obtain ⟨r, h1, h2, h3⟩ := uniqueOr_T hs hl (by simp) (fun h => by rw [hr] at h; cases h)
    exact ⟨r, by simp only [andIndep, hr, Bool.false_eq_true, if_false]; exact h1, h2, h3⟩

section
variable (hL : AndR P vt andF o (o + L.size))
  (hR : AndR P vt andF (o + L.size + 1) (o + L.size + 1 + R.size))
include hL hR

omit hL in
/-- the binary-node branches of `and_sub_desc` and `and_cartesian`: `unique_bdd` of two conjunctions
whose operands live under the right child -/
theorem andBdd_T (hs : vt.sub? 0 (o + L.size) = some (.node L R)) {st : σ} {l : Nat}
    {x1 y1 x2 y2 : Ptr} (hP : P st)
    (hx : ∀ e ∈ [(Ptr.lit l true, x2), (Ptr.lit l false, x1)],
      ElemR vt o (o + L.size) (o + L.size + 1 + R.size) e)
    (g1 : TR vt (o + L.size + 1) (o + L.size + 1 + R.size) y1)
    (g2 : TR vt (o + L.size + 1) (o + L.size + 1 + R.size) y2) :
    ∃ st' res, (match andF st x1 y1 with
      | none => none
      | some (st1, lr) =>
        match andF st1 x2 y2 with
        | none => none
        | some (st2, hr) => some (st2, uniqueBdd l lr hr (o + L.size))) = some (st', res) ∧ P st' ∧
      Pos vt res ∧ InR vt o (o + L.size + 1 + R.size) res := by
  obtain ⟨⟨gl, _⟩, h2, _⟩ := hx _ (List.mem_cons_self ..)
  obtain ⟨_, h1, _⟩ := hx _ (List.mem_cons_of_mem _ (List.mem_cons_self ..))
  obtain ⟨⟨st2, _⟩, h, lr, hr, rfl, hP2, ⟨⟨tlr, rlr⟩, _⟩, ⟨thr, rhr⟩, _⟩ :=
    (hR.two hP h1 g1 h2 g2).total
  exact ⟨st2, _, h, hP2,
    uniqueBdd_T hs (by simpa [Pos] using gl.1.2) gl.2 tlr.2 thr.2 rlr rhr⟩

theorem andSubDesc_T {cmpr : Bool} {st : σ}
    {r d : Ptr} {es : List Elem} (he : r.elems? = some es)
    (hn : NodeInfo vt r es L R o) (td : TP vt d)
    (rd : InR vt (o + L.size + 1) (o + L.size + 1 + R.size) d) (hP : P st) :
    ∃ st' res, andSubDesc cmpr andF st r d = some (st', res) ∧ P st' ∧ Pos vt res ∧
      InR vt o (o + L.size + 1 + R.size) res := by
  cases r with
  | tru => cases he
  | fls => cases he
  | lit v p => cases he
  | bdd c l i lo hi =>
    have hi' : i = o + L.size := hn.idx
    subst hi'
    simp only [Ptr.elems?, Option.some.injEq] at he
    subst he
    exact andBdd_T hR hn.sub hP hn.elems ⟨td, rd⟩ ⟨td, rd⟩
  | dec c i es0 =>
    have hi' : i = o + L.size := hn.idx
    subst hi'
    simp only [Ptr.elems?, Option.some.injEq] at he
    obtain ⟨⟨st1, v⟩, h1, hP1, hv, hsem⟩ :=
      (subDescLoop_w hR (fun _ _ _ h => h) ⟨td, rd⟩ es st hP hn.elems).total
    obtain ⟨st', res, h2, hP', tres, rres⟩ := canonicalize_T hn.sub hn.at_ hL (cmpr := cmpr) hP1 hv
      fun a => by rw [(hsem a).1]; exact hn.part a
    refine ⟨st', res, ?_, hP', tres.2, rres⟩
    simp only [andSubDesc, he, h1]
    exact h2

omit hR in
/-- after a product loop: `true` was returned early, or the elements go to `canonicalize` -/
theorem prodFinish_T {cmpr : Bool} {ea eb : List Elem} {r : Ptr} (hn : NodeInfo vt r ea L R o)
    {X : Option (σ × LoopRes)}
    (hX : W False X fun y => P y.1 ∧
      LoopG (ElemR vt o (o + L.size) (o + L.size + 1 + R.size)) (· = .tru) y.2 ∧ ProdSem ea eb y.2) :
    ∃ st' res, (match X with
      | none => none
      | some (st1, .early x) => some (st1, x)
      | some (st1, .elems l) => canonicalize cmpr andF st1 l (o + L.size)) = some (st', res) ∧
      P st' ∧ Pos vt res ∧ InR vt o (o + L.size + 1 + R.size) res := by
  obtain ⟨⟨st1, res1⟩, rfl, hP1, hres1, hsem⟩ := hX.total
  cases res1 with
  | early x =>
    cases (hres1 : x = .tru)
    exact ⟨st1, _, rfl, hP1, trivial, InR_tru ..⟩
  | elems l =>
    obtain ⟨st', res, h2, hP', tres, rres⟩ := canonicalize_T hn.sub hn.at_ hL (cmpr := cmpr) hP1 hres1
      fun a => by rw [(hsem a).1]; exact hn.part a
    exact ⟨st', res, h2, hP', tres.2, rres⟩

theorem andPrimeDesc_T {cmpr : Bool} {st : σ}
    {r d : Ptr} {es : List Elem} (he : r.elems? = some es)
    (hn : NodeInfo vt r es L R o) (td : TP vt d) (rd : InR vt o (o + L.size) d)
    (dd : DepW (vt.leftLeaf? (vtreeIndex vt r)) d) (hP : P st) :
    ∃ st' res, andPrimeDesc cmpr andF st r d = some (st', res) ∧ P st' ∧ Pos vt res ∧
      InR vt o (o + L.size + 1 + R.size) res := by
  rw [hn.idx] at dd
  have heb : ∀ e ∈ [(d, Ptr.tru), (d.neg, Ptr.fls)], ElemG (PrimeT vt o (o + L.size))
      (TR vt (o + L.size + 1) (o + L.size + 1 + R.size)) (fun _ => True) e :=
    List.forall_mem_cons.2 ⟨⟨⟨⟨td, rd⟩, dd⟩, ⟨TP_tru vt, InR_tru ..⟩, trivial⟩,
      List.forall_mem_cons.2 ⟨⟨⟨⟨TP_neg td, InR_neg rd⟩, DepW_neg dd⟩, ⟨TP_fls vt, InR_fls ..⟩,
        trivial⟩, nofun⟩⟩
  have hX := prodLoop_w hL.prime hR (fun _ _ _ h => h) (fun _ h _ => ne_fls_of_isFalse h) false heb
    (pairD_ok td.1 dd).2.1 es st hP hn.elems
  simp only [andPrimeDesc, he]
  cases r with
  | tru => cases he
  | fls => cases he
  | lit v p => cases he
  | bdd c l' i lo hi =>
    have hi' : i = o + L.size := hn.idx
    subst hi'
    exact prodFinish_T hL hn hX
  | dec c i es0 =>
    have hi' : i = o + L.size := hn.idx
    subst hi'
    exact prodFinish_T hL hn hX

theorem andCartesian_T {cmpr : Bool} {st : σ}
    {a b : Ptr} {ea eb : List Elem} (hea : a.elems? = some ea)
    (heb : b.elems? = some eb) (hna : NodeInfo vt a ea L R o) (hnb : NodeInfo vt b eb L R o)
    (hP : P st) :
    ∃ st' res, andCartesian vt cmpr andF st a b (o + L.size) = some (st', res) ∧ P st' ∧
      Pos vt res ∧ InR vt o (o + L.size + 1 + R.size) res := by
  cases hr : vt.isRLAt (o + L.size) with
  | false =>
    rw [andCartesian_prod (Or.inl hr)]
    simp only [hea, heb]
    exact prodFinish_T hL hna (prodLoop_w hL.prime hR (fun _ _ _ h => h)
      (fun _ h _ => ne_fls_of_isFalse h) true hnb.elems hnb.part ea st hP hna.elems)
  | true =>
    cases a with
    | tru => cases hea
    | fls => cases hea
    | lit v p => cases hea
    | dec c i es0 => rw [hna.dec_nrl ⟨_, _, _, rfl⟩] at hr; cases hr
    | bdd c l i lo hi =>
      cases b with
      | tru => cases heb
      | fls => cases heb
      | lit v p => cases heb
      | dec c' i' es0 => rw [hnb.dec_nrl ⟨_, _, _, rfl⟩] at hr; cases hr
      | bdd c' l' i' lo' hi' =>
        simp only [Ptr.elems?, Option.some.injEq] at hea heb
        subst hea heb
        obtain ⟨_, b1, _⟩ := hnb.elems _ (List.mem_cons_self ..)
        obtain ⟨_, b2, _⟩ := hnb.elems _ (List.mem_cons_of_mem _ (List.mem_cons_self ..))
        rw [andCartesian_rl_bdd hr]
        exact andBdd_T hR hna.sub hP hna.elems b2 b1

end

end cases

end loops

/-! ## `and` -/

/-- the result of `and a b` lies in every sub-vtree that contains both operands -/
def Closed (vt : VTree) (a b r : Ptr) : Prop :=
  ∀ s o, vt.At 0 s o → InR vt o (o + s.size) a → InR vt o (o + s.size) b → InR vt o (o + s.size) r

/-- apply-cache invariant for totality: C03's `AppInv`, and every cached result is positional
and lies where a recomputation would put it -/
def AppInvT (A : CacheImpl (Ptr × Ptr)) (vt : VTree) (st : A.σ) : Prop :=
  AppInv A vt st ∧ ∀ k r, A.get st k = some r → Pos vt r ∧ Closed vt k.1 k.2 r

theorem appInvT_empty (A : CacheImpl (Ptr × Ptr)) (vt : VTree) : AppInvT A vt A.empty :=
  ⟨appInv_empty A vt, fun k r h => by rw [A.empty_get] at h; cases h⟩

/-- `and` restricted to the operands of one index range: returns, keeps the invariants -/
def AndTot (A : CacheImpl (Ptr × Ptr)) (vt : VTree) (andF : AndF A.σ) (lo hi : Nat) : Prop :=
  ∀ st a b, AppInvT A vt st → TP vt a → TP vt b → InR vt lo hi a → InR vt lo hi b →
    ∃ st' r, andF st a b = some (st', r) ∧ AppInvT A vt st' ∧ TP vt r ∧ Closed vt a b r ∧
      ∀ asg, r.eval asg = (a.eval asg && b.eval asg)

theorem AndTot.toR {A : CacheImpl (Ptr × Ptr)} {vt : VTree} {andF : AndF A.σ} {s : VTree} {o : Nat}
    (hat : vt.At 0 s o) (h : AndTot A vt andF o (o + s.size)) :
    AndR (AppInvT A vt) vt andF o (o + s.size) := by
  intro st a b hP ta tb
  obtain ⟨st', r, h1, h2, h3, h4, h5⟩ := h st a b hP ta.1 tb.1 ta.2 tb.2
  exact W.of_some h1 ⟨h2, ⟨h3, h4 s o hat ta.2 tb.2⟩, h5⟩

theorem closed_of_lca {vt : VTree} {x y r : Ptr} {L R : VTree} {k : Nat}
    (hx : x.isConst = false) (hy : y.isConst = false) (hat : vt.At 0 (.node L R) k)
    (hk : vt.lca 0 (vtreeIndex vt x) (vtreeIndex vt y) = k + L.size)
    (hr : InR vt k (k + L.size + 1 + R.size) r) : Closed vt x y r := by
  intro s o hs rx ry
  have ix := InR_idx rx hx
  have iy := InR_idx ry hy
  have e := VTree.At_lca hs ix.1 ix.2 iy.1 iy.2
  have rg := VTree.lca_range s o (vtreeIndex vt x) (vtreeIndex vt y)
  rw [← e, hk] at rg
  obtain ⟨_, _, g1, g2⟩ := VTree.At_node_inside hs hat rg.1 rg.2
  exact InR_mono hr g1 g2

theorem closed_left {vt : VTree} (a b : Ptr) : Closed vt a b a := fun _ _ _ h _ => h
theorem closed_right {vt : VTree} (a b : Ptr) : Closed vt a b b := fun _ _ _ _ h => h
theorem closed_fls {vt : VTree} (a b : Ptr) : Closed vt a b .fls := fun _ _ _ _ _ => InR_fls ..

theorem closed_swap {vt : VTree} {a b r : Ptr} (h : Closed vt a b r) : Closed vt b a r :=
  fun s o hs hb ha => h s o hs ha hb

theorem internal_of_node {vt : VTree} {x : Ptr} (tx : TP vt x) (hc : x.isConst = false) :
    (∃ v p, x = .lit v p) ∨ Internal vt (vtreeIndex vt x) := by
  cases x with
  | tru => cases hc
  | fls => cases hc
  | lit v p => exact Or.inl ⟨v, p, rfl⟩
  | bdd c l i lo hi => exact Or.inr tx.2.1
  | dec c i es => exact Or.inr tx.2.1

theorem same_idx_internal {vt : VTree} {x y : Ptr} (tx : TP vt x) (ty : TP vt y)
    (hx : x.isConst = false) (hy : y.isConst = false)
    (he : vtreeIndex vt x = vtreeIndex vt y) (hxy : x ≠ y) (hxny : x ≠ y.neg) :
    Internal vt (vtreeIndex vt x) := by
  rcases internal_of_node tx hx with ⟨v, p, rfl⟩ | h
  · rcases internal_of_node ty hy with ⟨v', p', rfl⟩ | h'
    · exfalso
      have h1 := lit_leaf tx.2
      have h2 := lit_leaf ty.2
      rw [he, h2] at h1
      cases h1
      cases p <;> cases p' <;> simp [Ptr.neg] at hxy hxny
    · exfalso
      have h1 := lit_leaf tx.2
      obtain ⟨l, r, hs⟩ := h'
      rw [← he, h1] at hs; cases hs
  · exact h

theorem node_at {vt : VTree} {x : Ptr} {L R : VTree} {k : Nat} (tx : TP vt x)
    (hc : x.isConst = false) (hi : vtreeIndex vt x = k + L.size)
    (hs : vt.sub? 0 (k + L.size) = some (.node L R)) :
    ∃ es, x.elems? = some es ∧ NodeInfo vt x es L R k := by
  obtain ⟨es, hes⟩ : ∃ es, x.elems? = some es := by
    cases x with
    | tru => cases hc
    | fls => cases hc
    | lit v p => have h1 := lit_leaf tx.2; rw [hi, hs] at h1; cases h1
    | bdd c l i lo hi => exact ⟨_, rfl⟩
    | dec c i es => exact ⟨_, rfl⟩
  obtain ⟨L', R', k', hn⟩ := elems?_T tx hes
  have h1 := hn.sub
  rw [← hn.idx, hi, hs] at h1
  cases h1
  have : k = k' := Nat.add_right_cancel (hi.symm.trans hn.idx)
  subst this
  exact ⟨es, hes, hn⟩

section core
variable {A : CacheImpl (Ptr × Ptr)} {vt : VTree} {cmpr : Bool} {andF : AndF A.σ} {n : Nat}

theorem children_R
    (hrec : ∀ s' o', vt.At 0 s' o' → s'.height + 1 ≤ n →
      AndR (AppInvT A vt) vt andF o' (o' + s'.size))
    {s : VTree} {o : Nat} (hat : vt.At 0 s o) (hh : s.height ≤ n) {L R : VTree} {k : Nat}
    (hk : vt.At 0 (.node L R) k) (h1 : o ≤ k + L.size) (h2 : k + L.size < o + s.size) :
    AndR (AppInvT A vt) vt andF k (k + L.size) ∧
      AndR (AppInvT A vt) vt andF (k + L.size + 1) (k + L.size + 1 + R.size) := by
  obtain ⟨hL, hR, _, _⟩ := VTree.At_node_inside hat hk h1 h2
  exact ⟨hrec L k (VTree.At_left hk) (Nat.le_trans hL hh),
    hrec R _ (VTree.At_right hk) (Nat.le_trans hR hh)⟩

/-- the positional half of `AndTot`'s postcondition: the call returned, the cached results and the
result are positional and lie where a recomputation would put them -/
def PosRes (A : CacheImpl (Ptr × Ptr)) (vt : VTree) (a b : Ptr) (o : Option (A.σ × Ptr)) : Prop :=
  ∃ st' r, o = some (st', r) ∧
    (∀ k r', A.get st' k = some r' → Pos vt r' ∧ Closed vt k.1 k.2 r') ∧ Pos vt r ∧ Closed vt a b r

/-- the positional half of `andCore`; `WF`, `AppInv` and the semantics are `andCore_ok`'s -/
theorem andCore_T
    (hrec : ∀ s' o', vt.At 0 s' o' → s'.height + 1 ≤ n →
      AndR (AppInvT A vt) vt andF o' (o' + s'.size))
    {s : VTree} {o : Nat} (hat : vt.At 0 s o) (hh : s.height ≤ n) {st : A.σ} {x y : Ptr}
    (hP : AppInvT A vt st) (tx : TP vt x) (ty : TP vt y)
    (hx1 : x.isTrue = false) (hx2 : x.isFalse = false)
    (hy1 : y.isTrue = false) (hy2 : y.isFalse = false) (hxy : x ≠ y) (hxny : x ≠ y.neg)
    (hle : vtreeIndex vt x = vtreeIndex vt y ∨ vtreeIndex vt x < vtreeIndex vt y)
    (rx : InR vt o (o + s.size) x) (ry : InR vt o (o + s.size) y) :
    PosRes A vt x y (andCore A vt cmpr andF st x y) := by
  have hcx := isConst_of hx1 hx2
  have hcy := isConst_of hy1 hy2
  have ix := InR_idx rx hcx
  have iy := InR_idx ry hcy
  -- a miss: the result of the vtree case is entered into the cache
  have ins : ∀ {o : Option (A.σ × Ptr)},
      (∃ st1 r1, o = some (st1, r1) ∧ AppInvT A vt st1 ∧ Pos vt r1 ∧ Closed vt x y r1) →
      PosRes A vt x y (o.map fun p => (A.insert p.1 (x, y) p.2, p.2)) := by
    rintro _ ⟨st1, r1, rfl, hP1, p1, c1⟩
    refine ⟨_, r1, rfl, fun k' r' hk' => ?_, p1, c1⟩
    rcases A.lawful _ _ _ _ _ hk' with ⟨rfl, rfl⟩ | h'
    · exact ⟨p1, c1⟩
    · exact hP1.2 k' r' h'
  -- distinct indices: the node of the least common ancestor, the recursive call on its children
  have off : vtreeIndex vt x ≠ vtreeIndex vt y → ∃ L R k, vt.At 0 (.node L R) k ∧
      vt.sub? 0 (k + L.size) = some (.node L R) ∧
      vt.lca 0 (vtreeIndex vt x) (vtreeIndex vt y) = k + L.size ∧
      k ≤ vtreeIndex vt x ∧ vtreeIndex vt x ≤ k + L.size ∧ k + L.size ≤ vtreeIndex vt y ∧
      vtreeIndex vt y < k + L.size + 1 + R.size ∧ AndR (AppInvT A vt) vt andF k (k + L.size) ∧
      AndR (AppInvT A vt) vt andF (k + L.size + 1) (k + L.size + 1 + R.size) := by
    intro hne
    obtain ⟨sx, hsx⟩ := vtreeIndex_sub tx.1 hx1 hx2
    obtain ⟨sy, hsy⟩ := vtreeIndex_sub ty.1 hy1 hy2
    obtain ⟨L, R, k, hk, hlca, b1, b2, b3, b4⟩ := VTree.lca_pos hsx hsy (hle.resolve_left hne)
    have hsk : vt.sub? 0 (k + L.size) = some (.node L R) := VTree.At_sub?_root hk
    obtain ⟨hL, hR⟩ := children_R hrec hat hh hk (Nat.le_trans ix.1 b2) (Nat.lt_of_le_of_lt b3 iy.2)
    exact ⟨L, R, k, hk, hsk, hlca, b1, b2, b3, b4, hL, hR⟩
  refine andCore_cases (motive := PosRes A vt x y) ?_ ?_ ?_ ?_ ?_
  · intro v hget
    exact ⟨st, v, rfl, hP.2, hP.2 _ _ hget⟩
  · -- same vtree node
    intro _ heq
    obtain ⟨L, R, hs⟩ := same_idx_internal tx ty hcx hcy heq hxy hxny
    obtain ⟨k, _, hix, _⟩ := span_of_sub hs
    rw [hix] at hs
    obtain ⟨ea, hea, hna⟩ := node_at tx hcx hix hs
    obtain ⟨eb, heb, hnb⟩ := node_at ty hcy (heq ▸ hix) hs
    have hlca : vt.lca 0 (vtreeIndex vt x) (vtreeIndex vt y) = k + L.size := by
      rw [← heq, hna.idx]; exact VTree.lca_self hna.sub
    obtain ⟨hL, hR⟩ := children_R hrec hat hh hna.at_ (hna.idx ▸ ix.1) (hna.idx ▸ ix.2)
    obtain ⟨st1, r1, h1, hP1, p1, q1⟩ := andCartesian_T hL hR (cmpr := cmpr)
      hea heb hna hnb hP
    exact ins ⟨st1, r1, hlca ▸ h1, hP1, p1, closed_of_lca hcx hcy hna.at_ hlca q1⟩
  · -- `x` is the ancestor, `y` sits in its right child
    intro _ hne hka
    obtain ⟨L, R, k, hk, hsk, hlca, b1, b2, b3, b4, hL, hR⟩ := off hne
    have hix : vtreeIndex vt x = k + L.size := by rw [← hka, hlca]
    obtain ⟨ea, hea, hna⟩ := node_at tx hcx hix hsk
    have hlt : k + L.size < vtreeIndex vt y := Nat.lt_of_le_of_ne b3 (hix ▸ hne)
    obtain ⟨st1, r1, h1, hP1, p1, q1⟩ := andSubDesc_T hL hR (cmpr := cmpr)
      hea hna ty (Or.inr ⟨hlt, b4⟩) hP
    exact ins ⟨st1, r1, h1, hP1, p1, closed_of_lca hcx hcy hk hlca q1⟩
  · -- `y` is the ancestor, `x` sits in its left child
    intro _ hne _ hkb
    obtain ⟨L, R, k, hk, hsk, hlca, b1, b2, b3, b4, hL, hR⟩ := off hne
    have hiy : vtreeIndex vt y = k + L.size := by rw [← hkb, hlca]
    obtain ⟨eb, heb, hnb⟩ := node_at ty hcy hiy hsk
    have hlt : vtreeIndex vt x < vtreeIndex vt y := hle.resolve_left hne
    have dd := primeDesc_dep tx.1 hx1 hx2 hlt hkb
    obtain ⟨st1, r1, h1, hP1, p1, q1⟩ := andPrimeDesc_T hL hR
      (cmpr := cmpr) heb hnb tx (Or.inr ⟨b1, hiy ▸ hlt⟩) dd hP
    exact ins ⟨st1, r1, h1, hP1, p1, closed_of_lca hcx hcy hk hlca q1⟩
  · -- independent operands
    intro _ hne hka hkb
    obtain ⟨L, R, k, hk, hsk, hlca, b1, b2, b3, b4, hL, hR⟩ := off hne
    rw [hlca] at hka hkb ⊢
    obtain ⟨r1, h1, p1, q1⟩ := andIndep_T hsk hk tx ty
      (Or.inr ⟨b1, Nat.lt_of_le_of_ne b2 (Ne.symm hka)⟩)
      (Or.inr ⟨Nat.lt_of_le_of_ne b3 hkb, b4⟩) hcx
    rw [h1]
    exact ins (o := some (st, r1)) ⟨st, r1, rfl, hP, p1, closed_of_lca hcx hcy hk hlca q1⟩

/-- one unfolding of `and`: the positional half by cases, the rest is `andBody_ok` -/
theorem andBody_T (hand : AndOK (AppInv A vt) vt andF)
    (hrec : ∀ s' o', vt.At 0 s' o' → s'.height + 1 ≤ n →
      AndR (AppInvT A vt) vt andF o' (o' + s'.size))
    {s : VTree} {o : Nat} (hat : vt.At 0 s o) (hh : s.height ≤ n) :
    AndTot A vt (andBody A vt cmpr andF) o (o + s.size) := by
  intro st a b hP ta tb ra rb
  have pos : PosRes A vt a b (andBody A vt cmpr andF st a b) := by
    refine andBody_cases (motive := PosRes A vt a b) ?_ ?_ ?_ ?_ ?_ ?_ ?_ ?_
    · exact fun _ => ⟨st, b, rfl, hP.2, tb.2, closed_right a b⟩
    · exact fun _ => ⟨st, a, rfl, hP.2, ta.2, closed_left a b⟩
    · exact fun _ => ⟨st, .fls, rfl, hP.2, trivial, closed_fls a b⟩
    · exact fun _ => ⟨st, .fls, rfl, hP.2, trivial, closed_fls a b⟩
    · exact fun _ => ⟨st, a, rfl, hP.2, ta.2, closed_left a b⟩
    · exact fun _ => ⟨st, .fls, rfl, hP.2, trivial, closed_fls a b⟩
    · intro ha1 hb1 ha2 hb2 hab habn hle
      exact andCore_T hrec hat hh hP ta tb ha1 ha2 hb1 hb2 hab habn hle ra rb
    · intro ha1 hb1 ha2 hb2 hab habn hlt
      have hban : b ≠ a.neg := fun e => habn (by rw [e, neg_neg])
      obtain ⟨st', r, h1, h2, h3, h4⟩ :=
        andCore_T (cmpr := cmpr) hrec hat hh hP tb ta hb1 hb2 ha1 ha2 (Ne.symm hab) hban
          (Or.inr hlt) rb ra
      exact ⟨st', r, h1, h2, h3, closed_swap h4⟩
  obtain ⟨st', r, h, hc, pr, cr⟩ := pos
  obtain ⟨hA', wr, er⟩ := andBody_ok hand st a b st' r hP.1 ta.1 tb.1 h
  exact ⟨st', r, h, ⟨hA', hc⟩, ⟨wr, pr⟩, cr, er⟩

end core

/-- **`and` is total**: with fuel `> height` of a sub-vtree that contains both operands, `and`
returns on all `WF ∧ Pos` operands, for every lawful cache, both compression settings -/
theorem and_T (A : CacheImpl (Ptr × Ptr)) (vt : VTree) (cmpr : Bool) :
    ∀ (fuel : Nat) (s : VTree) (o : Nat), vt.At 0 s o → s.height + 1 ≤ fuel →
      AndTot A vt (and A vt cmpr fuel) o (o + s.size)
  | 0, _, _, _, h => by omega
  | fuel + 1, s, o, hat, h => by
    have ih := and_T A vt cmpr fuel
    exact andBody_T (n := fuel) (and_ok A vt cmpr fuel)
      (fun s' o' h1 h2 => (ih s' o' h1 h2).toR h1) hat (by omega)

theorem InR_root {vt : VTree} {p : Ptr} (h : WF vt p) : InR vt 0 (0 + vt.size) p := by
  cases hc : p.isConst with
  | true => exact Or.inl hc
  | false =>
    have h1 : p.isTrue = false := by cases p <;> simp_all [Ptr.isTrue, Ptr.isConst]
    have h2 : p.isFalse = false := by cases p <;> simp_all [Ptr.isFalse, Ptr.isConst]
    obtain ⟨s, hs⟩ := vtreeIndex_sub h h1 h2
    have := VTree.sub?_range hs
    exact Or.inr ⟨by omega, by omega⟩

/-! ## `condition` -/

section cond
variable {σ : Type} {P P0 : σ → Prop} {vt : VTree} {andF : AndF σ}

/-- the recursive `condition` call returns on the pointers of one index range -/
def CondR (P : σ → Prop) (vt : VTree) (x : Nat) (v : Bool) (condF : σ → Ptr → Option (σ × Ptr))
    (lo hi : Nat) : Prop :=
  CallsCW False P (TR vt lo hi) (IsCond x v) condF

/-- **`condition` is total**: recursion depth `≤ height + 1` of a sub-vtree containing the
operand, provided the `and` used by `canonicalize` is total on every sub-vtree -/
theorem condition_T (hP0 : ∀ st, P st → P0 st) (hand : AndOK P0 vt andF)
    (hA : ∀ s o, vt.At 0 s o → AndR P vt andF o (o + s.size)) (cmpr : Bool) (x : Nat) (v : Bool) :
    ∀ (n : Nat) (s : VTree) (o : Nat), vt.At 0 s o → s.height + 1 ≤ n →
      CondR P vt x v (condition cmpr andF x v n) o (o + s.size)
  | 0, _, _, _, h => by omega
  | n + 1, s, o, hat, hh => by
    have ih := condition_T hP0 hand hA cmpr x v n
    intro st f hP ⟨tf, rf⟩
    have node : ∀ es : List Elem, f.elems? = some es →
        ∃ st' r, condition cmpr andF x v (n + 1) st f = some (st', r) ∧
          P st' ∧ Pos vt r ∧ InR vt o (o + s.size) r := by
      intro es hes
      rw [condition_node vt hes]
      obtain ⟨L, R, k, hn⟩ := elems?_T tf hes
      have hc : f.isConst = false := by cases f <;> first | rfl | cases hes
      have ix := InR_idx rf hc
      rw [hn.idx] at ix
      obtain ⟨hL, hR, g1, g2⟩ := VTree.At_node_inside hat hn.at_ ix.1 ix.2
      have hh' : s.height ≤ n := Nat.le_of_succ_le_succ hh
      have cL := ih L k (VTree.At_left hn.at_) (Nat.le_trans hL hh')
      have cR := ih R _ (VTree.At_right hn.at_) (Nat.le_trans hR hh')
      obtain ⟨⟨st1, res⟩, h1, hP1, hres, hsem⟩ := (condLoop_w
        (CallsCW.side cL fun _ _ => DepW_cond) cR (fun _ _ h => h)
        (fun _ h _ => ne_fls_of_isFalse h) es st hP hn.elems).total
      simp only [h1]
      cases res with
      | early r =>
        exact ⟨st1, r, rfl, hP1, hres.1.2,
          InR_mono hres.2 (Nat.le_trans g1 (Nat.le_add_right_of_le (Nat.le_add_right ..))) g2⟩
      | elems l =>
        have hs := fun a => hsem a (by rw [hn.part]; exact Nat.le_refl 1)
        obtain ⟨st', r, h2, hP', tr, rr⟩ := canonicalize_T hn.sub hn.at_
          (hA L k (VTree.At_left hn.at_)) (cmpr := cmpr) hP1 hres
          fun a => by rw [(hs a).1]; exact hn.part _
        rw [hn.idx]
        exact ⟨st', r, h2, hP', tr.2, InR_mono rr g1 g2⟩
    -- `WF` of the result and what it denotes are `condition_ok`'s
    have fin : ∀ {st' r}, condition cmpr andF x v (n + 1) st f = some (st', r) → P st' → Pos vt r →
        InR vt o (o + s.size) r →
        W False (condition cmpr andF x v (n + 1) st f) fun y =>
          P y.1 ∧ TR vt o (o + s.size) y.2 ∧ IsCond x v f y.2 := by
      intro st' r h hP' pr rr
      obtain ⟨_, wr, er⟩ := condition_ok hand cmpr x v (n + 1) _ _ _ _ (hP0 st hP) tf.1 h
      exact W.of_some h ⟨hP', ⟨⟨wr, pr⟩, rr⟩, er⟩
    cases f with
    | tru => exact fin rfl hP trivial (InR_tru ..)
    | fls => exact fin rfl hP trivial (InR_fls ..)
    | lit l p =>
      refine fin (r := if l = x then (if p = v then .tru else .fls) else .lit l p) rfl hP ?_ ?_
      · split
        · split <;> trivial
        · exact tf.2
      · split
        · split
          · exact InR_tru ..
          · exact InR_fls ..
        · exact rf
    | bdd c l i lo hi =>
      obtain ⟨st', r, h, hP', pr, rr⟩ := node _ rfl
      exact fin h hP' pr rr
    | dec c i es =>
      obtain ⟨st', r, h, hP', pr, rr⟩ := node _ rfl
      exact fin h hP' pr rr

end cond

/-! ## the ite cache, the builder's `and` -/

/-- ite-cache invariant for totality: C03's `IteInv`, and every cached result is positional -/
def IteInvT (I : CacheImpl (Ptr × Ptr × Ptr)) (vt : VTree) (s : I.σ) : Prop :=
  IteInv I vt s ∧ ∀ k r, I.get s k = some r → Pos vt r

theorem iteInvT_empty (I : CacheImpl (Ptr × Ptr × Ptr)) (vt : VTree) : IteInvT I vt I.empty :=
  ⟨iteInv_empty I vt, fun k r h => by rw [I.empty_get] at h; cases h⟩

theorem bAnd_R (A : CacheImpl (Ptr × Ptr)) (cfg : Config) (fuel : Nat) (hf : cfg.vt.height + 1 ≤ fuel)
    (s : VTree) (o : Nat) (hat : cfg.vt.At 0 s o) :
    AndR (AppInvT A cfg.vt) cfg.vt (bAnd A cfg fuel) o (o + s.size) :=
  (and_T A cfg.vt cfg.compress fuel s o hat (by have := VTree.At_height hat; omega)).toR hat

/-! ## programs -/

/-- an operation is valid for a pool of `n` diagrams: operand indices in range, fresh literals
and the substituted variable of `compose` are leaves of the vtree -/
def Op.valid (vt : VTree) (n : Nat) : Op → Bool
  | .const _ => true
  | .var x _ => vt.hasVar x
  | .neg i => decide (i < n)
  | .and i j => decide (i < n) && decide (j < n)
  | .or i j => decide (i < n) && decide (j < n)
  | .xor i j => decide (i < n) && decide (j < n)
  | .iff i j => decide (i < n) && decide (j < n)
  | .ite i j k => decide (i < n) && decide (j < n) && decide (k < n)
  | .cond i _ _ => decide (i < n)
  | .exist i _ => decide (i < n)
  | .compose i x j => vt.hasVar x && decide (i < n) && decide (j < n)

/-- every operation of the program is valid for the pool it meets (one diagram per operation) -/
def validFrom (vt : VTree) : Nat → List Op → Bool
  | _, [] => true
  | n, op :: ops => op.valid vt n && validFrom vt (n + 1) ops

section run
variable (A : CacheImpl (Ptr × Ptr)) (I : CacheImpl (Ptr × Ptr × Ptr)) (cfg : Config)

/-- builder invariant for totality -/
def InvT (st : St A I) : Prop :=
  AppInvT A cfg.vt st.app ∧ IteInvT I cfg.vt st.ite ∧ ∀ p ∈ st.pool, TP cfg.vt p

theorem invT_init : InvT A I cfg (St.init A I) :=
  ⟨appInvT_empty A cfg.vt, iteInvT_empty I cfg.vt, fun p hp => by simp [St.init] at hp⟩

variable {A I cfg}

theorem invT_push {st : St A I} {a : A.σ} {i : I.σ} {r : Ptr} (ha : AppInvT A cfg.vt a)
    (hi : IteInvT I cfg.vt i) (tr : TP cfg.vt r) (hpool : ∀ p ∈ st.pool, TP cfg.vt p) :
    InvT A I cfg (st.push a i r) ∧ (st.push a i r).pool.length = st.pool.length + 1 := by
  refine ⟨⟨ha, hi, ?_⟩, by simp [St.push]⟩
  intro p hp
  rcases List.mem_append.1 hp with h | h
  · exact hpool p h
  · simp only [List.mem_singleton] at h; subst h; exact tr

theorem pool_get {st : St A I} (hpool : ∀ p ∈ st.pool, TP cfg.vt p) {i : Nat}
    (hi : i < st.pool.length) : ∃ p, st.pool[i]? = some p ∧ TP cfg.vt p :=
  ⟨st.pool[i], List.getElem?_eq_getElem hi, hpool _ (List.getElem_mem hi)⟩

end run

/-! ## validity is also necessary -/

section validnec
variable {A : CacheImpl (Ptr × Ptr)} {I : CacheImpl (Ptr × Ptr × Ptr)} {cfg : Config}

theorem lt_of_get {l : List Ptr} {i : Nat} {p : Ptr} (h : l[i]? = some p) : i < l.length := by
  obtain ⟨h', _⟩ := List.getElem?_eq_some_iff.1 h; exact h'

theorem step_valid (fuel : Nat) (st st' : St A I) (op : Op)
    (h : step A I cfg fuel st op = some st') : op.valid cfg.vt st.pool.length = true := by
  have two : ∀ {i j p q}, st.pool[i]? = some p → st.pool[j]? = some q →
      (decide (i < st.pool.length) && decide (j < st.pool.length)) = true := fun hp hq =>
    Bool.and_eq_true_iff.2 ⟨decide_eq_true (lt_of_get hp), decide_eq_true (lt_of_get hq)⟩
  cases op with
  | const b => rfl
  | var x pol =>
    by_cases hx : cfg.vt.hasVar x = true
    · exact hx
    · simp only [step, if_neg hx] at h; cases h
  | neg i =>
    obtain ⟨p, hp, _⟩ := Option.map_eq_some_iff.1 h
    exact decide_eq_true (lt_of_get hp)
  | and i j => obtain ⟨p, q, hp, hq, _⟩ := pool2_some h; exact two hp hq
  | or i j => obtain ⟨p, q, hp, hq, _⟩ := pool2_some h; exact two hp hq
  | xor i j => obtain ⟨p, q, hp, hq, _⟩ := pool2_some h; exact two hp hq
  | iff i j => obtain ⟨p, q, hp, hq, _⟩ := pool2_some h; exact two hp hq
  | ite i j k =>
    simp only [step] at h
    split at h
    · rename_i p q r hp hq hr
      exact Bool.and_eq_true_iff.2 ⟨two hp hq, decide_eq_true (lt_of_get hr)⟩
    · cases h
  | cond i x b => obtain ⟨p, hp, _⟩ := pool1_some h; exact decide_eq_true (lt_of_get hp)
  | exist i x => obtain ⟨p, hp, _⟩ := pool1_some h; exact decide_eq_true (lt_of_get hp)
  | compose i x j =>
    by_cases hx : cfg.vt.hasVar x = true
    · simp only [step, if_pos hx] at h
      obtain ⟨p, q, hp, hq, _⟩ := pool2_some h
      exact Bool.and_eq_true_iff.2 ⟨Bool.and_eq_true_iff.2 ⟨hx, decide_eq_true (lt_of_get hp)⟩,
        decide_eq_true (lt_of_get hq)⟩
    · simp only [step, if_neg hx] at h; cases h
end validnec

/-! ## fuel monotonicity: more fuel never changes a returned result

Every helper is monotone in the recursive call it is parametrised by (`AndF.Le`, the pointwise
`Option.Le`), hence `and fuel ≤ and (fuel + 1)` and so on up to `runFrom`.  `Option.Le` is a
congruence for each shape of `match` the builder is written with, so every proof follows the
definition of its function. -/
open Option (Le)

/-! one rule per discriminant type of `Model/Sdd.lean`: a rule stated for type variables in both
components of the pair does not unify with the `match`es of the model -/
namespace Le
variable {σ γ : Type}

theorem pair {x x' : Option (σ × Ptr)} {K K' : σ → Ptr → Option γ} (hx : Le x x')
    (hK : ∀ st r, Le (K st r) (K' st r)) :
    Le (match (generalizing := false) x with | none => none | some (st, r) => K st r)
      (match (generalizing := false) x' with | none => none | some (st, r) => K' st r) := by
  intro y h
  cases x with
  | none => cases h
  | some v => rw [hx.of_some rfl]; exact hK v.1 v.2 y h

theorem pairE {x x' : Option (σ × List Elem)} {K K' : σ → List Elem → Option γ} (hx : Le x x')
    (hK : ∀ st l, Le (K st l) (K' st l)) :
    Le (match (generalizing := false) x with | none => none | some (st, l) => K st l)
      (match (generalizing := false) x' with | none => none | some (st, l) => K' st l) := by
  intro y h
  cases x with
  | none => cases h
  | some v => rw [hx.of_some rfl]; exact hK v.1 v.2 y h

theorem triple {x x' : Option (σ × Ptr × List Elem)} {K K' : σ → Ptr → List Elem → Option γ}
    (hx : Le x x') (hK : ∀ st p l, Le (K st p l) (K' st p l)) :
    Le (match (generalizing := false) x with | none => none | some (st, p, l) => K st p l)
      (match (generalizing := false) x' with | none => none | some (st, p, l) => K' st p l) := by
  intro y h
  cases x with
  | none => cases h
  | some v => rw [hx.of_some rfl]; exact hK v.1 v.2.1 v.2.2 y h

theorem loop {x x' : Option (σ × LoopRes)} {E E' : σ → Ptr → Option γ}
    {L L' : σ → List Elem → Option γ} (hx : Le x x') (hE : ∀ st r, Le (E st r) (E' st r))
    (hL : ∀ st l, Le (L st l) (L' st l)) :
    Le (match (generalizing := false) x with
        | none => none | some (st, .early r) => E st r | some (st, .elems l) => L st l)
      (match (generalizing := false) x' with
        | none => none | some (st, .early r) => E' st r | some (st, .elems l) => L' st l) := by
  intro y h
  cases x with
  | none => cases h
  | some v =>
    rw [hx.of_some rfl]
    obtain ⟨st, r | l⟩ := v
    · exact hE st r y h
    · exact hL st l y h

/-- a loop result passed on, with the elements mapped (the tail of every loop round) -/
theorem cont {x x' : Option (σ × LoopRes)} (f : List Elem → List Elem) (hx : Le x x') :
    Le (match (generalizing := false) x with
        | none => none | some (st, .early r) => some (st, LoopRes.early r)
        | some (st, .elems l) => some (st, LoopRes.elems (f l)))
      (match (generalizing := false) x' with
        | none => none | some (st, .early r) => some (st, LoopRes.early r)
        | some (st, .elems l) => some (st, LoopRes.elems (f l))) :=
  loop hx (fun _ _ => Le.refl _) fun _ _ => Le.refl _

end Le

section mono
variable {σ : Type}

/-- `g` extends `f`: wherever `f` returns, `g` returns the same -/
def AndF.Le (f g : AndF σ) : Prop := ∀ st a b, (f st a b).Le (g st a b)

variable {f g : AndF σ}

theorem orF_mono (hle : AndF.Le f g) (st : σ) (a b : Ptr) : Le (orF f st a b) (orF g st a b) := by
  intro y h
  unfold orF at h ⊢
  split at h
  · rename_i h1; rw [(hle _ _ _).of_some h1]; exact h
  · cases h

theorem compressInner_mono (hle : AndF.Le f g) (s : Ptr) :
    ∀ (n : Nat) (st : σ) (p : Ptr) (done rem : List Elem),
      Le (compressInner f s n st p done rem) (compressInner g s n st p done rem)
  | 0, _, _, _, _ => Le.refl _
  | _ + 1, _, _, _, [] => Le.refl _
  | n + 1, st, p, done, (q, t) :: rest => by
    rw [compressInner, compressInner]
    exact Le.ite (Le.pair (orF_mono hle _ _ _) fun _ _ => compressInner_mono hle s n _ _ _ _)
      (compressInner_mono hle s n _ _ _ _)

theorem compressOuter_mono (hle : AndF.Le f g) :
    ∀ (n : Nat) (st : σ) (l : List Elem), Le (compressOuter f n st l) (compressOuter g n st l)
  | 0, _, _ => Le.refl _
  | _ + 1, _, [] => Le.refl _
  | n + 1, st, (p, s) :: rest => by
    rw [compressOuter, compressOuter]
    exact Le.triple (compressInner_mono hle s _ _ _ _ _) fun _ _ _ =>
      Le.pairE (compressOuter_mono hle n _ _) fun _ _ => Le.refl _

theorem canonicalize_mono (hle : AndF.Le f g) (cmpr : Bool) (st : σ) (l : List Elem) (i : Nat) :
    Le (canonicalize cmpr f st l i) (canonicalize cmpr g st l i) := by
  unfold canonicalize
  split
  · exact Le.refl _
  · exact Le.ite (Le.pairE (compressOuter_mono hle _ _ _) fun _ _ => Le.refl _) (Le.refl _)

theorem subDescLoop_mono (hle : AndF.Le f g) (d : Ptr) :
    ∀ (es : List Elem) (st : σ), Le (subDescLoop f d st es) (subDescLoop g d st es)
  | [], _ => Le.refl _
  | (p, s) :: rest, st => by
    rw [subDescLoop, subDescLoop]
    exact Le.pair (hle _ _ _) fun st1 _ => Le.pairE (subDescLoop_mono hle d rest st1) fun _ _ => Le.refl _

theorem andSubDesc_mono (hle : AndF.Le f g) (cmpr : Bool) (st : σ) (r d : Ptr) :
    Le (andSubDesc cmpr f st r d) (andSubDesc cmpr g st r d) := by
  unfold andSubDesc
  cases r with
  | bdd c l i lo hi => exact Le.pair (hle _ _ _) fun _ _ => Le.pair (hle _ _ _) fun _ _ => Le.refl _
  | dec c i es => exact Le.pairE (subDescLoop_mono hle _ _ _) fun _ _ => canonicalize_mono hle _ _ _ _
  | _ => exact Le.refl none

theorem innerLoop_mono (hle : AndF.Le f g) (brk : Bool) (p1 s1 : Ptr) :
    ∀ (eb : List Elem) (st : σ), Le (innerLoop f brk p1 s1 st eb) (innerLoop g brk p1 s1 st eb)
  | [], _ => Le.refl _
  | (p2, s2) :: rest, st => by
    rw [innerLoop, innerLoop]
    exact Le.pair (hle _ _ _) fun st1 _ => Le.ite (innerLoop_mono hle brk p1 s1 rest st1) <|
      Le.pair (hle _ _ _) fun st2 _ => Le.ite (Le.refl _) <| Le.ite (Le.refl _) <|
      Le.cont _ (innerLoop_mono hle brk p1 s1 rest st2)

theorem prodLoop_mono (hle : AndF.Le f g) (cart : Bool) (eb : List Elem) :
    ∀ (ea : List Elem) (st : σ), Le (prodLoop f cart eb st ea) (prodLoop g cart eb st ea)
  | [], _ => Le.refl _
  | (p1, s1) :: rest, st => by
    rw [prodLoop, prodLoop]
    split
    · exact Le.pair (hle _ _ _) fun st1 _ => Le.cont _ (prodLoop_mono hle cart eb rest st1)
    · exact Le.loop (innerLoop_mono hle cart p1 s1 eb st) (fun _ _ => Le.refl _) fun st1 _ =>
        Le.cont _ (prodLoop_mono hle cart eb rest st1)

theorem andPrimeDesc_mono (hle : AndF.Le f g) (cmpr : Bool) (st : σ) (r d : Ptr) :
    Le (andPrimeDesc cmpr f st r d) (andPrimeDesc cmpr g st r d) := by
  unfold andPrimeDesc
  cases r with
  | bdd c l i lo hi =>
    exact Le.loop (prodLoop_mono hle _ _ _ _) (fun _ _ => Le.refl _) fun _ _ => canonicalize_mono hle _ _ _ _
  | dec c i es =>
    exact Le.loop (prodLoop_mono hle _ _ _ _) (fun _ _ => Le.refl _) fun _ _ => canonicalize_mono hle _ _ _ _
  | _ => exact Le.refl none

theorem andCartesian_mono (hle : AndF.Le f g) (vt : VTree) (cmpr : Bool) (st : σ) (a b : Ptr) (lca : Nat) :
    Le (andCartesian vt cmpr f st a b lca) (andCartesian vt cmpr g st a b lca) := by
  unfold andCartesian
  split
  · split
    · exact Le.pair (hle _ _ _) fun _ _ => Le.pair (hle _ _ _) fun _ _ => Le.refl _
    · exact Le.refl _
  · split
    · exact Le.loop (prodLoop_mono hle _ _ _ _) (fun _ _ => Le.refl _) fun _ _ => canonicalize_mono hle _ _ _ _
    · exact Le.refl _

end mono

section mono2
variable {A : CacheImpl (Ptr × Ptr)} {vt : VTree} {cmpr : Bool} {f g : AndF A.σ}

/-- `Le.pair` for calls on the state of an apply cache (`andCore`, the derived operations) -/
theorem Le.pairA {γ : Type} {x x' : Option (A.σ × Ptr)} {K K' : A.σ → Ptr → Option γ} (hx : Le x x')
    (hK : ∀ st r, Le (K st r) (K' st r)) :
    Le (match (generalizing := false) x with | none => none | some (st, r) => K st r)
      (match (generalizing := false) x' with | none => none | some (st, r) => K' st r) := by
  intro y h
  cases x with
  | none => cases h
  | some v => rw [hx.of_some rfl]; exact hK v.1 v.2 y h

theorem andCore_mono (hle : AndF.Le f g) (st : A.σ) (a b : Ptr) :
    Le (andCore A vt cmpr f st a b) (andCore A vt cmpr g st a b) := by
  unfold andCore
  split
  · exact Le.refl _
  · exact Le.pairA (Le.ite (andCartesian_mono hle _ _ _ _ _ _) <| Le.ite (andSubDesc_mono hle _ _ _ _) <|
      Le.ite (andPrimeDesc_mono hle _ _ _ _) (Le.refl _)) fun _ _ => Le.refl _

theorem andBody_mono (hle : AndF.Le f g) : AndF.Le (andBody A vt cmpr f) (andBody A vt cmpr g) :=
  fun _ _ _ => Le.ite (Le.refl _) <| Le.ite (Le.refl _) <| Le.ite (Le.refl _) <| Le.ite (Le.refl _) <|
    Le.ite (Le.refl _) <| Le.ite (Le.refl _) <| Le.ite (andCore_mono hle _ _ _) (andCore_mono hle _ _ _)

/-- **fuel monotonicity of `and`**: more fuel never changes a returned result -/
theorem and_mono (A : CacheImpl (Ptr × Ptr)) (vt : VTree) (cmpr : Bool) :
    ∀ fuel, AndF.Le (and A vt cmpr fuel) (and A vt cmpr (fuel + 1))
  | 0 => fun _ _ _ => Le.none_le _
  | fuel + 1 => andBody_mono (and_mono A vt cmpr fuel)

theorem and_mono_le (A : CacheImpl (Ptr × Ptr)) (vt : VTree) (cmpr : Bool) {m n : Nat} (h : m ≤ n) :
    AndF.Le (and A vt cmpr m) (and A vt cmpr n) := by
  induction h with
  | refl => exact fun _ _ _ => Le.refl _
  | step _ ih => exact fun st a b => (ih st a b).trans (and_mono A vt cmpr _ st a b)

end mono2

section mono3
variable {σ : Type}

theorem condLoop_mono {c d : σ → Ptr → Option (σ × Ptr)} (hle : ∀ st p, Le (c st p) (d st p)) :
    ∀ (es : List Elem) (st : σ), Le (condLoop c st es) (condLoop d st es)
  | [], _ => Le.refl _
  | (p, s) :: rest, st => by
    rw [condLoop, condLoop]
    exact Le.pair (hle _ _) fun st1 _ => Le.ite (condLoop_mono hle rest st1) <|
      Le.pair (hle _ _) fun st2 _ => Le.ite (Le.refl _) <| Le.cont _ (condLoop_mono hle rest st2)

theorem condition_mono {f g : AndF σ} (hle : AndF.Le f g) (cmpr : Bool) (x : Nat) (v : Bool) :
    ∀ (n m : Nat), n ≤ m → ∀ st p, Le (condition cmpr f x v n st p) (condition cmpr g x v m st p)
  | 0, _, _ => fun _ _ => Le.none_le _
  | n + 1, 0, hnm => by omega
  | n + 1, m + 1, hnm => fun st p => by
    have ih := condition_mono hle cmpr x v n m (by omega)
    cases p with
    | bdd c l i lo hi =>
      rw [condition, condition]
      exact Le.loop (condLoop_mono ih _ _) (fun _ _ => Le.refl _) fun _ _ => canonicalize_mono hle _ _ _ _
    | dec c i es =>
      rw [condition, condition]
      exact Le.loop (condLoop_mono ih _ _) (fun _ _ => Le.refl _) fun _ _ => canonicalize_mono hle _ _ _ _
    | _ => exact Le.refl _

end mono3

section mono4
variable (A : CacheImpl (Ptr × Ptr)) (I : CacheImpl (Ptr × Ptr × Ptr)) (cfg : Config)
variable {m n : Nat} (hmn : m ≤ n)
include hmn

theorem bAnd_mono : AndF.Le (bAnd A cfg m) (bAnd A cfg n) := and_mono_le A cfg.vt cfg.compress hmn

theorem bOr_mono : AndF.Le (bOr A cfg m) (bOr A cfg n) := orF_mono (bAnd_mono A cfg hmn)

theorem bCond_mono (st : A.σ) (f : Ptr) (x : Nat) (v : Bool) :
    Le (bCond A cfg m st f x v) (bCond A cfg n st f x v) :=
  condition_mono (bAnd_mono A cfg hmn) cfg.compress x v m n hmn st f

theorem bIte_mono (s : A.σ × I.σ) (f g h : Ptr) : Le (bIte A I cfg m s f g h) (bIte A I cfg n s f g h) := by
  unfold bIte
  split
  · exact Le.refl _
  · split
    · exact Le.refl _
    · exact Le.pairA (bAnd_mono A cfg hmn _ _ _) fun _ _ => Le.pairA (bAnd_mono A cfg hmn _ _ _) fun _ _ =>
        Le.pairA (bOr_mono A cfg hmn _ _ _) fun _ _ => Le.refl _

theorem bExists_mono (st : A.σ) (f : Ptr) (x : Nat) : Le (bExists A cfg m st f x) (bExists A cfg n st f x) :=
  Le.pairA (bCond_mono A cfg hmn _ _ _ _) fun _ _ => Le.pairA (bCond_mono A cfg hmn _ _ _ _) fun _ _ =>
    bOr_mono A cfg hmn _ _ _

theorem bCompose_mono (s : A.σ × I.σ) (f : Ptr) (x : Nat) (g : Ptr) :
    Le (bCompose A I cfg m s f x g) (bCompose A I cfg n s f x g) := by
  intro y h
  unfold bCompose at h ⊢
  split at h
  · cases h
  · rename_i h1
    rw [show bIff A I cfg n s (.lit x true) g = _ from (bIte_mono A I cfg hmn _ _ _ _).of_some h1]
    exact (Le.pairA (bAnd_mono A cfg hmn _ _ _) fun _ _ =>
      Le.pairA (bExists_mono A cfg hmn _ _ _) fun _ _ => Le.refl _) y h

omit hmn in
theorem Le.lookup2 {β : Type} {x y : Option Ptr} {F G : Ptr → Ptr → Option β}
    (h : ∀ p q, Le (F p q) (G p q)) :
    Le (match (generalizing := false) x, y with | some p, some q => F p q | _, _ => none)
      (match (generalizing := false) x, y with | some p, some q => G p q | _, _ => none) := by
  split
  · exact h _ _
  · exact Le.refl _

omit hmn in
theorem Le.lookup1 {β : Type} {x : Option Ptr} {F G : Ptr → Option β} (h : ∀ p, Le (F p) (G p)) :
    Le (match (generalizing := false) x with | some p => F p | none => none)
      (match (generalizing := false) x with | some p => G p | none => none) := by
  split
  · exact h _
  · exact Le.refl _

theorem step_mono (st : St A I) (op : Op) : Le (step A I cfg m st op) (step A I cfg n st op) := by
  cases op with
  | and i j => exact Le.lookup2 fun _ _ => Le.map _ (bAnd_mono A cfg hmn _ _ _)
  | or i j => exact Le.lookup2 fun _ _ => Le.map _ (bOr_mono A cfg hmn _ _ _)
  | xor i j => exact Le.lookup2 fun _ _ => Le.map _ (bIte_mono A I cfg hmn _ _ _ _)
  | iff i j => exact Le.lookup2 fun _ _ => Le.map _ (bIte_mono A I cfg hmn _ _ _ _)
  | ite i j k =>
    simp only [step]; split
    · exact Le.map _ (bIte_mono A I cfg hmn _ _ _ _)
    · exact Le.refl _
  | cond i x b => exact Le.lookup1 fun _ => Le.map _ (bCond_mono A cfg hmn _ _ _ _)
  | exist i x => exact Le.lookup1 fun _ => Le.map _ (bExists_mono A cfg hmn _ _ _)
  | compose i x j =>
    exact Le.ite (Le.lookup2 fun _ _ => Le.map _ (bCompose_mono A I cfg hmn _ _ _ _)) (Le.refl _)
  | _ => exact Le.refl _

/-- **fuel monotonicity of programs**: a run that returns with `m` units of fuel returns the same
state with any `n ≥ m` -/
theorem runFrom_mono : ∀ (ops : List Op) (st : St A I),
    Le (runFrom A I cfg m st ops) (runFrom A I cfg n st ops)
  | [], _ => Le.refl _
  | op :: ops, st => by
    intro y h
    rw [runFrom] at h ⊢
    split at h
    · cases h
    · rename_i h1
      rw [(step_mono A I cfg hmn st op).of_some h1]
      exact runFrom_mono ops _ y h

end mono4
end Sdd
