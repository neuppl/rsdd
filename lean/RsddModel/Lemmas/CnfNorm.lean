import RsddModel.Model.CnfUtil
import RsddModel.Lemmas.InsertSort
import RsddModel.Lemmas.PModel
/-!
# The clause normalisation of `Cnf::new`

`normClause = dedupAdj ∘ sortByLabel` (stable sort by label, then `Vec::dedup`): it keeps the set
of literals, hence the models; its result is sorted and has no two equal neighbours, and such a
clause is a fixed point.  The sort is `Orders.stableSort` at the order `byLabel`
(`sortByLabel_eq`) and takes its facts from `Lemmas/InsertSort.lean`.

The other models of `Cnf::new` (`Ser.cnfNew`, `Compile.cnfNew`, `UnitProp.cnfNew`) are this
function; each is proved equal to it where its lemmas are and reads its facts off this file.
-/
namespace CnfUtil
open Spec

/-! ## the sort -/

/-- the key of `sort_by_key(|a| a.label().value())` as an order -/
def byLabel (a b : Lit) : Bool := decide (a.var ≤ b.var)

theorem insertByLabel_eq (l : Lit) : ∀ xs, insertByLabel l xs = Orders.insertBy byLabel l xs
  | [] => rfl
  | x :: xs => by
    simp only [insertByLabel, Orders.insertBy, insertByLabel_eq l xs, byLabel, decide_eq_true_eq]

theorem sortByLabel_eq : ∀ c, sortByLabel c = Orders.stableSort byLabel c
  | [] => rfl
  | l :: ls => by rw [sortByLabel, Orders.stableSort, sortByLabel_eq ls, insertByLabel_eq]

theorem mem_sortByLabel {x : Lit} {c : List Lit} : x ∈ sortByLabel c ↔ x ∈ c :=
  sortByLabel_eq c ▸ Orders.mem_stableSort

theorem sortByLabel_perm (c : List Lit) : (sortByLabel c).Perm c :=
  sortByLabel_eq c ▸ Orders.stableSort_perm _ c

theorem sortByLabel_sorted (c : List Lit) : (sortByLabel c).Pairwise (fun a b => a.var ≤ b.var) :=
  sortByLabel_eq c ▸ Orders.stableSort_pairwise (le := byLabel) (fun _ _ => of_decide_eq_true)
    (fun _ _ h => Nat.le_of_not_le (of_decide_eq_false h)) Nat.le_trans c

theorem sortByLabel_of_sorted {c : List Lit} (h : c.Pairwise (fun a b => a.var ≤ b.var)) :
    sortByLabel c = c :=
  sortByLabel_eq c ▸ Orders.stableSort_of_pairwise (fun _ _ => decide_eq_true) c h

/-! the sort is stable: it keeps the order of the literals of one label -/

theorem insertByLabel_filter (l : Lit) (v : Nat) : ∀ (xs : List Lit),
    xs.Pairwise (fun a b => a.var ≤ b.var) →
    (insertByLabel l xs).filter (fun x => x.var == v) = (l :: xs).filter (fun x => x.var == v)
  | [], _ => rfl
  | y :: ys, h => by
    have hy := List.pairwise_cons.mp h
    rw [insertByLabel]
    by_cases hle : l.var ≤ y.var
    · rw [if_pos hle]
    · -- `l` moves past `y`; they cannot both have label `v`
      rw [if_neg hle, List.filter_cons, insertByLabel_filter l v ys hy.2, List.filter_cons,
        List.filter_cons (x := l), List.filter_cons (x := y)]
      cases h1 : l.var == v <;> cases h2 : y.var == v
      · rfl
      · rfl
      · rfl
      · exact absurd (Nat.le_of_eq ((beq_iff_eq.mp h1).trans (beq_iff_eq.mp h2).symm)) hle

theorem sortByLabel_stable (v : Nat) : ∀ (c : List Lit),
    (sortByLabel c).filter (fun x => x.var == v) = c.filter (fun x => x.var == v)
  | [] => rfl
  | l :: ls => by
    simp only [sortByLabel]
    rw [insertByLabel_filter l v _ (sortByLabel_sorted ls)]
    simp only [List.filter_cons, sortByLabel_stable v ls]

/-! ## `Vec::dedup` -/

theorem dedupAdj_head (a : Lit) : ∀ t, ∃ t', dedupAdj (a :: t) = a :: t'
  | [] => ⟨[], rfl⟩
  | b :: t => by
    rw [dedupAdj]
    split
    · rename_i h; exact h ▸ dedupAdj_head b t
    · exact ⟨_, rfl⟩

theorem dedupAdj_sublist : ∀ c, (dedupAdj c).Sublist c
  | [] => .slnil
  | [_] => .refl _
  | a :: b :: t => by
    rw [dedupAdj]
    split
    · exact (dedupAdj_sublist (b :: t)).cons _
    · exact (dedupAdj_sublist (b :: t)).cons_cons _

theorem mem_dedupAdj {x : Lit} : ∀ {c : List Lit}, x ∈ dedupAdj c ↔ x ∈ c
  | [] => Iff.rfl
  | [_] => Iff.rfl
  | a :: b :: t => by
    have ih := mem_dedupAdj (x := x) (c := b :: t)
    rw [dedupAdj]
    split
    · rename_i h
      rw [ih, h]
      exact ⟨List.mem_cons_of_mem _, fun hx => (List.mem_cons.mp hx).elim (· ▸ List.mem_cons_self) id⟩
    · rw [List.mem_cons, ih, List.mem_cons (a := x) (b := a)]

/-- no two neighbours are equal -/
def NoAdj : List Lit → Prop
  | [] => True
  | [_] => True
  | a :: b :: t => a ≠ b ∧ NoAdj (b :: t)

theorem dedupAdj_noAdj : ∀ c, NoAdj (dedupAdj c)
  | [] => trivial
  | [_] => trivial
  | a :: b :: t => by
    have ih := dedupAdj_noAdj (b :: t)
    rw [dedupAdj]
    split
    · exact ih
    · rename_i hne
      obtain ⟨t', ht⟩ := dedupAdj_head b t
      rw [ht] at ih ⊢
      exact ⟨hne, ih⟩

theorem dedupAdj_of_noAdj : ∀ c, NoAdj c → dedupAdj c = c
  | [], _ => rfl
  | [_], _ => rfl
  | a :: b :: t, h => by rw [dedupAdj, if_neg h.1, dedupAdj_of_noAdj (b :: t) h.2]

/-! ## the normal form -/

theorem mem_normClause {x : Lit} {c : List Lit} : x ∈ normClause c ↔ x ∈ c :=
  mem_dedupAdj.trans mem_sortByLabel

theorem normClause_eq_nil {c : List Lit} : normClause c = [] ↔ c = [] := by
  rw [List.eq_nil_iff_forall_not_mem, List.eq_nil_iff_forall_not_mem]
  exact forall_congr' fun _ => not_congr mem_normClause

theorem normClause_sorted (c : List Lit) : (normClause c).Pairwise (fun a b => a.var ≤ b.var) :=
  (sortByLabel_sorted c).sublist (dedupAdj_sublist _)

/-- what `Cnf::new` stores is a normal form -/
theorem normClause_idem (c : List Lit) : normClause (normClause c) = normClause c := by
  rw [normClause, sortByLabel_of_sorted (normClause_sorted c), normClause,
    dedupAdj_of_noAdj _ (dedupAdj_noAdj _)]

theorem cnfSat_map_normClause (a : Assign) (cs : List (List Lit)) :
    cnfSat a (cs.map normClause) = cnfSat a cs :=
  cnfSat_map_of_mem_iff (fun _ _ => mem_normClause) a cs

end CnfUtil
