import RsddModel.Model.BddBuilder
/-!
# Lemmas: the per-call memo of `cond_with_alloc` is transparent

`condWithAlloc` (the model of `RobddBuilder::cond_with_alloc`, with its `HashMap` memo as an
association list) returns exactly what the memo-free reading `condPure` returns, as long as
the memo only holds results of the *same* `(x, value)` conditioning — which is what a fresh
memo per call (`cond_helper`) guarantees.
-/
namespace Bdd
open Spec

@[simp] theorem isNeg_node (c v lo hi) : (Ptr.node c v lo hi).isNeg = c := by cases c <;> rfl

/-- `get_or_insert` either keeps the node or complements it and both edges -/
theorem mkNode_cases (x : Nat) (lo hi : Ptr) {M : Ptr → Prop}
    (flip : (hi.isNeg || hi.isFalse) = true → M (.node true x lo.neg hi.neg))
    (keep : ¬(hi.isNeg || hi.isFalse) = true → M (.node false x lo hi)) : M (mkNode x lo hi) :=
  if_elim flip keep

/-- `split` on the node case of `condPure` is slow (the body mentions both recursive calls six
times); proofs about that case start from this lemma -/
theorem condPure_node_elim {lvl : Nat → Nat} {x : Nat} {b c : Bool} {y : Nat} {lo hi : Ptr}
    {M : Ptr → Prop}
    (skip : lvl x < lvl y → M (.node c y lo hi))
    (hit : y = x → M (if c then (if b then hi else lo).neg else if b then hi else lo))
    (merge : y ≠ x → condPure lvl x b lo = condPure lvl x b hi →
      M (if c then (condPure lvl x b lo).neg else condPure lvl x b lo))
    (build : y ≠ x → condPure lvl x b lo ≠ condPure lvl x b hi →
      M (if c then (mkNode y (condPure lvl x b lo) (condPure lvl x b hi)).neg
        else mkNode y (condPure lvl x b lo) (condPure lvl x b hi)))
    (same : y ≠ x → condPure lvl x b lo = lo → condPure lvl x b hi = hi → M (.node c y lo hi)) :
    M (condPure lvl x b (.node c y lo hi)) := by
  rw [condPure]
  refine if_elim skip fun _ => if_elim hit fun h2 => if_elim (merge h2) fun h3 =>
    if_elim (fun _ => build h2 h3) fun h4 => ?_
  exact same h2 (Decidable.not_not.1 fun h => h4 (.inl h)) (Decidable.not_not.1 fun h => h4 (.inr h))

/-- memo invariant: the entry under the signed pointer `k` holds the result for the regular
polarity, i.e. re-applying `k`'s sign gives `condPure k` -/
def MemoOK (lvl : Nat → Nat) (x : Nat) (b : Bool) (m : Memo) : Prop :=
  ∀ k v, Memo.get m k = some v → (if k.isNeg then v.neg else v) = condPure lvl x b k

theorem memoOK_nil (lvl x b) : MemoOK lvl x b [] := by
  intro k v h; simp [Memo.get] at h

theorem memoOK_cons {lvl x b m} (hm : MemoOK lvl x b m) (k v : Ptr)
    (hkv : (if k.isNeg then v.neg else v) = condPure lvl x b k) : MemoOK lvl x b ((k, v) :: m) := by
  intro k' v' h
  simp only [Memo.get] at h
  split at h
  · rename_i e; cases h; subst e; exact hkv
  · exact hm _ _ h

theorem condWithAlloc_spec (lvl : Nat → Nat) (x : Nat) (b : Bool) :
    ∀ (p : Ptr) (m : Memo), MemoOK lvl x b m →
      MemoOK lvl x b (condWithAlloc lvl x b p m).1 ∧
      (condWithAlloc lvl x b p m).2 = condPure lvl x b p := by
  intro p
  induction p with
  | tru => intro m hm; exact ⟨hm, rfl⟩
  | fls => intro m hm; exact ⟨hm, rfl⟩
  | node c y lo hi ihlo ihhi =>
    intro m hm
    -- both functions are unfolded side by side: `condPure_node_elim` splits `condPure` alone, and
    -- the memo-hit branch of `condWithAlloc` has no counterpart there
    by_cases h1 : lvl x < lvl y
    · simp only [condWithAlloc, condPure, h1, if_true]; exact ⟨hm, trivial⟩
    · by_cases h2 : y = x
      · subst h2
        simp only [condWithAlloc, condPure, h1, if_true, if_false]; exact ⟨hm, trivial⟩
      · cases hget : Memo.get m (Ptr.node c y lo hi) with
        | some v =>
          have := hm _ _ hget
          simp only [isNeg_node] at this
          simp only [condWithAlloc, h1, h2, if_false, hget]
          exact ⟨hm, this⟩
        | none =>
          generalize hr1 : condWithAlloc lvl x b lo m = r1
          obtain ⟨m1, l⟩ := r1
          obtain ⟨hm1, e1⟩ := ihlo m hm
          rw [hr1] at hm1 e1
          generalize hr2 : condWithAlloc lvl x b hi m1 = r2
          obtain ⟨m2, h⟩ := r2
          obtain ⟨hm2, e2⟩ := ihhi m1 hm1
          rw [hr2] at hm2 e2
          simp only at e1 e2 hm1 hm2
          subst e1 e2
          rw [condPure]
          simp only [condWithAlloc, h1, h2, if_false, hget, hr1, hr2]
          by_cases hlh : condPure lvl x b lo = condPure lvl x b hi
          · simp only [if_pos hlh]
            exact ⟨hm2, trivial⟩
          · simp only [if_neg hlh]
            refine ⟨memoOK_cons hm2 _ _ ?_, trivial⟩
            rw [condPure, if_neg h1, if_neg h2, if_neg hlh, isNeg_node]
            cases c <;> simp

/-- **memo transparency**: with the fresh memo of `cond_helper`, `cond_with_alloc` computes the
memo-free function -/
theorem condWithAlloc_eq_pure (lvl : Nat → Nat) (x : Nat) (b : Bool) (p : Ptr) :
    (condWithAlloc lvl x b p []).2 = condPure lvl x b p :=
  (condWithAlloc_spec lvl x b p [] (memoOK_nil lvl x b)).2

theorem condition_eq_pure (lvl : Nat → Nat) (p : Ptr) (x : Nat) (b : Bool) :
    condition lvl p x b = condPure lvl x b p := condWithAlloc_eq_pure lvl x b p

#print axioms condWithAlloc_eq_pure
end Bdd
