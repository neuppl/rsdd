import RsddModel.Model.Orders
/-!
# Stable insertion sort

`Orders.insertBy`/`stableSort` with the order a variable: a permutation, sorted for any transitive
relation the order decides totally, the identity on sorted input.  The model's other insertion
sorts (`CnfUtil.sortByLabel`, `Ser.sortByLabel`, `Compile.sortLits`, `Compile.sortClauses`, …)
have the same body at a fixed order; each is proved equal to this one (`…_eq`) next to its
lemmas and takes its facts from here.
-/
namespace Orders
variable {α : Type} {le : α → α → Bool}

theorem insertBy_perm (le : α → α → Bool) (x : α) : ∀ l, (insertBy le x l).Perm (x :: l)
  | [] => .refl _
  | y :: ys => by
    rw [insertBy]
    split
    · exact .refl _
    · exact ((insertBy_perm le x ys).cons y).trans (.swap x y ys)

theorem stableSort_perm {α : Type} (le : α → α → Bool) (l : List α) : (stableSort le l).Perm l := by
  induction l with
  | nil => exact .refl _
  | cons x xs ih => exact (insertBy_perm le x _).trans (ih.cons x)

theorem mem_insertBy {x y : α} {l : List α} : y ∈ insertBy le x l ↔ y = x ∨ y ∈ l :=
  (insertBy_perm le x l).mem_iff.trans List.mem_cons

theorem mem_stableSort {y : α} {l : List α} : y ∈ stableSort le l ↔ y ∈ l :=
  (stableSort_perm le l).mem_iff

theorem stableSort_eq_foldr (le : α → α → Bool) : ∀ l, stableSort le l = l.foldr (insertBy le) []
  | [] => rfl
  | x :: xs => by rw [stableSort, List.foldr_cons, stableSort_eq_foldr le xs]

section pairwise
-- `R` is any transitive relation that `le` decides totally
variable {R : α → α → Prop} (hle : ∀ a b, le a b = true → R a b)
  (hgt : ∀ a b, le a b = false → R b a) (htr : ∀ {a b c}, R a b → R b c → R a c)
include hle hgt htr

theorem insertBy_pairwise (x : α) : ∀ l, l.Pairwise R → (insertBy le x l).Pairwise R
  | [], _ => List.pairwise_singleton _ _
  | y :: ys, h => by
    have hy := List.pairwise_cons.mp h
    rw [insertBy]
    cases hxy : le x y with
    | true =>
      exact List.pairwise_cons.mpr ⟨fun z hz => (List.mem_cons.mp hz).elim (· ▸ hle x y hxy)
        fun hz => htr (hle x y hxy) (hy.1 z hz), h⟩
    | false =>
      refine List.pairwise_cons.mpr ⟨fun z hz => ?_, insertBy_pairwise x ys hy.2⟩
      exact (mem_insertBy.mp hz).elim (· ▸ hgt x y hxy) (hy.1 z)

theorem stableSort_pairwise : ∀ l, (stableSort le l).Pairwise R
  | [] => .nil
  | x :: xs => insertBy_pairwise hle hgt htr x _ (stableSort_pairwise xs)

end pairwise

/-- sorted input comes back unchanged -/
theorem stableSort_of_pairwise {R : α → α → Prop} (hR : ∀ a b, R a b → le a b = true) :
    ∀ l, l.Pairwise R → stableSort le l = l
  | [], _ => rfl
  | x :: xs, h => by
    have hx := List.pairwise_cons.mp h
    rw [stableSort, stableSort_of_pairwise hR xs hx.2]
    cases xs with
    | nil => rfl
    | cons y ys => rw [insertBy, if_pos (hR x y (hx.1 y List.mem_cons_self))]

end Orders
