import RsddModel.Model.SddCompile
import RsddModel.Lemmas.BddCompile
import RsddModel.Lemmas.SddWF
/-!
# Lemmas: the SDD builder meets the specification of the generic compile functions

* `sddSpec` : the record `Sdd.ops` of SDD-builder operations satisfies `Compile.OpsSpec`, for every
  lawful apply cache `A` and ite cache `I`, every vtree, both compression settings and every fuel.
  Invariant `CInv`: both caches semantically sound and holding well formed results (the invariants
  of C03); pointers: `WF` (labels in the vtree, decision primes partition, right-linear labelling);
  `VarOk v`: `v` labels a leaf of the vtree.  Hence `Compile.compileExpr_ok`,
  `Compile.compilePlan_ok`, `Compile.compileCnf_ok` apply to the SDD builder.
* `compileCnf_eq_generic` : the direct mirror `Sdd.compileCnf` of the SDD-specific `compile_cnf` /
  `compile_cnf_helper` is the generic `Compile.compileCnf` instantiated with `Sdd.ops` (the two
  Rust functions have the same shape as their ROBDD counterparts).
* `compileCnf_sem` : `Sdd.compileCnf` is correct for EVERY permutation of the clause list, and
  leaves the ite cache alone.
* `compileCnf_total` : the recursion bound of `cnfHelper` and the `lit_vec[0]` panic are never the
  reason for `none`.
-/
namespace Sdd
open Spec Compile

section
variable {A : CacheImpl (Ptr × Ptr)} {I : CacheImpl (Ptr × Ptr × Ptr)}

theorem withIte_some {α : Type} {i : I.σ} {o : Option (A.σ × α)} {s' : A.σ × I.σ} {r : α}
    (h : withIte i o = some (s', r)) : o = some (s'.1, r) ∧ s'.2 = i := by
  cases o with
  | none => simp [withIte] at h
  | some x =>
    obtain ⟨a, r0⟩ := x
    simp only [withIte, Option.some.injEq, Prod.mk.injEq] at h
    obtain ⟨rfl, rfl⟩ := h
    exact ⟨rfl, rfl⟩

theorem withIte_isSome {α : Type} (i : I.σ) (o : Option (A.σ × α)) :
    (withIte i o).isSome = o.isSome := by
  cases o with
  | none => rfl
  | some x => rfl

end

section
variable (A : CacheImpl (Ptr × Ptr)) (I : CacheImpl (Ptr × Ptr × Ptr))

/-- builder-state invariant for the compile theorems (the cache part of `Sdd.Inv` of C03): both
caches are semantically sound and hold only well formed results -/
def CInv (vt : VTree) (s : A.σ × I.σ) : Prop := AppInv A vt s.1 ∧ IteInv I vt s.2

theorem cinv_empty (vt : VTree) : CInv A I vt (A.empty, I.empty) :=
  ⟨appInv_empty A vt, iteInv_empty I vt⟩

variable (cfg : Config) (fuel : Nat)

/-- **the SDD builder model meets the specification of the compile functions**, for every lawful
cache pair, every vtree, both compression settings, every fuel -/
def sddSpec : OpsSpec (ops A I cfg fuel) where
  Inv := CInv A I cfg.vt
  Good := WF cfg.vt
  VarOk := fun v => v ∈ cfg.vt.leaves
  den := fun p a => p.eval a
  tru_ok := ⟨WF_tru _, funext fun a => eval_tru a⟩
  fls_ok := ⟨WF_fls _, funext fun a => eval_fls a⟩
  var_ok := fun x pol hx =>
    ⟨by simpa [ops, WF] using hasVar_iff.2 hx, funext fun a => by simp [ops, fVar, eval_lit]⟩
  neg_ok := fun ⟨hp, e⟩ => ⟨WF_neg hp, e ▸ funext fun a => by simp [ops, fNot]⟩
  and_ok := fun hi ⟨hp, rfl⟩ ⟨hq, rfl⟩ => .intro fun h => by
    obtain ⟨h1, h2⟩ := withIte_some h
    obtain ⟨ha, wr, er⟩ := bAnd_ok A cfg fuel _ _ _ _ _ hi.1 hp hq h1
    exact ⟨⟨ha, h2 ▸ hi.2⟩, wr, funext fun a => er a⟩
  or_ok := fun hi ⟨hp, rfl⟩ ⟨hq, rfl⟩ => .intro fun h => by
    obtain ⟨h1, h2⟩ := withIte_some h
    obtain ⟨ha, wr, er⟩ := bOr_ok A cfg fuel hi.1 hp hq h1
    exact ⟨⟨ha, h2 ▸ hi.2⟩, wr, funext fun a => er a⟩
  iff_ok := fun hi ⟨hp, rfl⟩ ⟨hq, rfl⟩ => .intro fun h => by
    obtain ⟨ha, hi', wr, er⟩ := bIff_ok A I cfg fuel hi.1 hi.2 hp hq h
    exact ⟨⟨ha, hi'⟩, wr, funext fun a => er a⟩
  xor_ok := fun hi ⟨hp, rfl⟩ ⟨hq, rfl⟩ => .intro fun h => by
    obtain ⟨ha, hi', wr, er⟩ := bXor_ok A I cfg fuel hi.1 hi.2 hp hq h
    exact ⟨⟨ha, hi'⟩, wr, funext fun a => er a⟩
  ite_ok := fun hi ⟨hf, rfl⟩ ⟨hg, rfl⟩ ⟨hh, rfl⟩ => .intro fun h => by
    obtain ⟨ha, hi', wr, er⟩ := bIte_ok A I cfg fuel hi.1 hi.2 hf hg hh h
    exact ⟨⟨ha, hi'⟩, wr, funext fun a => er a⟩

/-! ## `Sdd.compileCnf` is the generic `compile_cnf` at `Sdd.ops` -/

theorem compileClause_eq (i : I.σ) : ∀ (c : Clause) (a : A.σ) (acc : Ptr),
    Compile.compileClause (ops A I cfg fuel) (a, i) acc c
      = withIte i (clauseLoop A cfg fuel a acc c)
  | [], a, acc => rfl
  | l :: ls, a, acc => by
    simp only [Compile.compileClause, clauseLoop, ops, liftA]
    cases h : bOr A cfg fuel a acc (Ptr.lit l.var l.pol) with
    | none => rfl
    | some x =>
      obtain ⟨a1, r⟩ := x
      exact compileClause_eq i ls a1 r

theorem compileClauses_eq (i : I.σ) : ∀ (cs : List Clause) (a : A.σ),
    Compile.compileClauses (ops A I cfg fuel) (a, i) cs
      = withIte i (clausesLoop A cfg fuel a cs)
  | [], a => rfl
  | [] :: _, a => rfl
  | (l :: ls) :: cs, a => by
    simp only [Compile.compileClauses, clausesLoop]
    have e := compileClause_eq A I cfg fuel i (l :: ls) a (Ptr.lit l.var l.pol)
    simp only [ops] at e ⊢
    rw [e]
    cases h : clauseLoop A cfg fuel a (Ptr.lit l.var l.pol) (l :: ls) with
    | none => rfl
    | some x =>
      obtain ⟨a1, p⟩ := x
      simp only [withIte]
      have e2 := compileClauses_eq i cs a1
      simp only [ops] at e2
      rw [e2]
      cases h2 : clausesLoop A cfg fuel a1 cs with
      | none => rfl
      | some y => rfl

theorem collapse_eq (i : I.σ) : ∀ (n : Nat) (a : A.σ) (ps : List Ptr),
    Compile.collapse (ops A I cfg fuel) n (a, i) ps = withIte i (cnfHelper A cfg fuel n a ps)
  | _, a, [] => by simp only [Compile.collapse, cnfHelper, withIte]
  | _, a, [p] => by simp only [Compile.collapse, cnfHelper, withIte]
  | 0, a, _ :: _ :: _ => by simp only [Compile.collapse, cnfHelper, withIte]
  | n + 1, a, p :: q :: ps => by
    simp only [Compile.collapse, cnfHelper]
    rw [collapse_eq i n a]
    cases h1 : cnfHelper A cfg fuel n a (List.take ((p :: q :: ps).length / 2) (p :: q :: ps)) with
    | none => rfl
    | some x =>
      obtain ⟨a1, subL⟩ := x
      simp only [withIte]
      rw [collapse_eq i n a1]
      cases h2 : cnfHelper A cfg fuel n a1
          (List.drop ((p :: q :: ps).length / 2) (p :: q :: ps)) with
      | none => rfl
      | some y =>
        obtain ⟨a2, subR⟩ := y
        simp only [withIte]
        cases subL with
        | none => cases subR <;> rfl
        | some u =>
          cases subR with
          | none => rfl
          | some w =>
            simp only [ops, liftA]
            cases h3 : bAnd A cfg fuel a2 u w with
            | none => rfl
            | some z => rfl

/-- **the SDD-specific `compile_cnf` is the generic one at `Sdd.ops`** -/
theorem compileCnf_eq_generic (s : A.σ × I.σ) (cs : Cnf) :
    compileCnf A I cfg fuel s cs = Compile.compileCnf (ops A I cfg fuel) s cs := by
  obtain ⟨a, i⟩ := s
  unfold compileCnf compileCnfA Compile.compileCnf Compile.collapseClauses
  split
  · rfl
  · split
    · rfl
    · rw [compileClauses_eq]
      cases h1 : clausesLoop A cfg fuel a cs with
      | none => rfl
      | some x =>
        obtain ⟨a1, ps⟩ := x
        simp only [withIte]
        rw [collapse_eq]
        cases h2 : cnfHelper A cfg fuel ps.length a1 ps with
        | none => rfl
        | some y =>
          obtain ⟨a2, o⟩ := y
          cases o <;> rfl

/-! ## correctness of `Sdd.compileCnf` -/

/-- the ite cache is not touched -/
theorem compileCnf_ite {s s' : A.σ × I.σ} {cs : Cnf} {r : Ptr}
    (h : compileCnf A I cfg fuel s cs = some (s', r)) : s'.2 = s.2 :=
  (withIte_some h).2

/-- **`compile_cnf` of the SDD builder is correct for every permutation of the clause list**:
from a state satisfying the invariant, if all variables of the CNF label leaves of the vtree, a
returned diagram is well formed, denotes the CNF, and the invariant holds again -/
theorem compileCnf_sem {cs cs' : Cnf} (hperm : List.Perm cs cs') {s s' : A.σ × I.σ} {r : Ptr}
    (hi : CInv A I cfg.vt s) (hv : ∀ c ∈ cs, ∀ l ∈ c, l.var ∈ cfg.vt.leaves)
    (h : compileCnf A I cfg fuel s cs' = some (s', r)) :
    CInv A I cfg.vt s' ∧ WF cfg.vt r ∧ ∀ a, r.eval a = cnfSat a cs := by
  rw [compileCnf_eq_generic] at h
  exact (compileCnf_ok (sddSpec A I cfg fuel) hperm hi hv).out_den h

/-- the recursion bound of `cnfHelper` and the `lit_vec[0]` panic are never the reason for
`none`: if `and` always returns (enough fuel), so does `compile_cnf` -/
theorem compileCnf_total (hand : ∀ a p q, (bAnd A cfg fuel a p q).isSome = true)
    (s : A.σ × I.σ) (cs : Cnf) : (compileCnf A I cfg fuel s cs).isSome = true := by
  rw [compileCnf_eq_generic]
  apply Compile.compileCnf_total
  · intro s p q
    simp only [ops, liftA, withIte_isSome]; exact hand _ _ _
  · intro s p q
    simp only [ops, liftA, withIte_isSome, bOr, orF]
    have := hand s.1 p.neg q.neg
    cases h : bAnd A cfg fuel s.1 p.neg q.neg with
    | none => rw [h] at this; cases this
    | some x => rfl

end

/-- the `std` permutation is a permutation -/
theorem sortClausesSdd_perm (vt : VTree) (cs : List Clause) :
    List.Perm cs (sortClausesSdd vt cs) :=
  Bdd.sortClauses_perm (varIdx vt) cs

end Sdd
