import RsddModel.Lemmas.UnitProp
/-!
# `update_hash_and_sat_set`: the hash is a function of the model (C09)

`bigp` is a finite product of naturals; all loops of `updateHashAndSatSet` are characterised as
`(h * product) % 2^128`, and the two passes together are shown to turn `hashOf old` into
`hashOf new` and `satOf old` into `satOf new` whenever `new` extends `old`.
-/
namespace UnitProp
open Spec

/-! ## finite products -/

def bigp {α : Type} (is : List α) (f : α → Nat) : Nat := (is.map f).foldr (· * ·) 1

@[simp] theorem bigp_nil {α : Type} (f : α → Nat) : bigp [] f = 1 := rfl
@[simp] theorem bigp_cons {α : Type} (a : α) (is : List α) (f : α → Nat) :
    bigp (a :: is) f = f a * bigp is f := rfl

theorem bigp_append {α : Type} (xs ys : List α) (f : α → Nat) :
    bigp (xs ++ ys) f = bigp xs f * bigp ys f :=
  (congrArg List.prod List.map_append).trans List.prod_append_nat

theorem bigp_mul {α : Type} (is : List α) (f g : α → Nat) :
    bigp is (fun i => f i * g i) = bigp is f * bigp is g := by
  induction is with
  | nil => simp
  | cons a t ih =>
    simp only [bigp_cons, ih]
    rw [Nat.mul_assoc, Nat.mul_assoc, Nat.mul_left_comm (g a)]

theorem bigp_congr {α : Type} {is : List α} {f g : α → Nat} (h : ∀ i, i ∈ is → f i = g i) :
    bigp is f = bigp is g := by
  induction is with
  | nil => rfl
  | cons a t ih =>
    simp only [bigp_cons]
    rw [h a (by simp), ih (fun i hi => h i (by simp [hi]))]

theorem bigp_one {α : Type} (is : List α) : bigp is (fun _ => 1) = 1 := by
  induction is with
  | nil => rfl
  | cons a t ih => simp [ih]

theorem bigp_eq_one {α : Type} {is : List α} {f : α → Nat} (h : ∀ i, i ∈ is → f i = 1) :
    bigp is f = 1 := by
  rw [bigp_congr h, bigp_one]

theorem bigp_filter {α : Type} (is : List α) (p : α → Bool) (f : α → Nat) :
    bigp (is.filter p) f = bigp is (fun i => if p i then f i else 1) := by
  induction is with
  | nil => rfl
  | cons a t ih =>
    by_cases h : p a = true
    · rw [List.filter_cons_of_pos h]; simp [ih, h]
    · rw [List.filter_cons_of_neg h]; simp [ih, h]

theorem bigp_comm {α β : Type} (is : List α) (js : List β) (f : α → β → Nat) :
    bigp is (fun i => bigp js (fun j => f i j)) = bigp js (fun j => bigp is (fun i => f i j)) := by
  induction is with
  | nil => simp [bigp_one]
  | cons a t ih =>
    simp only [bigp_cons, ih]
    rw [← bigp_mul]

theorem bigp_single_mem {α : Type} [DecidableEq α] {is : List α} (hnd : is.Nodup) (a : α) (u : Nat)
    (ha : a ∈ is) : bigp is (fun i => if i = a then u else 1) = u := by
  induction is with
  | nil => cases ha
  | cons b t ih =>
    have hb := List.nodup_cons.mp hnd
    simp only [bigp_cons]
    by_cases e : b = a
    · subst e
      rw [if_pos rfl, bigp_eq_one, Nat.mul_one]
      intro i hi
      rw [if_neg (fun (h : i = b) => hb.1 (h ▸ hi))]
    · rw [if_neg e, Nat.one_mul]
      exact ih hb.2 ((List.mem_cons.mp ha).resolve_left (fun h => e h.symm))

theorem bigp_single_not_mem {α : Type} [DecidableEq α] {is : List α} (a : α) (u : Nat)
    (ha : ¬ a ∈ is) : bigp is (fun i => if i = a then u else 1) = 1 := by
  apply bigp_eq_one
  intro i hi
  rw [if_neg (fun (h : i = a) => ha (h ▸ hi))]

theorem bigp_pos {α : Type} {is : List α} {f : α → Nat} (h : ∀ i, i ∈ is → 0 < f i) : 0 < bigp is f :=
  List.prod_pos_iff_forall_pos_nat.mpr (List.forall_mem_map.mpr h)

/-! ## the inner loops -/

abbrev WClause := List (Lit × Nat)

theorem M128_pos : 0 < M128 := by unfold M128; exact Nat.pos_of_ne_zero (by simp)

theorem wmul_lt (a b : Nat) : wmul a b < M128 := Nat.mod_lt _ M128_pos

theorem wmul_mod (h x y : Nat) : wmul ((h * x) % M128) y = (h * (x * y)) % M128 := by
  unfold wmul; rw [Nat.mod_mul_mod, Nat.mul_assoc]

theorem foldl_wmul {α : Type} {step : Nat → α → Nat} {w : α → Nat}
    (hstep : ∀ h x a, step ((h * x) % M128) a = (h * (x * w a)) % M128) :
    ∀ (l : List α) (h x : Nat), l.foldl step ((h * x) % M128) = (h * (x * bigp l w)) % M128
  | [], h, x => by rw [List.foldl_nil, bigp_nil, Nat.mul_one]
  | a :: t, h, x => by rw [List.foldl_cons, hstep, foldl_wmul hstep t, bigp_cons, Nat.mul_assoc]

/-- weights of the literals of a clause whose variable is unassigned in `top` -/
def unsetProd (top : PModel) (c : WClause) : Nat :=
  bigp c (fun lw => if (top lw.1.var).isNone then lw.2 else 1)

theorem mulUnset_eq (top : PModel) (c : WClause) (h : Nat) (x : Nat) :
    mulUnset top c ((h * x) % M128) = (h * (x * unsetProd top c)) % M128 := by
  unfold mulUnset unsetProd
  refine foldl_wmul (fun h x lw => ?_) c h x
  split
  · exact wmul_mod h x lw.2
  · rw [Nat.mul_one]

/-- weights of the literals of a clause over variable `v` -/
def varProd (v : Nat) (c : WClause) : Nat := bigp c (fun lw => if lw.1.var = v then lw.2 else 1)

/-- at most one literal occurrence per variable -/
def UniqueVars (c : WClause) : Prop := c.Pairwise (fun a b => a.1.var ≠ b.1.var)

theorem mulFirst_eq (v : Nat) (c : WClause) (hu : UniqueVars c) (h x : Nat) :
    mulFirst v c ((h * x) % M128) = (h * (x * varProd v c)) % M128 := by
  unfold varProd
  induction c with
  | nil => simp [mulFirst]
  | cons lw t ih =>
    have hu' := List.pairwise_cons.mp hu
    unfold mulFirst
    simp only [bigp_cons]
    split
    · next e =>
      have : bigp t (fun lw => if lw.1.var = v then lw.2 else 1) = 1 := by
        apply bigp_eq_one
        intro lw' hlw'
        have := hu'.1 lw' hlw'
        rw [e] at this
        rw [if_neg (fun h => this h.symm)]
      rw [this, wmul_mod]; simp
    · rw [ih hu'.2]; simp

/-! ## pass 1 -/

section passes
variable (clauses : List WClause) (top : PModel)

def step1 (acc : Nat × (Nat → Bool)) (ci : Nat) : Nat × (Nat → Bool) :=
  if acc.2 ci then acc else (mulUnset top (clauses.getD ci []) acc.1, setInsert acc.2 ci)

/-- The first pass over any list `is` of clause indices: every clause not yet in the set is
inserted and multiplies its unset-product into the hash. -/
theorem pass1_fold : ∀ (is : List Nat), (∀ i, i ∈ is → i < clauses.length) →
    ∀ (h x : Nat) (s : Nat → Bool),
    (is.foldl (step1 clauses top) ((h * x) % M128, s)).1 =
      (h * (x * bigp (List.range clauses.length)
        (fun i => if is.contains i && !s i then unsetProd top (clauses.getD i []) else 1))) % M128
    ∧ ∀ j, (is.foldl (step1 clauses top) ((h * x) % M128, s)).2 j = (s j || is.contains j)
  | [], _, h, x, s => by simp [bigp_one]
  | a :: t, hlt, h, x, s => by
    have hlt' : ∀ i, i ∈ t → i < clauses.length := fun i hi => hlt i (List.mem_cons_of_mem _ hi)
    rw [List.foldl_cons]
    cases hs : s a with
    | true =>
      have e : step1 clauses top ((h * x) % M128, s) a = ((h * x) % M128, s) := if_pos hs
      obtain ⟨ih1, ih2⟩ := pass1_fold t hlt' h x s
      have key : ∀ i, ((a :: t).contains i && !s i) = (t.contains i && !s i) := by
        intro i
        by_cases ei : i = a
        · subst ei; simp [hs]
        · simp [ei]
      rw [e, ih1]
      refine ⟨by simp only [key], ?_⟩
      intro j; rw [ih2 j]
      by_cases ej : j = a
      · subst ej; simp [hs]
      · simp [ej]
    | false =>
      have e : step1 clauses top ((h * x) % M128, s) a =
          ((h * (x * unsetProd top (clauses.getD a []))) % M128, setInsert s a) := by
        unfold step1; rw [if_neg (by simp [hs]), mulUnset_eq]
      obtain ⟨ih1, ih2⟩ := pass1_fold t hlt' h (x * unsetProd top (clauses.getD a [])) (setInsert s a)
      rw [e, ih1]
      refine ⟨?_, ?_⟩
      · -- clause `a` is new in the final set: split its factor off the product
        rw [Nat.mul_assoc x,
          ← bigp_single_mem List.nodup_range a (unsetProd top (clauses.getD a []))
            (List.mem_range.mpr (hlt a List.mem_cons_self)), ← bigp_mul]
        apply congrArg (fun b => (h * (x * b)) % M128)
        apply bigp_congr
        intro i _
        by_cases ei : i = a
        · subst ei; simp [hs, setInsert]
        · simp [ei, setInsert]
      · intro j; rw [ih2 j]
        by_cases ej : j = a
        · subst ej; simp [setInsert]
        · simp [ej, setInsert]

theorem mem_containsLit {i : Nat} {p : Bool} {v : Nat} :
    i ∈ containsLit clauses p v ↔ i < clauses.length ∧ hasLit (clauses.getD i []) v p = true := by
  unfold containsLit; rw [List.mem_filter, List.mem_range]

/-- the whole first pass: the clauses containing a literal of `L` join the set, and the hash gains
the unset-products of the clauses that are new in it -/
theorem pass1_all (L : List Lit) (h x : Nat) (s : Nat → Bool) :
    (L.foldl (pass1Lit clauses top) ((h * x) % M128, s)).1 =
      (h * (x * bigp (List.range clauses.length) (fun i =>
        if (L.foldl (pass1Lit clauses top) ((h * x) % M128, s)).2 i && !s i
        then unsetProd top (clauses.getD i []) else 1))) % M128
    ∧ ∀ j, (L.foldl (pass1Lit clauses top) ((h * x) % M128, s)).2 j =
        (s j || L.any (fun lit => hasLit (clauses.getD j []) lit.var lit.pol)) := by
  -- one fold of `step1` over all visited clause indices
  have hflat : L.foldl (pass1Lit clauses top) ((h * x) % M128, s) =
      (L.flatMap fun lit => containsLit clauses lit.pol lit.var).foldl (step1 clauses top)
        ((h * x) % M128, s) := List.foldl_flatMap.symm
  obtain ⟨h1, h2⟩ := pass1_fold clauses top
    (L.flatMap fun lit => containsLit clauses lit.pol lit.var)
    (fun i hi => by
      obtain ⟨lit, _, hm⟩ := List.mem_flatMap.mp hi
      exact ((mem_containsLit clauses).mp hm).1) h x s
  rw [hflat]
  refine ⟨?_, ?_⟩
  · rw [h1]
    apply congrArg (fun b => (h * (x * b)) % M128)
    apply bigp_congr
    intro i _
    rw [h2 i]
    cases s i <;> simp
  · intro j
    rw [h2 j]
    congr 1
    rw [Bool.eq_iff_iff, List.contains_iff_mem, List.any_eq_true, List.mem_flatMap]
    constructor
    · rintro ⟨lit, hl, hm⟩; exact ⟨lit, hl, ((mem_containsLit clauses).mp hm).2⟩
    · rintro ⟨lit, hl, hm⟩
      refine ⟨lit, hl, (mem_containsLit clauses).mpr ⟨?_, hm⟩⟩
      -- a clause index beyond the end reads as the empty clause, which has no literal
      apply Classical.byContradiction
      intro hj
      rw [List.getD_eq_getElem?_getD, List.getElem?_eq_none (Nat.le_of_not_lt hj)] at hm
      cases hm

/-! ## pass 2 -/

def step2 (set : Nat → Bool) (v : Nat) (h : Nat) (ci : Nat) : Nat :=
  if set ci then h else mulFirst v (clauses.getD ci []) h

theorem uniqueVars_getD (hu : ∀ c, c ∈ clauses → UniqueVars c) (i : Nat) :
    UniqueVars (clauses.getD i []) := by
  by_cases hi : i < clauses.length
  · rw [List.getD_eq_getElem?_getD, List.getElem?_eq_getElem hi]
    exact hu _ (List.getElem_mem hi)
  · rw [List.getD_eq_getElem?_getD, List.getElem?_eq_none (Nat.le_of_not_lt hi)]
    exact List.Pairwise.nil

theorem step2_eq (hu : ∀ c, c ∈ clauses → UniqueVars c) (set : Nat → Bool) (v : Nat) (h x ci : Nat) :
    step2 clauses set v ((h * x) % M128) ci =
      (h * (x * (if set ci then 1 else varProd v (clauses.getD ci [])))) % M128 := by
  unfold step2
  split
  · rw [Nat.mul_one]
  · exact mulFirst_eq v _ (uniqueVars_getD clauses hu ci) h x

theorem pass2_lit (hu : ∀ c, c ∈ clauses → UniqueVars c) (set : Nat → Bool) (h x : Nat) (lit : Lit) :
    pass2Lit clauses set ((h * x) % M128) lit =
      (h * (x * bigp (List.range clauses.length) (fun i =>
        if hasLit (clauses.getD i []) lit.var (!lit.pol)
        then (if set i then 1 else varProd lit.var (clauses.getD i [])) else 1))) % M128 := by
  show (containsLit clauses (!lit.pol) lit.var).foldl (step2 clauses set lit.var) _ = _
  rw [foldl_wmul (step2_eq clauses hu set lit.var), containsLit, bigp_filter]

theorem pass2_all (hu : ∀ c, c ∈ clauses → UniqueVars c) (set : Nat → Bool) (L : List Lit) (h x : Nat) :
    L.foldl (pass2Lit clauses set) ((h * x) % M128) =
      (h * (x * bigp L (fun lit => bigp (List.range clauses.length) (fun i =>
        if hasLit (clauses.getD i []) lit.var (!lit.pol)
        then (if set i then 1 else varProd lit.var (clauses.getD i [])) else 1)))) % M128 :=
  foldl_wmul (pass2_lit clauses hu set) L h x

end passes

/-! ## the hash as a function of the model -/

/-- the weighted clause has a literal that is true in `m` -/
def wcSat (m : PModel) (c : WClause) : Bool := c.any (fun lw => litTrue m lw.1)

/-- a literal occurrence has been multiplied into the hash: its clause is satisfied, or the
literal is false -/
def removed (m : PModel) (c : WClause) (lw : Lit × Nat) : Bool := wcSat m c || litFalse m lw.1

def contrib (m : PModel) (c : WClause) : Nat := bigp c (fun lw => if removed m c lw then lw.2 else 1)

/-- the unbounded product of the weights of all removed literal occurrences -/
def hashOf (clauses : List WClause) (m : PModel) : Nat :=
  bigp (List.range clauses.length) (fun i => contrib m (clauses.getD i []))

def satOf (clauses : List WClause) (m : PModel) (i : Nat) : Bool := wcSat m (clauses.getD i [])

theorem mem_pmDifference {n : Nat} {new old : PModel} {lit : Lit} :
    lit ∈ pmDifference n new old ↔
      lit.var < n ∧ new lit.var = some lit.pol ∧ old lit.var ≠ some lit.pol := by
  obtain ⟨v, p⟩ := lit
  unfold pmDifference
  simp only [List.mem_append, List.mem_map, List.mem_filter, List.mem_range, Lit.mk.injEq,
    Bool.and_eq_true, beq_iff_eq, bne_iff_ne]
  constructor
  · rintro (⟨x, ⟨hx, h1, h2⟩, rfl, rfl⟩ | ⟨x, ⟨hx, h1, h2⟩, rfl, rfl⟩) <;> exact ⟨hx, h1, h2⟩
  · rintro ⟨hx, h1, h2⟩
    cases p
    · exact .inl ⟨v, ⟨hx, h1, h2⟩, rfl, rfl⟩
    · exact .inr ⟨v, ⟨hx, h1, h2⟩, rfl, rfl⟩

theorem nodup_pmDifference (n : Nat) (new old : PModel) : (pmDifference n new old).Nodup := by
  unfold pmDifference
  rw [List.nodup_iff_pairwise_ne, List.pairwise_append]
  have hr : ∀ (p : Nat → Bool) (b : Bool),
      List.Pairwise (fun x1 x2 : Lit => x1 ≠ x2) (((List.range n).filter p).map fun x => Lit.mk x b) := by
    intro p b
    rw [List.pairwise_map]
    have := (List.nodup_iff_pairwise_ne.mp (List.nodup_range (n := n))).filter p
    exact this.imp (fun h e => h (by injection e))
  refine ⟨hr _ _, hr _ _, ?_⟩
  intro a ha b hb e
  obtain ⟨x, _, rfl⟩ := List.mem_map.mp ha
  obtain ⟨y, _, rfl⟩ := List.mem_map.mp hb
  injection e with _ e2
  cases e2

theorem uniqueVars_eq {c : WClause} (hu : UniqueVars c) {a b : Lit × Nat} (ha : a ∈ c) (hb : b ∈ c)
    (e : a.1.var = b.1.var) : a = b := by
  induction c with
  | nil => cases ha
  | cons x t ih =>
    have hx := List.pairwise_cons.mp hu
    rcases List.mem_cons.mp ha with rfl | ha' <;> rcases List.mem_cons.mp hb with rfl | hb'
    · rfl
    · exact absurd e (hx.1 b hb')
    · exact absurd e.symm (hx.1 a ha')
    · exact ih hx.2 ha' hb'

theorem wcSat_mono {m m' : PModel} (h : PExt m m') {c : WClause} (hs : wcSat m c = true) :
    wcSat m' c = true := by
  unfold wcSat at *
  rw [List.any_eq_true] at *
  obtain ⟨lw, hl, ht⟩ := hs
  exact ⟨lw, hl, litTrue_mono h ht⟩

theorem hasLit_iff {c : WClause} {v : Nat} {p : Bool} :
    hasLit c v p = true ↔ ∃ lw, lw ∈ c ∧ lw.1 = ⟨v, p⟩ := by
  unfold hasLit
  rw [List.any_eq_true]
  constructor
  · rintro ⟨lw, hl, h⟩
    simp only [Bool.and_eq_true, beq_iff_eq] at h
    exact ⟨lw, hl, lit_ext h.2 h.1⟩
  · rintro ⟨lw, hl, h⟩
    exact ⟨lw, hl, by rw [h]; simp⟩

/-- the set computed by the first pass is the set of clauses satisfied by the new model -/
theorem wcSat_new {n : Nat} {old new : PModel} (hext : PExt old new)
    (hn : ∀ x, new x ≠ none → x < n) (c : WClause) :
    wcSat new c = (wcSat old c || (pmDifference n new old).any (fun lit => hasLit c lit.var lit.pol)) := by
  rw [Bool.eq_iff_iff]
  simp only [Bool.or_eq_true, List.any_eq_true]
  constructor
  · intro h
    unfold wcSat at h
    obtain ⟨lw, hl, ht⟩ := List.any_eq_true.mp h
    by_cases ho : litTrue old lw.1 = true
    · exact .inl (List.any_eq_true.mpr ⟨lw, hl, ho⟩)
    · refine .inr ⟨lw.1, mem_pmDifference.mpr ⟨hn _ ?_, litTrue_iff.mp ht, ?_⟩, hasLit_iff.mpr ⟨lw, hl, rfl⟩⟩
      · rw [litTrue_iff.mp ht]; simp
      · intro e; exact ho (litTrue_iff.mpr e)
  · rintro (h | ⟨lit, hd, hh⟩)
    · exact wcSat_mono hext h
    · obtain ⟨lw, hl, e⟩ := hasLit_iff.mp hh
      have := (mem_pmDifference.mp hd).2.1
      exact List.any_eq_true.mpr ⟨lw, hl, by rw [e, litTrue_iff]; exact this⟩

/-- per-clause bookkeeping of one `update_hash_and_sat_set` -/
theorem contrib_update {n : Nat} {old new : PModel} (hext : PExt old new)
    (hn : ∀ x, new x ≠ none → x < n) {c : WClause} (hu : UniqueVars c) :
    contrib new c = contrib old c
      * (if wcSat new c && !wcSat old c then unsetProd old c else 1)
      * bigp (pmDifference n new old) (fun lit =>
          if hasLit c lit.var (!lit.pol) then (if wcSat new c then 1 else varProd lit.var c) else 1) := by
  by_cases hnew : wcSat new c = true
  · have h3 : bigp (pmDifference n new old) (fun lit =>
        if hasLit c lit.var (!lit.pol) then (if wcSat new c then 1 else varProd lit.var c) else 1) = 1 := by
      apply bigp_eq_one; intro i _; rw [if_pos hnew, ite_self]
    rw [h3, Nat.mul_one]
    by_cases hold : wcSat old c = true
    · simp [contrib, removed, hnew, hold]
    · have hold' : wcSat old c = false := by simpa using hold
      simp only [hnew, hold', Bool.not_false, Bool.and_self, if_true]
      unfold contrib unsetProd
      rw [← bigp_mul]
      apply bigp_congr
      intro lw hl
      simp only [removed, hnew, hold', Bool.true_or, Bool.false_or, if_true]
      rcases lit_cases old lw.1 with h | h | h
      · have : wcSat old c = true := List.any_eq_true.mpr ⟨lw, hl, h⟩
        rw [hold'] at this; cases this
      · have : (old lw.1.var).isNone = false := by rw [litFalse_iff.mp h]; rfl
        simp [h, this]
      · have h' := litUnset_iff.mp h
        have : litFalse old lw.1 = false := by simp [litFalse, h']
        simp [this, h']
  · have hnew' : wcSat new c = false := by simpa using hnew
    have hold' : wcSat old c = false := by
      cases h : wcSat old c with
      | false => rfl
      | true => rw [wcSat_mono hext h] at hnew'; cases hnew'
    simp only [hnew', hold', Bool.not_false, Bool.and_true, if_false, Nat.mul_one,
      Bool.false_eq_true]
    -- at most one literal per variable: `varProd` is the weight of the occurrence of `lit.neg`
    have s1 : ∀ lit : Lit, (if hasLit c lit.var (!lit.pol) = true then varProd lit.var c else 1)
        = bigp c (fun lw => if lit = lw.1.neg then lw.2 else 1) := by
      intro lit
      by_cases hh : hasLit c lit.var (!lit.pol) = true
      · rw [if_pos hh]
        obtain ⟨lw0, hl0, e0⟩ := hasLit_iff.mp hh
        unfold varProd
        apply bigp_congr
        intro lw hl
        by_cases ev : lw.1.var = lit.var
        · have : lw = lw0 := uniqueVars_eq hu hl hl0 (by rw [ev, e0])
          rw [if_pos ev, if_pos (eq_neg_comm.mp (this ▸ e0))]
        · rw [if_neg ev, if_neg (fun e => ev (by rw [e]; rfl))]
      · rw [if_neg hh]
        symm
        apply bigp_eq_one
        intro lw hl
        rw [if_neg]
        intro e
        exact hh (hasLit_iff.mpr ⟨lw, hl, eq_neg_comm.mp e⟩)
    rw [bigp_congr (fun lit _ => s1 lit), bigp_comm]
    -- exchange the products: an occurrence counts when its negation is in the difference
    have s2 : ∀ lw : Lit × Nat, bigp (pmDifference n new old) (fun lit => if lit = lw.1.neg then lw.2 else 1)
        = if lw.1.neg ∈ pmDifference n new old then lw.2 else 1 := by
      intro lw
      by_cases hm : lw.1.neg ∈ pmDifference n new old
      · rw [if_pos hm, bigp_single_mem (nodup_pmDifference n new old) _ _ hm]
      · rw [if_neg hm, bigp_single_not_mem _ _ hm]
    rw [bigp_congr (fun lw _ => s2 lw)]
    unfold contrib
    rw [← bigp_mul]
    apply bigp_congr
    intro lw hl
    simp only [removed, hnew', hold', Bool.false_or]
    -- which is the case exactly when the literal became false
    have hmem : lw.1.neg ∈ pmDifference n new old ↔ (litFalse new lw.1 = true ∧ litFalse old lw.1 = false) := by
      rw [mem_pmDifference, lneg_var, lneg_pol, litFalse_iff]
      constructor
      · rintro ⟨_, h1, h2⟩
        refine ⟨h1, ?_⟩
        cases h : litFalse old lw.1 with
        | false => rfl
        | true => exact absurd (litFalse_iff.mp h) h2
      · rintro ⟨h1, h2⟩
        refine ⟨hn _ (by rw [h1]; simp), h1, ?_⟩
        intro e; rw [litFalse_iff.mpr e] at h2; cases h2
    by_cases hm : lw.1.neg ∈ pmDifference n new old
    · obtain ⟨h1, h2⟩ := hmem.mp hm
      simp [hm, h1, h2]
    · rw [if_neg hm, Nat.mul_one]
      cases ho : litFalse old lw.1 with
      | true => rw [litFalse_mono hext ho]
      | false =>
        cases hnw : litFalse new lw.1 with
        | false => rfl
        | true => exact absurd (hmem.mpr ⟨hnw, ho⟩) hm

/-- **`update_hash_and_sat_set` computes the hash and the satisfied set of the new model**,
provided the top state carries those of its own model and the new model extends it. -/
theorem update_spec {clauses : List WClause} {numVars : Nat} {top : SatState} {new : PModel}
    (hu : ∀ c, c ∈ clauses → UniqueVars c)
    (hh : top.hash = hashOf clauses top.model % M128)
    (hs : ∀ i, top.sat i = satOf clauses top.model i)
    (hext : PExt top.model new) (hn : ∀ x, new x ≠ none → x < numVars) :
    (updateHashAndSatSet clauses numVars top new).1 = hashOf clauses new % M128
    ∧ ∀ i, (updateHashAndSatSet clauses numVars top new).2 i = satOf clauses new i := by
  unfold updateHashAndSatSet
  simp only []
  have h0 : top.hash = (1 * hashOf clauses top.model) % M128 := by rw [hh, Nat.one_mul]
  obtain ⟨p1, p2⟩ := pass1_all clauses top.model (pmDifference numVars new top.model) 1
    (hashOf clauses top.model) top.sat
  rw [← h0] at p1 p2
  have hset : ∀ i, ((pmDifference numVars new top.model).foldl (pass1Lit clauses top.model)
      (top.hash, top.sat)).2 i = satOf clauses new i := by
    intro i
    rw [p2 i, hs i]
    exact (wcSat_new hext hn _).symm
  refine ⟨?_, hset⟩
  -- both passes multiply products over the clauses into the old hash; compare clause by clause
  rw [p1, pass2_all clauses hu, Nat.one_mul, bigp_comm]
  unfold hashOf
  rw [← bigp_mul, ← bigp_mul]
  apply congrArg (· % M128)
  apply bigp_congr
  intro i _
  rw [hset i, hs i]
  exact (contrib_update hext hn (uniqueVars_getD clauses hu i)).symm

end UnitProp

namespace UnitProp
open Spec

/-! ## `difference_iter` between a model and one below it -/

/-- no variable is listed twice: the two halves list the variables the new model makes false, resp. true -/
theorem pmDifference_vars_nodup (n : Nat) (new old : PModel) :
    ((pmDifference n new old).map (·.var)).Nodup := by
  rw [List.nodup_iff_pairwise_ne, List.pairwise_map]
  refine (List.nodup_iff_pairwise_ne.1 (nodup_pmDifference n new old)).imp_of_mem ?_
  intro a b ha hb hne e
  have h := fun {l} (hl : l ∈ pmDifference n new old) => (mem_pmDifference.1 hl).2.1
  exact hne (lit_ext (Option.some.inj ((h ha).symm.trans (e ▸ h hb))) e)

/-- the listed literals are exactly what the new model adds to the old one (labels below `n`) -/
theorem pmDifference_spec {n : Nat} {new old : PModel} (hext : PExt old new) :
    (∀ l ∈ pmDifference n new old, old l.var = none ∧ new l.var = some l.pol) ∧
    (∀ v b, v < n → new v = some b → old v = none → (⟨v, b⟩ : Lit) ∈ pmDifference n new old) := by
  refine ⟨fun l hl => ?_, fun v b hv h1 h0 => mem_pmDifference.2 ⟨hv, h1, by rw [h0]; nofun⟩⟩
  obtain ⟨_, h1, h0⟩ := mem_pmDifference.1 hl
  refine ⟨?_, h1⟩
  cases hb : old l.var with
  | none => rfl
  | some b => exact absurd (by rw [hb, ← h1, hext _ _ hb]) h0

end UnitProp
