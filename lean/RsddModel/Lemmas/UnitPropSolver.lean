import RsddModel.Spec.UnitProp
import RsddModel.Lemmas.UnitPropWatch
import RsddModel.Lemmas.UnitPropPrimes
/-!
# Invariant of the `SATSolver` model over arbitrary decide/pop histories (C09)

`Inv s ds`: `s` is a solver state whose stack carries, above the dummy bottom state, one state
for construction and one per decision in `ds` (newest first). It is established by
`Solver.new` (`inv_new`) and preserved by `decide` (both outcomes) and by `pop` of a decision.
-/
namespace UnitProp
open Spec

/-! ## which variables get assigned -/

theorem LoopRel.assigned {cnf rep wl m l idx wl' r} (h : LoopRel cnf rep wl m l idx wl' r)
    (hv : WatchValid cnf wl) :
    ∀ m', r = some m' → ∀ x, m' x ≠ none → m x ≠ none ∨ ∃ c, c ∈ cnf ∧ ∃ lit, lit ∈ c ∧ lit.var = x := by
  induction h with
  | done _ => intro m' e x hx; cases e; exact .inl hx
  | skip _ _ _ ih => exact ih hv
  | conflict _ _ _ => intro m' e; cases e
  | unitConflict _ _ _ _ _ => intro m' e; cases e
  | @unitOk wl m l idx u wl1 m1 wl' r hlt hs hf h1 _ ih1 ih2 =>
    intro m' e x hx
    have humem : u ∈ curClause cnf wl l idx := mem_of_filter_unset hf
    rcases ih2 (h1.valid hv) m' e x hx with h | h
    · rcases ih1 hv m1 rfl x h with h | h
      · by_cases ex : x = u.var
        · exact .inr ⟨_, curClause_mem hv hlt, u, humem, ex.symm⟩
        · rw [pset_other _ _ ex] at h; exact .inl h
      · exact .inr h
    · exact .inr h
  | move hlt _ _ _ ih => exact ih (hv.moveWatch hlt)

theorem DecideRel.assigned {cnf rep wl m l wl' m'} (h : DecideRel cnf rep wl m l wl' (some m'))
    (hv : WatchValid cnf wl) :
    ∀ x, m' x ≠ none → m x ≠ none ∨ x = l.var ∨ ∃ c, c ∈ cnf ∧ ∃ lit, lit ∈ c ∧ lit.var = x := by
  cases h with
  | same _ => intro x hx; exact .inl hx
  | fresh _ h =>
    intro x hx
    rcases h.assigned hv m' rfl x hx with h | h
    · by_cases ex : x = l.var
      · exact .inr (.inl ex)
      · rw [pset_other _ _ ex] at h; exact .inl h
    · exact .inr (.inr h)

/-! ## the invariant -/

/-- what holds of every state above the dummy bottom state (independently of the watch lists) -/
structure LevelOK (cnf : Cnf) (clauses : List WClause) (numVars : Nat) (st : SatState) (ds : List Lit) :
    Prop where
  /-- every assigned literal is entailed by the CNF and the decisions -/
  entailed : ∀ x b, st.model x = some b → EntailsFrom cnf ds ⟨x, b⟩
  /-- the decisions hold -/
  decided : ∀ d, d ∈ ds → st.model d.var = some d.pol
  bounded : ∀ x, st.model x ≠ none → x < numVars
  /-- the stored hash is the product of the removed literal occurrences, modulo 2^128 -/
  hash : st.hash = hashOf clauses st.model % M128
  /-- the stored set is exactly the set of clauses with a true literal -/
  sat : ∀ i, st.sat i = satOf clauses st.model i
  units : UnitsTrue cnf st.model

/-- the stack: dummy bottom state, the state after construction, one state per decision -/
inductive StackOK (cnf : Cnf) (clauses : List WClause) (numVars : Nat) : List SatState → List Lit → Prop
  | base {st} : LevelOK cnf clauses numVars st [] → StackOK cnf clauses numVars [st, initState] []
  | push {st top rest d ds} : StackOK cnf clauses numVars (top :: rest) ds →
      LevelOK cnf clauses numVars st (d :: ds) → PExt top.model st.model →
      StackOK cnf clauses numVars (st :: top :: rest) (d :: ds)

structure Inv (s : Solver) (ds : List Lit) : Prop where
  numVars : s.numVars = cnfNumVars s.cnf
  clauses : s.clauses = weighClauses (normClauses s.cnf) 1
  nonempty : s.cnf.any List.isEmpty = false
  stack : StackOK s.cnf s.clauses s.numVars s.stack ds
  valid : WatchValid s.cnf s.wl
  watch : ∀ st, st ∈ s.stack → WatchOK s.cnf s.wl st.model
  -- conditional: the two-watch structure is only kept on clause lists in `Cnf::new` normal form
  -- (`TwoWatch.move`); everything else in `Inv` holds of every clause list
  two : CnfNormal s.cnf → TwoWatch s.cnf s.wl
  fuel : s.fuel = defaultFuel s.cnf

theorem StackOK.top {cnf clauses numVars stack ds} (h : StackOK cnf clauses numVars stack ds) :
    ∃ top rest, stack = top :: rest ∧ rest ≠ [] ∧ LevelOK cnf clauses numVars top ds := by
  cases h with
  | base h => exact ⟨_, _, rfl, by simp, h⟩
  | push _ h _ => exact ⟨_, _, rfl, by simp, h⟩

theorem StackOK.length {cnf clauses numVars stack ds} (h : StackOK cnf clauses numVars stack ds) :
    stack.length = ds.length + 2 := by
  induction h with
  | base _ => rfl
  | push _ _ _ ih => simp [ih]

theorem StackOK.pext_top {cnf clauses numVars stack ds} (h : StackOK cnf clauses numVars stack ds) :
    ∀ top rest, stack = top :: rest → ∀ st, st ∈ stack → PExt st.model top.model := by
  induction h with
  | @base st _ =>
    intro top rest e st' hst'
    cases e
    rcases List.mem_cons.mp hst' with rfl | h
    · exact PExt.refl _
    · have : st' = initState := by simpa using h
      subst this
      intro x b hx; simp [initState, PModel.empty] at hx
  | @push st top rest d ds _ _ hext ih =>
    intro top' rest' e st' hst'
    cases e
    rcases List.mem_cons.mp hst' with rfl | h
    · exact PExt.refl _
    · exact (ih _ _ rfl st' h).trans hext

theorem hashOf_empty (clauses : List WClause) : hashOf clauses PModel.empty = 1 := by
  unfold hashOf
  apply bigp_eq_one
  intro i _
  unfold contrib
  apply bigp_eq_one
  intro lw _
  have : removed PModel.empty (clauses.getD i []) lw = false := by
    simp [removed, wcSat, litTrue, litFalse, PModel.empty]
  rw [this]; rfl

theorem satOf_empty (clauses : List WClause) (i : Nat) : satOf clauses PModel.empty i = false := by
  simp [satOf, wcSat, litTrue, PModel.empty]

theorem initState_hash (clauses : List WClause) :
    initState.hash = hashOf clauses initState.model % M128 := by
  show 1 = hashOf clauses PModel.empty % M128
  rw [hashOf_empty]; rfl

theorem unitsTrue_mono {cnf : Cnf} {m m' : PModel} (h : PExt m m') (hu : UnitsTrue cnf m) :
    UnitsTrue cnf m' := fun u hc => litTrue_mono h (hu u hc)

theorem extends_of_entailed {cnf : Cnf} {ds : List Lit} {m : PModel}
    (h : ∀ x b, m x = some b → EntailsFrom cnf ds ⟨x, b⟩) {a : Assign} (ha : cnfSat a cnf = true)
    (hd : ∀ d, d ∈ ds → litSat a d = true) : Extends a m := by
  intro x b hx
  have := h x b hx a ha hd
  simpa [litSat] using this

/-! ## unfolding the solver operations -/

/-- the state pushed by a successful `decide` from `top` -/
def pushState (s : Solver) (top : SatState) (m' : PModel) : SatState :=
  { model := m'
    hash := (updateHashAndSatSet s.clauses s.numVars top m').1
    sat := (updateHashAndSatSet s.clauses s.numVars top m').2 }

theorem decide_cases {s s' : Solver} {l : Lit} {r : DecisionResult} (h : s.decide l = .ok s' r) :
    ∃ top rest, s.stack = top :: rest ∧ ∃ wl' r', DecideRel s.cnf true s.wl top.model l wl' r' ∧
      ((r' = none ∧ r = .unsat ∧ s' = { s with wl := wl' }) ∨
       (∃ m', r' = some m' ∧ s' = { s with wl := wl', stack := pushState s top m' :: s.stack } ∧
          r = if satCount s.clauses.length (pushState s top m').sat = s.clauses.length then .sat else .unknown)) := by
  unfold Solver.decide Solver.decideWith at h
  split at h
  · cases h
  · next top rest hst =>
    refine ⟨top, rest, hst, ?_⟩
    split at h
    · cases h
    · next wl' hd =>
      cases h
      exact ⟨wl', none, decide_rel hd, .inl ⟨rfl, rfl, rfl⟩⟩
    · next wl' m' hd =>
      cases h
      exact ⟨wl', some m', decide_rel hd, .inr ⟨m', rfl, rfl, rfl⟩⟩

/-- what `UnitPropagate::new` returns: UNSAT at once if there is an empty clause, else the outcome of
deciding the unit clauses' literals from the initial watches -/
theorem upNew_cases {cnf : Cnf} {rep : Bool} {fuel : Nat} {wl : WL} {r : Option PModel}
    (h : upNew cnf rep fuel = some (wl, r)) :
    (cnf.any List.isEmpty = true ∧ r = none) ∨
    (cnf.any List.isEmpty = false ∧
      DecideAllRel cnf rep (impliedUnits cnf) (initWatches cnf 0 WL.empty) PModel.empty wl r) := by
  unfold upNew at h
  split at h
  · next he => cases h; exact .inl ⟨he, rfl⟩
  · next he => exact .inr ⟨Bool.eq_false_iff.mpr he, decideAll_rel h⟩

/-- the solver `SATSolver::new` builds around the propagator's watch lists and model -/
def newSolver (cnf : Cnf) (wl : WL) (m : PModel) : Solver :=
  let clauses := weighClauses (normClauses cnf) 1
  let hs := updateHashAndSatSet clauses (cnfNumVars cnf) initState m
  { cnf := cnf, numVars := cnfNumVars cnf, fuel := defaultFuel cnf, wl := wl, clauses := clauses,
    stack := [{ model := m, hash := hs.1, sat := hs.2 }, initState] }

theorem new_eq (cnf : Cnf) :
    Solver.new cnf = (upNew cnf true (defaultFuel cnf)).map fun out => out.2.map (newSolver cnf out.1) := by
  unfold Solver.new
  dsimp only
  cases upNew cnf true (defaultFuel cnf) with
  | none => rfl
  | some out => obtain ⟨wl, r⟩ := out; cases r <;> rfl

theorem new_cases {cnf : Cnf} {s : Solver} (h : Solver.new cnf = some (some s)) :
    cnf.any List.isEmpty = false ∧ ∃ wl m,
      DecideAllRel cnf true (impliedUnits cnf) (initWatches cnf 0 WL.empty) PModel.empty wl (some m) ∧
      s = newSolver cnf wl m := by
  rw [new_eq] at h
  obtain ⟨⟨wl, r⟩, hup, e⟩ := Option.map_eq_some_iff.mp h
  obtain ⟨m, rfl, e⟩ := Option.map_eq_some_iff.mp e
  rcases upNew_cases hup with ⟨_, e'⟩ | ⟨hne, hda⟩
  · cases e'
  · exact ⟨hne, wl, m, hda, e.symm⟩

/-! ## the transitions preserve the invariant -/

theorem DecideAllRel.assigned {cnf rep us wl m wl' m'} (h : DecideAllRel cnf rep us wl m wl' (some m'))
    (hv : WatchValid cnf wl) (hus : ∀ u, u ∈ us → ∃ c, c ∈ cnf ∧ u ∈ c) :
    ∀ x, m' x ≠ none → m x ≠ none ∨ ∃ c, c ∈ cnf ∧ ∃ lit, lit ∈ c ∧ lit.var = x := by
  generalize hr : some m' = r at h
  induction h with
  | nil => cases hr; intro x hx; exact .inl hx
  | conflict _ => cases hr
  | @cons u us wl m wl1 m1 wl' r h1 _ ih =>
    intro x hx
    rcases ih (h1.valid hv) (fun u hu => hus u (by simp [hu])) hr x hx with h | h
    · rcases h1.assigned hv x h with h | h | h
      · exact .inl h
      · obtain ⟨c, hc, hu⟩ := hus u (by simp)
        exact .inr ⟨c, hc, u, hu, h.symm⟩
      · exact .inr h
    · exact .inr h

theorem levelOK_push {s : Solver} {top : SatState} {ds : List Lit} {l : Lit} {wl' : WL} {m' : PModel}
    (hnum : s.numVars = cnfNumVars s.cnf) (hcl : s.clauses = weighClauses (normClauses s.cnf) 1)
    (htop : LevelOK s.cnf s.clauses s.numVars top ds) (hv : WatchValid s.cnf s.wl)
    (hd : DecideRel s.cnf true s.wl top.model l wl' (some m')) (hl : l.var < s.numVars) :
    LevelOK s.cnf s.clauses s.numVars (pushState s top m') (l :: ds) := by
  have hext := hd.ext
  have hbounded : ∀ x, m' x ≠ none → x < s.numVars := by
    intro x hx
    rcases hd.assigned hv x hx with h | h | ⟨c, hc, lit, hlit, e⟩
    · exact htop.bounded x h
    · rw [h]; exact hl
    · rw [hnum, ← e]; exact var_lt_numVars hc hlit
  have hupd := update_spec (clauses := s.clauses) (numVars := s.numVars) (top := top) (new := m')
    (by rw [hcl]; exact solver_clauses_unique s.cnf 1) htop.hash htop.sat hext.1 hbounded
  refine ⟨?_, ?_, hbounded, hupd.1, hupd.2, unitsTrue_mono hext.1 htop.units⟩
  · intro x b hx a ha hds
    have he : Extends a top.model :=
      extends_of_entailed htop.entailed ha (fun d hd => hds d (by simp [hd]))
    obtain ⟨m'', e, he'⟩ := hd.sound hv a ha he (hds l (by simp))
    cases e
    have := he' x b hx
    simpa [litSat] using this
  · intro d hd'
    rcases List.mem_cons.mp hd' with rfl | hd'
    · exact hext.2
    · exact hext.1 _ _ (htop.decided d hd')

/-- a `decide` that reports UNSAT keeps the invariant (the stack is untouched, the watch lists
may have changed) -/
theorem inv_decide_unsat {s s' : Solver} {ds : List Lit} {l : Lit} (hI : Inv s ds)
    (h : s.decide l = .ok s' .unsat) : Inv s' ds ∧ s'.stack = s.stack := by
  obtain ⟨top, rest, hst, wl', r', hd, hcase⟩ := decide_cases h
  rcases hcase with ⟨_, _, rfl⟩ | ⟨m', _, _, hr⟩
  · refine ⟨⟨hI.numVars, hI.clauses, hI.nonempty, hI.stack, hd.valid hI.valid, ?_, fun hN => hd.twoWatch hN (hI.two hN), hI.fuel⟩, rfl⟩
    intro st hmem
    have hmem' : st ∈ s.stack := hmem
    exact WatchOK.lower hd.newWatches (hI.stack.pext_top top rest hst st hmem') (hI.watch st hmem')
  · split at hr <;> cases hr

/-- a successful `decide` pushes one state and keeps the invariant with the new decision -/
theorem inv_decide_ok {s s' : Solver} {ds : List Lit} {l : Lit} {r : DecisionResult} (hI : Inv s ds)
    (hl : l.var < s.numVars) (h : s.decide l = .ok s' r) (hr : r ≠ .unsat) :
    Inv s' (l :: ds) ∧ s'.stack.tail = s.stack := by
  obtain ⟨top, rest, hst, wl', r', hd, hcase⟩ := decide_cases h
  rcases hcase with ⟨_, h2, _⟩ | ⟨m', rfl, rfl, _⟩
  · exact absurd h2 hr
  · obtain ⟨top', rest', hst', hne, htop⟩ := hI.stack.top
    rw [hst] at hst'
    cases hst'
    have hlev := levelOK_push hI.numVars hI.clauses htop hI.valid hd hl
    refine ⟨⟨hI.numVars, hI.clauses, hI.nonempty, ?_, hd.valid hI.valid, ?_, fun hN => hd.twoWatch hN (hI.two hN), hI.fuel⟩, rfl⟩
    · show StackOK s.cnf s.clauses s.numVars (pushState s top m' :: s.stack) (l :: ds)
      rw [hst]
      have hs := hI.stack
      rw [hst] at hs
      exact .push hs hlev hd.ext.1
    · intro st hmem
      have hmem' : st ∈ pushState s top m' :: s.stack := hmem
      rcases List.mem_cons.mp hmem' with rfl | hmem'
      · exact hd.watchOK _ (hI.watch top (by rw [hst]; simp))
      · exact WatchOK.lower hd.newWatches (hI.stack.pext_top top rest hst st hmem') (hI.watch st hmem')

theorem inv_pop {s : Solver} {d : Lit} {ds : List Lit} (hI : Inv s (d :: ds)) : Inv s.pop ds := by
  have hs := hI.stack
  cases hst : s.stack with
  | nil => rw [hst] at hs; cases hs
  | cons st rest =>
    rw [hst] at hs
    cases hs with
    | push hrest _ _ =>
      refine ⟨hI.numVars, hI.clauses, hI.nonempty, ?_, hI.valid, ?_, hI.two, hI.fuel⟩
      · show StackOK s.cnf s.clauses s.numVars s.stack.tail ds
        rw [hst]; exact hrest
      · intro st' hmem
        have hmem' : st' ∈ s.stack.tail := hmem
        exact hI.watch st' (List.mem_of_mem_tail hmem')

theorem inv_new {cnf : Cnf} {s : Solver} (h : Solver.new cnf = some (some s)) : Inv s [] ∧ s.cnf = cnf := by
  obtain ⟨hne, wl, m, hda, rfl⟩ := new_cases h
  have hv0 := watchValid_init cnf
  have hunits : ∀ u, u ∈ impliedUnits cnf → ∃ c, c ∈ cnf ∧ u ∈ c :=
    fun u hu => ⟨[u], mem_impliedUnits.mp hu, by simp⟩
  have hbounded : ∀ x, m x ≠ none → x < cnfNumVars cnf := by
    intro x hx
    rcases hda.assigned hv0 hunits x hx with h | ⟨c, hc, lit, hlit, e⟩
    · simp [PModel.empty] at h
    · rw [← e]; exact var_lt_numVars hc hlit
  have hupd := update_spec (clauses := weighClauses (normClauses cnf) 1) (numVars := cnfNumVars cnf)
    (top := initState) (new := m) (solver_clauses_unique cnf 1) (initState_hash _)
    (fun i => by rw [show initState.model = PModel.empty from rfl, satOf_empty]; rfl)
    (by intro x b hx; simp [initState, PModel.empty] at hx) hbounded
  refine ⟨⟨rfl, rfl, hne, ?_, hda.valid hv0, ?_, fun hN => hda.twoWatch hN (initWatches_twoWatch cnf hN), rfl⟩, rfl⟩
  · refine .base ⟨?_, by simp, hbounded, hupd.1, hupd.2, ?_⟩
    · intro x b hx a ha _
      obtain ⟨m'', e, he'⟩ := hda.sound_new a ha
      cases e
      have := he' x b hx
      simpa [litSat] using this
    · intro u hu
      exact litTrue_iff.mpr (hda.ext.2 u (mem_impliedUnits.mpr hu))
  · intro st hmem
    have hmem' : st ∈ [({ model := m, hash := _, sat := _ } : SatState), initState] := hmem
    rcases List.mem_cons.mp hmem' with rfl | hmem'
    · exact hda.watchOK (watchOK_empty _ _)
    · have : st = initState := by simpa using hmem'
      subst this
      exact watchOK_empty _ _

/-! ## what the invariant says of the top state -/

theorem satCount_eq_iff (n : Nat) (f : Nat → Bool) : satCount n f = n ↔ ∀ i, i < n → f i = true := by
  unfold satCount
  have := List.countP_eq_length (l := List.range n) (p := f)
  rw [List.length_range] at this
  rw [this]
  constructor
  · intro h i hi; exact h i (List.mem_range.mpr hi)
  · intro h i hi; exact h i (List.mem_range.mp hi)

theorem satOf_all_iff (clauses : List WClause) (m : PModel) :
    (∀ i, i < clauses.length → satOf clauses m i = true) ↔ ∀ wc, wc ∈ clauses → wcSat m wc = true := by
  have hget : ∀ i (hi : i < clauses.length), satOf clauses m i = wcSat m clauses[i] := fun i hi => by
    rw [satOf, List.getD_eq_getElem?_getD, List.getElem?_eq_getElem hi]; rfl
  constructor
  · intro h wc hwc
    obtain ⟨i, hi, rfl⟩ := List.mem_iff_getElem.mp hwc
    exact hget i hi ▸ h i hi
  · intro h i hi
    exact hget i hi ▸ h _ (List.getElem_mem hi)

section top
variable {s : Solver} {ds : List Lit} (hI : Inv s ds) {top : SatState} {rest : List SatState}
include hI

theorem Inv.level (hst : s.stack = top :: rest) : LevelOK s.cnf s.clauses s.numVars top ds := by
  obtain ⟨top', rest', hst', _, hlev⟩ := hI.stack.top
  rw [hst] at hst'; cases hst'
  exact hlev

/-- the top model is a fixpoint of unit propagation: no clause falsified, none unit -/
theorem Inv.fixpoint (hN : CnfNormal s.cnf) (hst : s.stack = top :: rest) : IsFixpoint s.cnf top.model :=
  fixpoint_of_watch (hI.two hN) (hI.watch top (by rw [hst]; simp)) (hI.level hst).units hI.nonempty

theorem Inv.curHash (hst : s.stack = top :: rest) :
    s.curHash = some (hashOf (weighClauses (normClauses s.cnf) 1) top.model % 2 ^ 128) := by
  unfold Solver.curHash
  rw [hst]
  simp only [List.head?_cons, Option.map_some]
  rw [(hI.level hst).hash, hI.clauses]; rfl

theorem Inv.isSat_iff (hst : s.stack = top :: rest) :
    s.isSat = some true ↔ ∀ c, c ∈ s.cnf → isTaut c = false → c.any (litTrue top.model) = true := by
  have hlev := hI.level hst
  rw [← all_wcSat_iff s.cnf 1, ← hI.clauses, ← satOf_all_iff]
  unfold Solver.isSat
  rw [hst]
  simp only [List.head?_cons, Option.map_some, Option.some.injEq, decide_eq_true_eq]
  rw [satCount_eq_iff]
  constructor
  · intro h i hi; rw [← hlev.sat i]; exact h i hi
  · intro h i hi; rw [hlev.sat i]; exact h i hi

/-- a `decide` reports UNSAT only if no total assignment satisfies the CNF, the open decisions and the
new one -/
theorem Inv.unsat_sound {s' : Solver} {l : Lit} (hd : s.decide l = .ok s' .unsat) :
    UnsatFrom s.cnf (l :: ds) := by
  obtain ⟨top, rest, hst, wl', r', hrel, hcase⟩ := decide_cases hd
  intro a hds
  cases ha : cnfSat a s.cnf with
  | false => rfl
  | true =>
    exfalso
    have he : Extends a top.model :=
      extends_of_entailed (hI.level hst).entailed ha (fun d hd => hds d (by simp [hd]))
    obtain ⟨m'', e, _⟩ := hrel.sound hI.valid a ha he (hds l (by simp))
    rcases hcase with ⟨rfl, _, _⟩ | ⟨m', _, _, hr⟩
    · cases e
    · split at hr <;> cases hr

/-- no weighted clause is falsified in the top model: its literals are those of a clause of the
list, and the top model is a fixpoint -/
theorem Inv.noFalsified (hN : CnfNormal s.cnf) (hst : s.stack = top :: rest) :
    NoFalsified (weighClauses (normClauses s.cnf) 1) top.model := by
  intro wc hwc hall
  obtain ⟨c0, hc0, _, e⟩ := mem_weighClauses_norm hwc
  have hf := (hI.fixpoint hN hst c0 hc0).1
  rw [clauseFalsified, List.all_eq_false] at hf
  obtain ⟨x, hx, hnf⟩ := hf
  obtain ⟨lw, hlw, rfl⟩ := List.mem_map.mp (e ▸ mem_normClause.mpr hx)
  exact hnf (hall lw hlw)

end top

/-- `decide` answers `SAT` exactly when the flag of the new state is raised -/
theorem decide_result_sat_iff {s s' : Solver} {l : Lit} {r : DecisionResult}
    (h : s.decide l = .ok s' r) (hr : r ≠ .unsat) : r = .sat ↔ s'.isSat = some true := by
  obtain ⟨top, rest, _, wl', r', _, hcase⟩ := decide_cases h
  rcases hcase with ⟨_, h2, _⟩ | ⟨m', _, rfl, hres⟩
  · exact absurd h2 hr
  · unfold Solver.isSat
    simp only [List.head?_cons, Option.map_some, Option.some.injEq, decide_eq_true_eq]
    rw [hres]
    split <;> simp_all

/-! ## histories -/

/-- `Reach cnf s ds`: `s` is reached from `SATSolver::new(cnf)` by some history of decides and
pops whose currently open decisions are `ds` (newest first). Pops are only those matching a
decision; a `decide` that reports UNSAT pushes nothing. Decided variables are in range (the Rust
code panics otherwise). -/
inductive Reach (cnf : Cnf) : Solver → List Lit → Prop
  | init {s} : Solver.new cnf = some (some s) → Reach cnf s []
  | decide {s s' ds l r} : Reach cnf s ds → l.var < s.numVars → s.decide l = .ok s' r →
      r ≠ .unsat → Reach cnf s' (l :: ds)
  | decideUnsat {s s' ds l} : Reach cnf s ds → l.var < s.numVars → s.decide l = .ok s' .unsat →
      Reach cnf s' ds
  | pop {s d ds} : Reach cnf s (d :: ds) → Reach cnf s.pop ds

theorem decide_static {s s' : Solver} {l : Lit} {r : DecisionResult} (h : s.decide l = .ok s' r) :
    s'.cnf = s.cnf ∧ s'.numVars = s.numVars ∧ s'.clauses = s.clauses ∧ s'.fuel = s.fuel := by
  obtain ⟨top, rest, _, wl', r', _, hcase⟩ := decide_cases h
  rcases hcase with ⟨_, _, rfl⟩ | ⟨m', _, rfl, _⟩ <;> exact ⟨rfl, rfl, rfl, rfl⟩

theorem reach_inv {cnf : Cnf} {s : Solver} {ds : List Lit} (h : Reach cnf s ds) :
    Inv s ds ∧ s.cnf = cnf := by
  induction h with
  | init h => exact inv_new h
  | decide _ hl hd hr ih => exact ⟨(inv_decide_ok ih.1 hl hd hr).1, (decide_static hd).1.trans ih.2⟩
  | decideUnsat _ _ hd ih => exact ⟨(inv_decide_unsat ih.1 hd).1, (decide_static hd).1.trans ih.2⟩
  | pop _ ih => exact ⟨inv_pop ih.1, ih.2⟩

theorem reach_top {cnf : Cnf} {s : Solver} {ds : List Lit} (h : Reach cnf s ds) :
    ∃ top rest, s.stack = top :: rest ∧ rest ≠ [] ∧ LevelOK cnf s.clauses s.numVars top ds := by
  obtain ⟨hI, rfl⟩ := reach_inv h
  exact hI.stack.top

theorem reach_level {cnf : Cnf} {s : Solver} {ds : List Lit} (h : Reach cnf s ds)
    {top : SatState} {rest : List SatState} (hst : s.stack = top :: rest) :
    LevelOK cnf s.clauses s.numVars top ds := by
  obtain ⟨hI, rfl⟩ := reach_inv h
  exact hI.level hst

theorem reach_numVars {cnf : Cnf} {s : Solver} {ds : List Lit} (h : Reach cnf s ds) :
    s.numVars = cnfNumVars cnf := by
  obtain ⟨hI, e⟩ := reach_inv h
  rw [hI.numVars, e]

theorem history_decisions_hold {cnf : Cnf} {s : Solver} {ds : List Lit} (h : Reach cnf s ds)
    {top : SatState} {rest : List SatState} (hst : s.stack = top :: rest) :
    ∀ d, d ∈ ds → top.model d.var = some d.pol := by
  exact (reach_level h hst).decided

/-- an UNSAT `decide` leaves the observable state alone -/
theorem unsat_keeps_stack {cnf : Cnf} {s s' : Solver} {ds : List Lit} {l : Lit}
    (h : Reach cnf s ds) (hd : s.decide l = .ok s' .unsat) : s'.stack = s.stack :=
  (inv_decide_unsat (reach_inv h).1 hd).2

/-- no weighted clause is falsified in the top model of a reachable state: its literals are those
of a clause of the list, and the top model is a fixpoint -/
theorem reach_noFalsified {cnf : Cnf} (hN : CnfNormal cnf) {s : Solver} {ds : List Lit}
    (h : Reach cnf s ds) {top : SatState} {rest : List SatState} (hst : s.stack = top :: rest) :
    NoFalsified (weighClauses (normClauses cnf) 1) top.model := by
  obtain ⟨hI, rfl⟩ := reach_inv h
  exact hI.noFalsified hN hst

theorem new_unsat_sound {cnf : Cnf} (h : Solver.new cnf = some none) : ∀ a, cnfSat a cnf = false := by
  intro a
  rw [new_eq] at h
  obtain ⟨⟨wl, r⟩, hup, e⟩ := Option.map_eq_some_iff.mp h
  obtain rfl : r = none := by cases r with | none => rfl | some _ => cases e
  cases ha : cnfSat a cnf with
  | false => rfl
  | true =>
    rcases upNew_cases hup with ⟨hem, _⟩ | ⟨_, hda⟩
    · obtain ⟨c, hc, he⟩ := List.any_eq_true.mp hem
      have := cnfSat_mem ha hc
      cases c with
      | nil => simp [clauseSat] at this
      | cons _ _ => simp at he
    · obtain ⟨m'', e, _⟩ := hda.sound_new a ha
      cases e

end UnitProp
