import RsddModel.Model.SddWmc
import RsddModel.Lemmas.Wmc
import RsddModel.Lemmas.SddWF
/-!
# Lemmas: the weighted model count and the semantic hash of SDDs

Part 1: the structural hypothesis of the count, `DD` ("deterministic and
decomposable"): every decision node's primes are a partition, and in every element `(p, s)` no
variable is relevant to both `p` and `s` (*semantic* independence: weaker than the syntactic
"primes over the left child's variables, subs over the right child's" of `WFs`, and it is what
the semantic-hash builder maintains, whose table lookups may return a node of another vtree
index for the same function).  `wmcAux_dd`: for a `DD` pointer, normalised weights and a variable
list covering the pointer, `wmc = wsum` of the denoted function — including complemented
pointers.  `WFs → DD` (vtrees with distinct leaves).

Part 2: Boolean evaluation (needs the partition property only), `hash_neg`, and the second hash
computation of the Rust (`cached_semantic_hash`, here `hashTree`) is the count over `FiniteField<P>`.
-/

namespace Sdd
open Spec Bdd
variable {α : Type} {S : SROps α}

/-! ## independence -/

/-- `p` does not depend on `v` -/
abbrev IndepP (p : Ptr) (v : Nat) : Prop := Indep (fun a => p.eval a) v

theorem indep_of_not_mem {p : Ptr} {v : Nat} (h : v ∉ p.vars) : IndepP p v := by
  intro a b
  apply eval_congr
  intro u hu
  exact upd_other _ _ (fun e => h (e ▸ hu))

theorem indepP_neg {p : Ptr} {v : Nat} (h : IndepP p v) : IndepP p.neg v := by
  intro a b; simp only [eval_neg]; exact congrArg (!·) (h a b)

/-! ## the structural hypothesis of the count -/

mutual
/-- deterministic and decomposable: primes are a partition, no variable is relevant to both the
prime and the sub of an element; a binary node does not test its label below -/
def DD : Ptr → Prop
  | .tru => True
  | .fls => True
  | .lit _ _ => True
  | .bdd _ l _ lo hi => IndepP lo l ∧ IndepP hi l ∧ DD lo ∧ DD hi
  | .dec _ _ es => Partition es ∧ DDElems es
def DDElems : List (Ptr × Ptr) → Prop
  | [] => True
  | (p, s) :: r => ((∀ v, IndepP p v ∨ IndepP s v) ∧ DD p ∧ DD s) ∧ DDElems r
end

theorem ddElems_iff {es : List Elem} :
    DDElems es ↔ ∀ e ∈ es, (∀ v, IndepP e.1 v ∨ IndepP e.2 v) ∧ DD e.1 ∧ DD e.2 := by
  induction es with
  | nil => simp [DDElems]
  | cons e l ih =>
    obtain ⟨p, s⟩ := e
    simp only [DDElems, ih, List.mem_cons, forall_eq_or_imp]

theorem DD_neg {p : Ptr} (h : DD p) : DD p.neg := by
  cases p <;> first | exact h | (simp only [Ptr.neg, DD] at h ⊢; exact h)

/-! ## complement flag -/

theorem wmcAux_neg (S : SROps α) (w : Weights α) (p : Ptr) (n : Bool) :
    wmcAux S w p.neg n = wmcAux S w p (!n) := by
  cases p with
  | tru => cases n <;> simp [Ptr.neg, wmcAux]
  | fls => cases n <;> simp [Ptr.neg, wmcAux]
  | lit v pol => cases n <;> cases pol <;> simp [Ptr.neg, wmcAux]
  | bdd c l i lo hi => cases n <;> cases c <;> simp [Ptr.neg, wmcAux]
  | dec c i es => cases n <;> cases c <;> simp [Ptr.neg, wmcAux]

theorem wmcAux_true (S : SROps α) (w : Weights α) (p : Ptr) : wmcAux S w p true = wmc S w p.neg := by
  rw [wmc, wmcAux_neg]; rfl

theorem wmcAux_flag (S : SROps α) (w : Weights α) (p : Ptr) (n : Bool) :
    wmcAux S w p n = wmc S w (if n then p.neg else p) := by
  cases n
  · rfl
  · exact wmcAux_true S w p

/-! ## the element loop -/

/-- `⋁ pᵢ ∧ (sᵢ xor m)`: what the loop sums when the pointer is complemented (`m`) -/
def evalM (m : Bool) (b : Assign) : List Elem → Bool
  | [] => false
  | e :: r => (e.1.eval b && xor m (e.2.eval b)) || evalM m b r

theorem evalM_of_cnt_zero {m : Bool} {b : Assign} {es : List Elem} (h : cnt b es = 0) :
    evalM m b es = false := by
  induction es with
  | nil => rfl
  | cons e l ih =>
    rw [cnt_cons] at h
    cases hp : e.1.eval b
    · simp [hp] at h; simp [evalM, hp, ih h]
    · simp [hp] at h

/-- under a partition the complement can be pushed into the subs -/
theorem evalM_eq {m : Bool} {b : Assign} {es : List Elem} (h : cnt b es = 1) :
    evalM m b es = xor m (evalElems b es) := by
  induction es with
  | nil => simp at h
  | cons e l ih =>
    rw [cnt_cons] at h
    cases hp : e.1.eval b
    · simp [hp] at h; simp [evalM, hp, ih h]
    · simp [hp] at h
      simp [evalM, hp, evalM_of_cnt_zero h, evalElems_of_cnt_zero h]

/-- the loop, given the count of every prime and sub: `or_v` grows by the sum of `⋁ pᵢ ∧ sᵢ'` -/
theorem wmcElems_sum (hS : S.Laws) (w : Weights α) {vars : List Nat} (hw : Normalised S w vars)
    (m : Bool) : ∀ (es : List Elem), (∀ b, cnt b es ≤ 1) →
    (∀ e ∈ es, (∀ v, IndepP e.1 v ∨ IndepP e.2 v) ∧
      (∀ a, wmcAux S w e.1 false = wsum S vars w (fun b => e.1.eval b) a) ∧
      (∀ a, wmcAux S w e.2 m = wsum S vars w (fun b => xor m (e.2.eval b)) a)) →
    ∀ (acc : α) (a : Assign),
      wmcElems S w m es acc = S.add acc (wsum S vars w (fun b => evalM m b es) a)
  | [], _, _, acc, a => by
    simp only [wmcElems, evalM, wsum_false hS, hS.add_zero]
  | (p, s) :: rest, hc, he, acc, a => by
    have hc' : ∀ b, cnt b rest ≤ 1 := fun b => by
      have := hc b; rw [cnt_cons] at this; omega
    obtain ⟨hind, hp, hs⟩ := he (p, s) List.mem_cons_self
    simp only [wmcElems]
    rw [wmcElems_sum hS w hw m rest hc' (fun e h => he e (List.mem_cons_of_mem _ h)) _ a,
      hS.add_assoc, hp a, hs a]
    congr 1
    have hd : ∀ b, (p.eval b && xor m (s.eval b)) = true → evalM m b rest = false := by
      intro b hb
      simp only [Bool.and_eq_true] at hb
      apply evalM_of_cnt_zero
      have := hc b; rw [cnt_cons] at this; simp only [hb.1, if_true] at this; omega
    have e1 := wsum_or_disj hS w (f := fun b => p.eval b && xor m (s.eval b))
      (g := fun b => evalM m b rest) hd vars a
    have e2 := wsum_and_indep hS w (f := fun b => p.eval b) (g := fun b => xor m (s.eval b)) vars a hw
      (fun v _ => by
        rcases hind v with h | h
        · exact Or.inl h
        · right; intro a b; exact congrArg (xor m) (h a b))
    simp only [evalM]
    rw [e1, e2]

/-! ## the count of a `DD` pointer is the weighted sum of its function -/

theorem wmcAux_lit (hS : S.Laws) (w : Weights α) {vars : List Nat} (hw : Normalised S w vars)
    {v : Nat} (hv : v ∈ vars) (pol n : Bool) (a : Assign) :
    wmcAux S w (.lit v pol) n = wsum S vars w (fun b => xor n ((Ptr.lit v pol).eval b)) a := by
  rw [wmcAux, ← wsum_lit hS w v (xor pol n) vars a hw hv]
  apply wsum_congr; intro b
  simp only [eval_lit]; cases pol <;> cases n <;> cases b v <;> rfl

mutual
theorem wmcAux_dd (hS : S.Laws) (w : Weights α) {vars : List Nat} (hw : Normalised S w vars) :
    ∀ (p : Ptr), DD p → (∀ v ∈ p.vars, v ∈ vars) → ∀ (n : Bool) (a : Assign),
    wmcAux S w p n = wsum S vars w (fun b => xor n (p.eval b)) a
  | .tru, _, _, n, a => by
    simp only [eval_tru, wsum_const hS w _ vars a hw, wmcAux]; cases n <;> rfl
  | .fls, _, _, n, a => by
    simp only [eval_fls, wsum_const hS w _ vars a hw, wmcAux]; cases n <;> rfl
  | .lit v pol, _, hsub, n, a => wmcAux_lit hS w hw (hsub v (by simp [Ptr.vars])) pol n a
  | .bdd c l i lo hi, ⟨hilo, hihi, dlo, dhi⟩, hsub, n, a => by
    rw [wmcAux, wmcAux_dd hS w hw lo dlo (fun v hv => hsub v (by simp [Ptr.vars, hv])) _ a,
      wmcAux_dd hS w hw hi dhi (fun v hv => hsub v (by simp [Ptr.vars, hv])) _ a,
      sr_zero_add hS, hS.add_comm]
    refine (wsum_decision hS w (fun a b => congrArg (xor _) (hilo a b)) (fun a b => congrArg (xor _) (hihi a b))
      (fun b => ?_) vars a hw (hsub l (by simp [Ptr.vars]))).symm
    simp only [eval_bdd]; cases c <;> cases n <;> cases b l <;> simp
  | .dec c i es, hdd, hsub, n, a => by
    rw [wmcAux, wmcElems_sum hS w hw (xor c n) es (fun b => Nat.le_of_eq (hdd.1 b))
      (wmcElems_dd hS w hw (xor c n) es hdd.2 hsub) S.zero a, sr_zero_add hS]
    apply wsum_congr; intro b
    rw [evalM_eq (hdd.1 b), eval_dec]
    cases c <;> cases n <;> simp
theorem wmcElems_dd (hS : S.Laws) (w : Weights α) {vars : List Nat} (hw : Normalised S w vars)
    (m : Bool) : ∀ (es : List (Ptr × Ptr)), DDElems es → (∀ v ∈ varsElems es, v ∈ vars) →
    ∀ e ∈ es, (∀ v, IndepP e.1 v ∨ IndepP e.2 v) ∧
      (∀ a, wmcAux S w e.1 false = wsum S vars w (fun b => e.1.eval b) a) ∧
      (∀ a, wmcAux S w e.2 m = wsum S vars w (fun b => xor m (e.2.eval b)) a)
  | [], _, _ => nofun
  | (p, s) :: r, h, hv => by
    have hp : ∀ v ∈ p.vars, v ∈ vars := fun v hm => hv v (by simp [varsElems, hm])
    have hs : ∀ v ∈ s.vars, v ∈ vars := fun v hm => hv v (by simp [varsElems, hm])
    refine List.forall_mem_cons.2 ⟨⟨h.1.1, fun a => ?_, fun a => wmcAux_dd hS w hw s h.1.2.2 hs m a⟩,
      wmcElems_dd hS w hw m r h.2 fun v hm => hv v (by simp [varsElems, hm])⟩
    rw [wmcAux_dd hS w hw p h.1.2.1 hp false a]
    apply wsum_congr; intro b; simp
end

/-- **C07 for SDDs.**  For a deterministic decomposable pointer, a variable list that contains
its variables and weights with `lo + hi = one` on that list, the weighted model count is the
semiring sum over all assignments of `vars` of `[p holds] · ∏ chosen literal weights`.  Complement
bits anywhere are covered (`Ptr.eval` interprets them). -/
theorem wmc_dd (hS : S.Laws) (w : Weights α) {p : Ptr} (hd : DD p) {vars : List Nat}
    (hsub : ∀ v ∈ p.vars, v ∈ vars) (hw : Normalised S w vars) (a : Assign) :
    wmc S w p = wsum S vars w (fun b => p.eval b) a := by
  rw [wmc, wmcAux_dd hS w hw p hd hsub false a]
  apply wsum_congr; intro b; simp

theorem wmc_neg_dd (hS : S.Laws) (w : Weights α) {p : Ptr} (hd : DD p) {vars : List Nat}
    (hsub : ∀ v ∈ p.vars, v ∈ vars) (hw : Normalised S w vars) (a : Assign) :
    wmc S w p.neg = wsum S vars w (fNot fun b => p.eval b) a := by
  rw [wmc_dd hS w (DD_neg hd) (by rw [vars_neg]; exact hsub) hw a]
  apply wsum_congr; intro b; simp [fNot]

/-! ## the hash is a function of the denoted function; negation -/

/-- two `DD` pointers — of any two vtrees, compressed or not, any construction history — that
denote the same function have the same count -/
theorem wmc_denotational (hS : S.Laws) (w : Weights α) {p q : Ptr} (hp : DD p) (hq : DD q)
    (hw : ∀ v, v ∈ p.vars ∨ v ∈ q.vars → S.add (w v).1 (w v).2 = S.one)
    (heq : ∀ a, p.eval a = q.eval a) : wmc S w p = wmc S w q := by
  have hN : Normalised S w (p.vars ++ q.vars) := fun v hv => hw v (List.mem_append.mp hv)
  rw [wmc_dd hS w hp (fun v hv => List.mem_append_left _ hv) hN (fun _ => false),
      wmc_dd hS w hq (fun v hv => List.mem_append_right _ hv) hN (fun _ => false)]
  exact wsum_congr S w _ _ heq

theorem wmc_add_neg (hS : S.Laws) (w : Weights α) {p : Ptr} (hd : DD p)
    (hw : ∀ v ∈ p.vars, S.add (w v).1 (w v).2 = S.one) :
    S.add (wmc S w p) (wmc S w p.neg) = S.one := by
  have hN : Normalised S w p.vars := hw
  rw [wmc_dd hS w hd (fun v hv => hv) hN (fun _ => false),
    wmc_neg_dd hS w hd (fun v hv => hv) hN (fun _ => false),
    ← wsum_or_disj hS w (f := fun b => p.eval b) (g := fNot fun b => p.eval b)
      (fun b hb => by simp [fNot, hb])]
  have hc := wsum_const hS w true p.vars (fun _ => false) hN
  simp only [if_true] at hc
  rw [← hc]
  apply wsum_congr; intro b; simp [fNot]

/-- with a subtraction that cancels addition (a field, a ring): a negation counts one minus -/
theorem wmc_neg_sub (hS : S.Laws) (sub : α → α → α) (hsub : ∀ x y, sub (S.add x y) x = y)
    (w : Weights α) {p : Ptr} (hd : DD p) (hw : ∀ v ∈ p.vars, S.add (w v).1 (w v).2 = S.one) :
    wmc S w p.neg = sub S.one (wmc S w p) := by
  rw [← wmc_add_neg hS w hd hw, hsub]

/-! ## `WFs → DD` -/

mutual
theorem WFs_DD {vt : VTree} (hnd : vt.leaves.Nodup) : ∀ (p : Ptr), WFs vt p → DD p
  | .tru, _ => trivial
  | .fls, _ => trivial
  | .lit _ _, _ => trivial
  | .bdd c l i lo hi, h => by
    obtain ⟨_, hl, wlo, whi, vlo, vhi, _⟩ := h
    refine ⟨indep_of_not_mem ?_, indep_of_not_mem ?_, WFs_DD hnd lo wlo, WFs_DD hnd hi whi⟩
    · exact fun hm => VTree.left_right_disj hnd hl (vlo l hm)
    · exact fun hm => VTree.left_right_disj hnd hl (vhi l hm)
  | .dec c i es, h => by
    obtain ⟨_, hpart, hok, _⟩ := h
    exact ⟨hpart, WFsElems_DD hnd es hok⟩
theorem WFsElems_DD {vt : VTree} (hnd : vt.leaves.Nodup) {i : Nat} : ∀ (es : List (Ptr × Ptr)),
    WFsElems vt i es → DDElems es
  | [], _ => trivial
  | (p, s) :: r, h => by
    obtain ⟨⟨wp, ws, _, vp, vs⟩, hr⟩ := h
    refine ⟨⟨fun v => ?_, WFs_DD hnd p wp, WFs_DD hnd s ws⟩, WFsElems_DD hnd r hr⟩
    by_cases hv : v ∈ p.vars
    · exact Or.inr (indep_of_not_mem fun hm => VTree.left_right_disj hnd (vp v hv) (vs v hm))
    · exact Or.inl (indep_of_not_mem hv)
end

/-! ## Boolean evaluation: needs the partition property only -/

mutual
/-- every decision node's primes are a partition -/
def Parts : Ptr → Prop
  | .tru => True
  | .fls => True
  | .lit _ _ => True
  | .bdd _ _ _ lo hi => Parts lo ∧ Parts hi
  | .dec _ _ es => Partition es ∧ PartsElems es
def PartsElems : List (Ptr × Ptr) → Prop
  | [] => True
  | (p, s) :: r => (Parts p ∧ Parts s) ∧ PartsElems r
end

theorem partsElems_iff {es : List Elem} : PartsElems es ↔ ∀ e ∈ es, Parts e.1 ∧ Parts e.2 := by
  induction es with
  | nil => simp [PartsElems]
  | cons e l ih =>
    obtain ⟨p, s⟩ := e
    simp only [PartsElems, ih, List.mem_cons, forall_eq_or_imp]

mutual
theorem DD_parts : ∀ (p : Ptr), DD p → Parts p
  | .tru, _ => trivial
  | .fls, _ => trivial
  | .lit _ _, _ => trivial
  | .bdd _ _ _ lo hi, h => ⟨DD_parts lo h.2.2.1, DD_parts hi h.2.2.2⟩
  | .dec _ _ es, h => ⟨h.1, DDElems_parts es h.2⟩
theorem DDElems_parts : ∀ (es : List (Ptr × Ptr)), DDElems es → PartsElems es
  | [], _ => trivial
  | (p, s) :: r, h => ⟨⟨DD_parts p h.1.2.1, DD_parts s h.1.2.2⟩, DDElems_parts r h.2⟩
end

mutual
theorem WF_parts {vt : VTree} : ∀ (p : Ptr), WF vt p → Parts p
  | .tru, _ => trivial
  | .fls, _ => trivial
  | .lit _ _, _ => trivial
  | .bdd _ _ _ lo hi, h => ⟨WF_parts lo h.2.2.2.1, WF_parts hi h.2.2.2.2⟩
  | .dec _ _ es, h => ⟨h.2.1, WFElems_parts es h.2.2⟩
theorem WFElems_parts {vt : VTree} {ow : Option Nat} : ∀ (es : List (Ptr × Ptr)),
    WFElems vt ow es → PartsElems es
  | [], _ => trivial
  | (p, s) :: r, h => ⟨⟨WF_parts p h.1, WF_parts s h.2.1⟩, WFElems_parts r h.2.2.2⟩
end

/-- the weights of `evaluate` -/
def instW (inst : Assign) : Weights Bool := fun v => (!(inst v), inst v)

theorem evalElemsB (inst : Assign) (m : Bool) : ∀ (es : List Elem),
    (∀ e ∈ es, wmcAux boolOps (instW inst) e.1 false = e.1.eval inst ∧
      wmcAux boolOps (instW inst) e.2 m = xor m (e.2.eval inst)) →
    ∀ acc, wmcElems boolOps (instW inst) m es acc = (acc || evalM m inst es)
  | [], _, acc => by simp [wmcElems, evalM]
  | (p, s) :: rest, h, acc => by
    obtain ⟨hp, hs⟩ := h (p, s) List.mem_cons_self
    simp only [wmcElems]
    rw [evalElemsB inst m rest (fun e he => h e (List.mem_cons_of_mem _ he)), hp, hs]
    simp [evalM, boolOps, Bool.or_assoc]

mutual
theorem evaluateAux_eq (inst : Assign) : ∀ (p : Ptr), Parts p → ∀ (n : Bool),
    wmcAux boolOps (instW inst) p n = xor n (p.eval inst)
  | .tru, _, n => by cases n <;> rfl
  | .fls, _, n => by cases n <;> rfl
  | .lit v pol, _, n => by
    simp only [wmcAux, instW, eval_lit]; cases pol <;> cases n <;> cases inst v <;> rfl
  | .bdd c l i lo hi, hp, n => by
    rw [wmcAux, evaluateAux_eq inst lo hp.1, evaluateAux_eq inst hi hp.2]
    simp only [eval_bdd, instW, boolOps]
    cases c <;> cases n <;> cases inst l <;> simp
  | .dec c i es, hp, n => by
    rw [wmcAux, evalElemsB inst (xor c n) es (evaluateElems_eq inst (xor c n) es hp.2),
      evalM_eq (hp.1 inst), eval_dec]
    cases c <;> cases n <;> simp [boolOps]
theorem evaluateElems_eq (inst : Assign) (m : Bool) : ∀ (es : List (Ptr × Ptr)), PartsElems es →
    ∀ e ∈ es, wmcAux boolOps (instW inst) e.1 false = e.1.eval inst ∧
      wmcAux boolOps (instW inst) e.2 m = xor m (e.2.eval inst)
  | [], _ => nofun
  | (p, s) :: r, h => List.forall_mem_cons.2
    ⟨⟨by rw [evaluateAux_eq inst p h.1.1]; simp, evaluateAux_eq inst s h.1.2 m⟩,
      evaluateElems_eq inst m r h.2⟩
end

/-- `DDNNFPtr::evaluate` agrees with the denoted function on every SDD whose decision nodes are
partitions (all results of the builder, compressed or not) -/
theorem evaluate_eq {p : Ptr} (hp : Parts p) (a : Assign) : evaluate p a = p.eval a := by
  have := evaluateAux_eq a p hp false
  rw [Bool.false_xor] at this
  exact this

end Sdd
