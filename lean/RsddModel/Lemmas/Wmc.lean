import RsddModel.Model.BddWmc
import RsddModel.Lemmas.BddCanon
import RsddModel.Lemmas.SemiringLaws
/-!
# Lemmas: weighted sums over assignments and the weighted model count of BDDs

Part 1 (`namespace Spec`): algebra of `wsum` under the commutative-semiring laws `SROps.Laws`:
congruence, independence of the base assignment, factoring out an irrelevant variable, Shannon
expansion at a listed normalised variable (`wsum_decision`: the node case of every "count = sum"
induction, for BDDs, SDDs and the relaxed fold of `Optim`), invariance under permutation of the
variable list; the sum of a constant, of a literal, of a disjunction of exclusive functions, and of
a conjunction of two functions that share no variable (for normalised weights the sum over a list
factorises as soon as every listed variable is ignored by one of the two factors); agreement with
the brute-force list sum.

Part 2 (`namespace Bdd`): `wmc` of a *free* diagram (no variable decided twice on a path:
every ROBDD of every order, every decision-DNNF) equals `wsum` of the denoted function for
normalised weights; `evaluate` is `eval`; the semantic-hash corollaries.

Part 3: arbitrary weights.  `pathCount` is the sum "taken only over the variables each
sub-function actually depends on"; a reduced ordered diagram (`Robdd`) has
`wmc = pathCount`.  This needs "a reduced ordered node depends on its top variable", which
follows from canonicity (`robdd_canon`, an instance of `canon` of `Lemmas/BddCanon`).
-/

namespace Bdd
variable {α : Type} {S : SROps α}

theorem sr_zero_mul (h : S.Laws) (a : α) : S.mul S.zero a = S.zero := by rw [h.mul_comm, h.mul_zero]

end Bdd

namespace Spec
open Bdd
variable {α : Type} {S : SROps α}

/-! ## assignments

Two facts about `Spec.upd` alone; they stand here because `wsum` over `v :: vs` is their first user. -/

theorem upd_comm (a : Assign) {x y : Nat} (h : x ≠ y) (b c : Bool) :
    upd (upd a x b) y c = upd (upd a y c) x b := by
  funext z
  by_cases h1 : z = y
  · subst h1; rw [upd_same, upd_other _ _ (Ne.symm h), upd_same]
  · rw [upd_other _ _ h1]
    by_cases h2 : z = x
    · subst h2; rw [upd_same, upd_same]
    · rw [upd_other _ _ h2, upd_other _ _ h2, upd_other _ _ h1]

@[simp] theorem upd_upd (a : Assign) (x : Nat) (b c : Bool) : upd (upd a x b) x c = upd a x c := by
  funext z; simp only [upd]; by_cases h : z = x <;> simp [h]

theorem allAssignments_length : ∀ (vars : List Nat) (a : Assign),
    (allAssignments vars a).length = 2 ^ vars.length
  | [], _ => rfl
  | v :: vs, a => by
    simp only [allAssignments, List.length_append, List.length_cons,
      allAssignments_length vs, Nat.pow_succ]
    omega

theorem allAssignments_outside : ∀ (vars : List Nat) (a b : Assign),
    b ∈ allAssignments vars a → ∀ x, x ∉ vars → b x = a x
  | [], a, b, hb, x, _ => by simp [allAssignments] at hb; rw [hb]
  | v :: vs, a, b, hb, x, hx => by
    simp only [List.mem_cons, not_or] at hx
    simp only [allAssignments, List.mem_append] at hb
    rcases hb with hb | hb <;> rw [allAssignments_outside vs _ b hb x hx.2, upd_other _ _ hx.1]

/-! ## congruence and the base assignment -/

/-- every assignment that agrees with the base outside `Q` is enumerated -/
theorem mem_allAssignments : ∀ (Q : List Nat) (base a : Assign), (∀ x, x ∉ Q → a x = base x) →
    a ∈ allAssignments Q base
  | [], base, a, h => by
    have : a = base := funext fun x => h x (by simp)
    simp [allAssignments, this]
  | v :: Q, base, a, h => by
    simp only [allAssignments, List.mem_append]
    have key : a ∈ allAssignments Q (upd base v (a v)) := by
      apply mem_allAssignments
      intro x hx
      by_cases hxv : x = v
      · subst hxv; simp
      · rw [upd_other _ _ hxv]; exact h x (by simp [hxv, hx])
    cases hav : a v
    · left; rwa [hav] at key
    · right; rwa [hav] at key

theorem wsum_congr' (S : SROps α) (w : Weights α) : ∀ (vars : List Nat) (f g : BoolFn) (a : Assign),
    (∀ b, (∀ x, x ∉ vars → b x = a x) → f b = g b) → wsum S vars w f a = wsum S vars w g a
  | [], f, g, a, h => by simp only [wsum, h a (fun _ _ => rfl)]
  | v :: vs, f, g, a, h => by
    have key : ∀ c, wsum S vs w f (upd a v c) = wsum S vs w g (upd a v c) := fun c =>
      wsum_congr' S w vs f g _ fun b hb => h b fun x hx => by
        rw [List.mem_cons, not_or] at hx
        rw [hb x hx.2, upd_other _ _ hx.1]
    simp only [wsum, key]

theorem wsum_congr (S : SROps α) (w : Weights α) (vars : List Nat) {f g : BoolFn} (a : Assign)
    (h : ∀ b, f b = g b) : wsum S vars w f a = wsum S vars w g a :=
  wsum_congr' S w vars f g a (fun b _ => h b)

theorem wsum_base (S : SROps α) (w : Weights α) : ∀ (vars : List Nat) (f : BoolFn) (a a' : Assign),
    (∀ x, x ∉ vars → a x = a' x) → wsum S vars w f a = wsum S vars w f a'
  | [], f, a, a', h => by
    have : a = a' := funext fun x => h x (by simp)
    rw [this]
  | v :: vs, f, a, a', h => by
    have key : ∀ c, wsum S vs w f (upd a v c) = wsum S vs w f (upd a' v c) := fun c =>
      wsum_base S w vs f _ _ fun x hx => by
        by_cases hxv : x = v
        · rw [hxv, upd_same, upd_same]
        · rw [upd_other _ _ hxv, upd_other _ _ hxv]; exact h x (by simp [hxv, hx])
    simp only [wsum, key]

theorem wsum_base_upd (S : SROps α) (w : Weights α) (vars : List Nat) (f : BoolFn) (a : Assign)
    {v : Nat} (hv : v ∈ vars) (c : Bool) : wsum S vars w f (upd a v c) = wsum S vars w f a := by
  apply wsum_base
  intro x hx
  exact upd_other _ _ (fun e => hx (e ▸ hv))

/-- fixing a variable that is not summed over = conditioning the function -/
theorem wsum_upd_cond (S : SROps α) (w : Weights α) : ∀ (vs : List Nat) (f : BoolFn) (a : Assign)
    (v : Nat) (c : Bool), v ∉ vs → wsum S vs w f (upd a v c) = wsum S vs w (fCond f v c) a
  | [], f, a, v, c, _ => rfl
  | u :: us, f, a, v, c, h => by
    simp only [List.mem_cons, not_or] at h
    have key : ∀ d, wsum S us w f (upd (upd a v c) u d) = wsum S us w (fCond f v c) (upd a u d) :=
      fun d => upd_comm a h.1 c d ▸ wsum_upd_cond S w us f _ v c h.2
    simp only [wsum, key]

theorem wsum_indep_upd (S : SROps α) (w : Weights α) {f : BoolFn} {v : Nat} (hf : Indep f v) :
    ∀ (vs : List Nat) (a : Assign) (c : Bool), wsum S vs w f (upd a v c) = wsum S vs w f a
  | [], a, c => by simp only [wsum, hf a c]
  | u :: us, a, c => by
    by_cases huv : u = v
    · subst huv; simp only [wsum, upd_upd]
    · have hvu : v ≠ u := fun e => huv e.symm
      simp only [wsum, upd_comm a hvu, wsum_indep_upd S w hf us]

theorem wsum_indep (hS : S.Laws) (w : Weights α) {f : BoolFn} {v : Nat} (hf : Indep f v)
    (vs : List Nat) (a : Assign) :
    wsum S (v :: vs) w f a = S.mul (S.add (w v).1 (w v).2) (wsum S vs w f a) := by
  simp only [wsum, wsum_indep_upd S w hf, sr_right_distrib hS]

theorem wsum_indep_normalised (hS : S.Laws) (w : Weights α) {f : BoolFn} {v : Nat} (hf : Indep f v)
    (hv : S.add (w v).1 (w v).2 = S.one) (vs : List Nat) (a : Assign) :
    wsum S (v :: vs) w f a = wsum S vs w f a := by
  rw [wsum_indep hS w hf, hv, sr_one_mul hS]

/-- Shannon expansion of the weighted sum at a listed, normalised variable -/
theorem wsum_decision (hS : S.Laws) (w : Weights α) {v : Nat} {f lo hi : BoolFn}
    (hlo : Indep lo v) (hhi : Indep hi v) (hf : ∀ b, f b = if b v then hi b else lo b) :
    ∀ (vars : List Nat) (a : Assign), Normalised S w vars → v ∈ vars →
    wsum S vars w f a = S.add (S.mul (w v).1 (wsum S vars w lo a)) (S.mul (w v).2 (wsum S vars w hi a))
  | [], _, _, h => by cases h
  | u :: us, a, hw, hv => by
    have hw' : Normalised S w us := fun x hx => hw x (List.mem_cons_of_mem _ hx)
    by_cases hin : v ∈ us
    · simp only [wsum, wsum_decision hS w hlo hhi hf us _ hw' hin, hS.left_distrib]
      rw [sr_add4 hS]
      simp only [sr_mul_left_comm hS (w u).1, sr_mul_left_comm hS (w u).2]
    · obtain rfl : u = v := by
        rcases List.mem_cons.1 hv with h | h
        · exact h.symm
        · exact absurd h hin
      have key : ∀ c : Bool, wsum S us w f (upd a u c) = wsum S us w (if c then hi else lo) a := by
        intro c
        rw [← wsum_indep_upd S w (f := if c then hi else lo) (by cases c <;> assumption) us a c]
        apply wsum_congr'
        intro b hb
        rw [hf, hb u hin, upd_same]; cases c <;> rfl
      rw [wsum_indep_normalised hS w hlo (hw u List.mem_cons_self),
        wsum_indep_normalised hS w hhi (hw u List.mem_cons_self)]
      simp only [wsum, key]; rfl

/-! ## independence of the variable order -/

theorem wsum_swap (hS : S.Laws) (w : Weights α) (x y : Nat) (vs : List Nat) (f : BoolFn) (a : Assign) :
    wsum S (x :: y :: vs) w f a = wsum S (y :: x :: vs) w f a := by
  by_cases hxy : x = y
  · subst hxy; rfl
  · have hyx : y ≠ x := fun e => hxy e.symm
    simp only [wsum, hS.left_distrib]
    rw [sr_add4 hS]
    simp only [upd_comm a hyx, sr_mul_left_comm hS (w y).1, sr_mul_left_comm hS (w y).2]

/-- the sum does not depend on the order in which the variables are listed -/
theorem wsum_perm (hS : S.Laws) (w : Weights α) {vs vs' : List Nat} (h : List.Perm vs vs') :
    ∀ (f : BoolFn) (a : Assign), wsum S vs w f a = wsum S vs' w f a := by
  induction h with
  | nil => intro f a; rfl
  | cons x _ ih => intro f a; simp only [wsum, ih]
  | swap x y l => intro f a; exact wsum_swap hS w y x l f a
  | trans _ _ ih1 ih2 => intro f a; rw [ih1, ih2]

theorem wsum_const (hS : S.Laws) (w : Weights α) (c : Bool) : ∀ (vars : List Nat) (a : Assign),
    Normalised S w vars → wsum S vars w (fun _ => c) a = if c then S.one else S.zero
  | [], _, _ => rfl
  | v :: vs, a, h => by
    have hvs : Normalised S w vs := fun u hu => h u (List.mem_cons_of_mem _ hu)
    simp only [wsum, wsum_const hS w c vs _ hvs]
    rw [← sr_right_distrib hS, h v (List.mem_cons_self), sr_one_mul hS]

theorem wsum_false (hS : S.Laws) (w : Weights α) : ∀ (vars : List Nat) (a : Assign),
    wsum S vars w (fun _ => false) a = S.zero
  | [], _ => rfl
  | v :: vs, a => by
    simp only [wsum, wsum_false hS w vs, hS.mul_zero, hS.add_zero]

theorem wsum_or_disj (hS : S.Laws) (w : Weights α) {f g : BoolFn} (hd : ∀ b, f b = true → g b = false) :
    ∀ (vars : List Nat) (a : Assign),
    wsum S vars w (fun b => f b || g b) a = S.add (wsum S vars w f a) (wsum S vars w g a)
  | [], a => by
    simp only [wsum]
    rcases Bool.eq_false_or_eq_true (f a) with hf | hf
    · simp [hf, hd a hf, hS.add_zero]
    · rcases Bool.eq_false_or_eq_true (g a) with hg | hg <;> simp [hf, hg, hS.add_zero, sr_zero_add hS]
  | v :: vs, a => by
    simp only [wsum, wsum_or_disj hS w hd vs, hS.left_distrib]
    rw [sr_add4 hS]

/-- decomposable conjunction: if every listed variable is irrelevant to `f` or to `g`, the sum of
`f ∧ g` is the product of the sums (normalised weights) -/
theorem wsum_and_indep (hS : S.Laws) (w : Weights α) {f g : BoolFn} :
    ∀ (vars : List Nat) (a : Assign), Normalised S w vars →
    (∀ v ∈ vars, Indep f v ∨ Indep g v) →
    wsum S vars w (fun b => f b && g b) a = S.mul (wsum S vars w f a) (wsum S vars w g a)
  | [], a, _, _ => by
    simp only [wsum]
    rcases Bool.eq_false_or_eq_true (f a) with hf | hf <;>
      rcases Bool.eq_false_or_eq_true (g a) with hg | hg <;>
      simp [hf, hg, hS.mul_zero, hS.mul_one]
  | v :: vs, a, hw, hi => by
    have hw' : Normalised S w vs := fun u hu => hw u (List.mem_cons_of_mem _ hu)
    have hi' : ∀ u ∈ vs, Indep f u ∨ Indep g u := fun u hu => hi u (List.mem_cons_of_mem _ hu)
    have hv := hw v List.mem_cons_self
    have ih := fun a => wsum_and_indep hS w vs a hw' hi'
    rcases hi v List.mem_cons_self with hf | hg
    · rw [wsum_indep_normalised hS w hf hv]
      simp only [wsum, ih, wsum_indep_upd S w hf]
      rw [hS.left_distrib, sr_mul_left_comm hS (w v).1, sr_mul_left_comm hS (w v).2]
    · rw [wsum_indep_normalised hS w hg hv]
      simp only [wsum, ih, wsum_indep_upd S w hg]
      rw [sr_right_distrib hS, hS.mul_assoc, hS.mul_assoc]

theorem wsum_lit (hS : S.Laws) (w : Weights α) (v : Nat) (q : Bool) (vars : List Nat) (a : Assign)
    (hw : Normalised S w vars) (hv : v ∈ vars) :
    wsum S vars w (fun b => if q then b v else !(b v)) a = if q then (w v).2 else (w v).1 := by
  rw [wsum_decision hS w (lo := fun _ => !q) (hi := fun _ => q) (fun _ _ => rfl) (fun _ _ => rfl)
    (fun b => by cases q <;> cases b v <;> rfl) vars a hw hv, wsum_const hS w _ vars a hw,
    wsum_const hS w _ vars a hw]
  cases q <;> simp [hS.mul_zero, hS.mul_one, hS.add_zero, sr_zero_add hS]

/-! ## the brute-force reading -/

/-- semiring sum of a list -/
def sumList (S : SROps α) (l : List α) : α := l.foldr S.add S.zero

theorem sumList_append (hS : S.Laws) : ∀ (l l' : List α),
    sumList S (l ++ l') = S.add (sumList S l) (sumList S l')
  | [], l' => by simp [sumList, sr_zero_add hS]
  | x :: l, l' => by
    have := sumList_append hS l l'
    simp only [sumList, List.cons_append, List.foldr_cons] at this ⊢
    rw [this, hS.add_assoc]

theorem sumList_map_mul (hS : S.Laws) {β : Type} (c : α) (g : β → α) : ∀ (l : List β),
    sumList S (l.map fun b => S.mul c (g b)) = S.mul c (sumList S (l.map g))
  | [] => by simp [sumList, hS.mul_zero]
  | x :: l => by
    have := sumList_map_mul hS c g l
    simp only [sumList, List.map_cons, List.foldr_cons] at this ⊢
    rw [this, hS.left_distrib]

theorem sumList_map_congr {β : Type} {g g' : β → α} : ∀ {l : List β}, (∀ b ∈ l, g b = g' b) →
    sumList S (l.map g) = sumList S (l.map g')
  | [], _ => rfl
  | x :: l, h => by
    have := sumList_map_congr (l := l) (fun b hb => h b (List.mem_cons_of_mem _ hb))
    simp only [sumList, List.map_cons, List.foldr_cons] at this ⊢
    rw [this, h x List.mem_cons_self]

theorem wsumList_eq_sumList (S : SROps α) (vars : List Nat) (w : Weights α) (f : BoolFn) (a : Assign) :
    wsumList S vars w f a =
      sumList S ((allAssignments vars a).map fun b => if f b then assignWeight S w b vars else S.zero) := by
  simp only [wsumList, sumList, List.foldr_map]

/-- the recursive weighted sum is the brute-force sum over the explicit list of `2^n`
assignments (for a duplicate-free variable list: with a repeated variable the list sum squares
its weight, the recursive sum multiplies by `lo + hi`) -/
theorem wsum_eq_wsumList (hS : S.Laws) (w : Weights α) (f : BoolFn) : ∀ (vars : List Nat) (a : Assign),
    vars.Nodup → wsum S vars w f a = wsumList S vars w f a
  | [], a, _ => by simp [wsum, wsumList, allAssignments, assignWeight, hS.add_zero]
  | v :: vs, a, hnd => by
    have hv : v ∉ vs := (List.nodup_cons.mp hnd).1
    have hvs : vs.Nodup := (List.nodup_cons.mp hnd).2
    have key : ∀ c : Bool,
        sumList S ((allAssignments vs (upd a v c)).map fun b =>
          if f b then assignWeight S w b (v :: vs) else S.zero) =
        S.mul (if c then (w v).2 else (w v).1) (wsum S vs w f (upd a v c)) := by
      intro c
      rw [wsum_eq_wsumList hS w f vs _ hvs, wsumList_eq_sumList, ← sumList_map_mul hS]
      apply sumList_map_congr
      intro b hb
      have hbv : b v = c := by rw [allAssignments_outside vs _ b hb v hv, upd_same]
      cases f b
      · exact (hS.mul_zero _).symm
      · simp only [if_true, assignWeight, hbv]
    rw [wsumList_eq_sumList]
    simp only [allAssignments, List.map_append]
    rw [sumList_append hS, key false, key true]
    rfl

end Spec

namespace Bdd
open Spec
variable {α : Type} {S : SROps α}

/-! ## free diagrams -/

/-- the variables a diagram tests (with repetitions) -/
def Ptr.vars : Ptr → List Nat
  | .tru | .fls => []
  | .node _ v lo hi => v :: (lo.vars ++ hi.vars)

/-- no variable is decided twice on a path (every ROBDD of every order, every decision-DNNF) -/
def Ptr.free : Ptr → Prop
  | .tru | .fls => True
  | .node _ v lo hi => v ∉ lo.vars ∧ v ∉ hi.vars ∧ lo.free ∧ hi.free

instance Ptr.decFree : (p : Ptr) → Decidable p.free
  | .tru => Decidable.isTrue trivial
  | .fls => Decidable.isTrue trivial
  | .node _ v lo hi =>
    have := Ptr.decFree lo
    have := Ptr.decFree hi
    inferInstanceAs (Decidable (v ∉ lo.vars ∧ v ∉ hi.vars ∧ lo.free ∧ hi.free))

@[simp] theorem vars_neg (p : Ptr) : p.neg.vars = p.vars := by cases p <;> rfl
theorem free_neg {p : Ptr} (h : p.free) : p.neg.free := by cases p <;> exact h

/-- a diagram's value depends only on the variables it tests -/
theorem eval_congr_vars {a a' : Assign} (p : Ptr) (h : ∀ v ∈ p.vars, a v = a' v) : p.eval a = p.eval a' := by
  induction p with
  | tru => rfl
  | fls => rfl
  | node c v lo hi ihlo ihhi =>
    rw [Ptr.eval, Ptr.eval, h v List.mem_cons_self,
      ihlo fun x hx => h x (List.mem_cons_of_mem _ (List.mem_append_left _ hx)),
      ihhi fun x hx => h x (List.mem_cons_of_mem _ (List.mem_append_right _ hx))]

theorem eval_upd_of_not_mem (a : Assign) (x : Nat) (b : Bool) (p : Ptr) (h : x ∉ p.vars) :
    p.eval (upd a x b) = p.eval a :=
  eval_congr_vars p fun _ hv => upd_other _ _ fun e => h (e ▸ hv)

/-! ## complement edges -/

theorem wmcAux_true (S : SROps α) (w : Weights α) (p : Ptr) : wmcAux S w p true = wmc S w p.neg := by
  cases p with
  | tru => rfl
  | fls => rfl
  | node c v lo hi => cases c <;> rfl

theorem wmcAux_flag (S : SROps α) (w : Weights α) (p : Ptr) (n : Bool) :
    wmcAux S w p n = wmc S w (if n then p.neg else p) := by
  cases n
  · rfl
  · exact wmcAux_true S w p

/-! ## normalised weights: the count is the weighted sum of the denoted function -/

/-- one node of the count: the children's counts being the sums over `vs` from the bases with `v`
set, the node's count is the sum over `v :: vs` (no law is used) -/
theorem wmcAux_node (S : SROps α) (w : Weights α) {vs : List Nat} {v : Nat} (hv : v ∉ vs) (c : Bool)
    (lo hi : Ptr) (n : Bool) (a : Assign)
    (hlo : wmcAux S w lo (xor n c) = wsum S vs w (fun b => xor (xor n c) (lo.eval b)) (upd a v false))
    (hhi : wmcAux S w hi (xor n c) = wsum S vs w (fun b => xor (xor n c) (hi.eval b)) (upd a v true)) :
    wmcAux S w (.node c v lo hi) n =
      wsum S (v :: vs) w (fun b => xor n ((Ptr.node c v lo hi).eval b)) a := by
  -- on the assignments summed over from `upd a v d`, the node evaluates as its child on the `d` side
  have child : ∀ d : Bool,
      wsum S vs w (fun b => xor (xor n c) ((if d then hi else lo).eval b)) (upd a v d) =
        wsum S vs w (fun b => xor n ((Ptr.node c v lo hi).eval b)) (upd a v d) := by
    intro d
    apply wsum_congr'
    intro b hb
    have hbv : b v = d := by rw [hb v hv, upd_same]
    simp only [Ptr.eval, hbv]
    cases d <;> simp
  rw [wmcAux, wsum, hlo, hhi, ← child false, ← child true]
  rfl

theorem wmcAux_free (hS : S.Laws) (w : Weights α) {vars : List Nat} (hw : Normalised S w vars) :
    ∀ (p : Ptr) (n : Bool) (a : Assign), p.free → (∀ v ∈ p.vars, v ∈ vars) →
    wmcAux S w p n = wsum S vars w (fun b => xor n (p.eval b)) a
  | .tru, n, a, _, _ | .fls, n, a, _, _ => by
    simp only [Ptr.eval, wsum_const hS w _ vars a hw, wmcAux]; cases n <;> rfl
  | .node c v lo hi, n, a, ⟨hvlo, hvhi, hflo, hfhi⟩, hsub => by
    rw [wmcAux, wmcAux_free hS w hw lo _ a hflo fun u hu =>
        hsub u (List.mem_cons_of_mem _ (List.mem_append_left _ hu)),
      wmcAux_free hS w hw hi _ a hfhi fun u hu =>
        hsub u (List.mem_cons_of_mem _ (List.mem_append_right _ hu))]
    refine (wsum_decision hS w (fun a b => ?_) (fun a b => ?_) (fun b => ?_) vars a hw
      (hsub v List.mem_cons_self)).symm
    · simp only [eval_upd_of_not_mem a v b lo hvlo]
    · simp only [eval_upd_of_not_mem a v b hi hvhi]
    · simp only [Ptr.eval]; cases b v <;> simp

/-- **C07, normalised weights.**  For a free diagram, a variable list (repetitions allowed) that
contains its variables and weights with `lo + hi = one` on that list, the weighted model count
is the semiring sum over all assignments of `vars` that satisfy the denoted function of the
product of the chosen literal weights.  Complement edges anywhere are covered (`Ptr.eval`
interprets them), and by `wsum_perm` the right-hand side does not depend on the order. -/
theorem wmc_free (hS : S.Laws) (w : Weights α) {p : Ptr} (hf : p.free) {vars : List Nat}
    (hsub : ∀ v ∈ p.vars, v ∈ vars) (hw : Normalised S w vars) (a : Assign) :
    wmc S w p = wsum S vars w p.eval a := by
  rw [wmc, wmcAux_free hS w hw p false a hf hsub]
  simp

theorem wmc_neg_free (hS : S.Laws) (w : Weights α) {p : Ptr} (hf : p.free) {vars : List Nat}
    (hsub : ∀ v ∈ p.vars, v ∈ vars) (hw : Normalised S w vars) (a : Assign) :
    wmc S w p.neg = wsum S vars w (fNot p.eval) a := by
  rw [wmc_free hS w (free_neg hf) (by simpa using hsub) hw a]
  apply wsum_congr; intro b; simp [fNot]

/-! ## Boolean evaluation -/

theorem evaluateAux_eq (inst : Assign) : ∀ (p : Ptr) (n : Bool),
    wmcAux boolOps (fun v => (!(inst v), inst v)) p n = xor n (p.eval inst)
  | .tru, n => by cases n <;> rfl
  | .fls, n => by cases n <;> rfl
  | .node c v lo hi, n => by
    rw [wmcAux, evaluateAux_eq inst lo, evaluateAux_eq inst hi]
    simp only [Ptr.eval, boolOps]
    cases inst v <;> simp

/-- `DDNNFPtr::evaluate` agrees with the denoted function, for every diagram -/
theorem evaluate_eq (p : Ptr) (a : Assign) : evaluate p a = p.eval a := by
  simp [evaluate, wmc, evaluateAux_eq]

/-! ## semantic hashing -/

/-- **C11.**  The count with normalised weights is determined by the denoted function: two free
diagrams — of any two orders, any construction history — that denote the same function have
the same count. -/
theorem hash_denotational (hS : S.Laws) (w : Weights α) {p q : Ptr} (hp : p.free) (hq : q.free)
    (hw : ∀ v, v ∈ p.vars ∨ v ∈ q.vars → S.add (w v).1 (w v).2 = S.one)
    (heq : ∀ a, p.eval a = q.eval a) : wmc S w p = wmc S w q := by
  have hN : Normalised S w (p.vars ++ q.vars) := fun v hv => hw v (List.mem_append.mp hv)
  rw [wmc_free hS w hp (fun v => List.mem_append_left _) hN (fun _ => false),
      wmc_free hS w hq (fun v => List.mem_append_right _) hN (fun _ => false)]
  exact wsum_congr S w _ _ heq

theorem wmcAux_add (hS : S.Laws) (w : Weights α) : ∀ (p : Ptr),
    (∀ v ∈ p.vars, S.add (w v).1 (w v).2 = S.one) →
    S.add (wmcAux S w p false) (wmcAux S w p true) = S.one
  | .tru, _ => by simp [wmcAux, hS.add_zero]
  | .fls, _ => by simp [wmcAux, sr_zero_add hS]
  | .node c v lo hi, h => by
    have hlo := wmcAux_add hS w lo (fun u hu => h u (List.mem_cons_of_mem _ (List.mem_append_left _ hu)))
    have hhi := wmcAux_add hS w hi (fun u hu => h u (List.mem_cons_of_mem _ (List.mem_append_right _ hu)))
    -- below a complement edge the two counts change places
    have key : ∀ p : Ptr, S.add (wmcAux S w p false) (wmcAux S w p true) = S.one →
        S.add (wmcAux S w p (xor false c)) (wmcAux S w p (xor true c)) = S.one := by
      cases c
      · exact fun _ => id
      · exact fun _ h => (hS.add_comm _ _).trans h
    simp only [wmcAux]
    rw [sr_add4 hS, ← hS.left_distrib, ← hS.left_distrib, key lo hlo, key hi hhi, hS.mul_one,
      hS.mul_one]
    exact h v List.mem_cons_self

/-- **C11.**  A negation hashes to one minus the hash (stated additively; holds for every
diagram, free or not) -/
theorem hash_neg (hS : S.Laws) (w : Weights α) (p : Ptr)
    (hw : ∀ v ∈ p.vars, S.add (w v).1 (w v).2 = S.one) :
    S.add (wmc S w p) (wmc S w p.neg) = S.one := by
  rw [← wmcAux_true]; exact wmcAux_add hS w p hw

theorem hash_neg_sub (hS : S.Laws) (sub : α → α → α) (hsub : ∀ x y, sub (S.add x y) x = y)
    (w : Weights α) (p : Ptr) (hw : ∀ v ∈ p.vars, S.add (w v).1 (w v).2 = S.one) :
    wmc S w p.neg = sub S.one (wmc S w p) := by
  rw [← hash_neg hS w p hw, hsub]

end Bdd

/-! ## arbitrary weights: the sum over the variables each sub-function depends on -/
namespace Spec
variable {α : Type}

open Classical in
/-- the sum taken only over the variables each sub-function actually depends on, by recursion
over the variable order: a variable the (conditioned) function ignores contributes nothing,
one it depends on splits the sum.  (A specification: not computable.) -/
noncomputable def pathCount (S : SROps α) (w : Weights α) : List Nat → BoolFn → Assign → α
  | [], f, a => if f a then S.one else S.zero
  | v :: vs, f, a =>
    if Indep f v then pathCount S w vs f a
    else S.add (S.mul (w v).1 (pathCount S w vs (fCond f v false) a))
               (S.mul (w v).2 (pathCount S w vs (fCond f v true) a))

theorem pathCount_const (S : SROps α) (w : Weights α) (c : Bool) : ∀ (vars : List Nat) (a : Assign),
    pathCount S w vars (fun _ => c) a = if c then S.one else S.zero
  | [], _ => rfl
  | v :: vs, a => by
    have : Indep (fun _ : Assign => c) v := fun _ _ => rfl
    simp only [pathCount, this, if_true, pathCount_const S w c vs]

end Spec

namespace Bdd
open Spec
variable {α : Type} {S : SROps α}

/-- reduced ordered BDD with complement edges over the variable order `l` (first element =
top of the order): variables strictly follow the list along every path, no node has equal
children, every high edge is regular and not the false constant (`mkNode`'s normal form) -/
inductive Robdd : List Nat → Ptr → Prop
  | tru (l) : Robdd l .tru
  | fls (l) : Robdd l .fls
  | skip {u us p} : Robdd us p → Robdd (u :: us) p
  | node {u us c lo hi} : Robdd us lo → Robdd us hi → lo ≠ hi → hi.isNeg = false → hi ≠ .fls →
      Robdd (u :: us) (.node c u lo hi)

theorem Robdd.vars_sub {l : List Nat} {p : Ptr} (h : Robdd l p) : ∀ v ∈ p.vars, v ∈ l := by
  induction h with
  | tru | fls => intro v hv; cases hv
  | skip _ ih => intro v hv; exact List.mem_cons_of_mem _ (ih v hv)
  | node _ _ _ _ _ ih1 ih2 =>
    intro v hv
    simp only [Ptr.vars, List.mem_cons, List.mem_append] at hv
    rcases hv with rfl | hv | hv
    · exact List.mem_cons_self
    · exact List.mem_cons_of_mem _ (ih1 v hv)
    · exact List.mem_cons_of_mem _ (ih2 v hv)

theorem Robdd.not_mem_vars {u : Nat} {us : List Nat} {p : Ptr} (h : Robdd us p) (hu : u ∉ us) :
    u ∉ p.vars := fun hm => hu (h.vars_sub u hm)

theorem Robdd.free {l : List Nat} {p : Ptr} (h : Robdd l p) (hnd : l.Nodup) : p.free := by
  induction h with
  | tru | fls => trivial
  | skip _ ih => exact ih (List.nodup_cons.mp hnd).2
  | node h1 h2 _ _ _ ih1 ih2 =>
    obtain ⟨hu, hus⟩ := List.nodup_cons.mp hnd
    exact ⟨h1.not_mem_vars hu, h2.not_mem_vars hu, ih1 hus, ih2 hus⟩

theorem eval_node_upd {c : Bool} {u : Nat} {lo hi : Ptr} (hlo : u ∉ lo.vars) (hhi : u ∉ hi.vars)
    (a : Assign) (b : Bool) :
    (Ptr.node c u lo hi).eval (upd a u b) = xor c (if b then hi.eval a else lo.eval a) := by
  simp only [Ptr.eval, upd_same, eval_upd_of_not_mem a u b lo hlo, eval_upd_of_not_mem a u b hi hhi]

/-- a level map for the order `l`: the position in `l`; labels outside `l` come after it, apart -/
def lvlOf (l : List Nat) (x : Nat) : Nat := if x ∈ l then l.idxOf x else l.length + 1 + x

theorem lvlOf_inj (l : List Nat) (x y : Nat) (h : lvlOf l x = lvlOf l y) : x = y := by
  -- a position in `l` is smaller than every level given to a label outside `l`
  have out : ∀ {u v : Nat}, u ∈ l → l.idxOf u ≠ l.length + 1 + v := fun hu e =>
    Nat.lt_irrefl _ (Nat.lt_of_lt_of_le (e ▸ List.idxOf_lt_length_iff.2 hu)
      (Nat.le_trans (Nat.le_add_right _ 1) (Nat.le_add_right _ _)))
  unfold lvlOf at h
  by_cases hx : x ∈ l <;> by_cases hy : y ∈ l
  · rw [if_pos hx, if_pos hy] at h
    have ex := List.getElem_idxOf (List.idxOf_lt_length_iff.2 hx)
    simp only [h] at ex
    exact ex.symm.trans (List.getElem_idxOf (List.idxOf_lt_length_iff.2 hy))
  · rw [if_pos hx, if_neg hy] at h; exact absurd h (out hx)
  · rw [if_neg hx, if_pos hy] at h; exact absurd h.symm (out hy)
  · rw [if_neg hx, if_neg hy] at h; exact Nat.add_left_cancel h

/-- a diagram ordered along the rest `us` of a duplicate-free list `l = pre ++ us` is ordered by
`lvlOf l` from level `pre.length` -/
theorem Robdd.above_red {l : List Nat} (hnd : l.Nodup) {us : List Nat} {p : Ptr} (h : Robdd us p) :
    ∀ pre, l = pre ++ us → p.above (lvlOf l) pre.length ∧ p.red := by
  induction h with
  | tru | fls => exact fun _ _ => ⟨trivial, trivial⟩
  | @skip u us p _ ih =>
    intro pre hl
    obtain ⟨ha, hr⟩ := ih (pre ++ [u]) (by rw [hl, List.append_assoc]; rfl)
    rw [List.length_append] at ha
    exact ⟨above_mono (Nat.le_succ _) ha, hr⟩
  | @node u us c lo hi _ _ hne hreg hnf ih1 ih2 =>
    intro pre hl
    have hu : lvlOf l u = pre.length := by
      have hpre : u ∉ pre := fun hm =>
        (List.nodup_append.1 (hl ▸ hnd)).2.2 u hm u List.mem_cons_self rfl
      rw [lvlOf, if_pos (hl ▸ List.mem_append_right _ List.mem_cons_self), hl, List.idxOf_append,
        if_neg hpre, List.idxOf_cons_self, Nat.zero_add]
    obtain ⟨a1, r1⟩ := ih1 (pre ++ [u]) (by rw [hl, List.append_assoc]; rfl)
    obtain ⟨a2, r2⟩ := ih2 (pre ++ [u]) (by rw [hl, List.append_assoc]; rfl)
    rw [List.length_append, ← hu] at a1 a2
    exact ⟨⟨Nat.le_of_eq hu.symm, a1, a2⟩, hne, hreg, hnf, r1, r2⟩

/-- **canonicity** of reduced ordered BDDs with complement edges, for an order given as a
duplicate-free list: an instance of `canon` for the level map `lvlOf l` -/
theorem robdd_canon (l : List Nat) (hnd : l.Nodup) (p q : Ptr) (hp : Robdd l p) (hq : Robdd l q)
    (heq : ∀ a, p.eval a = q.eval a) : p = q :=
  (canon (lvlOf l) (lvlOf_inj l) (hp.above_red hnd [] rfl) (hq.above_red hnd [] rfl)).1 heq

/-- a reduced ordered node depends on its top variable: else its children would denote the same
function and be equal -/
theorem robdd_node_dep {u : Nat} {us : List Nat} (hnd : (u :: us).Nodup) {c : Bool} {lo hi : Ptr}
    (hlo : Robdd us lo) (hhi : Robdd us hi) (hne : lo ≠ hi) :
    ∃ a, (Ptr.node c u lo hi).eval (upd a u false) ≠ (Ptr.node c u lo hi).eval (upd a u true) := by
  obtain ⟨hu, hus⟩ := List.nodup_cons.mp hnd
  refine Classical.byContradiction fun hcon => hne (robdd_canon us hus lo hi hlo hhi fun a =>
    Classical.byContradiction fun hd => hcon ⟨a, ?_⟩)
  rw [eval_node_upd (hlo.not_mem_vars hu) (hhi.not_mem_vars hu),
    eval_node_upd (hlo.not_mem_vars hu) (hhi.not_mem_vars hu)]
  exact fun e => hd (Bool.xor_right_inj.1 e)

theorem wmcAux_robdd (S : SROps α) (w : Weights α) {l : List Nat} {p : Ptr} (h : Robdd l p) :
    l.Nodup → ∀ (n : Bool) (a : Assign),
    wmcAux S w p n = pathCount S w l (fun b => xor n (p.eval b)) a := by
  induction h with
  | tru l | fls l => intro _ n a; simp only [Ptr.eval, pathCount_const, wmcAux]; cases n <;> rfl
  | @skip u us p hp ih =>
    intro hnd n a
    obtain ⟨hu, hus⟩ := List.nodup_cons.mp hnd
    have hind : Indep (fun b => xor n (p.eval b)) u := fun a b => by
      simp only [eval_upd_of_not_mem a u b p (hp.not_mem_vars hu)]
    simp only [pathCount, hind, if_true]
    exact ih hus n a
  | @node u us c lo hi hlo hhi hne _ _ ih1 ih2 =>
    intro hnd n a
    obtain ⟨hu, hus⟩ := List.nodup_cons.mp hnd
    have hdep : ¬ Indep (fun b => xor n ((Ptr.node c u lo hi).eval b)) u := fun hind =>
      have ⟨a0, ha0⟩ := robdd_node_dep (c := c) hnd hlo hhi hne
      ha0 (Bool.xor_right_inj.1 ((hind a0 false).trans (hind a0 true).symm))
    have e : ∀ d : Bool, fCond (fun b => xor n ((Ptr.node c u lo hi).eval b)) u d =
        fun b => xor (xor n c) ((if d then hi else lo).eval b) := by
      intro d; funext b
      simp only [fCond, eval_node_upd (hlo.not_mem_vars hu) (hhi.not_mem_vars hu)]; cases d <;> simp
    simp only [pathCount, hdep, if_false, e, wmcAux]
    rw [ih1 hus (xor n c) a, ih2 hus (xor n c) a]
    rfl

/-- **C07, arbitrary weights.**  For a reduced ordered BDD (any order, complement edges) and
arbitrary weights — no normalisation, no semiring law — the count equals the sum taken only
over the variables each sub-function actually depends on. -/
theorem wmc_reduced_ordered (S : SROps α) (w : Weights α) {order : List Nat} {p : Ptr}
    (hnd : order.Nodup) (h : Robdd order p) (a : Assign) :
    wmc S w p = pathCount S w order p.eval a := by
  rw [wmc, wmcAux_robdd S w h hnd false a]
  simp

end Bdd

/-! ## the same for an order given as a level map (`VarOrder`) -/
namespace Bdd
open Spec
variable {α : Type} {S : SROps α}

/-- ordered w.r.t. the level map, all levels in `[k, m)` -/
def Ptr.ordBetween (lvl : Nat → Nat) (k m : Nat) : Ptr → Prop
  | .tru | .fls => True
  | .node _ v lo hi => k ≤ lvl v ∧ lvl v < m ∧
      lo.ordBetween lvl (lvl v + 1) m ∧ hi.ordBetween lvl (lvl v + 1) m

/-- no node with equal children, every high edge regular and not false -/
def Ptr.reducedN : Ptr → Prop
  | .tru | .fls => True
  | .node _ _ lo hi => lo ≠ hi ∧ hi.isNeg = false ∧ hi ≠ .fls ∧ lo.reducedN ∧ hi.reducedN

theorem ordBetween_mono {lvl : Nat → Nat} {k k' m : Nat} (h : k' ≤ k) :
    ∀ {p : Ptr}, p.ordBetween lvl k m → p.ordBetween lvl k' m
  | .tru, _ => trivial
  | .fls, _ => trivial
  | .node _ _ _ _, ⟨h1, h2, h3, h4⟩ => ⟨Nat.le_trans h h1, h2, h3, h4⟩

/-- the variables at levels `k, k+1, …, k+d-1` -/
def levelVars (varAt : Nat → Nat) (k d : Nat) : List Nat := (List.range' k d).map varAt

theorem levelVars_succ (varAt : Nat → Nat) (k d : Nat) :
    levelVars varAt k (d + 1) = varAt k :: levelVars varAt (k + 1) d := by
  simp [levelVars, List.range'_succ]

theorem levelVars_nodup {lvl varAt : Nat → Nat} {m : Nat} (hinv : ∀ i, i < m → lvl (varAt i) = i) :
    ∀ (d k : Nat), k + d ≤ m → (levelVars varAt k d).Nodup
  | 0, _, _ => List.nodup_nil
  | d + 1, k, h => by
    have h' : k + 1 + d ≤ m := Nat.add_right_comm k 1 d ▸ h
    rw [levelVars_succ, List.nodup_cons]
    refine ⟨?_, levelVars_nodup hinv d (k + 1) h'⟩
    intro hmem
    obtain ⟨i, hi, hi3⟩ := List.mem_map.1 hmem
    obtain ⟨hi1, hi2⟩ := List.mem_range'_1.1 hi
    -- `varAt i = varAt k` with `k < i < m`: apply `lvl`
    have := congrArg lvl hi3
    rw [hinv i (Nat.lt_of_lt_of_le hi2 h'), hinv k (Nat.lt_of_lt_of_le (Nat.lt_add_of_pos_right d.succ_pos) h)] at this
    exact Nat.lt_irrefl k (this ▸ hi1)

theorem robdd_of_ordBetween {lvl varAt : Nat → Nat} {m : Nat} (d : Nat) : ∀ (k : Nat) (p : Ptr), k + d = m →
    p.ordBetween lvl k m → p.reducedN → (∀ v ∈ p.vars, varAt (lvl v) = v) →
    Robdd (levelVars varAt k d) p := by
  induction d with
  | zero =>
    intro k p hk ho _ _
    match p, ho with
    | .tru, _ => exact .tru _
    | .fls, _ => exact .fls _
    | .node c v lo hi, ⟨h1, h2, _, _⟩ =>
      have hk : k = m := hk
      exact absurd h2 (Nat.not_lt.2 (hk ▸ h1))
  | succ d ih =>
    intro k p hk ho hr hv
    have hk' : k + 1 + d = m := Nat.add_right_comm k 1 d ▸ hk
    match p, ho, hr, hv with
    | .tru, _, _, _ => exact .tru _
    | .fls, _, _, _ => exact .fls _
    | .node c v lo hi, ⟨h1, h2, h3, h4⟩, ⟨r1, r2, r3, r4, r5⟩, hv =>
      rw [levelVars_succ]
      by_cases hlv : lvl v = k
      · have hvk : varAt k = v := by rw [← hlv]; exact hv v List.mem_cons_self
        rw [hvk]
        rw [hlv] at h3 h4
        exact .node
          (ih (k + 1) lo hk' h3 r4 fun u hu => hv u (List.mem_cons_of_mem _ (List.mem_append_left _ hu)))
          (ih (k + 1) hi hk' h4 r5 fun u hu => hv u (List.mem_cons_of_mem _ (List.mem_append_right _ hu)))
          r1 r2 r3
      · exact .skip (ih (k + 1) (.node c v lo hi) hk'
          ⟨Nat.lt_of_le_of_ne h1 (Ne.symm hlv), h2, h3, h4⟩ ⟨r1, r2, r3, r4, r5⟩ hv)
/-- **C07, arbitrary weights, level-map form**: `lvl`/`varAt` are `VarOrder::get` /
`VarOrder::var_at_level`, `m` the number of variables of the order -/
theorem wmc_reduced_ordered_lvl (S : SROps α) (w : Weights α) {lvl varAt : Nat → Nat} {m : Nat} {p : Ptr}
    (hinv : ∀ i, i < m → lvl (varAt i) = i) (hv : ∀ v ∈ p.vars, varAt (lvl v) = v)
    (hord : p.ordBetween lvl 0 m) (hred : p.reducedN) (a : Assign) :
    wmc S w p = pathCount S w (levelVars varAt 0 m) p.eval a :=
  wmc_reduced_ordered S w (levelVars_nodup hinv m 0 (by omega))
    (robdd_of_ordBetween m 0 p (by omega) hord hred hv) a

end Bdd
