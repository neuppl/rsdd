import RsddModel.Model.Bdd
/-!
# Lemmas: canonicity of reduced ordered BDDs with complement edges

`canon` : two well formed diagrams (`WF`: ordered, `Ptr.above lvl 0`, and reduced, `Ptr.red`)
denote the same function iff they are equal.
-/
namespace Bdd
open Spec

def Ptr.size : Ptr → Nat
  | .tru | .fls => 1
  | .node _ _ lo hi => 1 + lo.size + hi.size

/-- `p` is ordered and all its variables have level `≥ k` -/
def Ptr.above (lvl : Nat → Nat) (k : Nat) : Ptr → Prop
  | .tru | .fls => True
  | .node _ v lo hi => k ≤ lvl v ∧ lo.above lvl (lvl v + 1) ∧ hi.above lvl (lvl v + 1)

/-- reduced + normalised high edge -/
def Ptr.red : Ptr → Prop
  | .tru | .fls => True
  | .node _ _ lo hi => lo ≠ hi ∧ hi.isNeg = false ∧ hi ≠ .fls ∧ lo.red ∧ hi.red

/-- well formed ROBDD: ordered, reduced, regular non-false high edges -/
def WF (lvl : Nat → Nat) (p : Ptr) : Prop := p.above lvl 0 ∧ p.red

theorem above_mono {lvl k k'} (h : k' ≤ k) : ∀ {p : Ptr}, p.above lvl k → p.above lvl k'
  | .tru, _ => trivial
  | .fls, _ => trivial
  | .node _ _ _ _, ⟨h1, h2, h3⟩ => ⟨Nat.le_trans h h1, h2, h3⟩

theorem above_zero {lvl k} {p : Ptr} (h : p.above lvl k) : p.above lvl 0 :=
  above_mono (Nat.zero_le _) h

/-- a diagram whose variables all lie strictly after `x` does not depend on `x` -/
theorem eval_upd_of_above {lvl : Nat → Nat} {x : Nat} (b : Bool) (a : Assign) :
    ∀ {p : Ptr} {k}, p.above lvl k → lvl x < k → p.eval (upd a x b) = p.eval a
  | .tru, _, _, _ => rfl
  | .fls, _, _, _ => rfl
  | .node c v lo hi, k, ⟨h1, h2, h3⟩, hx => by
    have hv : v ≠ x := by intro e; subst e; omega
    have hlo := eval_upd_of_above b a h2 (by omega : lvl x < lvl v + 1)
    have hhi := eval_upd_of_above b a h3 (by omega : lvl x < lvl v + 1)
    simp [Ptr.eval, upd, hv, hlo, hhi]

@[simp] theorem size_neg (p : Ptr) : p.neg.size = p.size := by cases p <;> simp [Ptr.neg, Ptr.size]
theorem above_neg {lvl k} {p : Ptr} (h : p.above lvl k) : p.neg.above lvl k := by
  cases p <;> simp_all [Ptr.neg, Ptr.above]
theorem red_neg {p : Ptr} (h : p.red) : p.neg.red := by
  cases p <;> simp_all [Ptr.neg, Ptr.red]
theorem above_of_neg {lvl k} {p : Ptr} (h : p.neg.above lvl k) : p.above lvl k := by
  have := above_neg h; rwa [neg_neg] at this
theorem red_of_neg {p : Ptr} (h : p.neg.red) : p.red := by
  have := red_neg h; rwa [neg_neg] at this
theorem WF_neg {lvl} {p : Ptr} (h : WF lvl p) : WF lvl p.neg := ⟨above_neg h.1, red_neg h.2⟩
theorem WF_tru (lvl) : WF lvl .tru := ⟨trivial, trivial⟩
theorem WF_fls (lvl) : WF lvl .fls := ⟨trivial, trivial⟩

theorem xor_ne_flip {c c' x y : Bool} (h : xor c x = xor c' y) (hc : c ≠ c') : x = !y := by
  cases c <;> cases c' <;> cases x <;> cases y <;> simp_all
theorem xor_cancel {c x y : Bool} (h : xor c x = xor c y) : x = y := by
  cases c <;> cases x <;> cases y <;> simp_all

theorem size_pos (p : Ptr) : 0 < p.size := by cases p <;> simp [Ptr.size] <;> omega

/-- ROBDD canonicity with complement edges, for every injective level map -/
theorem canon_aux (lvl : Nat → Nat) (inj : ∀ x y, lvl x = lvl y → x = y) :
    ∀ n (p q : Ptr) k, p.size + q.size ≤ n → p.above lvl k → q.above lvl k → p.red → q.red →
      (∀ a, p.eval a = q.eval a) → p = q := by
  intro n
  induction n with
  | zero => intro p q k hs; have := size_pos p; omega
  | succ n ih =>
    intro p q k hs hap haq hrp hrq hsem
    -- a reduced ordered node depends on its top variable
    have dep : ∀ c v lo hi j, (Ptr.node c v lo hi).size ≤ n + 1 → (Ptr.node c v lo hi).above lvl j →
        (Ptr.node c v lo hi).red →
        ∃ a, (Ptr.node c v lo hi).eval (upd a v true) ≠ (Ptr.node c v lo hi).eval (upd a v false) := by
      intro c v lo hi j hsz ha hr
      obtain ⟨_, halo, hahi⟩ := ha
      obtain ⟨hne, _, _, hrlo, hrhi⟩ := hr
      have : ¬ ∀ a, lo.eval a = hi.eval a := by
        intro hall
        exact hne (ih lo hi (lvl v + 1) (by simp [Ptr.size] at hsz; omega) halo hahi hrlo hrhi hall)
      obtain ⟨a, ha⟩ := Classical.not_forall.mp this
      refine ⟨a, ?_⟩
      have e1 := eval_upd_of_above (x := v) true a hahi (Nat.lt_succ_self _)
      have e2 := eval_upd_of_above (x := v) false a halo (Nat.lt_succ_self _)
      simp [Ptr.eval, upd, e1, e2]
      intro h; exact ha h.symm
    -- hence it differs from every diagram that does not depend on that variable
    have nodep : ∀ c v lo hi j (r : Ptr), (Ptr.node c v lo hi).size ≤ n + 1 →
        (Ptr.node c v lo hi).above lvl j → (Ptr.node c v lo hi).red →
        (∀ b a, r.eval (upd a v b) = r.eval a) →
        ¬ ∀ a, (Ptr.node c v lo hi).eval a = r.eval a := by
      intro c v lo hi j r hsz ha hr hind hall
      obtain ⟨a, h⟩ := dep c v lo hi j hsz ha hr
      exact h (by rw [hall, hall, hind, hind])
    have szp : p.size ≤ n + 1 := by have := size_pos q; omega
    have szq : q.size ≤ n + 1 := by have := size_pos p; omega
    cases p with
    | tru =>
      cases q with
      | tru => rfl
      | fls => exact nomatch hsem (fun _ => false)
      | node c v lo hi =>
        exact absurd (fun a => (hsem a).symm) (nodep c v lo hi k .tru szq haq hrq fun _ _ => rfl)
    | fls =>
      cases q with
      | fls => rfl
      | tru => exact nomatch hsem (fun _ => false)
      | node c v lo hi =>
        exact absurd (fun a => (hsem a).symm) (nodep c v lo hi k .fls szq haq hrq fun _ _ => rfl)
    | node c v lo hi =>
      cases q with
      | tru => exact absurd hsem (nodep c v lo hi k .tru szp hap hrp fun _ _ => rfl)
      | fls => exact absurd hsem (nodep c v lo hi k .fls szp hap hrp fun _ _ => rfl)
      | node c' v' lo' hi' =>
        rcases Nat.lt_trichotomy (lvl v) (lvl v') with hlt | heq | hgt
        · -- q starts below v, so it does not depend on v
          have hq : (Ptr.node c' v' lo' hi').above lvl (lvl v + 1) := ⟨hlt, haq.2.1, haq.2.2⟩
          exact absurd hsem (nodep c v lo hi k _ szp hap hrp fun b a =>
            eval_upd_of_above b a hq (Nat.lt_succ_self _))
        · have hv : v = v' := inj _ _ heq
          subst hv
          obtain ⟨_, halo, hahi⟩ := hap
          obtain ⟨_, halo', hahi'⟩ := haq
          obtain ⟨hne, hreg, hnf, hrlo, hrhi⟩ := hrp
          obtain ⟨hne', hreg', hnf', hrlo', hrhi'⟩ := hrq
          have hsz : lo.size + lo'.size ≤ n ∧ hi.size + hi'.size ≤ n := by
            simp [Ptr.size] at hs; omega
          -- cofactor equations
          have chi : ∀ a, xor c (hi.eval a) = xor c' (hi'.eval a) := by
            intro a
            have := hsem (upd a v true)
            simpa [Ptr.eval, upd, eval_upd_of_above (x := v) true a hahi (Nat.lt_succ_self _),
              eval_upd_of_above (x := v) true a hahi' (Nat.lt_succ_self _)] using this
          have clo : ∀ a, xor c (lo.eval a) = xor c' (lo'.eval a) := by
            intro a
            have := hsem (upd a v false)
            simpa [Ptr.eval, upd, eval_upd_of_above (x := v) false a halo (Nat.lt_succ_self _),
              eval_upd_of_above (x := v) false a halo' (Nat.lt_succ_self _)] using this
          by_cases hc : c = c'
          · subst hc
            have e1 : hi = hi' := ih hi hi' _ hsz.2 hahi hahi' hrhi hrhi' (by
              intro a; exact xor_cancel (chi a))
            have e2 : lo = lo' := ih lo lo' _ hsz.1 halo halo' hrlo hrlo' (by
              intro a; exact xor_cancel (clo a))
            rw [e1, e2]
          · exfalso
            have e1 : hi = hi'.neg := ih hi hi'.neg _ (by simpa using hsz.2) hahi (above_neg hahi') hrhi
              (red_neg hrhi') (by
                intro a; rw [eval_neg]; exact xor_ne_flip (chi a) hc)
            cases hi' with
            | tru => simp [Ptr.neg] at e1; exact hnf e1
            | fls => exact hnf' rfl
            | node c2 _ _ _ =>
              cases c2 with
              | true => simp [Ptr.isNeg] at hreg'
              | false => rw [e1] at hreg; simp [Ptr.neg, Ptr.isNeg] at hreg
        · have hp : (Ptr.node c v lo hi).above lvl (lvl v' + 1) := ⟨hgt, hap.2.1, hap.2.2⟩
          exact absurd (fun a => (hsem a).symm) (nodep c' v' lo' hi' k _ szq haq hrq fun b a =>
            eval_upd_of_above b a hp (Nat.lt_succ_self _))

/-- **Canonicity**: for an injective level map, two well formed diagrams denote the same
Boolean function iff they are (structurally) equal. -/
theorem canon (lvl : Nat → Nat) (inj : ∀ x y, lvl x = lvl y → x = y) {p q : Ptr}
    (hp : WF lvl p) (hq : WF lvl q) : (∀ a, p.eval a = q.eval a) ↔ p = q :=
  ⟨canon_aux lvl inj _ p q 0 (Nat.le_refl _) hp.1 hq.1 hp.2 hq.2, fun h _ => by rw [h]⟩

#print axioms canon
end Bdd
