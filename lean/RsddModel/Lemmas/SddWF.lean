import RsddModel.Lemmas.SddSem
import RsddModel.Lemmas.SddOrder
/-!
# SDD lemmas: structural well-formedness (`WFs`) (towards C04)

`WFs vt p` is the full "compressed, trimmed, normalised" predicate:
* primes non-false, pairwise exclusive and exhaustive (`Partition`), over the variables of the
  left child of the node's vtree index; subs over the variables of the right child and pairwise
  distinct; the node is not trimmable;
* plus the normal-form clauses that make *pointer identity* canonical in this implementation:
  elements strictly sorted by prime (the derived `Ord`), complement bit normalised on the first
  sub (`unique_or`) / on the high edge (`unique_bdd`), two-literal-prime decisions are binary nodes.
-/
namespace Sdd
open Spec

/-! ## variables, size -/

mutual
def Ptr.vars : Ptr → List Nat
  | .tru => []
  | .fls => []
  | .lit v _ => [v]
  | .bdd _ l _ lo hi => l :: (lo.vars ++ hi.vars)
  | .dec _ _ es => varsElems es
def varsElems : List (Ptr × Ptr) → List Nat
  | [] => []
  | (p, s) :: r => p.vars ++ (s.vars ++ varsElems r)
end

mutual
/-- induction measure of the canonicity proof.  A binary node counts 3 so that it is strictly larger
than its two elements `(lit, hi)`, `(lit, lo)` read as a decision node's list (`NodeFacts.size`). -/
def Ptr.size : Ptr → Nat
  | .tru => 1
  | .fls => 1
  | .lit _ _ => 1
  | .bdd _ _ _ lo hi => 3 + lo.size + hi.size
  | .dec _ _ es => 1 + sizeElems es
def sizeElems : List (Ptr × Ptr) → Nat
  | [] => 0
  | (p, s) :: r => p.size + s.size + sizeElems r
end

theorem vars_neg (p : Ptr) : p.neg.vars = p.vars := by cases p <;> simp [Ptr.neg, Ptr.vars]
theorem size_neg (p : Ptr) : p.neg.size = p.size := by cases p <;> simp [Ptr.neg, Ptr.size]
theorem size_pos (p : Ptr) : 0 < p.size := by cases p <;> simp [Ptr.size] <;> omega

theorem mem_varsElems {v : Nat} {es : List Elem} :
    v ∈ varsElems es ↔ ∃ e ∈ es, v ∈ e.1.vars ∨ v ∈ e.2.vars := by
  induction es with
  | nil => simp [varsElems]
  | cons e l ih =>
    obtain ⟨p, s⟩ := e
    simp only [varsElems, List.mem_append, ih, List.mem_cons, exists_eq_or_imp, or_assoc]

theorem size_le_of_mem {e : Elem} {es : List Elem} (h : e ∈ es) :
    e.1.size + e.2.size ≤ sizeElems es := by
  induction es with
  | nil => cases h
  | cons x l ih =>
    obtain ⟨p, s⟩ := x
    simp only [sizeElems]
    rcases List.mem_cons.1 h with rfl | h'
    · simp only; omega
    · have := ih h'; omega

mutual
theorem eval_congr : ∀ (p : Ptr) {a a' : Assign}, (∀ v ∈ p.vars, a v = a' v) → p.eval a = p.eval a'
  | .tru, _, _, _ => rfl
  | .fls, _, _, _ => rfl
  | .lit v pol, a, a', h => by
    have := h v (by simp [Ptr.vars]); simp [eval_lit, this]
  | .bdd c l i lo hi, a, a', h => by
    have h1 := h l (by simp [Ptr.vars])
    have h2 := eval_congr lo (a := a) (a' := a') (fun v hv => h v (by simp [Ptr.vars, hv]))
    have h3 := eval_congr hi (a := a) (a' := a') (fun v hv => h v (by simp [Ptr.vars, hv]))
    simp [eval_bdd, h1, h2, h3]
  | .dec c i es, a, a', h => by
    have := evalElems_congr es (a := a) (a' := a') (fun v hv => h v (by simpa [Ptr.vars] using hv))
    simp [eval_dec, this]
theorem evalElems_congr : ∀ (es : List (Ptr × Ptr)) {a a' : Assign},
    (∀ v ∈ varsElems es, a v = a' v) → evalElems a es = evalElems a' es
  | [], _, _, _ => rfl
  | (p, s) :: r, a, a', h => by
    have h1 := eval_congr p (a := a) (a' := a') (fun v hv => h v (by simp [varsElems, hv]))
    have h2 := eval_congr s (a := a) (a' := a') (fun v hv => h v (by simp [varsElems, hv]))
    have h3 := evalElems_congr r (a := a) (a' := a') (fun v hv => h v (by simp [varsElems, hv]))
    simp [h1, h2, h3]
end

/-! ## essential dependence -/

/-- `f` really depends on `v` -/
def EssDep (f : BoolFn) (v : Nat) : Prop := ∃ a, f (upd a v true) ≠ f (upd a v false)

/-- take the variables in `L` from `α`, the others from `β` -/
def mix (L : List Nat) (α β : Assign) : Assign := fun v => if v ∈ L then α v else β v

theorem mix_in {L α β v} (h : v ∈ L) : mix L α β v = α v := by simp [mix, h]
theorem mix_out {L α β v} (h : v ∉ L) : mix L α β v = β v := by simp [mix, h]

/-- two assignments that differ only inside `L` and are told apart by `f` witness an essential
variable of `f` in `L` -/
theorem essDep_of_diff (f : BoolFn) : ∀ (L : List Nat) (a a' : Assign),
    (∀ v, v ∉ L → a v = a' v) → f a ≠ f a' → ∃ v ∈ L, EssDep f v
  | [], a, a', hag, hne => by
    have : a = a' := funext fun v => hag v (by simp)
    exact absurd (this ▸ rfl) hne
  | x :: L, a, a', hag, hne => by
    -- move `a` to `a'` on `x` first
    let a1 : Assign := upd a x (a' x)
    by_cases h1 : f a = f a1
    · have hag' : ∀ v, v ∉ L → a1 v = a' v := by
        intro v hv
        by_cases hvx : v = x
        · subst hvx; simp [a1]
        · simp only [a1, upd, hvx, if_false]; exact hag v (by simp [hvx, hv])
      obtain ⟨v, hv, hd⟩ := essDep_of_diff f L a1 a' hag' (by rw [← h1]; exact hne)
      exact ⟨v, List.mem_cons_of_mem _ hv, hd⟩
    · refine ⟨x, List.mem_cons_self .., a, ?_⟩
      have ea : upd a x (a x) = a := upd_eq_self a x
      intro hc
      apply h1
      show f a = f (upd a x (a' x))
      cases hax : a x <;> cases hax' : a' x
      · rw [← hax, ea]
      · conv => lhs; rw [← ea, hax]
        exact hc.symm
      · conv => lhs; rw [← ea, hax]
        exact hc
      · rw [← hax, ea]

theorem essDep_vars {p : Ptr} {v : Nat} (h : EssDep (fun a => p.eval a) v) : v ∈ p.vars := by
  obtain ⟨a, ha⟩ := h
  apply Classical.byContradiction
  intro hv
  apply ha
  apply eval_congr
  intro w hw
  have : w ≠ v := fun e => hv (e ▸ hw)
  simp [upd, this]

/-! ## strictly sorted element lists -/

def StrictSorted (es : List Elem) : Prop := es.Pairwise (fun e f => Ptr.cmp e.1 f.1 = .lt)

theorem strictSorted_negSubs {es : List Elem} (h : StrictSorted es) : StrictSorted (negSubs es) := by
  unfold StrictSorted negSubs
  rw [List.pairwise_map]
  exact h

theorem strictSorted_primes {es : List Elem} (h : StrictSorted es) : (es.map (·.1)).Nodup := by
  rw [List.Nodup, List.pairwise_map]
  exact h.imp fun {e f} hlt (heq : e.1 = f.1) => Ptr.cmp_lt_irrefl f.1 (heq ▸ hlt)

theorem strictSorted_insert {x : Elem} {l : List Elem} (hl : StrictSorted l)
    (hx : ∀ e ∈ l, e.1 ≠ x.1) : StrictSorted (insertByPrime x l) := by
  induction l with
  | nil => simp [insertByPrime, StrictSorted]
  | cons y ys ih =>
    have hy := List.pairwise_cons.1 hl
    simp only [insertByPrime]
    split
    · rename_i hgt
      have hlt : Ptr.cmp y.1 x.1 = .lt := Ptr.cmp_gt_iff.1 hgt
      refine List.pairwise_cons.2 ⟨?_, ih hy.2 (fun e he => hx e (List.mem_cons_of_mem _ he))⟩
      intro e he
      rcases mem_insertByPrime.1 he with rfl | h'
      · exact hlt
      · exact hy.1 e h'
    · rename_i hngt
      have hlt : Ptr.cmp x.1 y.1 = .lt := by
        cases hc : Ptr.cmp x.1 y.1
        · rfl
        · exact absurd (Ptr.cmp_eq _ _ hc).symm (hx y (List.mem_cons_self ..))
        · exact absurd hc hngt
      refine List.pairwise_cons.2 ⟨?_, hl⟩
      intro e he
      rcases List.mem_cons.1 he with rfl | h'
      · exact hlt
      · exact Ptr.cmp_lt_trans hlt (hy.1 e h')

theorem strictSorted_sort {l : List Elem} (h : (l.map (·.1)).Nodup) :
    StrictSorted (sortByPrime l) := by
  induction l with
  | nil => simp [sortByPrime, StrictSorted]
  | cons x xs ih =>
    simp only [List.map_cons, List.nodup_cons] at h
    simp only [sortByPrime]
    refine strictSorted_insert (ih h.2) ?_
    intro e he heq
    rw [mem_sortByPrime] at he
    exact h.1 (heq ▸ List.mem_map_of_mem he)

theorem strictSorted_ext {l1 l2 : List Elem} (h1 : StrictSorted l1) (h2 : StrictSorted l2)
    (h : ∀ e, e ∈ l1 ↔ e ∈ l2) : l1 = l2 :=
  have nd : ∀ {l : List Elem}, StrictSorted l → l.Nodup := fun hl =>
    hl.imp fun {a b} hlt (e : a = b) => Ptr.cmp_lt_irrefl b.1 (e ▸ hlt)
  ((List.perm_ext_iff_of_nodup (nd h1) (nd h2)).2 h).eq_of_pairwise
    (fun _ _ _ _ hab hba => absurd hba (Ptr.cmp_lt_asymm hab)) h1 h2


/-! ## vtree: variables under a node, laminarity -/

def VTree.leftVars (t : VTree) (i : Nat) : List Nat :=
  match t.sub? 0 i with
  | some (.node l _) => l.leaves
  | _ => []
def VTree.rightVars (t : VTree) (i : Nat) : List Nat :=
  match t.sub? 0 i with
  | some (.node _ r) => r.leaves
  | _ => []
def VTree.varsAt (t : VTree) (i : Nat) : List Nat :=
  match t.sub? 0 i with
  | some s => s.leaves
  | none => []

theorem VTree.sub?_leaves {t : VTree} {off i : Nat} {s : VTree} (h : t.sub? off i = some s) :
    ∀ v ∈ s.leaves, v ∈ t.leaves := by
  induction t generalizing off with
  | leaf w =>
    simp only [VTree.sub?] at h
    split at h
    · cases h; exact fun v hv => hv
    · cases h
  | node l r ihl ihr =>
    simp only [VTree.sub?] at h
    split at h
    · intro v hv; simp only [VTree.leaves, List.mem_append]; exact Or.inl (ihl h v hv)
    · split at h
      · cases h; exact fun v hv => hv
      · intro v hv; simp only [VTree.leaves, List.mem_append]; exact Or.inr (ihr h v hv)

theorem VTree.sub?_nodup {t : VTree} {off i : Nat} {s : VTree} (hn : t.leaves.Nodup)
    (h : t.sub? off i = some s) : s.leaves.Nodup := by
  induction t generalizing off with
  | leaf w =>
    simp only [VTree.sub?] at h
    split at h
    · cases h; exact hn
    · cases h
  | node l r ihl ihr =>
    simp only [VTree.leaves, List.nodup_append] at hn
    simp only [VTree.sub?] at h
    split at h
    · exact ihl hn.1 h
    · split at h
      · cases h; simp only [VTree.leaves, List.nodup_append]; exact hn
      · exact ihr hn.2.1 h

theorem nodup_append_disj {l r : List Nat} (h : (l ++ r).Nodup) {v : Nat} (h1 : v ∈ l)
    (h2 : v ∈ r) : False := by
  rw [List.nodup_append] at h
  exact h.2.2 v h1 v h2 rfl

/-- two internal vtree nodes, each of which splits a pair of variables that lies under the other,
coincide -/
theorem VTree.laminar {t : VTree} {off i j : Nat} {li ri lj rj : VTree} (hn : t.leaves.Nodup)
    (hi : t.sub? off i = some (.node li ri)) (hj : t.sub? off j = some (.node lj rj))
    {u v u' v' : Nat} (hu : u ∈ li.leaves) (hv : v ∈ ri.leaves)
    (huj : u ∈ (VTree.node lj rj).leaves) (hvj : v ∈ (VTree.node lj rj).leaves)
    (hu' : u' ∈ lj.leaves) (hv' : v' ∈ rj.leaves)
    (hui : u' ∈ (VTree.node li ri).leaves) (hvi : v' ∈ (VTree.node li ri).leaves) : i = j := by
  induction t generalizing off with
  | leaf w =>
    simp only [VTree.sub?] at hi
    split at hi <;> cases hi
  | node l r ihl ihr =>
    have hn' := hn
    simp only [VTree.leaves, List.nodup_append] at hn
    by_cases h1 : i < off + l.size
    · rw [VTree.sub?_node_lt h1] at hi
      by_cases h2 : j < off + l.size
      · rw [VTree.sub?_node_lt h2] at hj
        exact ihl hn.1 hi hj
      · by_cases h3 : j = off + l.size
        · exfalso
          rw [h3, VTree.sub?_node_eq] at hj
          cases hj
          exact nodup_append_disj hn' (VTree.sub?_leaves hi _ hvi) hv'
        · exfalso
          rw [VTree.sub?_node_gt (by omega)] at hj
          have a1 := VTree.sub?_leaves hi u (by simp [VTree.leaves, hu])
          exact nodup_append_disj hn' a1 (VTree.sub?_leaves hj _ huj)
    · by_cases h1' : i = off + l.size
      · rw [h1', VTree.sub?_node_eq] at hi
        by_cases h2 : j < off + l.size
        · exfalso
          rw [VTree.sub?_node_lt h2] at hj
          cases hi
          exact nodup_append_disj hn' (VTree.sub?_leaves hj _ hvj) hv
        · by_cases h3 : j = off + l.size
          · omega
          · exfalso
            rw [VTree.sub?_node_gt (by omega)] at hj
            cases hi
            exact nodup_append_disj hn' hu (VTree.sub?_leaves hj _ huj)
      · rw [VTree.sub?_node_gt (by omega)] at hi
        by_cases h2 : j < off + l.size
        · exfalso
          rw [VTree.sub?_node_lt h2] at hj
          have a1 := VTree.sub?_leaves hi u (by simp [VTree.leaves, hu])
          exact nodup_append_disj hn' (VTree.sub?_leaves hj _ huj) a1
        · by_cases h3 : j = off + l.size
          · exfalso
            rw [h3, VTree.sub?_node_eq] at hj
            cases hj
            exact nodup_append_disj hn' hu' (VTree.sub?_leaves hi _ hui)
          · rw [VTree.sub?_node_gt (by omega)] at hj
            exact ihr hn.2.1 hi hj

theorem VTree.left_right_disj {t : VTree} {i v : Nat} (hn : t.leaves.Nodup)
    (h1 : v ∈ t.leftVars i) (h2 : v ∈ t.rightVars i) : False := by
  simp only [VTree.leftVars, VTree.rightVars] at h1 h2
  cases h : t.sub? 0 i with
  | none => simp [h] at h1
  | some s =>
    cases s with
    | leaf w => simp [h] at h1
    | node l r =>
      simp only [h] at h1 h2
      have := VTree.sub?_nodup hn h
      exact nodup_append_disj (by simpa [VTree.leaves] using this) h1 h2

theorem VTree.varIndex?_isSome {t : VTree} {off v : Nat} :
    (t.varIndex? off v).isSome = true ↔ v ∈ t.leaves := by
  induction t generalizing off with
  | leaf w =>
    simp only [VTree.varIndex?, VTree.leaves, List.mem_singleton]
    by_cases h : w = v
    · simp [h]
    · simp [h]; exact fun e => h e.symm
  | node l r ihl ihr =>
    simp only [VTree.varIndex?, VTree.leaves, List.mem_append, ← ihl (off := off),
      ← ihr (off := off + l.size + 1)]
    cases h : l.varIndex? off v <;> simp

theorem hasVar_iff {t : VTree} {v : Nat} : t.hasVar v = true ↔ v ∈ t.leaves :=
  VTree.varIndex?_isSome

theorem leftLeaf_leftVars {vt : VTree} {i w : Nat} (h : vt.leftLeaf? i = some w) :
    vt.leftVars i = [w] := by
  obtain ⟨r, hr⟩ := leftLeaf_sub h
  simp [VTree.leftVars, hr, VTree.leaves]

theorem leftVars_leaves {vt : VTree} {i l : Nat} (hl : l ∈ vt.leftVars i) : l ∈ vt.leaves := by
  simp only [VTree.leftVars] at hl
  cases hs : vt.sub? 0 i with
  | none => simp [hs] at hl
  | some s =>
    cases s with
    | leaf w => simp [hs] at hl
    | node l' r' =>
      simp only [hs] at hl
      exact VTree.sub?_leaves hs l (by simp [VTree.leaves, hl])

/-- where the operands of `and` sit relative to their least common ancestor -/
theorem VTree.lca_sides {t : VTree} {off i j : Nat} {si sj : VTree}
    (hi : t.sub? off i = some si) (hj : t.sub? off j = some sj) (hij : i < j) :
    ∃ l r, t.sub? off (t.lca off i j) = some (.node l r) ∧
      (i < t.lca off i j → ∀ v ∈ si.leaves, v ∈ l.leaves) ∧
      (t.lca off i j < j → ∀ v ∈ sj.leaves, v ∈ r.leaves) ∧
      i ≤ t.lca off i j ∧ t.lca off i j ≤ j := by
  induction t generalizing off with
  | leaf w =>
    have := VTree.sub?_range hi; have := VTree.sub?_range hj
    simp only [VTree.size] at *; omega
  | node l r ihl ihr =>
    simp only [VTree.lca]
    split
    · rename_i hc
      rw [VTree.sub?_node_lt hc.1] at hi; rw [VTree.sub?_node_lt hc.2] at hj
      obtain ⟨l', r', h1, h2⟩ := ihl hi hj
      exact ⟨l', r', by rw [VTree.sub?_node_lt (VTree.lca_range l off i j).2]; exact h1, h2⟩
    · split
      · rename_i hc
        rw [VTree.sub?_node_gt hc.1] at hi; rw [VTree.sub?_node_gt hc.2] at hj
        obtain ⟨l', r', h1, h2⟩ := ihr hi hj
        refine ⟨l', r', ?_, h2⟩
        rw [VTree.sub?_node_gt (by have := (VTree.lca_range r (off + l.size + 1) i j).1; omega)]
        exact h1
      · rename_i hc1 hc2
        refine ⟨l, r, VTree.sub?_node_eq l r off, ?_, ?_, by omega, by omega⟩
        · intro h; rw [VTree.sub?_node_lt h] at hi; exact VTree.sub?_leaves hi
        · intro h; rw [VTree.sub?_node_gt h] at hj; exact VTree.sub?_leaves hj

/-! ## the structural predicate -/

/-- `unique_or` / `unique_bdd` keep the complement off these -/
def Ptr.regular (s : Ptr) : Bool := !(s.isNeg || s.isFalse || s.isNegVar)

mutual
/-- compressed, trimmed, normalised, in pointer normal form -/
def WFs (vt : VTree) : Ptr → Prop
  | .tru => True
  | .fls => True
  | .lit v _ => v ∈ vt.leaves
  | .bdd _ l i lo hi =>
    Internal vt i ∧ l ∈ vt.leftVars i ∧ WFs vt lo ∧ WFs vt hi ∧
    (∀ v ∈ lo.vars, v ∈ vt.rightVars i) ∧ (∀ v ∈ hi.vars, v ∈ vt.rightVars i) ∧
    lo ≠ hi ∧ ¬(hi = .tru ∧ lo = .fls) ∧ ¬(hi = .fls ∧ lo = .tru) ∧ hi.regular = true
  | .dec _ i es =>
    Internal vt i ∧ Partition es ∧ WFsElems vt i es ∧ (es.map (·.2)).Nodup ∧ StrictSorted es ∧
    2 ≤ es.length ∧ asBdd? es = none ∧
    (∀ p q, es ≠ [(p, .tru), (q, .fls)] ∧ es ≠ [(p, .fls), (q, .tru)]) ∧
    (∀ e, es.head? = some e → e.2.regular = true)
def WFsElems (vt : VTree) (i : Nat) : List (Ptr × Ptr) → Prop
  | [] => True
  | (p, s) :: r =>
    (WFs vt p ∧ WFs vt s ∧ p ≠ .fls ∧ (∀ v ∈ p.vars, v ∈ vt.leftVars i) ∧
      (∀ v ∈ s.vars, v ∈ vt.rightVars i)) ∧ WFsElems vt i r
end

/-- per-element reading -/
def ElemOKs (vt : VTree) (i : Nat) (e : Elem) : Prop :=
  WFs vt e.1 ∧ WFs vt e.2 ∧ e.1 ≠ .fls ∧ (∀ v ∈ e.1.vars, v ∈ vt.leftVars i) ∧
    (∀ v ∈ e.2.vars, v ∈ vt.rightVars i)

theorem wfsElems_iff {vt : VTree} {i : Nat} {es : List Elem} :
    WFsElems vt i es ↔ ∀ e ∈ es, ElemOKs vt i e := by
  induction es with
  | nil => simp [WFsElems]
  | cons e l ih =>
    obtain ⟨p, s⟩ := e
    simp only [WFsElems, ih, List.mem_cons, forall_eq_or_imp, ElemOKs]

theorem WFs_tru (vt) : WFs vt .tru := by simp [WFs]
theorem WFs_fls (vt) : WFs vt .fls := by simp [WFs]

theorem WFs_neg {vt} {p : Ptr} (h : WFs vt p) : WFs vt p.neg := by
  cases p <;> first | exact h | (simp only [Ptr.neg, WFs] at h ⊢; exact h)

theorem regular_neg {s : Ptr} (h : s.regular = true) : s.neg.regular = false := by
  cases s with
  | tru => simp [Ptr.neg, Ptr.regular, Ptr.isFalse]
  | fls => simp [Ptr.regular, Ptr.isFalse] at h
  | lit v p => cases p <;> simp_all [Ptr.neg, Ptr.regular, Ptr.isNegVar, Ptr.isNeg, Ptr.isFalse]
  | bdd c l i lo hi => cases c <;> simp_all [Ptr.neg, Ptr.regular, Ptr.isNegVar, Ptr.isNeg, Ptr.isFalse]
  | dec c i es => cases c <;> simp_all [Ptr.neg, Ptr.regular, Ptr.isNegVar, Ptr.isNeg, Ptr.isFalse]

theorem neg_inj {p q : Ptr} (h : p.neg = q.neg) : p = q := by
  have := congrArg Ptr.neg h; simpa using this

end Sdd
