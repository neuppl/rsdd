import RsddModel.Model.Optim
import RsddModel.Spec.Optim
import RsddModel.Lemmas.Wmc
import RsddModel.Lemmas.Semirings
/-!
# Lemmas: marginal MAP, MEU and the generic branch and bound (C12)

1. partial models (`PM.get_set`, …) and the product of the assigned literal weights;
2. the generic relaxed fold `relax` (all three evaluators are instances), `relax_step`:
   assigning a join variable can only lower the bound, hence `ub_sound`;
3. `relax_sum_wsum` / `relax_sum_pathCount`: with every join variable assigned the fold is the
   weighted sum (normalised weights, free diagram) resp. the path count (reduced ordered diagram,
   non-normalised variables below every assigned one) of the restricted function;
4. `search_opt`: the one induction on the query list behind both searches, over any search whose
   list case runs two iterations each doing one of the three things `Iter` lists (prune, descend,
   descend and fall back); `bnb_opt` (`marginal_map_h`, `meu_h`, strict improvement) and `bbH_opt`
   (`bb_h`) are instances by case analysis.
-/
namespace Optim
open Bdd Spec Sem

variable {α : Type}

/-! ## partial models -/

@[simp] theorem PM.length_set (m : PM) (x : Nat) (b : Bool) : (m.set x b).vals.length = m.vals.length := by
  simp [PM.set]

theorem PM.get_set (m : PM) (x y : Nat) (b : Bool) (hx : x < m.vals.length) :
    (m.set x b).get y = if y = x then some b else m.get y :=
  (getD_set m.vals x y (some b) none).trans (ite_iff ⟨And.left, fun h => ⟨h, hx⟩⟩ _ _)

theorem PM.get_set_same (m : PM) (x : Nat) (b : Bool) (hx : x < m.vals.length) :
    (m.set x b).get x = some b := (PM.get_set m x x b hx).trans (if_pos rfl)

theorem PM.get_set_other (m : PM) {x y : Nat} (b : Bool) (h : y ≠ x) : (m.set x b).get y = m.get y :=
  (getD_set m.vals x y (some b) none).trans (if_neg fun h' => h h'.1)

theorem PM.get_some_lt {m : PM} {x : Nat} {b : Bool} (h : m.get x = some b) : x < m.vals.length :=
  Nat.lt_of_not_le fun hle => by rw [PM.get, getD_of_le _ _ _ hle] at h; cases h

theorem PM.ext_get {m m' : PM} (hl : m.vals.length = m'.vals.length) (h : ∀ x, m.get x = m'.get x) :
    m = m' := by
  cases m; cases m'
  exact congrArg PM.mk (list_ext_getD none hl fun k _ => h k)

theorem PM.set_eq_self {m : PM} {x : Nat} {b : Bool} (h : m.get x = some b) : m.set x b = m :=
  PM.ext_get (PM.length_set m x b) fun y => by
    rw [PM.get_set m x y b (PM.get_some_lt h)]
    split
    · rename_i e; rw [e, h]
    · rfl

theorem PM.get_new (n x : Nat) : (PM.new n).get x = none := getD_replicate n x none

@[simp] theorem PM.length_new (n : Nat) : (PM.new n).vals.length = n := by simp [PM.new]

/-- the query assignment a partial model encodes (unset reads as `false`) -/
def PM.toAssign (m : PM) : Assign := fun x => m.get x == some true

/-- `complete m Q q`: set the variables of `Q`, left to right, to their value in `q` -/
def complete (m : PM) : List Nat → Assign → PM
  | [], _ => m
  | x :: Q, q => complete (m.set x (q x)) Q q

/-- `q` agrees with what `m` already assigns among `Q` -/
def Consistent (m : PM) (Q : List Nat) (q : Assign) : Prop :=
  ∀ x ∈ Q, ∀ b, m.get x = some b → q x = b

/-- `m'` extends `m` by assigning exactly the variables of `Q` (re-assigning those already set) -/
def Completes (m : PM) (Q : List Nat) (m' : PM) : Prop :=
  m'.vals.length = m.vals.length ∧ ∀ y, (y ∈ Q → m'.get y ≠ none) ∧ (y ∉ Q → m'.get y = m.get y)

@[simp] theorem length_complete (q : Assign) : ∀ (Q : List Nat) (m : PM),
    (complete m Q q).vals.length = m.vals.length
  | [], _ => rfl
  | x :: Q, m => by rw [complete, length_complete q Q, PM.length_set]

theorem Consistent.step {m : PM} {x : Nat} {Q : List Nat} {q : Assign} (h : Consistent m (x :: Q) q)
    (hx : x < m.vals.length) : Consistent (m.set x (q x)) Q q := by
  intro y hy b hb
  by_cases hyx : y = x
  · subst hyx; rw [PM.get_set_same m y _ hx] at hb; exact Option.some.inj hb
  · rw [PM.get_set_other m _ hyx] at hb
    exact h y (List.mem_cons_of_mem _ hy) b hb

theorem Completes.refl (m : PM) : Completes m [] m :=
  ⟨rfl, fun _ => ⟨fun h => by simp at h, fun _ => rfl⟩⟩

theorem Completes.step {m m' : PM} {x : Nat} {b : Bool} {Q : List Nat} (hx : x < m.vals.length)
    (h : Completes (m.set x b) Q m') : Completes m (x :: Q) m' := by
  refine ⟨by rw [h.1, PM.length_set], fun y => ⟨?_, ?_⟩⟩
  · intro hy
    by_cases hyQ : y ∈ Q
    · exact (h.2 y).1 hyQ
    · have hyx : y = x := by
        rcases List.mem_cons.mp hy with e | e
        · exact e
        · exact absurd e hyQ
      rw [(h.2 y).2 hyQ, hyx, PM.get_set_same m x b hx]; simp
  · intro hy
    simp only [List.mem_cons, not_or] at hy
    rw [(h.2 y).2 hy.2, PM.get_set_other m b hy.1]

theorem get_complete (q : Assign) : ∀ (Q : List Nat) (m : PM), (∀ x ∈ Q, x < m.vals.length) →
    ∀ y, (complete m Q q).get y = if y ∈ Q then some (q y) else m.get y
  | [], m, _, y => by simp [complete]
  | x :: Q, m, hQ, y => by
    have hx := hQ x List.mem_cons_self
    rw [complete, get_complete q Q (m.set x (q x))
      (fun z hz => by rw [PM.length_set]; exact hQ z (List.mem_cons_of_mem _ hz))]
    by_cases hyQ : y ∈ Q
    · simp [hyQ]
    · by_cases hyx : y = x
      · subst hyx; simp [hyQ, PM.get_set_same m y _ hx]
      · simp [hyQ, hyx, PM.get_set_other m _ hyx]

theorem completes_complete (q : Assign) (Q : List Nat) (m : PM) (hQ : ∀ x ∈ Q, x < m.vals.length) :
    Completes m Q (complete m Q q) := by
  refine ⟨length_complete q Q m, fun y => ⟨fun hy => ?_, fun hy => ?_⟩⟩
  · rw [get_complete q Q m hQ, if_pos hy]; simp
  · rw [get_complete q Q m hQ, if_neg hy]

theorem completes_eq {m m' : PM} {Q : List Nat} (hQ : ∀ x ∈ Q, x < m.vals.length)
    (h : Completes m Q m') : m' = complete m Q m'.toAssign := by
  apply PM.ext_get
  · rw [length_complete, h.1]
  · intro y
    rw [get_complete _ Q _ hQ]
    by_cases hy : y ∈ Q
    · have := (h.2 y).1 hy
      simp only [hy, if_true, PM.toAssign]
      cases hg : m'.get y with
      | none => exact absurd hg this
      | some b => cases b <;> simp
    · rw [if_neg hy]; exact (h.2 y).2 hy

theorem consistent_new (n : Nat) (Q : List Nat) (q : Assign) : Consistent (PM.new n) Q q := by
  intro x _ b hb; rw [PM.get_new] at hb; cases hb

theorem fromLitvec_nil (n : Nat) : PM.fromLitvec [] n = PM.new n := rfl

theorem fromLitvec_map_true (n : Nat) (Q : List Nat) :
    PM.fromLitvec (Q.map fun x => (x, true)) n = complete (PM.new n) Q (fun _ => true) := by
  unfold PM.fromLitvec
  generalize PM.new n = m
  induction Q generalizing m with
  | nil => rfl
  | cons x Q ih => simp only [List.map_cons, List.foldl_cons, complete]; exact ih _

/-! ## the product of the assigned literal weights -/

/-- `for lit in assignment_iter() { v = v * weight(lit) }` -/
def litFold (S : SROps α) (w : Weights α) (v : α) (lits : List (Nat × Bool)) : α :=
  lits.foldl (fun v lit => if lit.2 then S.mul v (w lit.1).2 else S.mul v (w lit.1).1) v

/-- the order-free reading of `litFold` (`litFold_eq`) -/
def litProdL (S : SROps α) (w : Weights α) : List (Nat × Bool) → α
  | [] => S.one
  | l :: ls => S.mul (wsel w l.1 l.2) (litProdL S w ls)

/-- the first factor of `bb_ub` (`bbUb_eq`) -/
def litProd (S : SROps α) (w : Weights α) (m : PM) : α := litProdL S w m.assignmentIter

variable {S : SROps α}

theorem litFold_eq (hS : S.Laws) (w : Weights α) : ∀ (lits : List (Nat × Bool)) (v : α),
    litFold S w v lits = S.mul v (litProdL S w lits)
  | [], v => by simp [litFold, litProdL, hS.mul_one]
  | l :: ls, v => by
    have ih := litFold_eq hS w ls
    simp only [litFold, List.foldl_cons, litProdL] at ih ⊢
    cases hl : l.2 <;> simp only [Bool.false_eq_true, if_false, if_true, ih, wsel, hS.mul_assoc]

theorem litProdL_append (hS : S.Laws) (w : Weights α) : ∀ (l l' : List (Nat × Bool)),
    litProdL S w (l ++ l') = S.mul (litProdL S w l) (litProdL S w l')
  | [], l' => by simp [litProdL, Bdd.sr_one_mul hS]
  | x :: l, l' => by simp only [List.cons_append, litProdL, litProdL_append hS w l l', hS.mul_assoc]

/-- setting an unset entry inserts one literal of that polarity -/
theorem litsOf_set (hS : S.Laws) (w : Weights α) (pol b : Bool) : ∀ (vals : List (Option Bool)) (i x : Nat),
    x < vals.length → vals.getD x none = none →
    litProdL S w (litsOf pol i (vals.set x (some b))) =
      if b = pol then S.mul (wsel w (i + x) pol) (litProdL S w (litsOf pol i vals))
      else litProdL S w (litsOf pol i vals)
  | [], _, _, hx, _ => by simp at hx
  | o :: rest, i, 0, _, h0 => by
    simp only [List.getD_cons_zero] at h0
    subst h0
    simp only [List.set_cons_zero, litsOf, Nat.add_zero]
    by_cases hb : b = pol
    · subst hb; simp [litProdL]
    · have : ¬ (some b = some pol) := fun e => hb (Option.some.inj e)
      simp [hb]
  | o :: rest, i, x + 1, hx, h0 => by
    simp only [List.getD_cons_succ] at h0
    simp only [List.length_cons, Nat.add_lt_add_iff_right] at hx
    have ih := litsOf_set hS w pol b rest (i + 1) x hx h0
    have e : i + 1 + x = i + (x + 1) := by omega
    simp only [List.set_cons_succ, litsOf]
    by_cases ho : o = some pol
    · simp only [ho, if_true, litProdL, ih, e]
      by_cases hb : b = pol
      · rw [if_pos hb, if_pos hb]; exact Bdd.sr_mul_left_comm hS _ _ _
      · rw [if_neg hb, if_neg hb]
    · simp only [ho, if_false, ih, e]

theorem litProd_set (hS : S.Laws) (w : Weights α) (m : PM) (x : Nat) (b : Bool)
    (hx : x < m.vals.length) (hm : m.get x = none) :
    litProd S w (m.set x b) = S.mul (wsel w x b) (litProd S w m) := by
  simp only [litProd, PM.assignmentIter, PM.set, litProdL_append hS]
  rw [litsOf_set hS w false b m.vals 0 x hx hm, litsOf_set hS w true b m.vals 0 x hx hm]
  cases b
  · simp [hS.mul_assoc]
  · simp [Bdd.sr_mul_left_comm hS]

/-- the literal weights of a completion: each distinct variable of `Q` once -/
theorem litProd_complete (hS : S.Laws) (w : Weights α) (q : Assign) : ∀ (Q seen : List Nat) (m : PM),
    (∀ x ∈ Q, x < m.vals.length) → (∀ x, x ∈ seen ↔ m.get x ≠ none) →
    (∀ x b, m.get x = some b → q x = b) →
    litProd S w (complete m Q q) = S.mul (litProd S w m) (qWeight S w q Q seen)
  | [], _, m, _, _, _ => by simp [complete, qWeight, hS.mul_one]
  | x :: Q, seen, m, hQ, hseen, hq => by
    have hx := hQ x List.mem_cons_self
    have hQ' : ∀ z ∈ Q, z < m.vals.length := fun z hz => hQ z (List.mem_cons_of_mem _ hz)
    cases hg : m.get x with
    | some b =>
      have hc : seen.contains x = true := by simpa using (hseen x).mpr (by simp [hg])
      rw [complete, hq x b hg, PM.set_eq_self hg, qWeight, if_pos hc]
      exact litProd_complete hS w q Q seen m hQ' hseen hq
    | none =>
      have hc : ¬ seen.contains x = true := by simpa using fun h => (hseen x).mp h hg
      rw [complete, qWeight, if_neg hc,
        litProd_complete hS w q Q (x :: seen) (m.set x (q x))
          (fun z hz => by rw [PM.length_set]; exact hQ' z hz) ?_ ?_,
        litProd_set hS w m x (q x) hx hg]
      · rw [hS.mul_comm (wsel w x (q x)), hS.mul_assoc]
      · intro z
        by_cases hzx : z = x
        · subst hzx; simp [PM.get_set_same m z _ hx]
        · rw [PM.get_set_other m _ hzx, List.mem_cons, ← hseen z]; simp [hzx]
      · intro z b hz
        by_cases hzx : z = x
        · subst hzx; rw [PM.get_set_same m z _ hx] at hz; exact Option.some.inj hz
        · rw [PM.get_set_other m _ hzx] at hz; exact hq z b hz

/-! ## the generic relaxed fold -/

/-- the closure passed to `bdd_fold` by `bb_ub` (and, for `RealSemiring`, by
`marginal_map_eval`) -/
def nodeFn (B : BBOps α) (w : Weights α) (m : PM) (bits : List Nat) (x : Nat) (low high : α) : α :=
  match m.get x with
  | none =>
    if bits.contains x then B.join (B.mul (w x).1 low) (B.mul (w x).2 high)
    else B.add (B.mul (w x).1 low) (B.mul (w x).2 high)
  | some true => high
  | some false => low

/-- the fold of `bb_ub` without the literal weights: join at the unassigned variables of `bits`,
sum at the other unassigned ones, pass through at assigned ones -/
def relax (B : BBOps α) (w : Weights α) (m : PM) (bits : List Nat) (p : Ptr) (n : Bool) : α :=
  bddFold (nodeFn B w m bits) B.zero B.one p n

theorem bddFold_congr {T : Type} {f g : Nat → T → T → T} (l h : T) : ∀ (p : Ptr) (n : Bool),
    (∀ v ∈ p.vars, ∀ a b, f v a b = g v a b) → bddFold f l h p n = bddFold g l h p n
  | .tru, _, _ => rfl
  | .fls, _, _ => rfl
  | .node c v lo hi, n, hfg => by
    simp only [bddFold]
    rw [bddFold_congr l h lo _ (fun u hu => hfg u (List.mem_cons_of_mem _ (List.mem_append_left _ hu))),
        bddFold_congr l h hi _ (fun u hu => hfg u (List.mem_cons_of_mem _ (List.mem_append_right _ hu))),
        hfg v List.mem_cons_self]

theorem contains_cons_ne (bits : List Nat) {x v : Nat} (h : v ≠ x) :
    (x :: bits).contains v = bits.contains v := by simp [h]

theorem nodeFn_set_other (B : BBOps α) (w : Weights α) (m : PM) (bits : List Nat) {x v : Nat} (b : Bool)
    (h : v ≠ x) (lo hi : α) :
    nodeFn B w (m.set x b) bits v lo hi = nodeFn B w m (x :: bits) v lo hi := by
  simp only [nodeFn, PM.get_set_other m b h, contains_cons_ne bits h]

/-- bit sets are irrelevant at assigned variables -/
theorem relax_cons_assigned (B : BBOps α) (w : Weights α) (m : PM) (bits : List Nat) {x : Nat} {b : Bool}
    (h : m.get x = some b) (p : Ptr) (n : Bool) : relax B w m (x :: bits) p n = relax B w m bits p n := by
  apply bddFold_congr
  intro v _ lo hi
  by_cases hv : v = x
  · subst hv; cases b <;> simp only [nodeFn, h]
  · simp only [nodeFn, contains_cons_ne bits hv]

/-! ## order laws, and the step of the bounding argument -/

/-- What the bounding argument needs of a `BBSemiring`: a commutative semiring, a preorder `R`
("is bounded by") that `+`, `*` by a non-negative element and `join` respect, and `join` an
upper bound. -/
structure BBLaws (B : BBOps α) (R : α → α → Prop) : Prop where
  sr : B.toSROps.Laws
  refl : ∀ a, R a a
  trans : ∀ {a b c}, R a b → R b c → R a c
  zero_le_one : R B.zero B.one
  add_mono : ∀ {a b c d}, R a b → R c d → R (B.add a c) (B.add b d)
  mul_mono : ∀ {c a b}, R B.zero c → R a b → R (B.mul c a) (B.mul c b)
  join_left : ∀ a b, R a (B.join a b)
  join_right : ∀ a b, R b (B.join a b)
  join_mono : ∀ {a b c d}, R a b → R c d → R (B.join a c) (B.join b d)

/-- a weight that may sit on a join variable: at most one, and multiplying by it commutes with
`join` up to `R` (every non-negative real; the unit of the expected-utility semiring) -/
structure JoinWeight (B : BBOps α) (R : α → α → Prop) (k : α) : Prop where
  nonneg : R B.zero k
  le_one : R k B.one
  distrib : ∀ a c, R (B.mul k (B.join a c)) (B.join (B.mul k a) (B.mul k c))

variable {B : BBOps α} {R : α → α → Prop}

theorem litProdL_nonneg (L : BBLaws B R) (w : Weights α)
    (hw : ∀ v, R B.zero (w v).1 ∧ R B.zero (w v).2) : ∀ (l : List (Nat × Bool)),
    R B.zero (litProdL B.toSROps w l)
  | [] => L.zero_le_one
  | x :: l => by
    have hx : R B.zero (wsel w x.1 x.2) := by
      simp only [wsel]; split
      · exact (hw _).2
      · exact (hw _).1
    have := L.mul_mono hx (litProdL_nonneg L w hw l)
    rwa [L.sr.mul_zero] at this

theorem JoinWeight.mul_one_le {k : α} (hk : JoinWeight B R k) (L : BBLaws B R) :
    R (B.mul k B.one) B.one := by
  rw [L.sr.mul_one]; exact hk.le_one

theorem JoinWeight.mul_zero_le {k : α} (_ : JoinWeight B R k) (L : BBLaws B R) :
    R (B.mul k B.zero) B.zero := by
  rw [L.sr.mul_zero]; exact L.refl _

/-- **assigning a join variable lowers the bound**: `k · relax(m[x:=b], bits) ≼ relax(m, x::bits)`
with `k` the weight of the chosen literal -/
theorem relax_step (L : BBLaws B R) (w : Weights α) (hw : ∀ v, R B.zero (w v).1 ∧ R B.zero (w v).2)
    (m : PM) (x : Nat) (b : Bool) (bits : List Nat) (hx : x < m.vals.length) (hmx : m.get x = none)
    (hk : JoinWeight B R (wsel w x b)) : ∀ (p : Ptr) (n : Bool), p.free →
    R (B.mul (wsel w x b) (relax B w (m.set x b) bits p n)) (relax B w m (x :: bits) p n)
  | .tru, n, _ => by
    cases n
    · exact hk.mul_one_le L
    · exact hk.mul_zero_le L
  | .fls, n, _ => by
    cases n
    · exact hk.mul_zero_le L
    · exact hk.mul_one_le L
  | .node c v lo hi, n, hf => by
    obtain ⟨hvlo, hvhi, hflo, hfhi⟩ := hf
    have ihlo := relax_step L w hw m x b bits hx hmx hk lo (xor n c) hflo
    have ihhi := relax_step L w hw m x b bits hx hmx hk hi (xor n c) hfhi
    simp only [relax, bddFold] at ihlo ihhi ⊢
    by_cases hvx : v = x
    · subst hvx
      -- below a node on `x` the two folds agree
      have below : ∀ ch : Ptr, v ∉ ch.vars →
          bddFold (nodeFn B w (m.set v b) bits) B.zero B.one ch (xor n c) =
            bddFold (nodeFn B w m (v :: bits)) B.zero B.one ch (xor n c) := fun ch hch =>
        bddFold_congr _ _ ch _ (fun u hu lo' hi' =>
          nodeFn_set_other B w m bits b (fun e : u = v => hch (e ▸ hu)) lo' hi')
      have hc : (v :: bits).contains v = true := by simp
      rw [nodeFn, PM.get_set_same m v b hx, nodeFn, hmx]
      simp only [hc, if_true]
      cases b
      · simp only [wsel, Bool.false_eq_true, if_false, below lo hvlo]; exact L.join_left _ _
      · simp only [wsel, if_true, below hi hvhi]; exact L.join_right _ _
    · rw [nodeFn_set_other B w m bits b hvx]
      generalize bddFold (nodeFn B w (m.set x b) bits) B.zero B.one lo (xor n c) = l' at ihlo ⊢
      generalize bddFold (nodeFn B w (m.set x b) bits) B.zero B.one hi (xor n c) = h' at ihhi ⊢
      generalize bddFold (nodeFn B w m (x :: bits)) B.zero B.one lo (xor n c) = l at ihlo ⊢
      generalize bddFold (nodeFn B w m (x :: bits)) B.zero B.one hi (xor n c) = h at ihhi ⊢
      simp only [nodeFn]
      cases hg : m.get v with
      | some bv => cases bv <;> simpa using (by assumption)
      | none =>
        simp only
        have e1 := Bdd.sr_mul_left_comm L.sr (wsel w x b) (w v).1 l'
        have e2 := Bdd.sr_mul_left_comm L.sr (wsel w x b) (w v).2 h'
        have m1 := L.mul_mono (hw v).1 ihlo
        have m2 := L.mul_mono (hw v).2 ihhi
        by_cases hc : (x :: bits).contains v = true
        · rw [if_pos hc, if_pos hc]
          refine L.trans (hk.distrib _ _) ?_
          rw [e1, e2]; exact L.join_mono m1 m2
        · rw [if_neg hc, if_neg hc, L.sr.left_distrib, e1, e2]; exact L.add_mono m1 m2

/-! ## upper bounds -/

theorem bbUb_eq (hS : B.toSROps.Laws) (p : Ptr) (m : PM) (bits : List Nat) (w : Weights α) :
    bbUb B p m bits w = B.mul (litProd B.toSROps w m) (relax B w m bits p false) := by
  show B.mul (litFold B.toSROps w B.one m.assignmentIter) (relax B w m bits p false) = _
  rw [litFold_eq hS, litProd]
  show B.mul (B.mul B.one _) _ = _
  rw [Bdd.sr_one_mul hS]

/-- one branching step, fresh variable: the child's bound is below the parent's -/
theorem ub_step_none (L : BBLaws B R) (w : Weights α) (hw : ∀ v, R B.zero (w v).1 ∧ R B.zero (w v).2)
    (p : Ptr) (hp : p.free) (m : PM) (x : Nat) (b : Bool) (bits : List Nat) (hx : x < m.vals.length)
    (hmx : m.get x = none) (hk : JoinWeight B R (wsel w x b)) :
    R (bbUb B p (m.set x b) bits w) (bbUb B p m (x :: bits) w) := by
  rw [bbUb_eq L.sr, bbUb_eq L.sr, litProd_set L.sr w m x b hx hmx]
  have e : B.mul (B.mul (wsel w x b) (litProd B.toSROps w m)) (relax B w (m.set x b) bits p false) =
      B.mul (litProd B.toSROps w m) (B.mul (wsel w x b) (relax B w (m.set x b) bits p false)) := by
    rw [L.sr.mul_comm (wsel w x b), L.sr.mul_assoc]
  rw [e]
  exact L.mul_mono (litProdL_nonneg L w hw _) (relax_step L w hw m x b bits hx hmx hk p false hp)

/-- one branching step, variable already assigned to that value (a repeated query variable) -/
theorem ub_step_some (p : Ptr) (w : Weights α) (m : PM) (x : Nat) (b : Bool) (bits : List Nat)
    (hmx : m.get x = some b) : bbUb B p (m.set x b) bits w = bbUb B p m (x :: bits) w := by
  rw [PM.set_eq_self hmx]
  show B.mul _ (relax B w m bits p false) = B.mul _ (relax B w m (x :: bits) p false)
  rw [relax_cons_assigned B w m bits hmx]

/-- **`ub_sound`**: the relaxed bound dominates the value of every completion that is consistent
with what is already assigned -/
theorem ub_sound (L : BBLaws B R) (w : Weights α) (hw : ∀ v, R B.zero (w v).1 ∧ R B.zero (w v).2)
    (p : Ptr) (hp : p.free) (q : Assign) : ∀ (Q : List Nat) (m : PM), (∀ x ∈ Q, x < m.vals.length) →
    (∀ x ∈ Q, ∀ b, JoinWeight B R (wsel w x b)) → Consistent m Q q →
    R (bbUb B p (complete m Q q) [] w) (bbUb B p m Q w)
  | [], m, _, _, _ => L.refl _
  | x :: Q, m, hQ, hk, hc => by
    have hx := hQ x List.mem_cons_self
    have ih := ub_sound L w hw p hp q Q (m.set x (q x))
      (fun z hz => by rw [PM.length_set]; exact hQ z (List.mem_cons_of_mem _ hz))
      (fun z hz => hk z (List.mem_cons_of_mem _ hz)) (hc.step hx)
    rw [complete]
    refine L.trans ih ?_
    cases hg : m.get x with
    | none => exact ub_step_none L w hw p hp m x (q x) Q hx hg (hk x List.mem_cons_self _)
    | some b =>
      have hqx : q x = b := hc x List.mem_cons_self b hg
      rw [hqx, ub_step_some p w m x b Q hg]; exact L.refl _

/-! ## complete assignments: the fold is the weighted sum of the restricted function -/

/-- among the assignments that give `v` the value `d`, a node on `v` is its `d`-child -/
theorem wsum_node_child (S : SROps α) (w : Weights α) (others : List Nat) (n cf : Bool) (v : Nat)
    (lo hi : Ptr) (a : Assign) (d : Bool) (hd : ∀ b : Assign, (∀ x, x ∉ others → b x = a x) → b v = d) :
    wsum S others w (fun b => xor (xor n cf) ((if d then hi else lo).eval b)) a =
      wsum S others w (fun b => xor n ((Ptr.node cf v lo hi).eval b)) a := by
  apply wsum_congr'
  intro b hb
  have := hd b hb
  cases d <;> simp [Ptr.eval, this]

theorem relax_sum_wsum (hS : B.toSROps.Laws) (w : Weights α) (c : PM) {others : List Nat}
    (hun : ∀ v ∈ others, c.get v = none) (hw : Normalised B.toSROps w others) :
    ∀ (p : Ptr) (n : Bool) (a : Assign), p.free → (∀ v ∈ p.vars, c.get v = none → v ∈ others) →
    (∀ x b, c.get x = some b → a x = b) →
    relax B w c [] p n = wsum B.toSROps others w (fun b => xor n (p.eval b)) a
  | .tru, n, a, _, _, _ | .fls, n, a, _, _, _ => by
    simp only [Ptr.eval, wsum_const hS w _ others a hw, relax, bddFold]; cases n <;> rfl
  | .node cf v lo hi, n, a, ⟨hvlo, hvhi, hflo, hfhi⟩, hsub, hag => by
    have ihlo := relax_sum_wsum hS w c hun hw lo (xor n cf) a hflo
      (fun u hu => hsub u (List.mem_cons_of_mem _ (List.mem_append_left _ hu))) hag
    have ihhi := relax_sum_wsum hS w c hun hw hi (xor n cf) a hfhi
      (fun u hu => hsub u (List.mem_cons_of_mem _ (List.mem_append_right _ hu))) hag
    simp only [relax] at ihlo ihhi
    simp only [relax, bddFold]
    cases hg : c.get v with
    | some bv =>
      -- an assigned variable is not summed over: every summand sees `a v = bv`
      have hvo : v ∉ others := fun h => by rw [hun v h] at hg; cases hg
      rw [← wsum_node_child _ w others n cf v lo hi a bv (fun b hb => by rw [hb v hvo, hag v bv hg])]
      cases bv
      · simpa only [nodeFn, hg, Bool.false_eq_true, if_false] using ihlo
      · simpa only [nodeFn, hg, if_true] using ihhi
    | none =>
      have hc : ([] : List Nat).contains v = false := by simp
      simp only [nodeFn, hg, hc, Bool.false_eq_true, if_false, ihlo, ihhi]
      refine (wsum_decision hS w (fun a b => ?_) (fun a b => ?_) (fun b => ?_) others a hw
        (hsub v List.mem_cons_self hg)).symm
      · simp only [eval_upd_of_not_mem a v b lo hvlo]
      · simp only [eval_upd_of_not_mem a v b hi hvhi]
      · simp only [Ptr.eval]; cases b v <;> simp

/-! ## complete assignments: the fold is the path count of the restricted function -/

/-- the assignment `a` overridden by what the partial model assigns -/
def overridePM (c : PM) (a : Assign) : Assign := fun x =>
  match c.get x with
  | some b => b
  | none => a x

theorem overridePM_assigned {c : PM} {x : Nat} {b : Bool} (h : c.get x = some b) (a : Assign) :
    overridePM c a x = b := by simp [overridePM, h]

theorem overridePM_upd_assigned {c : PM} {x : Nat} {b : Bool} (h : c.get x = some b) (a : Assign) (d : Bool) :
    overridePM c (upd a x d) = overridePM c a := by
  funext y
  simp only [overridePM]
  by_cases hy : y = x
  · subst hy; simp [h]
  · rw [upd_other _ _ hy]

theorem overridePM_upd_none {c : PM} {x : Nat} (h : c.get x = none) (a : Assign) (d : Bool) :
    overridePM c (upd a x d) = upd (overridePM c a) x d := by
  funext y
  by_cases hy : y = x
  · subst hy; simp [overridePM, h]
  · rw [upd_other _ _ hy]; simp only [overridePM, upd_other _ _ hy]

/-- along the order: every variable is assigned, or normalised, or has no assigned variable at
or below it ("utility-bearing variables are ordered after all decision variables") -/
def OrderOK (S : SROps α) (w : Weights α) (c : PM) : List Nat → Prop
  | [] => True
  | v :: vs => (c.get v ≠ none ∨ S.add (w v).1 (w v).2 = S.one ∨ ∀ u ∈ v :: vs, c.get u = none) ∧
      OrderOK S w c vs

/-- **the pass-through fold is the path count of the restricted function** (reduced ordered
diagram, arbitrary weights except that a non-normalised variable has no assigned variable
below it) -/
theorem relax_sum_pathCount (hS : B.toSROps.Laws) (w : Weights α) (c : PM) {l : List Nat} {p : Ptr}
    (h : Robdd l p) : l.Nodup → OrderOK B.toSROps w c l → ∀ (n : Bool) (a : Assign),
    relax B w c [] p n =
      pathCount B.toSROps w l (fun b => xor n (p.eval (overridePM c b))) a := by
  induction h with
  | tru l => intro _ _ n a; simp only [Ptr.eval, pathCount_const, relax, bddFold]; cases n <;> rfl
  | fls l => intro _ _ n a; simp only [Ptr.eval, pathCount_const, relax, bddFold]; cases n <;> rfl
  | @skip u us p hp ih =>
    intro hnd hok n a
    have hu := (List.nodup_cons.mp hnd).1
    have hup : u ∉ p.vars := fun h => hu (hp.vars_sub _ h)
    have hind : Indep (fun b => xor n (p.eval (overridePM c b))) u := by
      intro a b
      cases hg : c.get u with
      | some bu => simp only [overridePM_upd_assigned hg]
      | none => simp only [overridePM_upd_none hg, eval_upd_of_not_mem _ u b p hup]
    simp only [pathCount, hind, if_true]
    exact ih (List.nodup_cons.mp hnd).2 hok.2 n a
  | @node u us cf lo hi hlo hhi hne hreg hnf ih1 ih2 =>
    intro hnd hok n a
    have hu := (List.nodup_cons.mp hnd).1
    have hus := (List.nodup_cons.mp hnd).2
    have nlo : u ∉ lo.vars := fun h => hu (hlo.vars_sub u h)
    have nhi : u ∉ hi.vars := fun h => hu (hhi.vars_sub u h)
    have ihlo := ih1 hus hok.2 (xor n cf) a
    have ihhi := ih2 hus hok.2 (xor n cf) a
    simp only [relax] at ihlo ihhi
    simp only [relax, bddFold]
    generalize hF : (fun b => xor n ((Ptr.node cf u lo hi).eval (overridePM c b))) = F
    cases hg : c.get u with
    | some bu =>
      have hind : Indep F u := by
        subst hF; intro a b; simp only [overridePM_upd_assigned hg]
      have hfun : F = fun b => xor (xor n cf) ((if bu then hi else lo).eval (overridePM c b)) := by
        subst hF; funext b
        simp only [Ptr.eval, overridePM_assigned hg]
        cases bu <;> simp
      have hpc : pathCount B.toSROps w (u :: us) F a = pathCount B.toSROps w us F a := by
        simp only [pathCount, hind, if_true]
      rw [hpc, hfun]
      cases bu
      · simpa [nodeFn, hg] using ihlo
      · simpa [nodeFn, hg] using ihhi
    | none =>
      have hc : ([] : List Nat).contains u = false := by simp
      have e0 : fCond F u false = fun b => xor (xor n cf) (lo.eval (overridePM c b)) := by
        subst hF; funext b; simp only [fCond, overridePM_upd_none hg, eval_node_upd nlo nhi]; simp
      have e1 : fCond F u true = fun b => xor (xor n cf) (hi.eval (overridePM c b)) := by
        subst hF; funext b; simp only [fCond, overridePM_upd_none hg, eval_node_upd nlo nhi]; simp
      simp only [nodeFn, hg, hc, Bool.false_eq_true, if_false, ihlo, ihhi]
      by_cases hind : Indep F u
      · -- the restricted function ignores `u`: both branches are the same count
        have g0 : (fun b => xor (xor n cf) (lo.eval (overridePM c b))) = F := by
          rw [← e0]; funext b; exact hind b false
        have g1 : (fun b => xor (xor n cf) (hi.eval (overridePM c b))) = F := by
          rw [← e1]; funext b; exact hind b true
        simp only [pathCount, hind, if_true, g0, g1]
        rw [← Bdd.sr_right_distrib hS]
        rcases hok.1 with h1 | h1 | h1
        · exact absurd hg h1
        · rw [h1, Bdd.sr_one_mul hS]
        · -- nothing is assigned from here on: the function is the diagram's, which depends on `u`
          exfalso
          subst hF
          obtain ⟨a0, ha0⟩ := robdd_node_dep (c := cf) hnd hlo hhi hne
          apply ha0
          have hsub := (Robdd.node hlo hhi hne hreg hnf : Robdd (u :: us) (.node cf u lo hi)).vars_sub
          have hov : ∀ a : Assign, (Ptr.node cf u lo hi).eval (overridePM c a) = (Ptr.node cf u lo hi).eval a := by
            intro a
            apply eval_congr_vars
            intro v hv
            simp [overridePM, h1 v (hsub v hv)]
          have h0 := hind a0 false
          have h1' := hind a0 true
          simp only [hov] at h0 h1'
          have := h0.trans h1'.symm
          revert this
          cases (Ptr.node cf u lo hi).eval (upd a0 u false) <;>
            cases (Ptr.node cf u lo hi).eval (upd a0 u true) <;> cases n <;> simp
      · simp only [pathCount, hind, if_false, e0, e1]

/-! ## the strict-improvement search (`marginal_map_h`, `meu_h`) -/

/-- `marginal_map_h` / `meu_h` with the evaluator `ev` and the compared component `key` abstract -/
def bnbH {β : Type} (key : β → Rat) (ev : PM → List Nat → β) : β → PM → List Nat → PM → β × PM
  | curLb, curBest, [], asg =>
    let pb := ev asg []
    if key pb > key curLb then (pb, asg) else (curLb, curBest)
  | curLb, curBest, x :: rest, asg =>
    let tm := asg.set x true
    let fm := asg.set x false
    let tub := ev tm rest
    let fub := ev fm rest
    let o := if key tub > key fub then (tub, tm, fub, fm) else (fub, fm, tub, tm)
    let s1 := if key o.1 > key curLb then bnbH key ev curLb curBest rest o.2.1 else (curLb, curBest)
    if key o.2.2.1 > key s1.1 then bnbH key ev s1.1 s1.2 rest o.2.2.2 else s1

theorem marginalMapH_eq (p : Ptr) (w : Weights Rat) : ∀ (Q : List Nat) (lb : Rat) (best asg : PM),
    marginalMapH p w lb best Q asg = bnbH id (fun m bits => marginalMapEval p m bits w) lb best Q asg
  | [], _, _, _ => rfl
  | x :: Q, lb, best, asg => by
    simp only [marginalMapH, bnbH, marginalMapH_eq p w Q, id]

theorem meuH_eq (p : Ptr) (w : Weights EU) : ∀ (Q : List Nat) (lb : EU) (best asg : PM),
    meuH p w lb best Q asg = bnbH EU.u (fun m bits => euUb p m bits w) lb best Q asg
  | [], _, _, _ => rfl
  | x :: Q, lb, best, asg => by
    simp only [meuH, bnbH, meuH_eq p w Q]

/-- what the search returns from `(lb, best)` on the query list `Q` below the assignment `asg` -/
structure BnbRes {β : Type} (key : β → Rat) (ev : PM → List Nat → β) (lb : β) (best : PM)
    (Q : List Nat) (asg : PM) (r : β × PM) : Prop where
  /-- never below the incoming bound -/
  ge_lb : key lb ≤ key r.1
  /-- dominates every completion consistent with `asg` -/
  ub : ∀ q, Consistent asg Q q → key (ev (complete asg Q q) []) ≤ key r.1
  /-- unchanged, or a strict improvement attained by the returned completion -/
  att : r = (lb, best) ∨ (key lb < key r.1 ∧ Completes asg Q r.2 ∧ r.1 = ev r.2 [])

section search
variable {β : Type}

/-- `T` "is no better than" (a preorder), `Lt` "is strictly improved by" (`True` where the search
makes no such promise) -/
structure SOrd (T Lt : β → β → Prop) : Prop where
  refl : ∀ a, T a a
  trans : ∀ {a b c}, T a b → T b c → T a c
  lt_trans : ∀ {a b c}, T a b → Lt b c → Lt a c

/-- what a search returns from `(lb, best)` on the query list `Q` below `asg` -/
structure SRes (T Lt : β → β → Prop) (ev : PM → List Nat → β) (lb : β) (best : PM)
    (Q : List Nat) (asg : PM) (r : β × PM) : Prop where
  ge_lb : T lb r.1
  ub : ∀ q, Consistent asg Q q → T (ev (complete asg Q q) []) r.1
  att : r = (lb, best) ∨ (Lt lb r.1 ∧ Completes asg Q r.2 ∧ r.1 = ev r.2 [])

/-- what one iteration of the loop over the two branches may do with its state `st` on the branch `m`
(`lb`, `best`: the arguments of the enclosing call; `h`: the search itself) -/
inductive Iter (T : β → β → Prop) (ev : PM → List Nat → β) (h : β → PM → List Nat → PM → β × PM)
    (lb : β) (best : PM) (rest : List Nat) (st : β × PM) (m : PM) : β × PM → Prop
  /-- prune: no completion of the branch beats the state (given that the state is no worse than `lb`) -/
  | skip : (T lb st.1 → ∀ q, Consistent m rest q → T (ev (complete m rest q) []) st.1) →
      Iter T ev h lb best rest st m st
  /-- descend from the state and keep what comes back -/
  | go : Iter T ev h lb best rest st m (h st.1 st.2 rest m)
  /-- descend, find the result no better than `lb`, and fall back to the incoming pair -/
  | back : T (h st.1 st.2 rest m).1 lb → Iter T ev h lb best rest st m (lb, best)

variable {T Lt : β → β → Prop} {ev : PM → List Nat → β} {h : β → PM → List Nat → PM → β × PM}
  {Inv : PM → Prop}

/-- the loop invariant of the two iterations and what an iteration adds to it -/
theorem Iter.ok (O : SOrd T Lt) {rest : List Nat} {x : Nat} {asg : PM} (hx : x < asg.vals.length)
    {lb : β} {best : PM} {st st' : β × PM} {b : Bool}
    (ih : SRes T Lt ev st.1 st.2 rest (asg.set x b) (h st.1 st.2 rest (asg.set x b)))
    (h1 : T lb st.1)
    (h2 : st = (lb, best) ∨ (Lt lb st.1 ∧ Completes asg (x :: rest) st.2 ∧ st.1 = ev st.2 []))
    (it : Iter T ev h lb best rest st (asg.set x b) st') :
    T lb st'.1 ∧
    (st' = (lb, best) ∨ (Lt lb st'.1 ∧ Completes asg (x :: rest) st'.2 ∧ st'.1 = ev st'.2 [])) ∧
    T st.1 st'.1 ∧ ∀ q, Consistent (asg.set x b) rest q → T (ev (complete (asg.set x b) rest q) []) st'.1 := by
  cases it with
  | skip hs => exact ⟨h1, h2, O.refl _, hs h1⟩
  | go =>
    refine ⟨O.trans h1 ih.ge_lb, ?_, ih.ge_lb, ih.ub⟩
    rcases ih.att with e | ⟨hlt, hc, hv⟩
    · rw [show h st.1 st.2 rest (asg.set x b) = st from e]; exact h2
    · exact Or.inr ⟨O.lt_trans h1 hlt, hc.step hx, hv⟩
  | back hb =>
    exact ⟨O.refl _, Or.inl rfl, O.trans ih.ge_lb hb, fun q hq => O.trans (ih.ub q hq) hb⟩

/-- **`search_opt`**, the induction on the query list shared by `marginal_map_h`/`meu_h` (`bnb_opt`) and
`bb_h` (`bbH_opt`): a search whose leaf case is right and whose list case runs two iterations,
one per value of `x` in either order, returns the better of the incoming bound and the best
completion, attained when it differs from the incoming pair -/
theorem search_opt (O : SOrd T Lt) {P : Nat → Prop} (hPN : ∀ m x, Inv m → P x → x < m.vals.length)
    (hInv : ∀ m x b, Inv m → P x → Inv (m.set x b))
    (leaf : ∀ lb best asg, SRes T Lt ev lb best [] asg (h lb best [] asg))
    (node : ∀ lb best x rest asg, Inv asg → P x → (∀ z ∈ rest, P z) → ∃ b1 s1,
      Iter T ev h lb best rest (lb, best) (asg.set x b1) s1 ∧
      Iter T ev h lb best rest s1 (asg.set x (!b1)) (h lb best (x :: rest) asg)) :
    ∀ (Q : List Nat), (∀ x ∈ Q, P x) → ∀ (lb : β) (best asg : PM), Inv asg →
    SRes T Lt ev lb best Q asg (h lb best Q asg)
  | [], _, lb, best, asg, _ => leaf lb best asg
  | x :: rest, hQ, lb, best, asg, hasg => by
    have hrest : ∀ z ∈ rest, P z := fun z hz => hQ z (List.mem_cons_of_mem _ hz)
    have hPx := hQ x List.mem_cons_self
    have hx := hPN asg x hasg hPx
    have ih := fun lb best b => search_opt O hPN hInv leaf node rest hrest lb best _ (hInv asg x b hasg hPx)
    obtain ⟨b1, s1, i1, i2⟩ := node lb best x rest asg hasg hPx hrest
    obtain ⟨a1, a2, _, a4⟩ := i1.ok (st := (lb, best)) O hx (ih lb best b1) (O.refl _) (Or.inl rfl)
    obtain ⟨c1, c2, c3, c4⟩ := i2.ok O hx (ih s1.1 s1.2 (!b1)) a1 a2
    refine ⟨c1, fun q hq => ?_, c2⟩
    rw [complete]
    have hq' := hq.step hx
    by_cases e : q x = b1
    · rw [e] at hq' ⊢; exact O.trans (a4 q hq') c3
    · rw [show q x = !b1 by cases b1 <;> simpa using e] at hq' ⊢; exact c4 q hq'

/-- at the top: the search started from the all-true completion of the empty model dominates every
completion and is attained by a model assigning exactly `Q` -/
theorem SRes.top {n : Nat} {Q : List Nat} (hQ : ∀ x ∈ Q, x < n) {r : β × PM}
    (H : SRes T Lt ev (ev (complete (PM.new n) Q (fun _ => true)) [])
      (complete (PM.new n) Q (fun _ => true)) Q (PM.new n) r) :
    (∀ q, T (ev (complete (PM.new n) Q q) []) r.1) ∧ Completes (PM.new n) Q r.2 ∧ r.1 = ev r.2 [] := by
  refine ⟨fun q => H.ub q (consistent_new n Q q), ?_⟩
  rcases H.att with e | ⟨_, h⟩
  · rw [e]; exact ⟨completes_complete _ Q _ (by simpa using hQ), rfl⟩
  · exact h

end search

section bnb
variable {β : Type} {key : β → Rat} {ev : PM → List Nat → β} {Inv : PM → Prop}

theorem keyOrd (key : β → Rat) : SOrd (fun a b => key a ≤ key b) (fun a b => key a < key b) :=
  ⟨fun _ => Rat.le_refl, Rat.le_trans, Std.lt_of_le_of_lt⟩

theorem BnbRes.sres {lb : β} {best : PM} {Q : List Nat} {asg : PM} {r : β × PM}
    (H : BnbRes key ev lb best Q asg r) :
    SRes (fun a b => key a ≤ key b) (fun a b => key a < key b) ev lb best Q asg r := ⟨H.ge_lb, H.ub, H.att⟩

/-- an iteration of `bnbH` prunes by the bound or descends -/
theorem bnb_iter {rest : List Nat} {mb : PM}
    (hub : ∀ q, Consistent mb rest q → key (ev (complete mb rest q) []) ≤ key (ev mb rest))
    (lb : β) (best : PM) (s : β × PM) :
    Iter (fun a b => key a ≤ key b) ev (bnbH key ev) lb best rest s mb
      (if key (ev mb rest) > key s.1 then bnbH key ev s.1 s.2 rest mb else s) := by
  by_cases hprune : key (ev mb rest) > key s.1
  · rw [if_pos hprune]; exact .go
  · rw [if_neg hprune]; exact .skip fun _ q hq => Rat.le_trans (hub q hq) (Rat.not_lt.1 hprune)

/-- **`bnb_opt`**: the search returns the larger of the incoming bound and the best value of a
completion (over all completions consistent with the current assignment), with a model attaining it
when it improves on the bound and the incoming model otherwise.  An instance of `search_opt`:
an iteration of `bnbH` only prunes or descends (`bnb_iter`). -/
theorem bnb_opt {P : Nat → Prop} (hPN : ∀ m x, Inv m → P x → x < m.vals.length)
    (hInv : ∀ m x b, Inv m → P x → Inv (m.set x b))
    (hub : ∀ bits m q, Inv m → (∀ x ∈ bits, P x) → Consistent m bits q →
      key (ev (complete m bits q) []) ≤ key (ev m bits)) :
    ∀ (Q : List Nat), (∀ x ∈ Q, P x) → ∀ (lb : β) (best asg : PM), Inv asg →
    BnbRes key ev lb best Q asg (bnbH key ev lb best Q asg) := by
  intro Q hQ lb best asg hasg
  have H := search_opt (keyOrd key) (h := bnbH key ev) hPN hInv
    (fun lb best asg => by
      rw [bnbH]
      by_cases h : key (ev asg []) > key lb
      · rw [if_pos h]
        exact ⟨Rat.le_of_lt h, fun q _ => Rat.le_refl, Or.inr ⟨h, Completes.refl asg, rfl⟩⟩
      · rw [if_neg h]
        exact ⟨Rat.le_refl, fun q _ => Rat.not_lt.1 h, Or.inl rfl⟩)
    (fun lb best x rest asg hasg hPx hrest => by
      have it := fun b => bnb_iter (fun q hq => hub rest _ q (hInv asg x b hasg hPx) hrest hq) lb best
      rw [bnbH]
      by_cases h : key (ev (asg.set x true) rest) > key (ev (asg.set x false) rest)
      · rw [if_pos h]; exact ⟨true, _, it true _, it false _⟩
      · rw [if_neg h]; exact ⟨false, _, it false _, it true _⟩)
    Q hQ lb best asg hasg
  exact ⟨H.ge_lb, H.ub, H.att⟩

end bnb

/-! ## the real instance and marginal MAP -/

theorem realBBLaws : BBLaws realBB (fun a b : Rat => a ≤ b) where
  sr := realLaws
  refl _ := Rat.le_refl
  trans h1 h2 := Rat.le_trans h1 h2
  zero_le_one := by decide
  add_mono h1 h2 := Rat.le_trans (Rat.add_le_add_right.2 h1) (Rat.add_le_add_left.2 h2)
  mul_mono hc h := Rat.mul_le_mul_of_nonneg_left h hc
  join_left := realJoin_left
  join_right := realJoin_right
  join_mono h1 h2 :=
    realJoin_le (Rat.le_trans h1 (realJoin_left _ _)) (Rat.le_trans h2 (realJoin_right _ _))

theorem realJoinWeight {k : Rat} (h0 : 0 ≤ k) (h1 : k ≤ 1) : JoinWeight realBB (fun a b : Rat => a ≤ b) k where
  nonneg := h0
  le_one := h1
  distrib a c := by
    -- `max a c` is `a` or `c`, and `k` times it is below the larger of `k * a`, `k * c`
    show k * max a c ≤ realJoin (k * a) (k * c)
    rw [Rat.max_def]; split
    · exact realJoin_right _ _
    · exact realJoin_left _ _

/-- `marginal_map_eval` is `bb_ub` at `RealSemiring` (the weights are multiplied on the other
side, which is immaterial in a commutative semiring) -/
theorem marginalMapEval_eq (p : Ptr) (m : PM) (bits : List Nat) (w : Weights Rat) :
    marginalMapEval p m bits w = bbUb realBB p m bits w := by
  have h : marginalMapEval p m bits w =
      litFold realOps w (relax realBB w m bits p false) m.assignmentIter := rfl
  rw [h, litFold_eq realLaws, bbUb_eq realLaws]
  exact realLaws.mul_comm _ _

theorem litsOf_replicate_none (pol : Bool) : ∀ (n i : Nat), litsOf pol i (List.replicate n none) = []
  | 0, _ => rfl
  | n + 1, i => by
    simp only [List.replicate_succ, litsOf]
    rw [if_neg (by simp), litsOf_replicate_none pol n]

theorem litProd_new (S : SROps α) (w : Weights α) (n : Nat) : litProd S w (PM.new n) = S.one := by
  simp [litProd, PM.assignmentIter, PM.new, litsOf_replicate_none, litProdL]

theorem PM.toAssign_agrees (c : PM) : ∀ x b, c.get x = some b → c.toAssign x = b := by
  intro x b h; simp only [PM.toAssign, h]; cases b <;> simp

theorem completes_new_get {n : Nat} {Q : List Nat} {c : PM} (h : Completes (PM.new n) Q c) (x : Nat) :
    c.get x ≠ none ↔ x ∈ Q := by
  constructor
  · intro hne
    apply Classical.byContradiction
    intro hx
    exact hne (by rw [(h.2 x).2 hx, PM.get_new])
  · exact (h.2 x).1

theorem litProd_completes (hS : S.Laws) (w : Weights α) {n : Nat} {Q : List Nat} (hQ : ∀ x ∈ Q, x < n)
    {c : PM} (hc : Completes (PM.new n) Q c) : litProd S w c = qWeight S w c.toAssign Q [] := by
  have hQ' : ∀ x ∈ Q, x < (PM.new n).vals.length := by simpa using hQ
  conv => lhs; rw [completes_eq hQ' hc]
  rw [litProd_complete hS w c.toAssign Q [] (PM.new n) hQ' (fun x => by simp [PM.get_new])
    (fun x b hx => by rw [PM.get_new] at hx; cases hx), litProd_new, Bdd.sr_one_mul hS]

/-- complete evaluation, generic (`C12.eval_complete` is the real instance): with every query
variable assigned, `bb_ub` is the product of
the assigned literal weights times the weighted sum, over the non-query variables, of the
function at that query assignment — free diagram, normalised non-query weights. -/
theorem bbUb_complete (hS : B.toSROps.Laws) (w : Weights α) {p : Ptr} (hp : p.free) {n : Nat}
    {Q others : List Nat} (hQ : ∀ x ∈ Q, x < n)
    (hcov : ∀ v ∈ p.vars, v ∉ Q → v ∈ others) (hdis : ∀ v ∈ others, v ∉ Q)
    (hw : Normalised B.toSROps w others) {c : PM} (hc : Completes (PM.new n) Q c) :
    bbUb B p c [] w = B.mul (qWeight B.toSROps w c.toAssign Q [])
      (wsum B.toSROps others w p.eval c.toAssign) := by
  have hget := completes_new_get hc
  have hnone : ∀ v, v ∉ Q → c.get v = none := fun v hv => by rw [(hc.2 v).2 hv, PM.get_new]
  rw [bbUb_eq hS,
    relax_sum_wsum hS w c (fun v hv => hnone v (hdis v hv)) hw p false c.toAssign hp
      (fun v hv hcv => hcov v hv (fun hvQ => (hget v).mpr hvQ hcv)) c.toAssign_agrees]
  rw [litProd_completes hS w hQ hc]
  congr 1
  apply wsum_congr; intro b; simp

/-! ### lists -/

theorem allAssignments_ne_nil : ∀ (Q : List Nat) (base : Assign), allAssignments Q base ≠ []
  | [], _ => by simp [allAssignments]
  | v :: Q, base => by
    simp only [allAssignments, ne_eq, List.append_eq_nil_iff, not_and]
    intro h; exact absurd h (allAssignments_ne_nil Q _)

theorem maxOfList_le : ∀ (l : List Rat) (v : Rat), l ≠ [] → (∀ y ∈ l, y ≤ v) → maxOfList l ≤ v
  | [], _, h, _ => absurd rfl h
  | [x], _, _, hle => hle x List.mem_cons_self
  | x :: y :: l, v, _, hle =>
    realJoin_le (hle x List.mem_cons_self)
      (maxOfList_le (y :: l) v (List.cons_ne_nil _ _) (fun z hz => hle z (List.mem_cons_of_mem _ hz)))

theorem le_maxOfList : ∀ (l : List Rat) (v : Rat), v ∈ l → v ≤ maxOfList l
  | [], _, h => absurd h List.not_mem_nil
  | [x], v, h => by rw [List.mem_singleton.1 h]; exact Rat.le_refl
  | x :: y :: l, v, h => by
    rcases List.mem_cons.mp h with e | e
    · rw [e]; exact realJoin_left _ _
    · exact Rat.le_trans (le_maxOfList (y :: l) v e) (realJoin_right _ _)

/-! ### marginal MAP -/

/-- the weight domain of marginal MAP (weaker than "every weight in `[0,1]`, `low + high = 1` on
every non-query variable"): all weights non-negative, query weights at most one, the non-query
variables of `vars` normalised -/
structure MapWeights (w : Weights Rat) (Q vars : List Nat) : Prop where
  nonneg : ∀ v, 0 ≤ (w v).1 ∧ 0 ≤ (w v).2
  query_le_one : ∀ x ∈ Q, (w x).1 ≤ 1 ∧ (w x).2 ≤ 1
  normalised : ∀ v ∈ vars, v ∉ Q → (w v).1 + (w v).2 = 1

theorem MapWeights.joinWeight {w : Weights Rat} {Q vars : List Nat} (h : MapWeights w Q vars) :
    ∀ x ∈ Q, ∀ b, JoinWeight realBB (fun a b : Rat => a ≤ b) (wsel w x b) := by
  intro x hx b
  cases b
  · exact realJoinWeight (h.nonneg x).1 (h.query_le_one x hx).1
  · exact realJoinWeight (h.nonneg x).2 (h.query_le_one x hx).2

theorem mem_nonQuery {vars Q : List Nat} {v : Nat} : v ∈ nonQuery vars Q ↔ v ∈ vars ∧ v ∉ Q := by
  simp [nonQuery]

/-- **`ub_sound`** for marginal MAP: the relaxed fold bounds the value of every consistent
completion (free diagram; non-negative weights, query weights at most one) -/
theorem map_ub_sound {w : Weights Rat} {Q vars : List Nat} (hw : MapWeights w Q vars) {p : Ptr}
    (hp : p.free) (bits : List Nat) (hbits : ∀ x ∈ bits, x ∈ Q) (m : PM) (hm : ∀ x ∈ bits, x < m.vals.length)
    (q : Assign) (hq : Consistent m bits q) :
    marginalMapEval p (complete m bits q) [] w ≤ marginalMapEval p m bits w := by
  rw [marginalMapEval_eq, marginalMapEval_eq]
  exact ub_sound realBBLaws w hw.nonneg p hp q bits m hm
    (fun x hx b => hw.joinWeight x (hbits x hx) b) hq

/-- what `C12.eval_complete` states -/
theorem map_eval_complete {w : Weights Rat} {Q vars : List Nat} (hw : MapWeights w Q vars) {p : Ptr}
    (hp : p.free) (hcov : ∀ v ∈ p.vars, v ∈ vars) {n : Nat} (hQ : ∀ x ∈ Q, x < n)
    {c : PM} (hc : Completes (PM.new n) Q c) :
    marginalMapEval p c [] w = mapValue p.eval Q (nonQuery vars Q) w c.toAssign := by
  rw [marginalMapEval_eq]
  exact bbUb_complete (B := realBB) realLaws w hp hQ
    (fun v hv hvQ => mem_nonQuery.mpr ⟨hcov v hv, hvQ⟩) (fun v hv => (mem_nonQuery.mp hv).2)
    (fun v hv => hw.normalised v (mem_nonQuery.mp hv).1 (mem_nonQuery.mp hv).2) hc

theorem marginalMapH_opt {w : Weights Rat} {Q vars : List Nat} (hw : MapWeights w Q vars) {p : Ptr}
    (hp : p.free) {n : Nat} (hQ : ∀ x ∈ Q, x < n) (lb : Rat) (best asg : PM) (hasg : asg.vals.length = n) :
    BnbRes id (fun m bits => marginalMapEval p m bits w) lb best Q asg (marginalMapH p w lb best Q asg) := by
  rw [marginalMapH_eq]
  refine bnb_opt (Inv := fun m => m.vals.length = n) (P := fun x => x < n ∧ x ∈ Q)
    (fun m x hm h => by rw [hm]; exact h.1) (fun m x b hm _ => by rw [PM.length_set]; exact hm) ?_ Q
    (fun x hx => ⟨hQ x hx, hx⟩) lb best asg hasg
  intro bits m q hm hbits hq
  exact map_ub_sound hw hp bits (fun x hx => (hbits x hx).2) m
    (fun x hx => by rw [hm]; exact (hbits x hx).1) q hq

theorem toAssign_complete_new {n : Nat} {Q : List Nat} (hQ : ∀ x ∈ Q, x < n) {q : Assign}
    (hq : q ∈ queryAssignments Q) : (complete (PM.new n) Q q).toAssign = q := by
  funext x
  have hQ' : ∀ x ∈ Q, x < (PM.new n).vals.length := by simpa using hQ
  simp only [PM.toAssign, get_complete q Q _ hQ']
  by_cases hx : x ∈ Q
  · simp only [hx, if_true]; cases q x <;> simp
  · rw [if_neg hx, PM.get_new, allAssignments_outside Q _ q hq x hx]; simp

theorem toAssign_mem_queryAssignments {n : Nat} {Q : List Nat} {c : PM} (hc : Completes (PM.new n) Q c) :
    c.toAssign ∈ queryAssignments Q := by
  apply mem_allAssignments
  intro x hx
  simp [PM.toAssign, (hc.2 x).2 hx, PM.get_new]

/-! ### from a search result to the optimum -/

/-- from a search result to the optimum: a pair that is attained by a model assigning exactly `Q`
and dominates every completion has the maximal value, where complete models evaluate to `val` of
the query assignment they encode -/
theorem opt_of_search {β : Type} {key : β → Rat} {ev : PM → β} {val : Assign → β} {n : Nat}
    {Q : List Nat} (hQ : ∀ x ∈ Q, x < n) {r : β × PM} (hc : Completes (PM.new n) Q r.2)
    (hv : r.1 = ev r.2) (hub : ∀ q, key (ev (complete (PM.new n) Q q)) ≤ key r.1)
    (hval : ∀ {c}, Completes (PM.new n) Q c → ev c = val c.toAssign) :
    key r.1 = maxOfList ((queryAssignments Q).map fun q => key (val q)) ∧
    Completes (PM.new n) Q r.2 ∧ r.2.toAssign ∈ queryAssignments Q ∧ val r.2.toAssign = r.1 := by
  have hQ' : ∀ x ∈ Q, x < (PM.new n).vals.length := by simpa using hQ
  have hr : val r.2.toAssign = r.1 := by rw [hv, hval hc]
  have hmem : key r.1 ∈ (queryAssignments Q).map fun q => key (val q) :=
    List.mem_map.mpr ⟨_, toAssign_mem_queryAssignments hc, congrArg key hr⟩
  refine ⟨Rat.le_antisymm (le_maxOfList _ _ hmem) (maxOfList_le _ _ (List.ne_nil_of_mem hmem) ?_),
    hc, toAssign_mem_queryAssignments hc, hr⟩
  intro y hy
  obtain ⟨q, hq, rfl⟩ := List.mem_map.mp hy
  have h1 := hub q
  rwa [hval (completes_complete q Q _ hQ'), toAssign_complete_new hQ hq] at h1

theorem marginalMap_opt {w : Weights Rat} {Q vars : List Nat} (hw : MapWeights w Q vars) {p : Ptr}
    (hp : p.free) (hnd : vars.Nodup) (hcov : ∀ v ∈ p.vars, v ∈ vars) {n : Nat} (hQ : ∀ x ∈ Q, x < n) :
    (marginalMap p Q n w).1 = mapSpec p.eval Q vars w ∧
    Completes (PM.new n) Q (marginalMap p Q n w).2 ∧
    (marginalMap p Q n w).2.toAssign ∈ queryAssignments Q ∧
    mapValue p.eval Q (nonQuery vars Q) w (marginalMap p Q n w).2.toAssign = (marginalMap p Q n w).1 := by
  obtain ⟨hub, hc, hv⟩ := SRes.top (ev := fun m bits => marginalMapEval p m bits w) hQ
    (marginalMapH_opt hw hp hQ _ _ (PM.new n) (PM.length_new n)).sres
  simp only [marginalMap, fromLitvec_map_true, fromLitvec_nil]
  exact opt_of_search (key := id) (ev := fun m => marginalMapEval p m [] w)
    (val := mapValue p.eval Q (nonQuery vars Q) w) hQ hc hv hub (map_eval_complete hw hp hcov hQ)

/-! ## expected utility: laws -/

/-- component-wise order on `ExpectedUtility` (the order in which the relaxed fold is a bound;
the declared `PartialOrd` is a different, much smaller relation) -/
def euR (a b : EU) : Prop := a.p ≤ b.p ∧ a.u ≤ b.u

theorem euR_zero {c : EU} : euR euBB.zero c ↔ 0 ≤ c.p ∧ 0 ≤ c.u := Iff.rfl

/-- every operation acts on the two components as `realBB` does (the utility of a product is a
sum of two real products) -/
theorem euBBLaws : BBLaws euBB euR where
  sr := euLaws
  refl _ := ⟨Rat.le_refl, Rat.le_refl⟩
  trans h1 h2 := ⟨Rat.le_trans h1.1 h2.1, Rat.le_trans h1.2 h2.2⟩
  zero_le_one := ⟨realBBLaws.zero_le_one, Rat.le_refl⟩
  add_mono h1 h2 := ⟨realBBLaws.add_mono h1.1 h2.1, realBBLaws.add_mono h1.2 h2.2⟩
  mul_mono hc h := ⟨realBBLaws.mul_mono hc.1 h.1,
    realBBLaws.add_mono (realBBLaws.mul_mono hc.1 h.2) (realBBLaws.mul_mono hc.2 h.1)⟩
  join_left a b := ⟨realBBLaws.join_left a.p b.p, realBBLaws.join_left a.u b.u⟩
  join_right a b := ⟨realBBLaws.join_right a.p b.p, realBBLaws.join_right a.u b.u⟩
  join_mono h1 h2 := ⟨realBBLaws.join_mono h1.1 h2.1, realBBLaws.join_mono h1.2 h2.2⟩

/-- the unit weight of a decision variable -/
theorem euJoinWeight_one : JoinWeight euBB euR euOne where
  nonneg := euBBLaws.zero_le_one
  le_one := euBBLaws.refl _
  distrib a c := by
    have h : ∀ x : EU, euBB.mul euOne x = x := fun x => Bdd.sr_one_mul euLaws x
    rw [h, h, h]; exact euBBLaws.refl _

/-! ### `eu_ub` is `bb_ub` when decision variables carry unit weight -/

theorem mem_litsOf {pol : Bool} : ∀ (vals : List (Option Bool)) (i : Nat) (l : Nat × Bool),
    l ∈ litsOf pol i vals → l.2 = pol ∧ i ≤ l.1 ∧ vals.getD (l.1 - i) none = some pol
  | [], _, _, h => by simp [litsOf] at h
  | o :: rest, i, l, h => by
    simp only [litsOf] at h
    have tail : l ∈ litsOf pol (i + 1) rest → l.2 = pol ∧ i ≤ l.1 ∧ (o :: rest).getD (l.1 - i) none = some pol := by
      intro h'
      obtain ⟨h1, h2, h3⟩ := mem_litsOf rest (i + 1) l h'
      refine ⟨h1, by omega, ?_⟩
      have e : l.1 - i = (l.1 - (i + 1)) + 1 := by omega
      rw [e, List.getD_cons_succ]; exact h3
    split at h
    · rename_i ho
      rcases List.mem_cons.mp h with e | h'
      · subst e; simp [ho]
      · exact tail h'
    · exact tail h

theorem mem_assignmentIter {m : PM} {l : Nat × Bool} (h : l ∈ m.assignmentIter) : m.get l.1 = some l.2 := by
  simp only [PM.assignmentIter, List.mem_append] at h
  rcases h with h | h
  · obtain ⟨h1, _, h3⟩ := mem_litsOf m.vals 0 l h
    rw [h1]; simpa [PM.get] using h3
  · obtain ⟨h1, _, h3⟩ := mem_litsOf m.vals 0 l h
    rw [h1]; simpa [PM.get] using h3

theorem litProdL_one (hS : S.Laws) (w : Weights α) : ∀ (ls : List (Nat × Bool)),
    (∀ l ∈ ls, wsel w l.1 l.2 = S.one) → litProdL S w ls = S.one
  | [], _ => rfl
  | l :: ls, h => by
    rw [litProdL, h l List.mem_cons_self,
      litProdL_one hS w ls (fun l' hl' => h l' (List.mem_cons_of_mem _ hl')), hS.mul_one]

/-- unit weight on every assigned variable and on every join variable -/
def UnitOn (w : Weights EU) (m : PM) (bits : List Nat) : Prop :=
  ∀ x, (m.get x ≠ none ∨ x ∈ bits) → w x = (euOne, euOne)

theorem litProd_unitOn {w : Weights EU} {m : PM} {bits : List Nat} (hunit : UnitOn w m bits) :
    litProd euBB.toSROps w m = euOne := by
  apply litProdL_one euLaws
  intro l hl
  have hw := hunit l.1 (Or.inl (by rw [mem_assignmentIter hl]; simp))
  simp only [wsel, hw]; split <;> rfl

theorem euUb_eq_bbUb (p : Ptr) (m : PM) (bits : List Nat) (w : Weights EU) (hunit : UnitOn w m bits) :
    euUb p m bits w = bbUb euBB p m bits w := by
  have h1 : ∀ x : EU, euMul euOne x = x := fun x => Bdd.sr_one_mul euLaws x
  rw [bbUb_eq euLaws, litProd_unitOn hunit]
  show _ = euMul euOne _
  rw [h1]
  unfold euUb relax
  apply bddFold_congr
  intro v _ a b
  simp only [nodeFn]
  cases hg : m.get v with
  | some bv => cases bv <;> rfl
  | none =>
    simp only
    by_cases hc : bits.contains v = true
    · have hv : v ∈ bits := by simpa using hc
      have hw := hunit v (Or.inr hv)
      simp only [hc, if_true, hw]
      show _ = euJoin (euMul euOne a) (euMul euOne b)
      rw [h1, h1]; rfl
    · simp only [hc]; rfl

/-! ### the executable path count is the specification's -/

/-- `f` only looks at the variables of `vars` -/
def DependsOn (vars : List Nat) (f : BoolFn) : Prop := ∀ a a', (∀ v ∈ vars, a v = a' v) → f a = f a'

theorem dependsOn_fCond {vars : List Nat} {f : BoolFn} (h : DependsOn vars f) (v : Nat) (b : Bool) :
    DependsOn vars (fCond f v b) := by
  intro a a' haa
  apply h
  intro x hx
  by_cases hxv : x = v
  · subst hxv; simp
  · rw [upd_other _ _ hxv, upd_other _ _ hxv]; exact haa x hx

theorem indepX_iff {allVars : List Nat} {f : BoolFn} (hf : DependsOn allVars f) (v : Nat) :
    indepX allVars f v = true ↔ Indep f v := by
  simp only [indepX, List.all_eq_true, beq_iff_eq]
  constructor
  · intro h a b
    let a0 : Assign := fun x => if x ∈ allVars then a x else false
    have ha0 : a0 ∈ allAssignments allVars (fun _ => false) :=
      mem_allAssignments _ _ _ (fun x hx => by simp [a0, hx])
    have key : ∀ d, f (upd a v d) = f (upd a0 v d) := by
      intro d
      apply hf
      intro x hx
      by_cases hxv : x = v
      · subst hxv; simp
      · rw [upd_other _ _ hxv, upd_other _ _ hxv]; simp [a0, hx]
    have h0 := h a0 ha0
    have hall : ∀ d d', f (upd a v d) = f (upd a v d') := by
      intro d d'
      rw [key d, key d']
      cases d <;> cases d' <;> first | rfl | exact h0 | exact h0.symm
    have := hall b (a v)
    rwa [upd_eq_self] at this
  · intro h a _
    rw [h a true, h a false]

theorem pathCountX_eq (S : SROps α) (w : Weights α) {allVars : List Nat} : ∀ (l : List Nat) (f : BoolFn)
    (a : Assign), DependsOn allVars f → pathCountX S w allVars l f a = pathCount S w l f a
  | [], _, _, _ => rfl
  | v :: vs, f, a, hf => by
    simp only [pathCountX, pathCount]
    by_cases hind : Indep f v
    · rw [if_pos ((indepX_iff hf v).mpr hind), if_pos hind]
      exact pathCountX_eq S w vs f a hf
    · have hx : ¬ indepX allVars f v = true := fun h => hind ((indepX_iff hf v).mp h)
      rw [if_neg hx, if_neg hind,
        pathCountX_eq S w vs _ a (dependsOn_fCond hf v false),
        pathCountX_eq S w vs _ a (dependsOn_fCond hf v true)]

theorem dependsOn_restrictTo {vars : List Nat} {p : Ptr} (hsub : ∀ v ∈ p.vars, v ∈ vars) (Q : List Nat)
    (q : Assign) : DependsOn vars (restrictTo Q q p.eval) := by
  intro a a' haa
  simp only [restrictTo]
  apply eval_congr_vars
  intro v hv
  split
  · rfl
  · exact haa v (hsub v hv)

/-- the function the fold sees with the query variables assigned is the restricted function -/
theorem restrict_eq {n : Nat} {Q : List Nat} {c : PM} (hc : Completes (PM.new n) Q c) (p : Ptr) :
    (fun b => xor false (p.eval (overridePM c b))) = restrictTo Q c.toAssign p.eval := by
  have hget := completes_new_get hc
  funext b
  simp only [restrictTo, Bool.false_bne]
  congr 1
  funext x
  by_cases hx : x ∈ Q
  · have hc' : Q.contains x = true := by simpa using hx
    rw [if_pos hc']
    cases hg : c.get x with
    | none => exact absurd hg ((hget x).mpr hx)
    | some bv => rw [overridePM_assigned hg, c.toAssign_agrees x bv hg]
  · have hc' : ¬ Q.contains x = true := by simpa using hx
    have hg : c.get x = none := by rw [(hc.2 x).2 hx, PM.get_new]
    rw [if_neg hc']; simp [overridePM, hg]

/-! ### maximum expected utility -/

/-- along the order: every variable is a query variable, or its two weights sum to one, or no
query variable sits at or below it -/
def QueryAfter (S : SROps α) (w : Weights α) (Q : List Nat) : List Nat → Prop
  | [] => True
  | v :: vs => (v ∈ Q ∨ S.add (w v).1 (w v).2 = S.one ∨ ∀ u ∈ v :: vs, u ∉ Q) ∧ QueryAfter S w Q vs

theorem orderOK_of_queryAfter {S : SROps α} {w : Weights α} {Q : List Nat} {c : PM}
    (hc : ∀ x, c.get x ≠ none ↔ x ∈ Q) : ∀ (l : List Nat), QueryAfter S w Q l → OrderOK S w c l
  | [], _ => trivial
  | v :: vs, h => by
    refine ⟨?_, orderOK_of_queryAfter hc vs h.2⟩
    rcases h.1 with h1 | h1 | h1
    · exact Or.inl ((hc v).mpr h1)
    · exact Or.inr (Or.inl h1)
    · refine Or.inr (Or.inr fun u hu => ?_)
      apply Classical.byContradiction
      intro hne
      exact h1 u hu ((hc u).mp hne)

theorem queryAfter_of_normalised {S : SROps α} {w : Weights α} {Q : List Nat} : ∀ (l : List Nat),
    (∀ v ∈ l, v ∉ Q → S.add (w v).1 (w v).2 = S.one) → QueryAfter S w Q l
  | [], _ => trivial
  | v :: vs, h => by
    refine ⟨?_, queryAfter_of_normalised vs (fun u hu => h u (List.mem_cons_of_mem _ hu))⟩
    by_cases hv : v ∈ Q
    · exact Or.inl hv
    · exact Or.inr (Or.inl (h v List.mem_cons_self hv))

/-- MEU reading: every variable of the order is a decision variable, or its two weights sum to
the unit of the semiring, or no decision variable sits at or below it -/
abbrev UtilAfter (w : Weights EU) (D : List Nat) (order : List Nat) : Prop := QueryAfter euOps w D order

/-- the weight domain of MEU: probabilities and utilities non-negative, decision variables of
unit weight, every non-normalised (utility-bearing) variable ordered after all decision
variables -/
structure MeuWeights (w : Weights EU) (D order : List Nat) : Prop where
  nonneg : ∀ v, (0 ≤ (w v).1.p ∧ 0 ≤ (w v).1.u) ∧ (0 ≤ (w v).2.p ∧ 0 ≤ (w v).2.u)
  unit : ∀ x ∈ D, w x = (euOne, euOne)
  after : UtilAfter w D order

/-- the invariant of the MEU search: only decision variables are ever assigned -/
def MeuInv (n : Nat) (D : List Nat) (m : PM) : Prop := m.vals.length = n ∧ ∀ x, m.get x ≠ none → x ∈ D

theorem MeuInv.set {n : Nat} {D : List Nat} {m : PM} (h : MeuInv n D m) {x : Nat} (hx : x ∈ D) (b : Bool) :
    MeuInv n D (m.set x b) := by
  refine ⟨by rw [PM.length_set]; exact h.1, fun y hy => ?_⟩
  by_cases hyx : y = x
  · rw [hyx]; exact hx
  · rw [PM.get_set_other m b hyx] at hy; exact h.2 y hy

structure BbWeights (B : BBOps α) (R : α → α → Prop) (w : Weights α) (Q order : List Nat) : Prop where
  nonneg : ∀ v, R B.zero (w v).1 ∧ R B.zero (w v).2
  join : ∀ x ∈ Q, ∀ b, JoinWeight B R (wsel w x b)
  after : QueryAfter B.toSROps w Q order

theorem MeuWeights.bbWeights {w : Weights EU} {D order : List Nat} (h : MeuWeights w D order) :
    BbWeights euBB euR w D order where
  nonneg v := ⟨euR_zero.mpr (h.nonneg v).1, euR_zero.mpr (h.nonneg v).2⟩
  join x hx b := by
    have e : wsel w x b = euOne := by simp only [wsel, h.unit x hx]; split <;> rfl
    rw [e]; exact euJoinWeight_one
  after := h.after

/-- **`ub_sound`** for MEU, in both components -/
theorem meu_ub_sound {w : Weights EU} {D order : List Nat} (hw : MeuWeights w D order) {p : Ptr}
    (hp : p.free) {n : Nat} (bits : List Nat) (hbits : ∀ x ∈ bits, x < n ∧ x ∈ D) (m : PM)
    (hm : MeuInv n D m) (q : Assign) (hq : Consistent m bits q) :
    euR (euUb p (complete m bits q) [] w) (euUb p m bits w) := by
  have hbl : ∀ x ∈ bits, x < m.vals.length := fun x hx => by rw [hm.1]; exact (hbits x hx).1
  have u1 : UnitOn w m bits := fun x hx => hw.unit x (hx.elim (hm.2 x) fun h => (hbits x h).2)
  have u2 : UnitOn w (complete m bits q) [] := fun x hx => hw.unit x (hx.elim (fun h => by
    rw [get_complete q bits m hbl] at h
    by_cases hxb : x ∈ bits
    · exact (hbits x hxb).2
    · rw [if_neg hxb] at h; exact hm.2 x h) fun h => absurd h List.not_mem_nil)
  rw [euUb_eq_bbUb p _ _ w u1, euUb_eq_bbUb p _ _ w u2]
  exact ub_sound euBBLaws w hw.bbWeights.nonneg p hp q bits m hbl
    (fun x hx => hw.bbWeights.join x (hbits x hx).2) hq

theorem MeuWeights.unitOn {w : Weights EU} {D order : List Nat} (hw : MeuWeights w D order) {n : Nat}
    {c : PM} (hc : Completes (PM.new n) D c) : UnitOn w c [] := fun x hx =>
  hw.unit x (hx.elim (completes_new_get hc x).mp fun h => absurd h List.not_mem_nil)

/-- complete evaluation for MEU: with every decision assigned, `eu_ub` is the path count of the
restricted function along the variable order -/
theorem meu_eval_complete {w : Weights EU} {D order : List Nat} (hw : MeuWeights w D order) {p : Ptr}
    (hnd : order.Nodup) (hp : Robdd order p) {n : Nat} {c : PM} (hc : Completes (PM.new n) D c) :
    euUb p c [] w = meuValue p.eval D order w c.toAssign := by
  have hget := completes_new_get hc
  have u := hw.unitOn hc
  have h1 : ∀ x : EU, euBB.mul euOne x = x := fun x => Bdd.sr_one_mul euLaws x
  rw [euUb_eq_bbUb p c [] w u, bbUb_eq euLaws, litProd_unitOn u, h1,
    relax_sum_pathCount euLaws w c hp hnd (orderOK_of_queryAfter hget order hw.after) false
      (fun _ => false), restrict_eq hc p, meuValue,
    pathCountX_eq euOps w order _ _ (dependsOn_restrictTo hp.vars_sub D _)]
  rfl

theorem meuH_opt {w : Weights EU} {D order : List Nat} (hw : MeuWeights w D order) {p : Ptr}
    (hp : p.free) {n : Nat} (hD : ∀ x ∈ D, x < n) (lb : EU) (best asg : PM) (hasg : MeuInv n D asg) :
    BnbRes EU.u (fun m bits => euUb p m bits w) lb best D asg (meuH p w lb best D asg) := by
  rw [meuH_eq]
  refine bnb_opt (Inv := MeuInv n D) (P := fun x => x < n ∧ x ∈ D)
    (fun m x hm h => by rw [hm.1]; exact h.1) (fun m x b hm h => hm.set h.2 b) ?_ D
    (fun x hx => ⟨hD x hx, hx⟩) lb best asg hasg
  intro bits m q hm hbits hq
  exact (meu_ub_sound hw hp bits hbits m hm q hq).2

theorem meu_opt {w : Weights EU} {D order : List Nat} (hw : MeuWeights w D order) {p : Ptr}
    (hnd : order.Nodup) (hp : Robdd order p) {n : Nat} (hD : ∀ x ∈ D, x < n) :
    (meu p D n w).1.u = meuSpec p.eval D order w ∧
    Completes (PM.new n) D (meu p D n w).2 ∧
    (meu p D n w).2.toAssign ∈ queryAssignments D ∧
    meuValue p.eval D order w (meu p D n w).2.toAssign = (meu p D n w).1 := by
  obtain ⟨hub, hc, hv⟩ := SRes.top (ev := fun m bits => euUb p m bits w) hD
    (meuH_opt hw (hp.free hnd) hD _ _ (PM.new n)
      ⟨PM.length_new n, fun x hx => absurd (PM.get_new n x) hx⟩).sres
  simp only [meu, fromLitvec_map_true, fromLitvec_nil]
  exact opt_of_search (key := EU.u) (ev := fun m => euUb p m [] w) (val := meuValue p.eval D order w)
    hD hc hv hub (meu_eval_complete hw hnd hp)

/-! ## the generic branch and bound (`bb_h`) -/

/-- What the search of `bb_h` needs of `choose`, `==` and `PartialOrd::le`, relative to the
bounding order `R` and a preorder `T` ("is no better than", the order `choose` maximises):
`==` is equality, `choose` returns one of its arguments and a `T`-upper bound of both, and
`ub ≤ lb` licenses pruning (everything `R`-below `ub` is `T`-no-better than `lb`). -/
structure ChooseLaws (B : BBOps α) (R T : α → α → Prop) : Prop where
  beq_iff : ∀ a b, B.beq a b = true ↔ a = b
  choose_or : ∀ a b, B.choose a b = a ∨ B.choose a b = b
  choose_left : ∀ a b, T a (B.choose a b)
  choose_right : ∀ a b, T b (B.choose a b)
  t_refl : ∀ a, T a a
  t_trans : ∀ {a b c}, T a b → T b c → T a c
  prune : ∀ {ub lb c}, B.le ub lb = true → R c ub → T c lb

section bbsearch
variable {T : α → α → Prop} {p : Ptr} {w : Weights α} {N : Nat}

/-- `choose` not returning an argument says the other one is at least as good -/
theorem ChooseLaws.of_ne_left (C : ChooseLaws B R T) {a b : α} (h : B.choose a b ≠ a) : T a b := by
  have := C.choose_left a b; rwa [(C.choose_or a b).resolve_left h] at this
theorem ChooseLaws.of_ne_right (C : ChooseLaws B R T) {a b : α} (h : B.choose a b ≠ b) : T b a := by
  have := C.choose_right a b; rwa [(C.choose_or a b).resolve_right h] at this

/-- an iteration of `bb_h` prunes by `ub ≤ lb`, or descends and then keeps or rejects the result -/
theorem bb_iter (C : ChooseLaws B R T) {rest : List Nat} {mb : PM}
    (hub : ∀ q, Consistent mb rest q → R (bbUb B p (complete mb rest q) [] w) (bbUb B p mb rest w))
    (lb : α) (best : PM) (st : α × PM) :
    Iter T (fun m bits => bbUb B p m bits w) (bbH B p w) lb best rest st mb
      (bbStep B (fun lb best pm => bbH B p w lb best rest pm) lb best st (bbUb B p mb rest w) mb) := by
  simp only [bbStep]
  by_cases hle : B.le (bbUb B p mb rest w) lb = true
  · simp only [hle, Bool.not_true, Bool.false_eq_true, if_false]
    exact .skip fun h1 q hq => C.t_trans (C.prune hle (hub q hq)) h1
  · simp only [hle, Bool.not_false, if_true]
    by_cases hbeq : B.beq (B.choose lb (bbH B p w st.1 st.2 rest mb).1) (bbH B p w st.1 st.2 rest mb).1 = true
    · rw [if_pos hbeq]; exact .go
    · rw [if_neg hbeq]; exact .back (C.of_ne_right fun e => hbeq ((C.beq_iff _ _).mpr e))

theorem bbH_opt (C : ChooseLaws B R T) {P : Nat → Prop} (hPN : ∀ x, P x → x < N)
    (hub : ∀ bits m q, m.vals.length = N → (∀ x ∈ bits, P x) → Consistent m bits q →
      R (bbUb B p (complete m bits q) [] w) (bbUb B p m bits w)) :
    ∀ (Q : List Nat), (∀ x ∈ Q, P x) → ∀ (lb : α) (best asg : PM), asg.vals.length = N →
    SRes T (fun _ _ => True) (fun m bits => bbUb B p m bits w) lb best Q asg (bbH B p w lb best Q asg) :=
  search_opt ⟨C.t_refl, C.t_trans, fun _ _ => trivial⟩ (h := bbH B p w) (Inv := fun m => m.vals.length = N)
    (fun m x hm hx => hm ▸ hPN x hx) (fun m x b hm _ => by rw [PM.length_set, hm])
    (fun lb best asg => by
      simp only [bbH]
      by_cases hb : B.beq lb (B.choose lb (bbUb B p asg [] w)) = true
      · rw [if_pos hb]
        have := C.choose_right lb (bbUb B p asg [] w)
        rw [← (C.beq_iff _ _).mp hb] at this
        exact ⟨C.t_refl _, fun q _ => this, Or.inl rfl⟩
      · rw [if_neg hb]
        exact ⟨C.of_ne_left fun e => hb ((C.beq_iff _ _).mpr e.symm), fun q _ => C.t_refl _,
          Or.inr ⟨trivial, Completes.refl asg, rfl⟩⟩)
    (fun lb best x rest asg hasg hPx hrest => by
      have it := fun b => bb_iter C (fun q hq => hub rest (asg.set x b) q (by rw [PM.length_set, hasg]) hrest hq)
        lb best
      rw [bbH]
      by_cases h : B.beq (bbUb B p (asg.set x true) rest w)
          (B.choose (bbUb B p (asg.set x true) rest w) (bbUb B p (asg.set x false) rest w)) = true
      · rw [if_pos h]; exact ⟨true, _, it true _, it false _⟩
      · rw [if_neg h]; exact ⟨false, _, it false _, it true _⟩)

end bbsearch

/-! ### top level of `bb` -/

/-- `bb` runs `bb_h` from the all-true completion, with `ub_sound` licensing the pruning: its value
dominates every completion and is attained by the returned model, which assigns exactly `Q` -/
theorem bb_search {T : α → α → Prop} (L : BBLaws B R) (C : ChooseLaws B R T) {w : Weights α}
    {Q : List Nat} (hnn : ∀ v, R B.zero (w v).1 ∧ R B.zero (w v).2)
    (hjoin : ∀ x ∈ Q, ∀ b, JoinWeight B R (wsel w x b)) {p : Ptr} (hp : p.free) {n : Nat}
    (hQ : ∀ x ∈ Q, x < n) :
    (∀ q, T (bbUb B p (complete (PM.new n) Q q) [] w) (bb B p Q n w).1) ∧
    Completes (PM.new n) Q (bb B p Q n w).2 ∧ (bb B p Q n w).1 = bbUb B p (bb B p Q n w).2 [] w := by
  simp only [bb, fromLitvec_map_true, fromLitvec_nil]
  exact (bbH_opt (T := T) (p := p) (w := w) (N := n) C (P := fun x => x < n ∧ x ∈ Q) (fun x h => h.1)
    (fun bits m q hm hbits hq => ub_sound L w hnn p hp q bits m
      (fun x hx => by rw [hm]; exact (hbits x hx).1) (fun x hx b => hjoin x (hbits x hx).2 b) hq)
    Q (fun x hx => ⟨hQ x hx, hx⟩) _ _ (PM.new n) (PM.length_new n)).top hQ

/-- complete evaluation, path-count form (reduced ordered diagram; arbitrary weights except that a
non-normalised non-query variable has no query variable below it) -/
theorem bbUb_complete_pathCount (hS : B.toSROps.Laws) (w : Weights α) {order : List Nat} {p : Ptr}
    (hnd : order.Nodup) (hp : Robdd order p) {n : Nat} {Q : List Nat} (hQ : ∀ x ∈ Q, x < n)
    (hafter : QueryAfter B.toSROps w Q order) {c : PM} (hc : Completes (PM.new n) Q c) :
    bbUb B p c [] w = bbValue B.toSROps p.eval Q order w c.toAssign := by
  rw [bbUb_eq hS, litProd_completes hS w hQ hc,
    relax_sum_pathCount hS w c hp hnd (orderOK_of_queryAfter (completes_new_get hc) order hafter) false
      (fun _ => false), restrict_eq hc p, bbValue,
    pathCountX_eq _ w order _ _ (dependsOn_restrictTo hp.vars_sub Q _)]

/-- **`bb_opt`**: for a `BBSemiring` satisfying `BBLaws` and `ChooseLaws`, `bb` returns a value
that is `T`-maximal among the values of all query assignments, together with a model that
assigns exactly the query variables and attains it. -/
theorem bb_opt {T : α → α → Prop} (L : BBLaws B R) (C : ChooseLaws B R T) {w : Weights α}
    {Q order : List Nat} (hw : BbWeights B R w Q order) {p : Ptr} (hnd : order.Nodup)
    (hp : Robdd order p) {n : Nat} (hQ : ∀ x ∈ Q, x < n) :
    (∀ q ∈ queryAssignments Q, T (bbValue B.toSROps p.eval Q order w q) (bb B p Q n w).1) ∧
    Completes (PM.new n) Q (bb B p Q n w).2 ∧
    (bb B p Q n w).2.toAssign ∈ queryAssignments Q ∧
    bbValue B.toSROps p.eval Q order w (bb B p Q n w).2.toAssign = (bb B p Q n w).1 := by
  have hQ' : ∀ x ∈ Q, x < (PM.new n).vals.length := by simpa using hQ
  obtain ⟨hub, hc, hv⟩ := bb_search L C hw.nonneg hw.join (hp.free hnd) hQ
  generalize bb B p Q n w = r at hub hc hv ⊢
  have hval : bbValue B.toSROps p.eval Q order w r.2.toAssign = r.1 := by
    rw [hv]; exact (bbUb_complete_pathCount L.sr w hnd hp hQ hw.after hc).symm
  refine ⟨fun q hq => ?_, hc, toAssign_mem_queryAssignments hc, hval⟩
  have h1 := hub q
  rwa [bbUb_complete_pathCount L.sr w hnd hp hQ hw.after (completes_complete q Q _ hQ'),
    toAssign_complete_new hQ hq] at h1

/-! ### the `choose`-fold of the oracle -/

theorem foldl_choose_mem {T : α → α → Prop} (C : ChooseLaws B R T) : ∀ (xs : List α) (x : α),
    xs.foldl B.choose x ∈ x :: xs
  | [], x => by simp
  | y :: ys, x => by
    have ih := foldl_choose_mem C ys (B.choose x y)
    simp only [List.foldl_cons]
    rcases List.mem_cons.mp ih with e | e
    · rw [e]
      rcases C.choose_or x y with e' | e' <;> simp [e']
    · exact List.mem_cons_of_mem _ (List.mem_cons_of_mem _ e)

theorem foldl_choose_ub {T : α → α → Prop} (C : ChooseLaws B R T) : ∀ (xs : List α) (x y : α),
    y ∈ x :: xs → T y (xs.foldl B.choose x)
  | [], x, y, h => by simp at h; rw [h]; exact C.t_refl _
  | z :: zs, x, y, h => by
    simp only [List.foldl_cons]
    have ih := foldl_choose_ub C zs (B.choose x z)
    rcases List.mem_cons.mp h with e | e
    · rw [e]; exact C.t_trans (C.choose_left x z) (ih _ List.mem_cons_self)
    · rcases List.mem_cons.mp e with e' | e'
      · rw [e']; exact C.t_trans (C.choose_right x z) (ih _ List.mem_cons_self)
      · exact ih y (List.mem_cons_of_mem _ e')

/-- the returned value and the oracle's `choose`-fold are `T`-equivalent -/
theorem bb_opt_spec {T : α → α → Prop} (L : BBLaws B R) (C : ChooseLaws B R T) {w : Weights α}
    {Q order : List Nat} (hw : BbWeights B R w Q order) {p : Ptr} (hnd : order.Nodup)
    (hp : Robdd order p) {n : Nat} (hQ : ∀ x ∈ Q, x < n) :
    T (bbSpec B.toSROps B.choose p.eval Q order w) (bb B p Q n w).1 ∧
    T (bb B p Q n w).1 (bbSpec B.toSROps B.choose p.eval Q order w) := by
  obtain ⟨h1, _, h3, h4⟩ := bb_opt L C hw hnd hp hQ
  have hmem : (bb B p Q n w).1 ∈ (queryAssignments Q).map (bbValue B.toSROps p.eval Q order w) :=
    List.mem_map.mpr ⟨_, h3, h4⟩
  have hall : ∀ y ∈ (queryAssignments Q).map (bbValue B.toSROps p.eval Q order w),
      T y (bb B p Q n w).1 := by
    intro y hy
    obtain ⟨q, hq, rfl⟩ := List.mem_map.mp hy
    exact h1 q hq
  simp only [bbSpec]
  generalize (queryAssignments Q).map (bbValue B.toSROps p.eval Q order w) = l at hmem hall
  cases l with
  | nil => simp at hmem
  | cons x xs => exact ⟨hall _ (foldl_choose_mem C xs x), foldl_choose_ub C xs x _ hmem⟩

/-! ### the two shipped instances -/

theorem realChooseLaws : ChooseLaws realBB (fun a b : Rat => a ≤ b) (fun a b : Rat => a ≤ b) where
  beq_iff a b := by simp [realBB]
  choose_or := realJoin_or
  choose_left := realJoin_left
  choose_right := realJoin_right
  t_refl a := Rat.le_refl
  t_trans h1 h2 := Rat.le_trans h1 h2
  prune {ub lb c} h hc := by
    have : ub ≤ lb := by simpa [realBB] using h
    exact Rat.le_trans hc this

/-- `choose` on `ExpectedUtility` maximises the utility component -/
def euT (a b : EU) : Prop := a.u ≤ b.u

theorem euLe_u {a b : EU} (h : euLe a b = true) : a.u ≤ b.u := by
  simp only [euLe] at h
  split at h
  · rename_i h'; exact Rat.le_of_lt (euPartialCmp_lt.mp h').2
  · rename_i h'; rw [euPartialCmp_eq.mp h']; exact Rat.le_refl
  · cases h

theorem euChooseLaws : ChooseLaws euBB euR euT where
  beq_iff a b := by simp [euBB]
  choose_or a b := by simp only [euBB, euChoose]; split <;> simp
  choose_left a b := by simp only [euBB, euChoose, euT]; split <;> grind
  choose_right a b := by simp only [euBB, euChoose, euT]; split <;> grind
  t_refl a := Rat.le_refl
  t_trans h1 h2 := Rat.le_trans h1 h2
  prune h hc := Rat.le_trans hc.2 (euLe_u h)

theorem MapWeights.bbWeights {w : Weights Rat} {Q order : List Nat} (h : MapWeights w Q order) :
    BbWeights realBB (fun a b : Rat => a ≤ b) w Q order where
  nonneg := h.nonneg
  join := h.joinWeight
  after := queryAfter_of_normalised order (fun v hv hvQ => h.normalised v hv hvQ)

theorem bb_real_opt {w : Weights Rat} {Q vars : List Nat} (hw : MapWeights w Q vars) {p : Ptr}
    (hp : p.free) (hnd : vars.Nodup) (hcov : ∀ v ∈ p.vars, v ∈ vars) {n : Nat} (hQ : ∀ x ∈ Q, x < n) :
    (bb realBB p Q n w).1 = mapSpec p.eval Q vars w ∧
    Completes (PM.new n) Q (bb realBB p Q n w).2 ∧
    (bb realBB p Q n w).2.toAssign ∈ queryAssignments Q ∧
    mapValue p.eval Q (nonQuery vars Q) w (bb realBB p Q n w).2.toAssign = (bb realBB p Q n w).1 := by
  obtain ⟨hub, hc, hv⟩ := bb_search realBBLaws realChooseLaws hw.nonneg hw.joinWeight hp hQ
  exact opt_of_search (key := id) (ev := fun m => bbUb realBB p m [] w)
    (val := mapValue p.eval Q (nonQuery vars Q) w) hQ hc hv hub
    (fun hc => (marginalMapEval_eq ..).symm.trans (map_eval_complete hw hp hcov hQ hc))

/-- `bb` at `ExpectedUtility` computes the maximum expected utility (same statement as `meu_opt`) -/
theorem bb_eu_opt {w : Weights EU} {D order : List Nat} (hw : MeuWeights w D order) {p : Ptr}
    (hnd : order.Nodup) (hp : Robdd order p) {n : Nat} (hD : ∀ x ∈ D, x < n) :
    (bb euBB p D n w).1.u = meuSpec p.eval D order w ∧
    Completes (PM.new n) D (bb euBB p D n w).2 ∧
    (bb euBB p D n w).2.toAssign ∈ queryAssignments D ∧
    meuValue p.eval D order w (bb euBB p D n w).2.toAssign = (bb euBB p D n w).1 := by
  obtain ⟨hub, hc, hv⟩ :=
    bb_search euBBLaws euChooseLaws hw.bbWeights.nonneg hw.bbWeights.join (hp.free hnd) hD
  exact opt_of_search (key := EU.u) (ev := fun m => bbUb euBB p m [] w)
    (val := meuValue p.eval D order w) hD hc hv hub
    (fun {c} hc => (euUb_eq_bbUb p c [] w (hw.unitOn hc)).symm.trans (meu_eval_complete hw hnd hp hc))

end Optim
