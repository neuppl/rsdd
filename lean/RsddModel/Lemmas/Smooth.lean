import RsddModel.Lemmas.Wmc
import RsddModel.Lemmas.BddSem
/-!
# Lemmas: smoothing of BDDs (C08)

* `smoothH_eval` : the repaired `smooth_helper` preserves the denoted function (no hypothesis);
* `smooth_paths` : on a diagram ordered from level `cur` with all levels `< cur + n`, every
  root-to-terminal path of the result tests exactly `varAt cur, …, varAt (cur+n-1)`, in order;
* `wmc_allpaths` : a diagram all of whose paths test exactly the duplicate-free list `vars`
  has `wmc = wsum vars` for ARBITRARY weights and ANY operations record (no law is needed);
* `wsum_count` : with all weights `(1,1)` over `Nat` the sum is the number of models;
* `smoothOrig_wrong` : `smooth_helper` as it is in the repository (which ignores the level of the node it looks at)
  violates all of this on `x2` under the identity order on three variables.
-/
namespace Bdd
open Spec
variable {α : Type}

/-! ## the denoted function -/

theorem mkNode_eval_same (x : Nat) (sub : Ptr) (a : Assign) :
    (mkNode x sub sub).eval a = sub.eval a := by
  rw [mkNode_eval]; exact ite_self _

/-- smoothing (as repaired) never changes the denoted function -/
theorem smoothH_eval (lvl varAt : Nat → Nat) : ∀ (n cur : Nat) (p : Ptr) (a : Assign),
    (smoothH lvl varAt n cur p).eval a = p.eval a
  | 0, _, p, _ => by cases p <;> rfl
  | n + 1, cur, .tru, a | n + 1, cur, .fls, a => by
    simp only [smoothH, mkNode_eval_same, smoothH_eval lvl varAt n]
  | n + 1, cur, .node c v lo hi, a => by
    simp only [smoothH]
    by_cases hle : lvl v ≤ cur
    · rw [if_pos hle, eval_ite_neg, mkNode_eval, smoothH_eval lvl varAt n,
        smoothH_eval lvl varAt n]
      rfl
    · rw [if_neg hle, eval_ite_neg, mkNode_eval_same, smoothH_eval lvl varAt n, Ptr.eval,
        Bool.false_xor]
      rfl

theorem smooth_eval (lvl varAt : Nat → Nat) (p : Ptr) (n : Nat) (a : Assign) :
    (smooth lvl varAt p n).eval a = p.eval a := smoothH_eval lvl varAt n 0 p a

/-! ## the paths of the result -/

@[simp] theorem paths_neg (p : Ptr) : p.neg.paths = p.paths := by cases p <;> rfl

theorem paths_cneg (c : Bool) (p : Ptr) : (if c then p.neg else p).paths = p.paths := by
  cases c <;> simp

theorem paths_mkNode (x : Nat) (lo hi : Ptr) :
    (mkNode x lo hi).paths = lo.paths.map (x :: ·) ++ hi.paths.map (x :: ·) := by
  simp only [mkNode]; split <;> simp [Ptr.paths]

theorem paths_ne_nil : ∀ (p : Ptr), p.paths ≠ []
  | .tru => by simp [Ptr.paths]
  | .fls => by simp [Ptr.paths]
  | .node _ v lo hi => by
    have := paths_ne_nil lo
    simp [Ptr.paths, this]

theorem exists_path (p : Ptr) : ∃ path, path ∈ p.paths :=
  List.exists_mem_of_ne_nil _ (paths_ne_nil p)

theorem levelVars_eq_range (varAt : Nat → Nat) (k n : Nat) :
    levelVars varAt k n = (List.range n).map (fun i => varAt (k + i)) := by
  simp [levelVars, List.range'_eq_map_range]

theorem mem_paths_mkNode_same {x : Nat} {sub : Ptr} {path : List Nat}
    (h : path ∈ (mkNode x sub sub).paths) : ∃ t ∈ sub.paths, path = x :: t := by
  simp only [paths_mkNode, List.mem_append, List.mem_map, or_self] at h
  obtain ⟨t, ht, rfl⟩ := h
  exact ⟨t, ht, rfl⟩

/-- **C08, paths.**  If `p` is ordered from level `cur`, all its levels are `< cur + n`, and
`varAt` inverts `lvl` on the variables of `p`, every path of the smoothed diagram tests exactly
the variables at levels `cur, …, cur + n - 1`, each once, in order. -/
theorem smooth_paths (lvl varAt : Nat → Nat) : ∀ (n cur : Nat) (p : Ptr),
    p.ordBetween lvl cur (cur + n) → (∀ v ∈ p.vars, varAt (lvl v) = v) →
    ∀ path ∈ (smoothH lvl varAt n cur p).paths, path = levelVars varAt cur n := by
  intro n
  induction n with
  | zero =>
    intro cur p ho _ path h
    match p, ho, h with
    | .tru, _, h | .fls, _, h => exact List.mem_singleton.1 h
    | .node c v lo hi, ⟨h1, h2, _, _⟩, _ => exact absurd h2 (Nat.not_lt.2 h1)
  | succ n ih =>
    intro cur p ho hv path h
    rw [levelVars_succ]
    have e : cur + 1 + n = cur + (n + 1) := Nat.add_right_comm cur 1 n
    -- below a terminal or a node of a later level: a node on `varAt cur` with both children `q` smoothed
    have skip : ∀ q : Ptr, q.ordBetween lvl (cur + 1) (cur + 1 + n) →
        (∀ v ∈ q.vars, varAt (lvl v) = v) →
        path ∈ (mkNode (varAt cur) (smoothH lvl varAt n (cur + 1) q)
          (smoothH lvl varAt n (cur + 1) q)).paths →
        path = varAt cur :: levelVars varAt (cur + 1) n := by
      intro q hq hvq h
      obtain ⟨t, ht, rfl⟩ := mem_paths_mkNode_same h
      rw [ih (cur + 1) q hq hvq t ht]
    match p, ho, hv, h with
    | .tru, _, _, h => exact skip .tru trivial (fun _ hu => nomatch hu) h
    | .fls, _, _, h => exact skip .fls trivial (fun _ hu => nomatch hu) h
    | .node c v lo hi, ⟨h1, h2, h3, h4⟩, hv, h =>
      simp only [smoothH] at h
      by_cases hle : lvl v ≤ cur
      · rw [if_pos hle, paths_cneg, paths_mkNode] at h
        have hlv : lvl v = cur := Nat.le_antisymm hle h1
        have hvk : varAt cur = v := by rw [← hlv]; exact hv v List.mem_cons_self
        rw [hlv, ← e] at h3 h4
        rw [hvk]
        rcases List.mem_append.1 h with h | h <;> obtain ⟨t, ht, rfl⟩ := List.mem_map.1 h
        · rw [ih (cur + 1) lo h3
            (fun u hu => hv u (List.mem_cons_of_mem _ (List.mem_append_left _ hu))) t ht]
        · rw [ih (cur + 1) hi h4
            (fun u hu => hv u (List.mem_cons_of_mem _ (List.mem_append_right _ hu))) t ht]
      · rw [if_neg hle, paths_cneg] at h
        exact skip (.node false v lo hi) ⟨Nat.lt_of_not_le hle, e ▸ h2, e ▸ h3, e ▸ h4⟩ hv h

/-! ## counting on a smooth diagram: arbitrary weights, no semiring law -/

theorem allpaths_node {c : Bool} {u : Nat} {lo hi : Ptr} {vars : List Nat}
    (h : ∀ path ∈ (Ptr.node c u lo hi).paths, path = vars) :
    ∃ vs, vars = u :: vs ∧ (∀ t ∈ lo.paths, t = vs) ∧ ∀ t ∈ hi.paths, t = vs := by
  have hl : ∀ t ∈ lo.paths, u :: t = vars := fun t ht =>
    h _ (List.mem_append_left _ (List.mem_map_of_mem ht))
  have hh : ∀ t ∈ hi.paths, u :: t = vars := fun t ht =>
    h _ (List.mem_append_right _ (List.mem_map_of_mem ht))
  obtain ⟨t0, ht0⟩ := exists_path lo
  obtain rfl := hl t0 ht0
  exact ⟨t0, rfl, fun t ht => List.tail_eq_of_cons_eq (hl t ht),
    fun t ht => List.tail_eq_of_cons_eq (hh t ht)⟩

theorem wmcAux_allpaths (S : SROps α) (w : Weights α) : ∀ (vars : List Nat) (q : Ptr) (n : Bool) (a : Assign),
    (∀ path ∈ q.paths, path = vars) → vars.Nodup →
    wmcAux S w q n = wsum S vars w (fun b => xor n (q.eval b)) a := by
  intro vars q
  induction q generalizing vars with
  | tru => intro n a h _; obtain rfl := h [] (List.mem_singleton_self _); cases n <;> rfl
  | fls => intro n a h _; obtain rfl := h [] (List.mem_singleton_self _); cases n <;> rfl
  | node c u lo hi ihlo ihhi =>
    intro n a h hnd
    obtain ⟨vs, rfl, hlo, hhi⟩ := allpaths_node h
    obtain ⟨hv, hvs⟩ := List.nodup_cons.mp hnd
    exact wmcAux_node S w hv c lo hi n a (ihlo vs _ _ hlo hvs) (ihhi vs _ _ hhi hvs)

/-- **C08, counting.**  On a diagram whose every path tests exactly the duplicate-free list
`vars`, the count is the weighted sum over all assignments of `vars`, for arbitrary
(non-normalised) weights; no semiring law is used. -/
theorem wmc_allpaths (S : SROps α) (w : Weights α) {vars : List Nat} {q : Ptr}
    (h : ∀ path ∈ q.paths, path = vars) (hnd : vars.Nodup) (a : Assign) :
    wmc S w q = wsum S vars w q.eval a := by
  rw [wmc, wmcAux_allpaths S w vars q false a h hnd]
  simp

/-- `wmc` of the smoothed diagram = brute-force weighted sum of the original function over the
first `n` variables of the order, arbitrary weights -/
theorem wmc_smooth (S : SROps α) (w : Weights α) {lvl varAt : Nat → Nat} {n : Nat} {p : Ptr}
    (hinv : ∀ i, i < n → lvl (varAt i) = i) (hv : ∀ v ∈ p.vars, varAt (lvl v) = v)
    (hord : p.ordBetween lvl 0 n) (a : Assign) :
    wmc S w (smooth lvl varAt p n) = wsum S (levelVars varAt 0 n) w p.eval a := by
  have hp := smooth_paths lvl varAt n 0 p (by simpa using hord) hv
  have hnd := levelVars_nodup hinv n 0 (by omega)
  rw [show smooth lvl varAt p n = smoothH lvl varAt n 0 p from rfl, wmc_allpaths S w hp hnd a]
  exact wsum_congr S w _ a (smoothH_eval lvl varAt n 0 p)

/-! ## unweighted counting -/

/-- the natural numbers as a counting semiring -/
def countOps : SROps Nat := ⟨0, 1, (· + ·), (· * ·)⟩

theorem countOps_laws : countOps.Laws where
  add_assoc := Nat.add_assoc
  add_comm := Nat.add_comm
  add_zero := Nat.add_zero
  mul_assoc := Nat.mul_assoc
  mul_comm := Nat.mul_comm
  mul_one := Nat.mul_one
  mul_zero := Nat.mul_zero
  left_distrib := Nat.left_distrib

theorem wsum_count (f : BoolFn) : ∀ (vars : List Nat) (a : Assign),
    wsum countOps vars (fun _ => (1, 1)) f a = (allAssignments vars a).countP f
  | [], a => by
    simp only [wsum, allAssignments, List.countP_cons, List.countP_nil, countOps]
    cases f a <;> simp
  | v :: vs, a => by
    simp only [wsum, allAssignments, List.countP_append, wsum_count f vs]
    simp [countOps]

/-- **C08, unweighted.**  The unweighted count of the smoothed diagram is the number of models
of the original function among the `2^n` assignments of the first `n` variables -/
theorem count_smooth {lvl varAt : Nat → Nat} {n : Nat} {p : Ptr}
    (hinv : ∀ i, i < n → lvl (varAt i) = i) (hv : ∀ v ∈ p.vars, varAt (lvl v) = v)
    (hord : p.ordBetween lvl 0 n) (a : Assign) :
    wmc countOps (fun _ => (1, 1)) (smooth lvl varAt p n) =
      (allAssignments (levelVars varAt 0 n) a).countP p.eval := by
  rw [wmc_smooth countOps _ hinv hv hord a, wsum_count]

/-! ## `smooth_helper` as it is in the repository is wrong -/

/-- weights `(2,3), (3,5), (4,7)` on variables `0,1,2` -/
def wrongW : Weights Nat := fun v => if v = 0 then (2, 3) else if v = 1 then (3, 5) else (4, 7)

/-- `x2` under the identity order on three variables: the repository's helper keeps the node at the
top, produces the path `[2,1,2]` and the count 616; the brute-force sum and the repaired helper
give 280 -/
theorem smoothOrig_wrong :
    let p := Ptr.node false 2 .fls .tru
    [2, 1, 2] ∈ (smoothHOrig id id 3 0 p).paths ∧
    wmc countOps wrongW (smoothHOrig id id 3 0 p) = 616 ∧
    wsum countOps [0, 1, 2] wrongW p.eval (fun _ => false) = 280 ∧
    wmc countOps wrongW (smooth id id p 3) = 280 := by
  decide +kernel

end Bdd
