import Lean.Meta.Tactic.Simp.RegisterCommand
import RsddModel.Model.BddCompile
import RsddModel.Model.Serialize
/-!
# Support for the translator route of the compile / serialise group (`tools/gen_compile.py`)

The Lean text regenerated from the Rust source (`Model/GenCompile.lean`) is written in terms of
a few loop combinators and one abstract data type, defined here, so that the generated
definitions can mirror the Rust literally (statement by statement) while the hand-written model
uses dedicated recursive functions:

* `forIn body init xs`      – `for x in xs { body }` with `break` (`.done`) / `continue` (`.yield`)
  in the monad `Option` (`none` = a panic of the Rust or a builder operation out of fuel);
* `whileFuel cond body fuel init` – `while cond { body }`, at most `fuel` iterations;
* `AHeap P`                 – what `compile_cnf_with_assignments` uses of `BinaryHeap<CompiledCNF>`:
  the entries in push order plus the second half of the answer of the merge strategy
  (`Compile.Strategy` names the two entries to pop next from the entries it sees; the first `pop`
  asks the strategy and remembers the second index, the second `pop` uses it).

The uniqueness lemmas (`forIn_unique`, `whileFuel_unique`) are what `Props/TieCompile.lean` uses
to identify a generated loop with the recursive function of the model, without naming the
generated loop body.
-/

/-- definitions that the tie proofs of `TieCompile` unfold without naming them (generated loop bodies); a simp set,
unrelated to the tactic `tie_unfold` of `Props/TieScratch.lean` -/
register_simp_attr tie_unfold

namespace TieAuxC
open Compile

def forIn {α β : Type} (f : β → α → Option (ForInStep β)) : β → List α → Option β
  | b, [] => some b
  | b, x :: xs =>
    match f b x with
    | none => none
    | some (.done b') => some b'
    | some (.yield b') => forIn f b' xs

theorem forIn_unique {α β : Type} (f : β → α → Option (ForInStep β)) (g : β → List α → Option β)
    (h : ∀ b xs, g b xs =
      match xs with
      | [] => some b
      | x :: xs =>
        match f b x with
        | none => none
        | some (.done b') => some b'
        | some (.yield b') => g b' xs) :
    ∀ xs b, forIn f b xs = g b xs := by
  intro xs
  induction xs with
  | nil => intro b; rw [h]; rfl
  | cons x xs ih =>
    intro b; rw [h]; simp only [forIn]
    cases f b x with
    | none => rfl
    | some st => cases st <;> simp [ih]

def whileFuel {β : Type} (c : β → Bool) (f : β → Option β) : Nat → β → Option β
  | fuel, b =>
    if c b then
      match fuel with
      | 0 => none
      | n + 1 =>
        match f b with
        | none => none
        | some b' => whileFuel c f n b'
    else some b

theorem whileFuel_unique {β : Type} (c : β → Bool) (f : β → Option β) (g : Nat → β → Option β)
    (h : ∀ fuel b, g fuel b =
      if c b then
        match fuel with
        | 0 => none
        | n + 1 =>
          match f b with
          | none => none
          | some b' => g n b'
      else some b) :
    ∀ fuel b, whileFuel c f fuel b = g fuel b := by
  intro fuel
  induction fuel with
  | zero => intro b; rw [h]; unfold whileFuel; rfl
  | succ n ih =>
    intro b; rw [h]; unfold whileFuel
    split
    · cases f b with
      | none => rfl
      | some b' => simp [ih]
    · rfl

/-- `Iterator::reduce` -/
def reduce {α : Type} (f : α → α → α) : List α → Option α
  | [] => none
  | x :: xs => some (xs.foldl f x)

/-- `Vec::dedup_by_key`: of every run of consecutive elements with the same key the first one stays -/
def dedupByKey {α κ : Type} [DecidableEq κ] (key : α → κ) : List α → List α
  | [] => []
  | [x] => [x]
  | x :: y :: r => if key x = key y then dedupByKey key (x :: r) else x :: dedupByKey key (y :: r)
termination_by l => l.length

/-! ## the heap of `compile_cnf_with_assignments` -/

structure AHeap (P : Type) where
  es : List (P × Nat)
  pending : Option Nat

namespace AHeap
variable {P : Type}

/-- `BinaryHeap::new()` -/
def new : AHeap P := ⟨[], none⟩
/-- `heap.push(CompiledCNF { ptr, sz })` -/
def push (h : AHeap P) (e : P × Nat) : AHeap P := ⟨h.es ++ [e], none⟩
/-- `heap.len()` -/
def len (h : AHeap P) : Nat := h.es.length
/-- `heap.pop()`; `none` = the heap is empty -/
def pop (strat : Strategy P) (h : AHeap P) : Option ((P × Nat) × AHeap P) :=
  match h.pending with
  | some j =>
    match extract (j % h.es.length) h.es with
    | none => none
    | some (e, rest) => some (e, ⟨rest, none⟩)
  | none =>
    match extract ((strat h.es).1 % h.es.length) h.es with
    | none => none
    | some (e, rest) => some (e, ⟨rest, some (strat h.es).2⟩)
end AHeap


/-! ## loops of `compile_cnf` / `compile_cnf_with_assignments` against the recursive functions of the model

Each lemma takes the loop body `f` abstractly, together with its pointwise description `hf`; the
tie proofs instantiate `f` with the generated body and prove `hf` by unfolding it. -/
section loops
variable {σ P : Type} (O : Ops σ P)

/-- `compile_cnf` on the clause list `cs`, the `sort_by` call being the permutation `perm` (the early
returns look at the unsorted list, the clause loop at the sorted one) -/
def compileCnfPerm (perm : List Spec.Clause → List Spec.Clause) (s : σ) (cs : Spec.Cnf) : Option (σ × P) :=
  if cs.isEmpty then some (s, O.tru)
  else if cs.any List.isEmpty then some (s, O.fls)
  else
    match compileClauses O s (perm cs) with
    | none => none
    | some (s1, ps) =>
      match collapseClauses O s1 ps with
      | none => none
      | some (s2, none) => some (s2, O.tru)
      | some (s2, some r) => some (s2, r)

theorem compileCnfPerm_id (s : σ) (cs : Spec.Cnf) : compileCnfPerm O (fun x => x) s cs = compileCnf O s cs := rfl

/-- for every permutation-like `perm` (it keeps emptiness of the list and of some clause) the
translated function is the model's `compileCnf` on the permuted list -/
theorem compileCnfPerm_eq (perm : List Spec.Clause → List Spec.Clause) (s : σ) (cs : Spec.Cnf)
    (h1 : (perm cs).isEmpty = cs.isEmpty) (h2 : (perm cs).any List.isEmpty = cs.any List.isEmpty) :
    compileCnfPerm O perm s cs = compileCnf O s (perm cs) := by
  unfold compileCnfPerm compileCnf
  rw [h1, h2]
  rfl

theorem clause_loop (f : σ × P → Spec.Lit → Option (ForInStep (σ × P)))
    (hf : ∀ s acc l, f (s, acc) l =
      match O.or s acc (O.var l.var l.pol) with
      | none => none
      | some (s1, r) => some (.yield (s1, r))) :
    ∀ c s acc, forIn f (s, acc) c = compileClause O s acc c := by
  intro c
  induction c with
  | nil => intro s acc; rfl
  | cons l ls ih =>
    intro s acc
    simp only [forIn, compileClause, hf]
    cases O.or s acc (O.var l.var l.pol) with
    | none => rfl
    | some r => obtain ⟨s1, r⟩ := r; exact ih s1 r

theorem clauses_loop (f : σ × List P → Spec.Clause → Option (ForInStep (σ × List P)))
    (hf : ∀ s acc c, f (s, acc) c =
      match c with
      | [] => none
      | l :: ls =>
        match compileClause O s (O.var l.var l.pol) (l :: ls) with
        | none => none
        | some (s1, p) => some (.yield (s1, acc ++ [p]))) :
    ∀ cs s acc, forIn f (s, acc) cs =
      match compileClauses O s cs with
      | none => none
      | some (s1, ps) => some (s1, acc ++ ps) := by
  intro cs
  induction cs with
  | nil => intro s acc; simp [forIn, compileClauses]
  | cons c cs ih =>
    intro s acc
    cases c with
    | nil => simp [forIn, compileClauses, hf]
    | cons l ls =>
      simp only [forIn, compileClauses, hf]
      cases compileClause O s (O.var l.var l.pol) (l :: ls) with
      | none => rfl
      | some r =>
        obtain ⟨s1, p⟩ := r
        simp only [ih]
        cases compileClauses O s1 cs with
        | none => rfl
        | some r => obtain ⟨s2, ps⟩ := r; simp

theorem clauseUnder_loop (m : Spec.PModel) (f : σ × P → Spec.Lit → Option (ForInStep (σ × P)))
    (hf : ∀ s cur l, f (s, cur) l =
      match m l.var with
      | none =>
        match O.or s (O.var l.var l.pol) cur with
        | none => none
        | some (s1, r) => some (.yield (s1, r))
      | some v => if v = l.pol then some (.done (s, O.tru)) else some (.yield (s, cur))) :
    ∀ c s cur, forIn f (s, cur) c = clauseUnder O m s cur c := by
  intro c
  induction c with
  | nil => intro s cur; rfl
  | cons l ls ih =>
    intro s cur
    simp only [forIn, clauseUnder, hf]
    cases m l.var with
    | none =>
      simp only []
      cases O.or s (O.var l.var l.pol) cur with
      | none => rfl
      | some r => obtain ⟨s1, r⟩ := r; exact ih s1 r
    | some v =>
      simp only []
      by_cases hv : v = l.pol
      · simp [hv]
      · simp [hv, ih]

theorem clausesUnder_loop (m : Spec.PModel)
    (f : σ × AHeap P → Spec.Clause → Option (ForInStep (σ × AHeap P)))
    (hf : ∀ s h c, f (s, h) c =
      match clauseUnder O m s O.fls c with
      | none => none
      | some (s1, p) => some (.yield (s1, h.push (p, O.size p)))) :
    ∀ cs s acc, forIn f (s, ⟨acc, none⟩) cs =
      match clausesUnder O m s cs with
      | none => none
      | some (s1, es) => some (s1, ⟨acc ++ es, none⟩) := by
  intro cs
  induction cs with
  | nil => intro s acc; simp [forIn, clausesUnder]
  | cons c cs ih =>
    intro s acc
    simp only [forIn, clausesUnder, hf]
    cases clauseUnder O m s O.fls c with
    | none => rfl
    | some r =>
      obtain ⟨s1, p⟩ := r
      simp only [AHeap.push, ih]
      cases clausesUnder O m s1 cs with
      | none => rfl
      | some r => obtain ⟨s2, es⟩ := r; simp

/-- the condition of the merge loop, `compiled_heap.len() > 1` -/
def mergeCond : σ × AHeap P → Bool := fun b => decide (b.2.len > 1)

/-- the body of the merge loop: pop twice, conjoin, push -/
def mergeBody (strat : Strategy P) : σ × AHeap P → Option (σ × AHeap P) := fun b =>
  match b.2.pop strat with
  | none => none
  | some (e1, h1) =>
    match h1.pop strat with
    | none => none
    | some (e2, h2) =>
      match O.and b.1 e1.1 e2.1 with
      | none => none
      | some (s1, r) => some (s1, h2.push (r, O.size r))

/-- the merge loop followed by the final `pop` is the model's `mergeLoop` -/
theorem merge_loop (strat : Strategy P) : ∀ fuel s es,
    (match whileFuel mergeCond (mergeBody O strat) fuel (s, ⟨es, none⟩) with
     | none => none
     | some (s', h') =>
       match h'.pop strat with
       | none => none
       | some (e, _) => some (s', e.1)) = mergeLoop O strat fuel s es := by
  intro fuel
  induction fuel with
  | zero =>
    intro s es
    unfold whileFuel
    match es with
    | [] => simp [mergeCond, AHeap.len, AHeap.pop, extract, mergeLoop]
    | [e] => simp [mergeCond, AHeap.len, AHeap.pop, extract, mergeLoop, Nat.mod_one]
    | e :: e' :: es => simp [mergeCond, AHeap.len, mergeLoop]
  | succ n ih =>
    intro s es
    unfold whileFuel
    match es with
    | [] => simp [mergeCond, AHeap.len, AHeap.pop, extract, mergeLoop]
    | [e] => simp [mergeCond, AHeap.len, AHeap.pop, extract, mergeLoop, Nat.mod_one]
    | e :: e' :: es =>
      rw [if_pos (by simp [mergeCond, AHeap.len])]
      simp only [mergeBody, mergeLoop, AHeap.pop, List.length_cons]
      cases h1 : extract ((strat (e :: e' :: es)).1 % (es.length + 1 + 1)) (e :: e' :: es) with
      | none => simp
      | some r1 =>
        obtain ⟨e1, rest⟩ := r1
        simp only []
        cases h2 : extract ((strat (e :: e' :: es)).2 % rest.length) rest with
        | none => simp
        | some r2 =>
          obtain ⟨e2, rest2⟩ := r2
          simp only []
          cases O.and s e1.1 e2.1 with
          | none => simp
          | some r3 =>
            obtain ⟨s1, r⟩ := r3
            simp only [AHeap.push]
            exact ih s1 (rest2 ++ [(r, O.size r)])

end loops

theorem whileFuel_congr {β : Type} {c c' : β → Bool} {f f' : β → Option β}
    (hc : ∀ b, c b = c' b) (hf : ∀ b, f b = f' b) : whileFuel c f = whileFuel c' f' := by
  have h1 : c = c' := funext hc
  have h2 : f = f' := funext hf
  rw [h1, h2]

/-! ## the SDD serialiser: the Rust looks every pointer up in the table, the model only nodes

`SDDSerializer::serialize_helper` starts with `table.get(&reg)` for EVERY pointer, also constants and
literals; `Ser.serSddAux` looks only binary and decision nodes up.  The two agree on the tables the
serialiser itself builds: all keys are regular node pointers (`NodeKeys`). -/

/-- a regular pointer to a binary or decision node (what `table.insert` is called with) -/
def IsNodeKey : Sdd.Ptr → Prop
  | .bdd false _ _ _ _ => True
  | .dec false _ _ => True
  | _ => False

/-- every key of the table is a regular node pointer -/
def NodeKeys (t : List (Sdd.Ptr × Nat)) : Prop := ∀ k i, (k, i) ∈ t → IsNodeKey k

theorem nodeKeys_nil : NodeKeys [] := by intro k i h; cases h

theorem nodeKeys_cons {t : List (Sdd.Ptr × Nat)} {k : Sdd.Ptr} {i : Nat} (hk : IsNodeKey k) (ht : NodeKeys t) :
    NodeKeys ((k, i) :: t) := by
  intro k' i' h
  rcases List.mem_cons.mp h with e | h
  · cases e; exact hk
  · exact ht k' i' h

theorem assocGet_none_of_not_key : ∀ (t : List (Sdd.Ptr × Nat)) (k : Sdd.Ptr), NodeKeys t → ¬ IsNodeKey k →
    Ser.assocGet t k = none
  | [], _, _, _ => rfl
  | (k', v) :: rest, k, ht, hk => by
    have h1 : IsNodeKey k' := ht k' v (List.mem_cons_self ..)
    have h2 : k ≠ k' := fun e => hk (e ▸ h1)
    simp only [Ser.assocGet, h2, if_false]
    exact assocGet_none_of_not_key rest k (fun a b h => ht a b (List.mem_cons_of_mem _ h)) hk

mutual
theorem serSddAux_nodeKeys : ∀ (d : Sdd.Ptr) (s : Ser.SddSt), NodeKeys s.table → NodeKeys (Ser.serSddAux d s).2.table
  | .tru, s, h => by simpa [Ser.serSddAux] using h
  | .fls, s, h => by simpa [Ser.serSddAux] using h
  | .lit _ _, s, h => by simpa [Ser.serSddAux] using h
  | .bdd c l i lo hi, s, h => by
    simp only [Ser.serSddAux]
    cases Ser.assocGet s.table (.bdd false l i lo hi) with
    | some idx => exact h
    | none =>
      exact nodeKeys_cons (by simp [IsNodeKey]) (serSddAux_nodeKeys hi _ (serSddAux_nodeKeys lo s h))
  | .dec c i es, s, h => by
    simp only [Ser.serSddAux]
    cases Ser.assocGet s.table (.dec false i es) with
    | some idx => exact h
    | none => exact nodeKeys_cons (by simp [IsNodeKey]) (serSddElems_nodeKeys es s h)
theorem serSddElems_nodeKeys : ∀ (es : List (Sdd.Ptr × Sdd.Ptr)) (s : Ser.SddSt), NodeKeys s.table →
    NodeKeys (Ser.serSddElems es s).2.table
  | [], s, h => by simpa [Ser.serSddElems] using h
  | (p, sub) :: rest, s, h => by
    simp only [Ser.serSddElems]
    exact serSddElems_nodeKeys rest _ (serSddAux_nodeKeys sub _ (serSddAux_nodeKeys p s h))
end

end TieAuxC
