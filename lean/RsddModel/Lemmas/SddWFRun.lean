import RsddModel.Lemmas.SddCanon
import RsddModel.Lemmas.SddLoops
/-!
# SDD lemmas: the compressing builder only hands out `WFs` pointers (towards C04)

The contract `AndOKs` of the recursive call carries the denotation and "the result mentions only
variables of the operands"; with the latter, `Sv vt T` (`WFs` and variables in `T`) is kept by every
call for any `T`, which is what places the primes and subs built by the loops on their side of the
vtree node.  The loops and `compress` are instances of the rules of `Lemmas/SddRules.lean`; those
rules also return the partition facts, so the contract `AndOK` of `Lemmas/SddSem.lean` enters only
in `andBody_s` and `condition_s`, which take the denotation and the C03 cache invariant from
`andBody_ok` and `condition_ok`.
-/
namespace Sdd
open Spec

/-! ## the link `WFs → WF` -/

theorem depW_of_vars {vt : VTree} {i : Nat} {p : Ptr} (h : ∀ v ∈ p.vars, v ∈ vt.leftVars i) :
    DepW (vt.leftLeaf? i) p := by
  intro w hw a a' e
  apply eval_congr
  intro v hv
  have := h v hv
  rw [leftLeaf_leftVars hw, List.mem_singleton] at this
  rw [this]; exact e

mutual
theorem WFs_WF {vt : VTree} : ∀ (p : Ptr), WFs vt p → WF vt p
  | .tru, _ => WF_tru vt
  | .fls, _ => WF_fls vt
  | .lit v _, h => by simp only [WFs] at h; simpa [WF] using hasVar_iff.2 h
  | .bdd c l i lo hi, h => by
    obtain ⟨hint, hl, wlo, whi, _⟩ := h
    have hlv : l ∈ vt.leaves := by
      obtain ⟨l', r', hs⟩ := hint
      simp only [VTree.leftVars, hs] at hl
      exact VTree.sub?_leaves hs l (by simp [VTree.leaves, hl])
    refine ⟨hasVar_iff.2 hlv, hint, ?_, WFs_WF lo wlo, WFs_WF hi whi⟩
    intro w hw
    rw [leftLeaf_leftVars hw, List.mem_singleton] at hl
    exact hl.symm
  | .dec c i es, h => by
    obtain ⟨hint, hpart, hok, _⟩ := h
    exact ⟨hint, hpart, WFsElems_WF es hok⟩
theorem WFsElems_WF {vt : VTree} {i : Nat} : ∀ (es : List (Ptr × Ptr)), WFsElems vt i es →
    WFElems vt (vt.leftLeaf? i) es
  | [], _ => by simp [WFElems]
  | (p, s) :: r, h => by
    obtain ⟨⟨wp, ws, _, vp, _⟩, hr⟩ := h
    exact ⟨WFs_WF p wp, WFs_WF s ws, depW_of_vars vp, WFsElems_WF r hr⟩
end

theorem sat_of_wfs {vt : VTree} (hnd : vt.leaves.Nodup) {p : Ptr} (wp : WFs vt p) (h : p ≠ .fls) :
    ∃ a, p.eval a = true := by
  apply Classical.byContradiction
  intro hno
  apply h
  apply (sdd_canon hnd wp (WFs_fls vt)).1
  intro a
  cases hp : p.eval a
  · simp
  · exact absurd ⟨a, hp⟩ hno

theorem tru_of_wfs {vt : VTree} (hnd : vt.leaves.Nodup) {p : Ptr} (wp : WFs vt p)
    (h : ∀ a, p.eval a = true) : p = .tru :=
  (sdd_canon hnd wp (WFs_tru vt)).1 (fun a => by rw [h]; simp)

theorem fls_of_wfs {vt : VTree} (hnd : vt.leaves.Nodup) {p : Ptr} (wp : WFs vt p)
    (h : ∀ a, p.eval a = false) : p = .fls :=
  (sdd_canon hnd wp (WFs_fls vt)).1 (fun a => by rw [h]; simp)

theorem wfs_vars_at {vt : VTree} {p : Ptr} (wp : WFs vt p) :
    ∀ v ∈ p.vars, v ∈ vt.varsAt (vtreeIndex vt p) := by
  cases p with
  | tru => intro v hv; cases hv
  | fls => intro v hv; cases hv
  | lit w pol =>
    intro v hv
    simp only [Ptr.vars, List.mem_singleton] at hv; subst hv
    simp only [WFs] at wp
    have := hasVar_iff.2 wp
    simp only [VTree.hasVar, Option.isSome_iff_exists] at this
    obtain ⟨i, hi⟩ := this
    simp [vtreeIndex, hi, VTree.varsAt, VTree.varIndex?_sub hi, VTree.leaves]
  | bdd c l i lo hi =>
    intro v hv
    have hf := nodeFacts_bdd wp
    obtain ⟨l', r', hs⟩ := hf.internal
    have := hf.vars v hv
    simp only [VTree.leftVars, VTree.rightVars, hs] at this
    simpa [vtreeIndex, VTree.varsAt, hs, VTree.leaves] using this
  | dec c i es =>
    intro v hv
    have hf := nodeFacts_dec wp
    obtain ⟨l', r', hs⟩ := hf.internal
    have := hf.vars v hv
    simp only [VTree.leftVars, VTree.rightVars, hs] at this
    simpa [vtreeIndex, VTree.varsAt, hs, VTree.leaves] using this


/-! ## unique_bdd / unique_or produce normal forms -/

theorem regular_neg_of_not {s : Ptr} (h : s.regular = false) : s.neg.regular = true := by
  cases s with
  | tru => simp [Ptr.regular, Ptr.isNeg, Ptr.isFalse, Ptr.isNegVar] at h
  | fls => simp [Ptr.neg, Ptr.regular, Ptr.isNeg, Ptr.isFalse, Ptr.isNegVar]
  | lit v p => cases p <;> simp_all [Ptr.neg, Ptr.regular, Ptr.isNeg, Ptr.isFalse, Ptr.isNegVar]
  | bdd c l i lo hi => cases c <;> simp_all [Ptr.neg, Ptr.regular, Ptr.isNeg, Ptr.isFalse, Ptr.isNegVar]
  | dec c i es => cases c <;> simp_all [Ptr.neg, Ptr.regular, Ptr.isNeg, Ptr.isFalse, Ptr.isNegVar]

theorem isTrue_eq_false {p : Ptr} : p.isTrue = false ↔ p ≠ .tru := by
  cases p <;> simp [Ptr.isTrue]
theorem isFalse_eq_false {p : Ptr} : p.isFalse = false ↔ p ≠ .fls := by
  cases p <;> simp [Ptr.isFalse]

theorem neg_eq_tru {p : Ptr} (h : p.neg = .tru) : p = .fls := by rw [← neg_neg p, h]; rfl
theorem neg_eq_fls {p : Ptr} (h : p.neg = .fls) : p = .tru := by rw [← neg_neg p, h]; rfl

theorem uniqueBdd_wfs {vt : VTree} {l i : Nat} {lo hi : Ptr} (hint : Internal vt i)
    (hl : l ∈ vt.leftVars i) (wlo : WFs vt lo) (whi : WFs vt hi)
    (vlo : ∀ v ∈ lo.vars, v ∈ vt.rightVars i) (vhi : ∀ v ∈ hi.vars, v ∈ vt.rightVars i) :
    WFs vt (uniqueBdd l lo hi i) ∧
      ∀ v ∈ (uniqueBdd l lo hi i).vars, v = l ∨ v ∈ lo.vars ∨ v ∈ hi.vars := by
  have lit : ∀ pol, WFs vt (.lit l pol) ∧
      ∀ v ∈ (Ptr.lit l pol).vars, v = l ∨ v ∈ lo.vars ∨ v ∈ hi.vars :=
    fun pol => ⟨leftVars_leaves hl, fun v hv => Or.inl (List.mem_singleton.1 hv)⟩
  refine uniqueBdd_cases
    (motive := fun r => WFs vt r ∧ ∀ v ∈ r.vars, v = l ∨ v ∈ lo.vars ∨ v ∈ hi.vars) ?_ ?_ ?_ ?_ ?_
  · intro _; exact ⟨whi, fun v hv => Or.inr (Or.inr hv)⟩
  · intro _ _; exact lit false
  · intro _ _; exact lit true
  · intro hne c2 c3 hreg
    refine ⟨⟨hint, hl, WFs_neg wlo, WFs_neg whi, by rw [vars_neg]; exact vlo,
      by rw [vars_neg]; exact vhi, fun e => hne (neg_inj e).symm,
      fun ⟨e1, e2⟩ => c2 ⟨neg_eq_tru e1, neg_eq_fls e2⟩,
      fun ⟨e1, e2⟩ => c3 ⟨neg_eq_fls e1, neg_eq_tru e2⟩,
      regular_neg_of_not (by rw [Ptr.regular, hreg]; rfl)⟩, ?_⟩
    intro v hv
    simp only [Ptr.vars, vars_neg, List.mem_cons, List.mem_append] at hv
    exact hv
  · intro hne c2 c3 hreg
    refine ⟨⟨hint, hl, wlo, whi, vlo, vhi, fun e => hne e.symm, c3, c2,
      by rw [Ptr.regular, hreg]; rfl⟩, ?_⟩
    intro v hv
    simp only [Ptr.vars, List.mem_cons, List.mem_append] at hv
    exact hv

theorem primes_nodup {es : List Elem} (hp : ∀ a, cnt a es ≤ 1) (hs : ∀ e ∈ es, ∃ a, e.1.eval a = true) :
    (es.map (·.1)).Nodup := by
  induction es with
  | nil => simp
  | cons x l ih =>
    simp only [List.map_cons, List.nodup_cons]
    refine ⟨?_, ih (fun a => by have := hp a; rw [cnt_cons] at this; omega)
      (fun e he => hs e (List.mem_cons_of_mem _ he))⟩
    intro hmem
    obtain ⟨e, he, hex⟩ := List.mem_map.1 hmem
    obtain ⟨a, ha⟩ := hs x (List.mem_cons_self ..)
    have h1 := hp a
    rw [cnt_cons, ha] at h1
    have h2 := cnt_pos_of_mem (a := a) he (by rw [hex]; exact ha)
    simp only [if_true] at h1; omega

theorem insertByPrime_perm (x : Elem) : ∀ l, (insertByPrime x l).Perm (x :: l)
  | [] => .refl _
  | y :: ys => by
    rw [insertByPrime]
    split
    · exact ((insertByPrime_perm x ys).cons y).trans (.swap x y ys)
    · exact .refl _

theorem sortByPrime_perm : ∀ l : List Elem, (sortByPrime l).Perm l
  | [] => .refl _
  | x :: xs => (insertByPrime_perm x _).trans ((sortByPrime_perm xs).cons x)

theorem subs_negSubs {l : List Elem} (h : (l.map (·.2)).Nodup) :
    ((negSubs l).map (·.2)).Nodup := by
  have : (negSubs l).map (·.2) = (l.map (·.2)).map Ptr.neg := by
    simp [negSubs, List.map_map, Function.comp_def]
  rw [this]
  exact List.Pairwise.map _ (fun a b hab e => hab (neg_inj e)) h

theorem sortByPrime_eq_two {es : List Elem} {x y : Elem} (h : sortByPrime es = [x, y]) :
    es = [x, y] ∨ es = [y, x] := by
  obtain ⟨e1, e2, rfl⟩ := length_eq_two (l := es) (by rw [← (sortByPrime_perm es).length_eq, h]; rfl)
  simp only [sortByPrime, insertByPrime] at h
  split at h <;> cases h
  · exact Or.inr rfl
  · exact Or.inl rfl

/-- the trimmable two-element shapes -/
def Trim2 (es : List Elem) : Prop :=
  ∃ p q, es = [(p, .tru), (q, .fls)] ∨ es = [(p, .fls), (q, .tru)]

theorem negSubs_negSubs (es : List Elem) : negSubs (negSubs es) = es := by
  induction es with
  | nil => rfl
  | cons e l ih =>
    show (e.1, e.2.neg.neg) :: negSubs (negSubs l) = e :: l
    rw [neg_neg, ih]

theorem trim2_negSubs {es : List Elem} (h : Trim2 (negSubs es)) : Trim2 es := by
  obtain ⟨p, q, h | h⟩ := h <;> rw [← negSubs_negSubs es, h]
  · exact ⟨p, q, Or.inr rfl⟩
  · exact ⟨p, q, Or.inl rfl⟩

/-- `unique_or` takes the binary-node branch exactly on two elements with literal primes -/
theorem asBdd?_ne_none {es : List Elem} :
    asBdd? es ≠ none ↔ ∃ v p s0 w q s1, es = [(.lit v p, s0), (.lit w q, s1)] := by
  constructor
  · intro h
    cases hx : asBdd? es with
    | none => exact absurd hx h
    | some t =>
      obtain ⟨x, pol, p1, s0, s1, rfl, _⟩ := asBdd?_some (l := t.1) (lo := t.2.1) (hi := t.2.2) hx
      exact ⟨x, pol, s0, _, p1, s1, rfl⟩
  · rintro ⟨v, p, s0, w, q, s1, rfl⟩ h
    cases h

theorem negSubs_length (es : List Elem) : (negSubs es).length = es.length := by simp [negSubs]

theorem asBdd?_negSubs {es : List Elem} (h : asBdd? es = none) : asBdd? (negSubs es) = none := by
  apply Classical.byContradiction
  intro hx
  obtain ⟨v, p, s0, w, q, s1, e⟩ := asBdd?_ne_none.1 hx
  refine asBdd?_ne_none.2 ⟨v, p, s0.neg, w, q, s1.neg, ?_⟩ h
  rw [← negSubs_negSubs es, e]
  rfl

theorem varsElems_negSubs (es : List Elem) : ∀ v, v ∈ varsElems (negSubs es) ↔ v ∈ varsElems es := by
  intro v
  simp only [mem_varsElems, mem_negSubs]
  constructor
  · rintro ⟨e, ⟨e0, h0, rfl⟩, h⟩
    exact ⟨e0, h0, by simpa [vars_neg] using h⟩
  · rintro ⟨e, he, h⟩
    exact ⟨(e.1, e.2.neg), ⟨e, he, rfl⟩, by simpa [vars_neg] using h⟩

/-- The binary case goes through `uniqueBdd_wfs`.  Otherwise the sorted list must pass the side
conditions of a `WFs` decision node: strictly sorted because the primes of a partition with
satisfiable members are pairwise distinct, and neither a disguised BDD nor trimmable because
`asBdd?` and `canonBase?` already said no on the unsorted list and neither test depends on the
order of two elements. -/
theorem uniqueOr_wfs {vt : VTree} (hnd : vt.leaves.Nodup) {es : List Elem} {i : Nat} {r : Ptr}
    (hint : Internal vt i) (hpart : Partition es) (hok : ∀ e ∈ es, ElemOKs vt i e)
    (hsubs : (es.map (·.2)).Nodup) (hbase : canonBase? es = none)
    (h : uniqueOr es i = some r) : WFs vt r ∧ ∀ v ∈ r.vars, v ∈ varsElems es := by
  simp only [uniqueOr] at h
  split at h
  · rename_i l lo hi hb
    cases h
    obtain ⟨x, pol, p1, s0, s1, rfl, rfl, rfl⟩ := asBdd?_some hb
    obtain ⟨rfl, rfl⟩ := partition_two_lits hpart
    have h0 := hok _ (List.mem_cons_self ..)
    have h1 := hok _ (List.mem_cons_of_mem _ (List.mem_cons_self ..))
    have hl : x ∈ vt.leftVars i := h1.2.2.2.1 x (by simp [Ptr.vars])
    -- whichever of the two subs `asBdd?` picks
    have pick : ∀ c : Bool, WFs vt (if c = true then s0 else s1) ∧
        (∀ v ∈ (if c = true then s0 else s1).vars, v ∈ vt.rightVars i) ∧
        ∀ v ∈ (if c = true then s0 else s1).vars, v ∈ s0.vars ∨ v ∈ s1.vars := by
      intro c
      cases c
      · exact ⟨h1.2.1, h1.2.2.2.2, fun v hv => Or.inr hv⟩
      · exact ⟨h0.2.1, h0.2.2.2.2, fun v hv => Or.inl hv⟩
    obtain ⟨w, vv⟩ := uniqueBdd_wfs (l := x) hint hl (pick _).1 (pick _).1 (pick _).2.1 (pick _).2.1
    refine ⟨w, fun v hv => ?_⟩
    rcases vv v hv with rfl | hv | hv
    · simp [varsElems, Ptr.vars]
    · rcases (pick _).2.2 v hv with h' | h' <;> simp [varsElems, h']
    · rcases (pick _).2.2 v hv with h' | h' <;> simp [varsElems, h']
  · rename_i hnb
    have hlen : 2 ≤ es.length := by
      match es, hbase, hpart, hok with
      | [], _, hpart, _ => have := hpart (fun _ => true); simp at this
      | [(p, s)], hbase, hpart, hok =>
        exfalso
        have hp : p = .tru := tru_of_wfs hnd (hok (p, s) (by simp)).1 (fun a => by
          have := hpart a
          simp only [cnt_cons, cnt_nil] at this
          cases h : p.eval a
          · simp [h] at this
          · rfl)
        subst hp
        simp [canonBase?, Ptr.isTrue] at hbase
      | _ :: _ :: _, _, _, _ => simp
    have hsat : ∀ e ∈ es, ∃ a, e.1.eval a = true :=
      fun e he => sat_of_wfs hnd (hok e he).1 (hok e he).2.2.1
    have hsorted : StrictSorted (sortByPrime es) :=
      strictSorted_sort (primes_nodup (fun a => by rw [hpart a]; exact Nat.le_refl 1) hsat)
    -- neither shape is affected by the order of two elements
    have hshape : asBdd? (sortByPrime es) = none ∧ ¬ Trim2 (sortByPrime es) := by
      constructor
      · apply Classical.byContradiction
        intro hx
        obtain ⟨v, p, s0, w, q, s1, e⟩ := asBdd?_ne_none.1 hx
        rcases sortByPrime_eq_two e with rfl | rfl <;>
          exact asBdd?_ne_none.2 ⟨_, _, _, _, _, _, rfl⟩ hnb
      · rintro ⟨p, q, e | e⟩ <;> rcases sortByPrime_eq_two e with rfl | rfl <;>
          simp [canonBase?, Ptr.isTrue, Ptr.isFalse] at hbase
    have hok' : ∀ e ∈ sortByPrime es, ElemOKs vt i e := fun e he => hok e (mem_sortByPrime.1 he)
    have hvars : ∀ v, v ∈ varsElems (sortByPrime es) ↔ v ∈ varsElems es := by
      intro v; simp only [mem_varsElems, mem_sortByPrime]
    have hlen' : 2 ≤ (sortByPrime es).length := by rw [(sortByPrime_perm es).length_eq]; exact hlen
    have hsubs' := ((sortByPrime_perm es).map (·.2)).nodup_iff.2 hsubs
    have hpart' : Partition (sortByPrime es) := fun a => by rw [cnt_sortByPrime]; exact hpart a
    split at h
    · cases h
    · rename_i p0 s0 rest hs
      rw [hs] at hsorted hshape hok' hvars hlen' hsubs' hpart'
      split at h
      · rename_i hreg
        cases h
        refine ⟨⟨hint, fun a => by rw [cnt_negSubs]; exact hpart' a, ?_, subs_negSubs hsubs',
          strictSorted_negSubs hsorted, by rw [negSubs_length]; exact hlen',
          asBdd?_negSubs hshape.1, ?_, ?_⟩, ?_⟩
        · rw [wfsElems_iff]
          intro e he
          obtain ⟨e0, h0, rfl⟩ := mem_negSubs.1 he
          obtain ⟨a1, a2, a3, a4, a5⟩ := hok' e0 h0
          exact ⟨a1, WFs_neg a2, a3, a4, by simpa [vars_neg] using a5⟩
        · intro p q
          constructor
          · intro h'; exact hshape.2 (trim2_negSubs ⟨p, q, Or.inl h'⟩)
          · intro h'; exact hshape.2 (trim2_negSubs ⟨p, q, Or.inr h'⟩)
        · intro e he
          simp only [negSubs, List.map_cons, List.head?_cons, Option.some.injEq] at he
          subst he
          apply regular_neg_of_not
          simp only [Ptr.regular, hreg, Bool.not_true]
        · intro v hv
          simp only [Ptr.vars] at hv
          exact (hvars v).1 ((varsElems_negSubs _ v).1 hv)
      · rename_i hreg
        cases h
        refine ⟨⟨hint, hpart', wfsElems_iff.2 hok', hsubs', hsorted, hlen', hshape.1, ?_, ?_⟩, ?_⟩
        · intro p q
          exact ⟨fun h' => hshape.2 ⟨p, q, Or.inl h'⟩, fun h' => hshape.2 ⟨p, q, Or.inr h'⟩⟩
        · intro e he
          simp only [List.head?_cons, Option.some.injEq] at he
          subst he
          simp only [Ptr.regular]
          simp only [Bool.not_eq_true] at hreg
          rw [hreg]; rfl
        · intro v hv
          simp only [Ptr.vars] at hv
          exact (hvars v).1 hv


/-! ## the recursive call, abstractly (structural version) -/

/-- `T` is instantiated with the left or right variables of a vtree node, or with the variables of
the operands (for the vars conjunct of `AndOKs`) -/
def VarsIn (T : Nat → Prop) (p : Ptr) : Prop := ∀ v ∈ p.vars, T v

theorem varsIn_neg {T : Nat → Prop} {p : Ptr} (h : VarsIn T p) : VarsIn T p.neg := by
  intro v hv; rw [vars_neg] at hv; exact h v hv
theorem varsIn_tru (T : Nat → Prop) : VarsIn T .tru := fun v hv => by cases hv
theorem varsIn_fls (T : Nat → Prop) : VarsIn T .fls := fun v hv => by cases hv


/-- The vars conjunct (the result mentions only variables of the operands) is what puts the primes
and subs built by the loops on the correct side of their vtree node, which `WFs` of a new node asks. -/
def AndOKs {σ : Type} (P : σ → Prop) (vt : VTree) (andF : AndF σ) : Prop :=
  ∀ st a b st' r, P st → WFs vt a → WFs vt b → andF st a b = some (st', r) →
    P st' ∧ WFs vt r ∧ (∀ v ∈ r.vars, v ∈ a.vars ∨ v ∈ b.vars) ∧
      ∀ asg, r.eval asg = (a.eval asg && b.eval asg)

/-- `WFs`, and variables among `T` -/
def Sv (vt : VTree) (T : Nat → Prop) (p : Ptr) : Prop := WFs vt p ∧ VarsIn T p

/-- what `AndOKs` says of a result beyond `WFs` -/
def AndS (a b r : Ptr) : Prop := (∀ v ∈ r.vars, v ∈ a.vars ∨ v ∈ b.vars) ∧ IsAnd a b r

section
variable {σ : Type} {P : σ → Prop} {vt : VTree} {andF : AndF σ}

theorem AndOKs.w (hands : AndOKs P vt andF) : CallsW True P (WFs vt) AndS andF := Calls.w hands

theorem AndOKs.sv (hands : AndOKs P vt andF) (T : Nat → Prop) : CallsW True P (Sv vt T) AndS andF :=
  Calls.w (Calls.side hands fun _ _ _ va vb rr v hv => (rr.1 v hv).elim (va v) (vb v))

theorem orF_oks (hand : AndOKs P vt andF) {st a b st' r} (hP : P st) (wa : WFs vt a) (wb : WFs vt b)
    (h : orF andF st a b = some (st', r)) :
    P st' ∧ WFs vt r ∧ (∀ v ∈ r.vars, v ∈ a.vars ∨ v ∈ b.vars) ∧
      ∀ asg, r.eval asg = (a.eval asg || b.eval asg) :=
  have ⟨hP', g, e⟩ := (orF_w (hand.sv fun v => v ∈ a.vars ∨ v ∈ b.vars)
    (fun _ g => ⟨WFs_neg g.1, varsIn_neg g.2⟩) (fun _ _ _ h => h.2) st a b hP
    ⟨wa, fun _ h => Or.inl h⟩ ⟨wb, fun _ h => Or.inr h⟩).partial h
  ⟨hP', g.1, g.2, e⟩

end

def PrimeOKs (vt : VTree) (i : Nat) (p : Ptr) : Prop :=
  WFs vt p ∧ p ≠ .fls ∧ ∀ v ∈ p.vars, v ∈ vt.leftVars i

section compressS
variable {σ : Type} {P : σ → Prop} {vt : VTree} {andF : AndF σ} {i : Nat}

/-- the contract of `orF` on primes of node `i` whose variables lie in `T`; a union with a
satisfiable prime is not the false constant -/
theorem orF_ws (hnd : vt.leaves.Nodup) (hand : AndOKs P vt andF) (T : Nat → Prop) (st : σ) (a b : Ptr)
    (hP : P st) (ga : PrimeOKs vt i a ∧ VarsIn T a) (gb : PrimeOKs vt i b ∧ VarsIn T b) :
    W True (orF andF st a b) fun y => P y.1 ∧ (PrimeOKs vt i y.2 ∧ VarsIn T y.2) ∧ IsOr a b y.2 := by
  refine (orF_w (hand.sv fun v => v ∈ vt.leftVars i ∧ T v) (fun _ g => ⟨WFs_neg g.1, varsIn_neg g.2⟩)
    (fun _ _ _ h => h.2) st a b hP ⟨ga.1.1, fun v hv => ⟨ga.1.2.2 v hv, ga.2 v hv⟩⟩
    ⟨gb.1.1, fun v hv => ⟨gb.1.2.2 v hv, gb.2 v hv⟩⟩).mono fun y ⟨hP', g, e⟩ =>
      ⟨hP', ⟨⟨g.1, fun h0 => ?_, fun v hv => (g.2 v hv).1⟩, fun v hv => (g.2 v hv).2⟩, e⟩
  obtain ⟨asg, ha⟩ := sat_of_wfs hnd ga.1.1 ga.1.2.1
  have := e asg
  rw [h0, ha] at this
  cases this

/-- `compress` keeps the elements of node `i` in normal form, makes the subs distinct and keeps a partition -/
theorem compress_oks (hnd : vt.leaves.Nodup) (hand : AndOKs P vt andF) {st : σ} {l : List Elem}
    {st' : σ} {out : List Elem} (hP : P st) (hl : ∀ e ∈ l, ElemOKs vt i e)
    (h : compress andF st l = some (st', out)) :
    P st' ∧ (∀ e ∈ out, ElemOKs vt i e) ∧ (out.map (·.2)).Nodup ∧
      (∀ v ∈ varsElems out, v ∈ varsElems l) ∧ (Partition l → Partition out) := by
  obtain ⟨hP', hout, hnd', _, hsem⟩ := (compressOuter_w (orF_ws hnd hand (· ∈ varsElems l)) _ st l hP
    fun e he => ⟨⟨(hl e he).1, (hl e he).2.2.1, (hl e he).2.2.2.1⟩,
      fun v hv => mem_varsElems.2 ⟨e, he, Or.inl hv⟩⟩).partial h
  refine ⟨hP', fun e he => ?_, hnd' (Nat.le_refl _), fun v hv => ?_,
    fun hpart a => by rw [(hsem a (Nat.le_of_eq (hpart a))).1]; exact hpart a⟩
  · -- an output element has a prime built here and the sub of an input element
    obtain ⟨g, e', he', hee⟩ := hout e he
    exact ⟨g.1.1, hee ▸ (hl e' he').2.1, g.1.2.1, g.1.2.2, hee ▸ (hl e' he').2.2.2.2⟩
  · obtain ⟨e, he, hv | hv⟩ := mem_varsElems.1 hv
    · exact (hout e he).1.2 v hv
    · obtain ⟨_, e', he', hee⟩ := hout e he
      exact mem_varsElems.2 ⟨e', he', Or.inr (hee ▸ hv)⟩

theorem canonBase_wfs {es : List Elem} {r : Ptr} (hpart : Partition es)
    (hok : ∀ e ∈ es, ElemOKs vt i e) (h : canonBase? es = some r) :
    WFs vt r ∧ ∀ v ∈ r.vars, v ∈ varsElems es := by
  rcases canonBase?_eq_some h with ⟨rfl, rfl⟩ | rfl | ⟨p, rfl, rfl⟩ | ⟨p1, rfl⟩ | ⟨p0, rfl⟩
  · exact ⟨WFs_tru vt, fun v hv => by cases hv⟩
  · exact ⟨(hok _ (List.mem_cons_self ..)).2.1, fun v hv => by simp [varsElems, hv]⟩
  · exact ⟨WFs_fls vt, fun v hv => by cases hv⟩
  · exact ⟨(hok _ (List.mem_cons_self ..)).1, fun v hv => by simp [varsElems, hv]⟩
  · exact ⟨(hok _ (List.mem_cons_of_mem _ (List.mem_cons_self ..))).1,
      fun v hv => by simp [varsElems, hv]⟩

/-- with compression on, `canonicalize` returns a pointer in normal form -/
theorem canonicalize_wfs (hnd : vt.leaves.Nodup) (hands : AndOKs P vt andF)
    {st : σ} {l : List Elem} {st' : σ} {r : Ptr} (hP : P st) (hint : Internal vt i)
    (hpart : Partition l) (hok : ∀ e ∈ l, ElemOKs vt i e)
    (h : canonicalize true andF st l i = some (st', r)) :
    P st' ∧ WFs vt r ∧ ∀ v ∈ r.vars, v ∈ varsElems l := by
  simp only [canonicalize] at h
  split at h
  · rename_i r0 hb
    cases h
    obtain ⟨w, v⟩ := canonBase_wfs hpart hok hb
    exact ⟨hP, w, v⟩
  · rename_i hb0
    simp only [if_true] at h
    split at h
    · cases h
    · rename_i st1 l1 hc
      obtain ⟨hP1, hok1, hnd1, hv1, hp1⟩ := compress_oks hnd hands hP hok hc
      have hpart1 := hp1 hpart
      split at h
      · rename_i r0 hb
        cases h
        obtain ⟨w, v⟩ := canonBase_wfs hpart1 hok1 hb
        exact ⟨hP1, w, fun x hx => hv1 x (v x hx)⟩
      · rename_i hb
        simp only [Option.map_eq_some_iff] at h
        obtain ⟨r0, hu, he⟩ := h
        cases he
        obtain ⟨w, v⟩ := uniqueOr_wfs hnd hint hpart1 hok1 hnd1 hb hu
        exact ⟨hP1, w, fun x hx => hv1 x (v x hx)⟩

end compressS


/-! ## the loops, structurally -/

/-- the loops drop products with a false prime, hence `N := (· ≠ .fls)` for what they return:
`WFs` wants no false prime -/
abbrev ElemT (vt : VTree) (Tp Ts : Nat → Prop) (N : Ptr → Prop) : Elem → Prop :=
  ElemG (Sv vt Tp) (Sv vt Ts) N

section loopsS
variable {σ : Type} {P : σ → Prop} {vt : VTree} {andF : AndF σ} {Tp Ts : Nat → Prop}

theorem prodLoop_s (hands : AndOKs P vt andF) {cart : Bool} {ea eb : List Elem} {Nb : Ptr → Prop}
    (hokb : ∀ e ∈ eb, ElemT vt Tp Ts Nb e) (hpb : Partition eb)
    (hoka : ∀ e ∈ ea, ElemT vt Tp Ts (· ≠ .fls) e) {st st' : σ} {res : LoopRes} (hP : P st)
    (h : prodLoop andF cart eb st ea = some (st', res)) :
    P st' ∧ LoopG (ElemT vt Tp Ts (· ≠ .fls)) (· = .tru) res ∧ ProdSem ea eb res :=
  (prodLoop_w (hands.sv Tp) (hands.sv Ts) (fun _ _ _ h => h.2) (fun _ => isFalse_eq_false.1) cart
    hokb hpb _ _ hP hoka).partial h

end loopsS


/-! ## the four vtree cases, structurally -/

/-- the elements a loop of the builder iterates over are the raw elements of the node with the
root complement pushed into the subs -/
theorem elems?_of_wfs {vt : VTree} {r : Ptr} {es : List Elem} (wr : WFs vt r)
    (h : r.elems? = some es) :
    ∃ c raw, NodeFacts vt r c (vtreeIndex vt r) raw ∧ es = (if c then negSubs raw else raw) ∧
      ∀ v ∈ varsElems raw, v ∈ r.vars := by
  cases r with
  | tru => cases h
  | fls => cases h
  | lit v p => cases h
  | bdd c l i lo hi =>
    refine ⟨c, _, nodeFacts_bdd wr, ?_, fun v hv => ?_⟩
    · cases c <;> exact (Option.some.inj h).symm
    · simp only [varsElems, Ptr.vars, List.mem_append, List.mem_cons, List.not_mem_nil,
        or_false] at hv ⊢
      rcases hv with rfl | hv | rfl | hv
      · exact Or.inl rfl
      · exact Or.inr (Or.inr hv)
      · exact Or.inl rfl
      · exact Or.inr (Or.inl hv)
  | dec c i es0 =>
    exact ⟨c, es0, nodeFacts_dec wr, (Option.some.inj h).symm, fun v hv => by rw [Ptr.vars]; exact hv⟩

theorem WFs_condNeg {vt : VTree} {p : Ptr} (c : Bool) (h : WFs vt p) :
    WFs vt (if c then p.neg else p) := by cases c <;> simp [WFs_neg, h]

theorem vars_condNeg (c : Bool) (p : Ptr) : (if c then p.neg else p).vars = p.vars := by
  cases c <;> simp [vars_neg]

section casesS
variable {σ : Type} {P P0 : σ → Prop} {vt : VTree} {andF : AndF σ}

theorem elems?_elemT {S : Nat → Prop} {r : Ptr} {es : List Elem} (wr : WFs vt r)
    (h : r.elems? = some es) (hS : ∀ v ∈ r.vars, S v) :
    ∀ e ∈ es, ElemT vt (fun v => v ∈ vt.leftVars (vtreeIndex vt r) ∧ S v)
      (fun v => v ∈ vt.rightVars (vtreeIndex vt r) ∧ S v) (· ≠ .fls) e := by
  obtain ⟨c, raw, hf, rfl, hv⟩ := elems?_of_wfs wr h
  have base : ∀ e ∈ raw, ElemT vt (fun v => v ∈ vt.leftVars (vtreeIndex vt r) ∧ S v)
      (fun v => v ∈ vt.rightVars (vtreeIndex vt r) ∧ S v) (· ≠ .fls) e := fun e he =>
    have ⟨a1, a2, a3, a4, a5⟩ := hf.ok e he
    ⟨⟨a1, fun v h1 => ⟨a4 v h1, hS v (hv v (mem_varsElems.2 ⟨e, he, Or.inl h1⟩))⟩⟩,
      ⟨a2, fun v h2 => ⟨a5 v h2, hS v (hv v (mem_varsElems.2 ⟨e, he, Or.inr h2⟩))⟩⟩, a3⟩
  cases c
  · exact base
  · intro e he
    obtain ⟨e0, h0, rfl⟩ := mem_negSubs.1 he
    obtain ⟨a1, ⟨a2, a4⟩, a5⟩ := base e0 h0
    exact ⟨a1, ⟨WFs_neg a2, varsIn_neg a4⟩, a5⟩

theorem canonicalize_elemT (hnd : vt.leaves.Nodup) (hands : AndOKs P vt andF) {S : Nat → Prop} {i : Nat}
    {st st' : σ} {l : List Elem} {r : Ptr} (hP : P st) (hint : Internal vt i) (hpart : Partition l)
    (hl : ∀ e ∈ l,
      ElemT vt (fun v => v ∈ vt.leftVars i ∧ S v) (fun v => v ∈ vt.rightVars i ∧ S v) (· ≠ .fls) e)
    (h : canonicalize true andF st l i = some (st', r)) :
    P st' ∧ WFs vt r ∧ ∀ v ∈ r.vars, S v := by
  obtain ⟨hP', wr, vr⟩ := canonicalize_wfs hnd hands hP hint hpart
    (fun e he => ⟨(hl e he).1.1, (hl e he).2.1.1, (hl e he).2.2,
      fun v hv => ((hl e he).1.2 v hv).1, fun v hv => ((hl e he).2.1.2 v hv).1⟩) h
  refine ⟨hP', wr, fun v hv => ?_⟩
  obtain ⟨e, he, hv | hv⟩ := mem_varsElems.1 (vr v hv)
  · exact ((hl e he).1.2 v hv).2
  · exact ((hl e he).2.1.2 v hv).2

/-- after a product loop: `true` was returned early, or the elements go to `canonicalize` -/
theorem prodFinish_s (hnd : vt.leaves.Nodup) (hands : AndOKs P vt andF) {S : Nat → Prop} {i : Nat}
    {st st' : σ} {lr : LoopRes} {r : Ptr} (hP : P st) (hint : Internal vt i)
    (hl : LoopG (ElemT vt (fun v => v ∈ vt.leftVars i ∧ S v) (fun v => v ∈ vt.rightVars i ∧ S v)
      (· ≠ .fls)) (· = .tru) lr) (hpart : ∀ l, lr = .elems l → Partition l)
    (h : (match (generalizing := false) lr with
      | .early x => some (st, x)
      | .elems l => canonicalize true andF st l i) = some (st', r)) :
    P st' ∧ WFs vt r ∧ ∀ v ∈ r.vars, S v := by
  cases lr with
  | early x => cases h; cases (hl : r = .tru); exact ⟨hP, WFs_tru vt, fun v hv => by cases hv⟩
  | elems l => exact canonicalize_elemT hnd hands hP hint (hpart l rfl) hl h

/-- the binary-node branches of `and_sub_desc` and `and_cartesian`: `unique_bdd` of two
conjunctions whose operands live under the right child -/
theorem bddOfAnds_s (hands : AndOKs P vt andF) {st st' : σ} {l i : Nat}
    {a1 b1 a2 b2 res : Ptr} (hP : P st) (hint : Internal vt i) (hl : l ∈ vt.leftVars i)
    (wa1 : WFs vt a1) (wb1 : WFs vt b1) (wa2 : WFs vt a2) (wb2 : WFs vt b2)
    (va1 : VarsIn (· ∈ vt.rightVars i) a1) (vb1 : VarsIn (· ∈ vt.rightVars i) b1)
    (va2 : VarsIn (· ∈ vt.rightVars i) a2) (vb2 : VarsIn (· ∈ vt.rightVars i) b2)
    (h : (match andF st a1 b1 with
      | none => none
      | some (st1, lr) =>
        match andF st1 a2 b2 with
        | none => none
        | some (st2, hr) => some (st2, uniqueBdd l lr hr i)) = some (st', res)) :
    P st' ∧ WFs vt res ∧ ∀ v ∈ res.vars,
      v = l ∨ (v ∈ a1.vars ∨ v ∈ b1.vars) ∨ (v ∈ a2.vars ∨ v ∈ b2.vars) := by
  obtain ⟨lr, hr, rfl, hP2, ⟨wlr, vlr, _⟩, whr, vhr, _⟩ := (hands.w.two hP wa1 wb1 wa2 wb2).partial h
  obtain ⟨w, vv⟩ := uniqueBdd_wfs hint hl wlr whr
    (fun v hv => (vlr v hv).elim (va1 v) (vb1 v)) (fun v hv => (vhr v hv).elim (va2 v) (vb2 v))
  refine ⟨hP2, w, fun v hv => ?_⟩
  rcases vv v hv with h' | h' | h'
  · exact Or.inl h'
  · exact Or.inr (Or.inl (vlr v h'))
  · exact Or.inr (Or.inr (vhr v h'))

theorem andSubDesc_s (hnd : vt.leaves.Nodup) (hands : AndOKs P vt andF) {st st' : σ} {r d res : Ptr}
    (hP : P st) (wr : WFs vt r) (wd : WFs vt d) (hd : ∀ v ∈ d.vars, v ∈ vt.rightVars (vtreeIndex vt r))
    (h : andSubDesc true andF st r d = some (st', res)) :
    P st' ∧ WFs vt res ∧ ∀ v ∈ res.vars, v ∈ r.vars ∨ v ∈ d.vars := by
  cases r with
  | tru => simp [andSubDesc] at h
  | fls => simp [andSubDesc] at h
  | lit v p => simp [andSubDesc] at h
  | bdd c l i lo hi =>
    obtain ⟨hint, hl, wlo, whi, vlo, vhi, _⟩ := wr
    simp only [vtreeIndex] at hd
    simp only [andSubDesc] at h
    obtain ⟨hP2, w, vv⟩ := bddOfAnds_s hands hP hint hl (WFs_condNeg c wlo) wd
      (WFs_condNeg c whi) wd (by rw [VarsIn, vars_condNeg]; exact vlo) hd
      (by rw [VarsIn, vars_condNeg]; exact vhi) hd h
    refine ⟨hP2, w, fun v hv => ?_⟩
    simp only [vars_condNeg] at vv
    rcases vv v hv with rfl | (h' | h') | (h' | h')
    · left; simp [Ptr.vars]
    · left; simp [Ptr.vars, h']
    · exact Or.inr h'
    · left; simp [Ptr.vars, h']
    · exact Or.inr h'
  | dec c i es =>
    simp only [andSubDesc] at h
    split at h
    · cases h
    · rename_i st1 v hloop
      have hel : (Ptr.dec c i es).elems? = some (if c then negSubs es else es) := rfl
      obtain ⟨_, hpart, hint, _⟩ := elems?_ok (WFs_WF _ wr) hel
      let S : Nat → Prop := fun v => v ∈ (Ptr.dec c i es).vars ∨ v ∈ d.vars
      have hin := elems?_elemT (S := S) wr hel (fun v hv => Or.inl hv)
      simp only [vtreeIndex] at hd hin hint
      obtain ⟨hP1, hout, hsem⟩ := (subDescLoop_w (hands.sv _) (fun _ _ _ h => h.2)
        ⟨wd, fun v hv => ⟨hd v hv, Or.inr hv⟩⟩ _ _ hP hin).partial hloop
      exact canonicalize_elemT hnd hands hP1 hint (fun a => by rw [(hsem a).1]; exact hpart a)
        hout h

theorem andPrimeDesc_s (hnd : vt.leaves.Nodup) (hands : AndOKs P vt andF) {st st' : σ} {r d res : Ptr}
    (hP : P st) (wr : WFs vt r) (wd : WFs vt d) (hd : ∀ v ∈ d.vars, v ∈ vt.leftVars (vtreeIndex vt r))
    (h : andPrimeDesc true andF st r d = some (st', res)) :
    P st' ∧ WFs vt res ∧ ∀ v ∈ res.vars, v ∈ r.vars ∨ v ∈ d.vars := by
  obtain ⟨er, her, h⟩ := andPrimeDesc_some vt h
  obtain ⟨_, hpart, hint, _⟩ := elems?_ok (WFs_WF _ wr) her
  obtain ⟨_, hpd, _⟩ := pairD_ok (vt := vt) (WFs_WF _ wd) (depW_of_vars hd)
  let S : Nat → Prop := fun v => v ∈ r.vars ∨ v ∈ d.vars
  let i := vtreeIndex vt r
  have hin := elems?_elemT (S := S) wr her (fun v hv => Or.inl hv)
  have hinb : ∀ e ∈ [(d, Ptr.tru), (d.neg, Ptr.fls)],
      ElemT vt (fun v => v ∈ vt.leftVars i ∧ S v) (fun v => v ∈ vt.rightVars i ∧ S v)
        (fun _ => True) e := by
    intro e he
    simp only [List.mem_cons, List.not_mem_nil, or_false] at he
    rcases he with rfl | rfl
    · exact ⟨⟨wd, fun v hv => ⟨hd v hv, Or.inr hv⟩⟩, ⟨WFs_tru vt, varsIn_tru _⟩, trivial⟩
    · exact ⟨⟨WFs_neg wd, fun v hv => by rw [vars_neg] at hv; exact ⟨hd v hv, Or.inr hv⟩⟩,
        ⟨WFs_fls vt, varsIn_fls _⟩, trivial⟩
  obtain ⟨st1, lr, hloop, hc⟩ := res_inv h
  obtain ⟨hP1, hpost, hsem⟩ := prodLoop_s hands hinb hpd hin hP hloop
  exact prodFinish_s hnd hands hP1 hint hpost (fun l hl a => by
    subst hl; rw [(hsem a).1]; exact hpart a) hc

theorem andCartesian_s (hnd : vt.leaves.Nodup) (hands : AndOKs P vt andF) {st st' : σ} {a b res : Ptr}
    (hP : P st) (wa : WFs vt a) (wb : WFs vt b) (hidx : vtreeIndex vt a = vtreeIndex vt b)
    (h : andCartesian vt true andF st a b (vtreeIndex vt a) = some (st', res)) :
    P st' ∧ WFs vt res ∧ ∀ v ∈ res.vars, v ∈ a.vars ∨ v ∈ b.vars := by
  refine andCartesian_cases (motive := fun o => o = some (st', res) →
    P st' ∧ WFs vt res ∧ ∀ v ∈ res.vars, v ∈ a.vars ∨ v ∈ b.vars) ?_ ?_ ?_ ?_ h
  · clear h
    rintro c l i lo hi c' l' i' lo' hi' _ rfl rfl h
    obtain ⟨hint, hl, wlo, whi, vlo, vhi, _⟩ := wa
    obtain ⟨_, _, wlo', whi', vlo', vhi', _⟩ := wb
    simp only [vtreeIndex] at hidx h
    subst hidx
    obtain ⟨hP2, w, vv⟩ := bddOfAnds_s hands hP hint hl (WFs_condNeg c wlo)
      (WFs_condNeg c' wlo') (WFs_condNeg c whi) (WFs_condNeg c' whi')
      (by rw [VarsIn, vars_condNeg]; exact vlo) (by rw [VarsIn, vars_condNeg]; exact vlo')
      (by rw [VarsIn, vars_condNeg]; exact vhi) (by rw [VarsIn, vars_condNeg]; exact vhi') h
    refine ⟨hP2, w, fun v hv => ?_⟩
    simp only [vars_condNeg] at vv
    rcases vv v hv with rfl | (h' | h') | (h' | h')
    · left; simp [Ptr.vars]
    · left; simp [Ptr.vars, h']
    · right; simp [Ptr.vars, h']
    · left; simp [Ptr.vars, h']
    · right; simp [Ptr.vars, h']
  · intro _ _ _ h; cases h
  · intro ea eb _ hea heb h
    obtain ⟨_, hpa, hinta, _⟩ := elems?_ok (WFs_WF _ wa) hea
    obtain ⟨_, hpb, _, _⟩ := elems?_ok (WFs_WF _ wb) heb
    let S : Nat → Prop := fun v => v ∈ a.vars ∨ v ∈ b.vars
    have hina := elems?_elemT (S := S) wa hea (fun v hv => Or.inl hv)
    have hinb := elems?_elemT (S := S) wb heb (fun v hv => Or.inr hv)
    rw [← hidx] at hinb
    obtain ⟨st1, lr, hloop, hc⟩ := res_inv h
    obtain ⟨hP1, hpost, hsem⟩ := prodLoop_s hands hinb hpb hina hP hloop
    exact prodFinish_s hnd hands hP1 hinta hpost (fun l hl asg => by
      subst hl; rw [(hsem asg).1]; exact hpa asg) hc
  · intro _ _ h; cases h

theorem andIndep_s (hnd : vt.leaves.Nodup) {a b res : Ptr} {k : Nat} (wa : WFs vt a) (wb : WFs vt b)
    (hint : Internal vt k) (ha : ∀ v ∈ a.vars, v ∈ vt.leftVars k)
    (hb : ∀ v ∈ b.vars, v ∈ vt.rightVars k)
    (na1 : a ≠ .tru) (na2 : a ≠ .fls) (nb1 : b ≠ .tru) (nb2 : b ≠ .fls)
    (h : andIndep vt a b k = some res) :
    WFs vt res ∧ ∀ v ∈ res.vars, v ∈ a.vars ∨ v ∈ b.vars := by
  simp only [andIndep] at h
  split at h
  · split at h
    · rename_i l
      cases h
      obtain ⟨w, vv⟩ := uniqueBdd_wfs (l := l) (lo := .fls) (hi := b) hint (ha l (by simp [Ptr.vars]))
        (WFs_fls vt) wb (fun v hv => by cases hv) hb
      refine ⟨w, fun v hv => ?_⟩
      rcases vv v hv with rfl | h' | h'
      · left; simp [Ptr.vars]
      · cases h'
      · exact Or.inr h'
    · rename_i l
      cases h
      obtain ⟨w, vv⟩ := uniqueBdd_wfs (l := l) (lo := b) (hi := .fls) hint (ha l (by simp [Ptr.vars]))
        wb (WFs_fls vt) hb (fun v hv => by cases hv)
      refine ⟨w, fun v hv => ?_⟩
      rcases vv v hv with rfl | h' | h'
      · left; simp [Ptr.vars]
      · exact Or.inr h'
      · cases h'
    · cases h
  · have hok : ∀ e ∈ [(a, b), (a.neg, Ptr.fls)], ElemOKs vt k e := by
      intro e he
      simp only [List.mem_cons, List.not_mem_nil, or_false] at he
      rcases he with rfl | rfl
      · exact ⟨wa, wb, na2, ha, hb⟩
      · refine ⟨WFs_neg wa, WFs_fls vt, ?_, by simpa [vars_neg] using ha, fun v hv => by cases hv⟩
        intro e; apply na1
        have := congrArg Ptr.neg e; rw [neg_neg] at this; exact this
    have hpart : Partition [(a, b), (a.neg, .fls)] := by
      intro asg; simp only [cnt_cons, cnt_nil, eval_neg]; cases a.eval asg <;> simp
    have hsubs : (([(a, b), (a.neg, Ptr.fls)] : List Elem).map (·.2)).Nodup := by
      simp only [List.map_cons, List.map_nil, List.nodup_cons, List.mem_singleton,
        List.not_mem_nil, not_false_eq_true, List.nodup_nil, and_true]
      exact nb2
    have hbase : canonBase? [(a, b), (a.neg, Ptr.fls)] = none := by
      simp [canonBase?, isTrue_eq_false.2 nb1, isFalse_eq_false.2 nb2]
    obtain ⟨w, vv⟩ := uniqueOr_wfs hnd hint hpart hok hsubs hbase h
    refine ⟨w, fun v hv => ?_⟩
    have := vv v hv
    simp only [varsElems, vars_neg, Ptr.vars, List.mem_append, List.append_nil, List.not_mem_nil,
      or_false] at this
    rcases this with h' | h' | h'
    · exact Or.inl h'
    · exact Or.inr h'
    · exact Or.inl h'

end casesS


/-! ## `and`, structurally -/

/-- structural apply-cache invariant -/
def AppInvS (A : CacheImpl (Ptr × Ptr)) (vt : VTree) (s : A.σ) : Prop :=
  ∀ k r, A.get s k = some r → WFs vt r ∧ ∀ v ∈ r.vars, v ∈ k.1.vars ∨ v ∈ k.2.vars

/-- the combined state invariant -/
def AppInv2 (A : CacheImpl (Ptr × Ptr)) (vt : VTree) (s : A.σ) : Prop :=
  AppInv A vt s ∧ AppInvS A vt s

theorem appInv2_empty (A : CacheImpl (Ptr × Ptr)) (vt : VTree) : AppInv2 A vt A.empty :=
  ⟨appInv_empty A vt, fun k r h => by rw [A.empty_get] at h; cases h⟩

theorem appInvS_insert {A : CacheImpl (Ptr × Ptr)} {vt : VTree} {s : A.σ} {k : Ptr × Ptr} {r : Ptr}
    (hs : AppInvS A vt s) (wr : WFs vt r) (vr : ∀ v ∈ r.vars, v ∈ k.1.vars ∨ v ∈ k.2.vars) :
    AppInvS A vt (A.insert s k r) := by
  intro k' r' h
  rcases A.lawful _ _ _ _ _ h with ⟨rfl, rfl⟩ | h'
  · exact ⟨wr, vr⟩
  · exact hs k' r' h'

theorem varsAt_sub {vt : VTree} {i : Nat} {s : VTree} (h : vt.sub? 0 i = some s) :
    vt.varsAt i = s.leaves := by simp [VTree.varsAt, h]

section andS
variable {A : CacheImpl (Ptr × Ptr)} {vt : VTree} {andF : AndF A.σ}

theorem andCore_s (hnd : vt.leaves.Nodup) (hands : AndOKs (AppInv2 A vt) vt andF) {st st' : A.σ} {x y r : Ptr}
    (hP : AppInv2 A vt st) (wx : WFs vt x) (wy : WFs vt y)
    (hx1 : x.isTrue = false) (hx2 : x.isFalse = false)
    (hy1 : y.isTrue = false) (hy2 : y.isFalse = false)
    (hle : vtreeIndex vt x = vtreeIndex vt y ∨ vtreeIndex vt x < vtreeIndex vt y)
    (h : andCore A vt true andF st x y = some (st', r)) :
    AppInvS A vt st' ∧ WFs vt r ∧ ∀ v ∈ r.vars, v ∈ x.vars ∨ v ∈ y.vars := by
  obtain ⟨sx, hsx⟩ := vtreeIndex_sub (WFs_WF _ wx) hx1 hx2
  obtain ⟨sy, hsy⟩ := vtreeIndex_sub (WFs_WF _ wy) hy1 hy2
  have vx := wfs_vars_at wx
  have vy := wfs_vars_at wy
  rw [varsAt_sub hsx] at vx
  rw [varsAt_sub hsy] at vy
  -- a miss: the result of the vtree case is returned and entered into the cache
  have ins : ∀ {o : Option (A.σ × Ptr)},
      (∀ st1 r1, o = some (st1, r1) →
        AppInv2 A vt st1 ∧ WFs vt r1 ∧ ∀ v ∈ r1.vars, v ∈ x.vars ∨ v ∈ y.vars) →
      o.map (fun p => (A.insert p.1 (x, y) p.2, p.2)) = some (st', r) →
      AppInvS A vt st' ∧ WFs vt r ∧ ∀ v ∈ r.vars, v ∈ x.vars ∨ v ∈ y.vars := by
    intro o ho h
    obtain ⟨⟨st1, r1⟩, rfl, he⟩ := Option.map_eq_some_iff.1 h
    cases he
    obtain ⟨h1, h2, h3⟩ := ho st1 r1 rfl
    exact ⟨appInvS_insert h1.2 h2 h3, h2, h3⟩
  have sides := fun hne : vtreeIndex vt x ≠ vtreeIndex vt y =>
    VTree.lca_sides hsx hsy (hle.resolve_left hne)
  refine andCore_cases (motive := fun o => o = some (st', r) →
    AppInvS A vt st' ∧ WFs vt r ∧ ∀ v ∈ r.vars, v ∈ x.vars ∨ v ∈ y.vars) ?_ ?_ ?_ ?_ ?_ h
  · intro v hget h
    cases h
    exact ⟨hP.2, hP.2 _ _ hget⟩
  · intro _ heq
    rw [← heq, VTree.lca_self hsx]
    exact ins fun st1 r1 hr => andCartesian_s hnd hands hP wx wy heq hr
  · intro _ hne hka
    obtain ⟨l, r0, hk, _, hR, _, _⟩ := sides hne
    rw [hka] at hk hR
    refine ins fun st1 r1 hr => andSubDesc_s hnd hands hP wx wy (fun v hv => ?_) hr
    simp only [VTree.rightVars, hk]
    exact hR (hle.resolve_left hne) v (vy v hv)
  · intro _ hne _ hkb
    obtain ⟨l, r0, hk, hL, _, _, _⟩ := sides hne
    rw [hkb] at hk hL
    refine ins fun st1 r1 hr => ?_
    obtain ⟨h1, h2, h3⟩ := andPrimeDesc_s hnd hands hP wy wx (fun v hv => by
      simp only [VTree.leftVars, hk]
      exact hL (hle.resolve_left hne) v (vx v hv)) hr
    exact ⟨h1, h2, fun v hv => (h3 v hv).symm⟩
  · intro _ hne hna hnb h
    obtain ⟨l, r0, hk, hL, hR, hle1, hle2⟩ := sides hne
    obtain ⟨r0', hr0, he⟩ := Option.map_eq_some_iff.1 h
    cases he
    obtain ⟨h2, h3⟩ := andIndep_s hnd wx wy ⟨l, r0, hk⟩
      (fun v hv => by
        simp only [VTree.leftVars, hk]
        exact hL (Nat.lt_of_le_of_ne hle1 (Ne.symm hna)) v (vx v hv))
      (fun v hv => by
        simp only [VTree.rightVars, hk]
        exact hR (Nat.lt_of_le_of_ne hle2 hnb) v (vy v hv))
      (isTrue_eq_false.1 hx1) (isFalse_eq_false.1 hx2) (isTrue_eq_false.1 hy1) (isFalse_eq_false.1 hy2) hr0
    exact ⟨appInvS_insert hP.2 h2 h3, h2, h3⟩

theorem andBody_s (hnd : vt.leaves.Nodup) (hand : AndOK (AppInv A vt) vt andF)
    (hands : AndOKs (AppInv2 A vt) vt andF) :
    AndOKs (AppInv2 A vt) vt (andBody A vt true andF) := by
  intro st a b st' r hP wa wb h
  -- semantics and the C03 state invariant come from `andBody_ok`
  obtain ⟨hA', _, hsem⟩ := andBody_ok (cmpr := true) hand st a b st' r hP.1 (WFs_WF _ wa) (WFs_WF _ wb) h
  suffices hs : AppInvS A vt st' ∧ WFs vt r ∧ ∀ v ∈ r.vars, v ∈ a.vars ∨ v ∈ b.vars from
    ⟨⟨hA', hs.1⟩, hs.2.1, hs.2.2, hsem⟩
  refine andBody_cases (motive := fun o => o = some (st', r) →
    AppInvS A vt st' ∧ WFs vt r ∧ ∀ v ∈ r.vars, v ∈ a.vars ∨ v ∈ b.vars) ?_ ?_ ?_ ?_ ?_ ?_ ?_ ?_ h
  · intro _ h; cases h; exact ⟨hP.2, wb, fun v hv => Or.inr hv⟩
  · intro _ h; cases h; exact ⟨hP.2, wa, fun v hv => Or.inl hv⟩
  · intro _ h; cases h; exact ⟨hP.2, WFs_fls vt, fun v hv => by cases hv⟩
  · intro _ h; cases h; exact ⟨hP.2, WFs_fls vt, fun v hv => by cases hv⟩
  · intro _ h; cases h; exact ⟨hP.2, wa, fun v hv => Or.inl hv⟩
  · intro _ h; cases h; exact ⟨hP.2, WFs_fls vt, fun v hv => by cases hv⟩
  · intro ha1 hb1 ha2 hb2 _ _ hle h
    exact andCore_s hnd hands hP wa wb ha1 ha2 hb1 hb2 hle h
  · intro ha1 hb1 ha2 hb2 _ _ hlt h
    obtain ⟨h1, h2, h3⟩ := andCore_s hnd hands hP wb wa hb1 hb2 ha1 ha2 (Or.inr hlt) h
    exact ⟨h1, h2, fun v hv => (h3 v hv).symm⟩

end andS

/-- the compressing `and` only returns pointers in normal form -/
theorem and_s (A : CacheImpl (Ptr × Ptr)) {vt : VTree} (hnd : vt.leaves.Nodup) :
    ∀ fuel, AndOKs (AppInv2 A vt) vt (and A vt true fuel)
  | 0 => by intro st a b st' r _ _ _ h; simp [and] at h
  | fuel + 1 => by
    have := andBody_s hnd (and_ok A vt true fuel) (and_s A hnd fuel)
    simpa [and] using this


/-! ## `condition`, structurally -/

section condS
variable {σ : Type} {P P0 : σ → Prop} {vt : VTree} {andF : AndF σ} {Tp Ts : Nat → Prop}

def CondS (x : Nat) (v : Bool) (f r : Ptr) : Prop := (∀ u ∈ r.vars, u ∈ f.vars) ∧ IsCond x v f r

def CondOKs (P : σ → Prop) (vt : VTree) (x : Nat) (v : Bool)
    (condF : σ → Ptr → Option (σ × Ptr)) : Prop :=
  CallsC P (WFs vt) (CondS x v) condF

theorem condition_s (hP0 : ∀ st, P st → P0 st) (hnd : vt.leaves.Nodup) (hand : AndOK P0 vt andF)
    (hands : AndOKs P vt andF) (x : Nat) (v : Bool) :
    ∀ n, CondOKs P vt x v (condition true andF x v n)
  | 0 => by intro st f st' r _ _ h; simp [condition] at h
  | n + 1 => by
    have ih := fun T => CallsC.w (CallsC.side (S := VarsIn T) (condition_s hP0 hnd hand hands x v n)
      fun _ _ vf c u hu => vf u (c.1 u hu))
    intro st f st' r hP wf h
    have hsemr := condition_ok hand true x v (n + 1) _ _ _ _ (hP0 _ hP) (WFs_WF _ wf) h
    suffices hw : P st' ∧ WFs vt r ∧ ∀ u ∈ r.vars, u ∈ f.vars from ⟨hw.1, hw.2.1, hw.2.2, hsemr.2.2⟩
    have node : ∀ es : List Elem, f.elems? = some es →
        P st' ∧ WFs vt r ∧ ∀ u ∈ r.vars, u ∈ f.vars := by
      intro es hes
      rw [condition_node vt hes] at h
      obtain ⟨_, hpart, hint, _⟩ := elems?_ok (WFs_WF _ wf) hes
      have hin := elems?_elemT (S := (· ∈ f.vars)) wf hes (fun u hu => hu)
      obtain ⟨st1, lr, hloop, hc⟩ := res_inv h
      obtain ⟨hP1, hpost, hsem⟩ := (condLoop_w (ih _) (ih _) (fun _ _ c => c.2)
        (fun _ => isFalse_eq_false.1) _ _ hP hin).partial hloop
      cases lr with
      | early x => cases hc; exact ⟨hP1, hpost.1, fun u hu => (hpost.2 u hu).2⟩
      | elems l =>
        exact canonicalize_elemT hnd hands hP1 hint (fun a => by
          rw [(hsem a (by rw [hpart]; exact Nat.le_refl 1)).1]; exact hpart _) hpost hc
    cases f with
    | tru => simp only [condition] at h; cases h; exact ⟨hP, WFs_tru vt, fun u hu => hu⟩
    | fls => simp only [condition] at h; cases h; exact ⟨hP, WFs_fls vt, fun u hu => hu⟩
    | lit l p =>
      simp only [condition] at h
      cases h
      refine ⟨hP, ?_⟩
      by_cases hl : l = x
      · rw [if_pos hl]
        by_cases hp : p = v
        · rw [if_pos hp]; exact ⟨WFs_tru vt, fun u hu => by cases hu⟩
        · rw [if_neg hp]; exact ⟨WFs_fls vt, fun u hu => by cases hu⟩
      · rw [if_neg hl]; exact ⟨wf, fun u hu => hu⟩
    | bdd c l i lo hi => exact node _ rfl
    | dec c i es => exact node _ rfl

end condS

end Sdd
