import RsddModel.Model.TopDown
import RsddModel.Lemmas.PModel
import RsddModel.Lemmas.Wmc  -- `Ptr.vars`, `Ptr.free` and their lemmas (`free_neg`, `eval_upd_of_not_mem`)
/-!
# Lemmas: top-down compilation to decision-DNNF (C06)

Part 1: node-store contract (`NodeStore.Sound`), the standard store, conditioning (`condHelper_spec`).
Part 2: residual formulas; a decision on a variable outside the residual (`irrelevant_clause`).
Part 3: implied-literal chains, `GoodM` and the cache-reuse lemma `GoodM.transfer`, unfolding of
        `topdownH`, `topdownH_hit_after`.
Part 4: the semantic store under `CollisionFree`.
The solver specification and the main induction are in `Lemmas/TopDownSolver.lean`, the instance
for the reference solver in `Lemmas/TopDownNaive.lean`, the property statements in `Props/C06.lean`.
-/
namespace TopDown
open Spec Bdd

/-! ## Part 1: node stores -/

/-- the pointer `m` may stand in for the requested node `n` -/
def Agrees (n m : Ptr) : Prop :=
  (∀ a, m.eval a = n.eval a) ∧ (∀ x ∈ m.vars, x ∈ n.vars) ∧ (n.free → m.free)

theorem Agrees.refl (n : Ptr) : Agrees n n := ⟨fun _ => rfl, fun _ h => h, fun h => h⟩

theorem Agrees.node_self (v : Nat) (l : Ptr) : Agrees (.node false v l l) l :=
  ⟨fun a => by simp [Ptr.eval], fun x hx => by simp [Ptr.vars, hx], fun h => h.2.2.1⟩

/-- what the compiler and `cond_helper` need from `get_or_insert`: the returned pointer
denotes the requested node, tests no other variables, and is free when the requested node
is; `inv` is whatever invariant of the store state makes that true. -/
structure NodeStore.Sound (NS : NodeStore) (inv : NS.τ → Prop) : Prop where
  inv_step : ∀ t, inv t → ∀ v lo hi, inv (NS.getOrInsert t v lo hi).2
  eval_eq : ∀ t, inv t → ∀ v lo hi a,
    (NS.getOrInsert t v lo hi).1.eval a = (Ptr.node false v lo hi).eval a
  vars_sub : ∀ t, inv t → ∀ v lo hi, ∀ x ∈ (NS.getOrInsert t v lo hi).1.vars,
    x ∈ (Ptr.node false v lo hi).vars
  free : ∀ t, inv t → ∀ v lo hi, (Ptr.node false v lo hi).free → (NS.getOrInsert t v lo hi).1.free

theorem NodeStore.Sound.agrees {NS : NodeStore} {inv : NS.τ → Prop} (hNS : NS.Sound inv) {t : NS.τ}
    (ht : inv t) (v : Nat) (lo hi : Ptr) : Agrees (.node false v lo hi) (NS.getOrInsert t v lo hi).1 :=
  ⟨hNS.eval_eq t ht v lo hi, hNS.vars_sub t ht v lo hi, hNS.free t ht v lo hi⟩

theorem isNeg_eq_true {p : Ptr} (h : p.isNeg = true) : ∃ v lo hi, p = .node true v lo hi := by
  cases p with
  | tru => simp [Ptr.isNeg] at h
  | fls => simp [Ptr.isNeg] at h
  | node c v lo hi => cases c <;> simp [Ptr.isNeg] at h; exact ⟨v, lo, hi, rfl⟩

theorem dnnfNode_agrees (v : Nat) (lo hi : Ptr) : Agrees (.node false v lo hi) (dnnfNode v lo hi) := by
  unfold dnnfNode
  split
  · refine ⟨fun a => ?_, fun x hx => by simpa [Ptr.vars] using hx, fun h => ?_⟩
    · simp only [Ptr.eval, eval_neg]; cases a v <;> simp
    · exact ⟨vars_neg lo ▸ h.1, vars_neg hi ▸ h.2.1, free_neg h.2.2.1, free_neg h.2.2.2⟩
  · exact Agrees.refl _

theorem standardStore_sound : standardStore.Sound (fun _ => True) where
  inv_step := fun _ _ _ _ _ => trivial
  eval_eq := fun _ _ v lo hi => (dnnfNode_agrees v lo hi).1
  vars_sub := fun _ _ v lo hi => (dnnfNode_agrees v lo hi).2.1
  free := fun _ _ v lo hi => (dnnfNode_agrees v lo hi).2.2

/-! ### `negIf` -/

@[simp] theorem negIf_eval (c : Bool) (r : Ptr) (a : Assign) : (negIf c r).eval a = xor c (r.eval a) := by
  cases c <;> simp [negIf]
@[simp] theorem negIf_vars (c : Bool) (r : Ptr) : (negIf c r).vars = r.vars := by
  cases c <;> simp [negIf]
theorem negIf_free {c : Bool} {r : Ptr} (h : r.free) : (negIf c r).free := by
  cases c
  · exact h
  · exact free_neg h

theorem negIf_node (c : Bool) (v : Nat) (lo hi : Ptr) : negIf c (.node false v lo hi) = .node c v lo hi := by
  cases c <;> rfl

theorem free_node_flag {c c' : Bool} {v : Nat} {lo hi : Ptr} (h : (Ptr.node c v lo hi).free) :
    (Ptr.node c' v lo hi).free := h

/-! ### conditioning -/

/-- `r` is `p` conditioned on `x = b`: the restricted function, no new variables and not `x`, free -/
def IsCond (x : Nat) (b : Bool) (p r : Ptr) : Prop :=
  (∀ a, r.eval a = p.eval (upd a x b)) ∧ (∀ y ∈ r.vars, y ∈ p.vars ∧ y ≠ x) ∧ r.free

theorem condHelper_same (NS : NodeStore) (x : Nat) (b c : Bool) (lo hi : Ptr) (t : NS.τ) :
    condHelper NS x b (.node c x lo hi) t = (negIf c (if b then hi else lo), t) := by
  simp [condHelper]

theorem condHelper_other (NS : NodeStore) {x v : Nat} (hvx : v ≠ x) (b c : Bool) (lo hi : Ptr) (t : NS.τ)
    {l h : Ptr} {t1 t2 : NS.τ} (hl : condHelper NS x b lo t = (l, t1)) (hh : condHelper NS x b hi t1 = (h, t2)) :
    condHelper NS x b (.node c v lo hi) t =
      if l = h then (negIf c l, t2)
      else if l ≠ lo ∨ h ≠ hi then (negIf c (NS.getOrInsert t2 v l h).1, (NS.getOrInsert t2 v l h).2)
      else (.node c v lo hi, t2) := by
  simp [condHelper, hvx, hl, hh]

theorem isCond_same {x : Nat} {c : Bool} {lo hi : Ptr} (hf : (Ptr.node c x lo hi).free) (b : Bool) :
    IsCond x b (.node c x lo hi) (negIf c (if b then hi else lo)) := by
  have hch : x ∉ (if b then hi else lo).vars ∧ (if b then hi else lo).free := by
    cases b
    · exact ⟨hf.1, hf.2.2.1⟩
    · exact ⟨hf.2.1, hf.2.2.2⟩
  refine ⟨fun a => ?_, fun y hy => ?_, negIf_free hch.2⟩
  · rw [negIf_eval, ← eval_upd_of_not_mem a x b _ hch.1]; cases b <;> simp [Ptr.eval]
  · rw [negIf_vars] at hy
    exact ⟨by cases b <;> simp_all [Ptr.vars], fun e => hch.1 (e ▸ hy)⟩

/-- another variable: whatever stands in for the node over the conditioned children, complemented
as the original was, is the conditioned original.  All three exits of `cond_helper` have this form. -/
theorem isCond_node {x v : Nat} {b c : Bool} {lo hi l h r : Ptr} (hvx : v ≠ x)
    (hf : (Ptr.node c v lo hi).free) (hl : IsCond x b lo l) (hh : IsCond x b hi h)
    (hr : Agrees (.node false v l h) r) : IsCond x b (.node c v lo hi) (negIf c r) := by
  obtain ⟨hvlo, hvhi, _, _⟩ := hf
  refine ⟨fun a => ?_, fun y hy => ?_, negIf_free (hr.2.2 ?_)⟩
  · simp only [negIf_eval, hr.1, Ptr.eval, Bool.false_xor, hl.1, hh.1, upd_other a b hvx]
  · have := hr.2.1 y (negIf_vars c r ▸ hy)
    simp only [Ptr.vars, List.mem_cons, List.mem_append] at this ⊢
    rcases this with e | e | e
    · exact ⟨Or.inl e, e ▸ hvx⟩
    · exact ⟨Or.inr (Or.inl (hl.2.1 y e).1), (hl.2.1 y e).2⟩
    · exact ⟨Or.inr (Or.inr (hh.2.1 y e).1), (hh.2.1 y e).2⟩
  · exact ⟨fun e => hvlo (hl.2.1 v e).1, fun e => hvhi (hh.2.1 v e).1, hl.2.2, hh.2.2⟩

theorem condHelper_spec {NS : NodeStore} {inv : NS.τ → Prop} (hNS : NS.Sound inv) (x : Nat) (b : Bool) :
    ∀ (p : Ptr) (t : NS.τ), inv t → p.free →
      inv (condHelper NS x b p t).2 ∧ IsCond x b p (condHelper NS x b p t).1 := by
  intro p
  induction p with
  | tru => exact fun _ ht _ => ⟨ht, fun _ => rfl, nofun, trivial⟩
  | fls => exact fun _ ht _ => ⟨ht, fun _ => rfl, nofun, trivial⟩
  | node c v lo hi ihlo ihhi =>
    intro t ht hf
    by_cases hvx : v = x
    · subst hvx
      rw [condHelper_same]
      exact ⟨ht, isCond_same hf b⟩
    · have ihl := ihlo t ht hf.2.2.1
      rcases hl : condHelper NS x b lo t with ⟨l, t1⟩
      rw [hl] at ihl
      have ihh := ihhi t1 ihl.1 hf.2.2.2
      rcases hh : condHelper NS x b hi t1 with ⟨h, t2⟩
      rw [hh] at ihh
      rw [condHelper_other NS hvx b c lo hi t hl hh]
      have node := fun r => isCond_node (c := c) (r := r) hvx hf ihl.2 ihh.2
      by_cases e : l = h
      · rw [if_pos e]
        exact ⟨ihh.1, node l (e ▸ Agrees.node_self v l)⟩
      · rw [if_neg e]
        by_cases e' : l ≠ lo ∨ h ≠ hi
        · rw [if_pos e']
          exact ⟨hNS.inv_step t2 ihh.1 v l h, node _ (hNS.agrees ihh.1 v l h)⟩
        · rw [if_neg e']
          obtain ⟨rfl, rfl⟩ : l = lo ∧ h = hi :=
            ⟨Decidable.not_not.1 fun n => e' (Or.inl n), Decidable.not_not.1 fun n => e' (Or.inr n)⟩
          exact ⟨ihh.1, negIf_node c v l h ▸ node _ (Agrees.refl _)⟩

/-! ## Part 2: residual formulas -/

/-- `v` occurs in `cs` -/
def InCnf (cs : Cnf) (v : Nat) : Prop := ∃ c ∈ cs, ∃ l ∈ c, l.var = v

/-- `m'` assigns everything `m` assigns, the same way -/
def PExt (m m' : PModel) : Prop := ∀ x b, m x = some b → m' x = some b

theorem PExt.refl (m : PModel) : PExt m m := fun _ _ h => h
theorem PExt.trans {m1 m2 m3 : PModel} (h1 : PExt m1 m2) (h2 : PExt m2 m3) : PExt m1 m3 :=
  fun x b h => h2 x b (h1 x b h)
theorem Extends.of_PExt {a : Assign} {m m' : PModel} (h : PExt m m') (ha : Extends a m') : Extends a m :=
  fun x b hx => ha x b (h x b hx)

theorem PExt_set {m : PModel} {x : Nat} (b : Bool) (h : m x = none) : PExt m (m.set x b) := pext_set b h

theorem any_congr_mem {α : Type} {p q : α → Bool} {l : List α} (h : ∀ x ∈ l, p x = q x) : l.any p = l.any q := by
  induction l with
  | nil => rfl
  | cons x l ih =>
    rw [List.any_cons, List.any_cons, h x List.mem_cons_self, ih fun y hy => h y (List.mem_cons_of_mem _ hy)]

theorem all_congr_mem {α : Type} {p q : α → Bool} {l : List α} (h : ∀ x ∈ l, p x = q x) : l.all p = l.all q := by
  induction l with
  | nil => rfl
  | cons x l ih =>
    rw [List.all_cons, List.all_cons, h x List.mem_cons_self, ih fun y hy => h y (List.mem_cons_of_mem _ hy)]

theorem clauseSat_congr {a a' : Assign} (c : Clause) (h : ∀ l ∈ c, a l.var = a' l.var) :
    clauseSat a c = clauseSat a' c :=
  any_congr_mem fun l hl => by rw [litSat, litSat, h l hl]

theorem cnfSat_congr {a a' : Assign} (cs : Cnf) (h : ∀ v, InCnf cs v → a v = a' v) :
    cnfSat a cs = cnfSat a' cs :=
  all_congr_mem fun c hc => clauseSat_congr c fun l hl => h l.var ⟨c, hc, l, hl, rfl⟩

theorem residual_nil (m : PModel) : residual [] m = [] := rfl

theorem residual_cons (c : Clause) (cs : Cnf) (m : PModel) :
    residual (c :: cs) m =
      if c.any (litTrue m) then residual cs m
      else (c.filter fun l => !litFalse m l) :: residual cs m := by
  simp only [residual, List.filter_cons]
  cases c.any (litTrue m) <;> simp

theorem litTrue_sat {a : Assign} {m : PModel} (ha : Extends a m) {l : Lit} (h : litTrue m l = true) :
    litSat a l = true := by
  simp only [litTrue, beq_iff_eq] at h
  simp [litSat, ha _ _ h]

theorem litFalse_unsat {a : Assign} {m : PModel} (ha : Extends a m) {l : Lit} (h : litFalse m l = true) :
    litSat a l = false := by
  simp only [litFalse, beq_iff_eq] at h
  simp [litSat, ha _ _ h]

theorem clauseSat_of_litTrue {a : Assign} {m : PModel} (ha : Extends a m) {c : Clause}
    (h : c.any (litTrue m) = true) : clauseSat a c = true := by
  simp only [List.any_eq_true] at h
  obtain ⟨l, hl, hlt⟩ := h
  simp only [clauseSat, List.any_eq_true]
  exact ⟨l, hl, litTrue_sat ha hlt⟩

theorem clauseSat_filter_false {a : Assign} {m : PModel} (ha : Extends a m) (c : Clause) :
    clauseSat a (c.filter fun l => !litFalse m l) = clauseSat a c := by
  unfold clauseSat
  induction c with
  | nil => rfl
  | cons l c ih =>
    rw [List.filter_cons]
    cases hf : litFalse m l
    · simp [ih]
    · simp [ih, litFalse_unsat ha hf]

theorem residual_sat {a : Assign} {m : PModel} (ha : Extends a m) (cs : Cnf) :
    cnfSat a (residual cs m) = cnfSat a cs := by
  induction cs with
  | nil => rfl
  | cons c cs ih =>
    rw [residual_cons]
    cases hc : c.any (litTrue m)
    · simp only [cnfSat, List.all_cons, Bool.false_eq_true, if_false] at ih ⊢
      rw [ih, clauseSat_filter_false ha]
    · simp only [cnfSat, List.all_cons, if_true] at ih ⊢
      rw [ih, clauseSat_of_litTrue ha hc]; rfl

theorem InCnf_residual {cs : Cnf} {m : PModel} {v : Nat} :
    InCnf (residual cs m) v ↔
      ∃ c ∈ cs, c.any (litTrue m) = false ∧ ∃ l ∈ c, litFalse m l = false ∧ l.var = v := by
  simp only [InCnf, residual, List.mem_map, List.mem_filter, Bool.not_eq_true']
  constructor
  · rintro ⟨_, ⟨c, ⟨hc, hct⟩, rfl⟩, l, hl, e⟩
    have hl := List.mem_filter.1 hl
    exact ⟨c, hc, hct, l, hl.1, (Bool.not_eq_true' _).mp hl.2, e⟩
  · rintro ⟨c, hc, hct, l, hl, hlf, e⟩
    exact ⟨_, ⟨c, ⟨hc, hct⟩, rfl⟩, l, List.mem_filter.2 ⟨hl, (Bool.not_eq_true' _).mpr hlf⟩, e⟩

theorem unset_of_not_true_false {m : PModel} {l : Lit} (ht : litTrue m l = false) (hf : litFalse m l = false) :
    m l.var = none := by
  unfold litTrue litFalse at *
  generalize l.pol = p at ht hf
  cases hm : m l.var with
  | none => rfl
  | some b => rw [hm] at ht hf; revert ht hf; cases b <;> cases p <;> decide

theorem residual_unset {cs : Cnf} {m : PModel} {v : Nat} (h : InCnf (residual cs m) v) : m v = none := by
  obtain ⟨c, _, hct, l, hl, hlf, rfl⟩ := InCnf_residual.1 h
  refine unset_of_not_true_false (Bool.eq_false_iff.2 fun hlt => ?_) hlf
  exact Bool.eq_false_iff.1 hct (List.any_eq_true.2 ⟨l, hl, hlt⟩)

theorem residual_in {cs : Cnf} {m : PModel} {v : Nat} (h : InCnf (residual cs m) v) : InCnf cs v := by
  obtain ⟨c, hc, _, l, hl, _, e⟩ := InCnf_residual.1 h
  exact ⟨c, hc, l, hl, e⟩

theorem residual_mono {cs : Cnf} {m m' : PModel} (hm : PExt m m') {v : Nat}
    (h : InCnf (residual cs m') v) : InCnf (residual cs m) v := by
  obtain ⟨c, hc, hct, l, hl, hlf, e⟩ := InCnf_residual.1 h
  exact InCnf_residual.2 ⟨c, hc, Bool.eq_false_iff.2 fun h' => Bool.eq_false_iff.1 hct (anyTrue_mono hm h'),
    l, hl, Bool.eq_false_iff.2 fun h' => Bool.eq_false_iff.1 hlf (litFalse_mono hm h'), e⟩

/-- no clause falsified and every variable of the formula assigned: every extension satisfies it -/
theorem noFalsified_total_sat {cnf : Cnf} {m : PModel} (hnf : ∀ c ∈ cnf, clauseFalsified m c = false)
    (htot : ∀ v, InCnf cnf v → m v ≠ none) {a : Assign} (ha : Extends a m) : cnfSat a cnf = true := by
  refine List.all_eq_true.2 fun c hc => ?_
  obtain ⟨l, hl, hlf⟩ : ∃ l ∈ c, litFalse m l = false := by
    simpa [clauseFalsified] using hnf c hc
  -- `l` is assigned and not false, so it is true
  cases h : litTrue m l
  · exact absurd (unset_of_not_true_false h hlf) (htot l.var ⟨c, hc, l, hl, rfl⟩)
  · exact List.any_eq_true.2 ⟨l, hl, litTrue_sat ha h⟩

/-! ### a variable outside the residual formula -/

section
variable {cnf : Cnf} {m : PModel} {v : Nat} (b : Bool) (hv : m v = none)
  (hirr : ¬ InCnf (residual cnf m) v)
include hv hirr

/-- a clause of the formula is already satisfied, or has no literal on the irrelevant variable -/
theorem irrelevant_cases {c : Clause} (hc : c ∈ cnf) :
    c.any (litTrue m) = true ∨ ∀ l ∈ c, (m.set v b) l.var = m l.var := by
  by_cases hcv : ∃ l ∈ c, l.var = v
  · obtain ⟨l, hl, hlv⟩ := hcv
    refine Or.inl (Classical.byContradiction fun h => hirr ?_)
    exact InCnf_residual.2 ⟨c, hc, Bool.eq_false_iff.2 h, l, hl, by simp [litFalse, hlv, hv], hlv⟩
  · exact Or.inr fun l hl => if_neg fun e => hcv ⟨l, hl, e⟩

/-- deciding the variable changes no clause's status: whether it has a true literal and, if not,
which of its literals are false.  The residual formula, and the real solver's hash and satisfied
set (`UnitProp.hashOf_congr`), are functions of that status. -/
theorem irrelevant_clause {c : Clause} (hc : c ∈ cnf) :
    c.any (litTrue (m.set v b)) = c.any (litTrue m) ∧
    (c.any (litTrue (m.set v b)) = false → ∀ l, l ∈ c → litFalse (m.set v b) l = litFalse m l) := by
  rcases irrelevant_cases b hv hirr hc with h | h
  · rw [h, anyTrue_mono (PExt_set b hv) h]; exact ⟨rfl, nofun⟩
  · exact ⟨any_congr_mem fun l hl => by rw [litTrue, litTrue, h l hl],
      fun _ l hl => by rw [litFalse, litFalse, h l hl]⟩

theorem residual_irrelevant : residual cnf (m.set v b) = residual cnf m := by
  unfold residual
  rw [List.filter_congr fun c hc => by rw [(irrelevant_clause b hv hirr hc).1]]
  refine List.map_congr_left fun c hc => List.filter_congr fun l hl => ?_
  obtain ⟨hc, hct⟩ := List.mem_filter.1 hc
  obtain ⟨h1, h2⟩ := irrelevant_clause b hv hirr hc
  rw [h2 (h1.trans (by simpa using hct)) l hl]

end

theorem eval_congr_vars {a a' : Assign} (p : Ptr) (h : ∀ v ∈ p.vars, a v = a' v) : p.eval a = p.eval a' := by
  induction p with
  | tru => rfl
  | fls => rfl
  | node c v lo hi ihlo ihhi =>
    rw [Ptr.eval, Ptr.eval, h v List.mem_cons_self,
      ihlo fun x hx => h x (List.mem_cons_of_mem _ (List.mem_append_left _ hx)),
      ihhi fun x hx => h x (List.mem_cons_of_mem _ (List.mem_append_right _ hx))]

/-- `a` overridden by the partial model `m` -/
def override (a : Assign) (m : PModel) : Assign := fun x => (m x).getD (a x)

theorem override_extends (a : Assign) (m : PModel) : Extends (override a m) m := by
  intro x b h; simp [override, h]

theorem override_unset (a : Assign) {m : PModel} {x : Nat} (h : m x = none) : override a m x = a x := by
  simp [override, h]

/-! ## Part 3a: implied-literal chains -/

theorem implyChain_nil (NS : NodeStore) (t : NS.τ) (sub : Ptr) : implyChain NS t [] sub = (sub, t) := rfl

theorem implyChain_cons (NS : NodeStore) (t : NS.τ) (l : Lit) (ls : List Lit) (sub : Ptr) :
    implyChain NS t (l :: ls) sub =
      implyChain NS
        (if l.pol then NS.getOrInsert t l.var .fls sub else NS.getOrInsert t l.var sub .fls).2 ls
        (if l.pol then NS.getOrInsert t l.var .fls sub else NS.getOrInsert t l.var sub .fls).1 := rfl

/-- the node that `conjoin_implied` puts above `sub` for the literal `l` -/
theorem implyNode_spec {NS : NodeStore} {inv : NS.τ → Prop} (hNS : NS.Sound inv) {t : NS.τ} (ht : inv t)
    (l : Lit) {sub : Ptr} (hf : sub.free) (hl : l.var ∉ sub.vars) :
    ∃ r t', (if l.pol then NS.getOrInsert t l.var .fls sub else NS.getOrInsert t l.var sub .fls) = (r, t') ∧
      inv t' ∧ (∀ a, r.eval a = (litSat a l && sub.eval a)) ∧
      (∀ x ∈ r.vars, x = l.var ∨ x ∈ sub.vars) ∧ r.free := by
  obtain ⟨v, pol⟩ := l
  cases pol
  · have ag := hNS.agrees ht v sub .fls
    refine ⟨_, _, rfl, hNS.inv_step t ht _ _ _, fun a => ?_, fun x hx => ?_, ag.2.2 ⟨hl, nofun, hf, trivial⟩⟩
    · rw [ag.1]; simp only [Ptr.eval, litSat]; cases a v <;> simp
    · simpa [Ptr.vars] using ag.2.1 x hx
  · have ag := hNS.agrees ht v .fls sub
    refine ⟨_, _, rfl, hNS.inv_step t ht _ _ _, fun a => ?_, fun x hx => ?_, ag.2.2 ⟨nofun, hl, trivial, hf⟩⟩
    · rw [ag.1]; simp only [Ptr.eval, litSat]; cases a v <;> simp
    · simpa [Ptr.vars] using ag.2.1 x hx

theorem implyChain_spec {NS : NodeStore} {inv : NS.τ → Prop} (hNS : NS.Sound inv) :
    ∀ (lits : List Lit) (t : NS.τ) (sub : Ptr), inv t → sub.free → (lits.map (·.var)).Nodup →
      (∀ l ∈ lits, l.var ∉ sub.vars) →
      inv (implyChain NS t lits sub).2 ∧
      (∀ a, (implyChain NS t lits sub).1.eval a = (lits.all (litSat a) && sub.eval a)) ∧
      (∀ x ∈ (implyChain NS t lits sub).1.vars, x ∈ sub.vars ∨ ∃ l ∈ lits, l.var = x) ∧
      (implyChain NS t lits sub).1.free := by
  intro lits
  induction lits with
  | nil => exact fun t sub ht hf _ _ => ⟨ht, fun a => (Bool.true_and _).symm, fun x hx => Or.inl hx, hf⟩
  | cons l ls ih =>
    intro t sub ht hf hnd hns
    obtain ⟨hlnd, hnd⟩ := List.nodup_cons.1 hnd
    obtain ⟨r, t', e, ht', hre, hrv, hrf⟩ := implyNode_spec hNS ht l hf (hns l List.mem_cons_self)
    rw [implyChain_cons, e]
    have hns' : ∀ l' ∈ ls, l'.var ∉ r.vars := fun l' hl' hx =>
      (hrv _ hx).elim (fun h => hlnd (List.mem_map.2 ⟨l', hl', h⟩)) (hns l' (List.mem_cons_of_mem _ hl'))
    obtain ⟨h1, h2, h3, h4⟩ := ih t' r ht' hrf hnd hns'
    refine ⟨h1, fun a => ?_, fun x hx => ?_, h4⟩
    · rw [h2, hre, List.all_cons, Bool.and_left_comm, Bool.and_assoc]
    · rcases h3 x hx with h | ⟨l', hl', h⟩
      · exact (hrv x h).elim (fun h => Or.inr ⟨l, List.mem_cons_self, h.symm⟩) Or.inl
      · exact Or.inr ⟨l', List.mem_cons_of_mem _ hl', h⟩

theorem isFalse_iff {p : Ptr} : p.isFalse = true ↔ p = .fls := by
  cases p <;> simp [Ptr.isFalse]

/-! ## Part 3b: correct diagrams for a partial model; transfer along equal residuals -/

/-- `r` is what `topdown_h` should return under the partial model `m`: it agrees with the CNF
on every total assignment extending `m`, decides no variable twice on a path, and only tests
variables of the residual formula (which are unassigned in `m`). -/
structure GoodM (cnf : Cnf) (m : PModel) (r : Ptr) : Prop where
  sem : ∀ a, Extends a m → r.eval a = cnfSat a cnf
  free : r.free
  vars : ∀ v ∈ r.vars, InCnf (residual cnf m) v
  /-- anything but the false constant has a model among the extensions of `m` -/
  nonfalse : r ≠ .fls → ∃ a, Extends a m ∧ r.eval a = true

/-- THE cache-reuse lemma: a diagram that is good under `m0` is good under every `m` with the
same residual formula.  (The variable clause of `GoodM` is what makes this true.) -/
theorem GoodM.transfer {cnf : Cnf} {m0 m : PModel} {r : Ptr} (h : GoodM cnf m0 r)
    (hres : residual cnf m = residual cnf m0) : GoodM cnf m r where
  free := h.free
  vars := fun v hv => hres ▸ h.vars v hv
  nonfalse := fun hne => by
    obtain ⟨a, _, he⟩ := h.nonfalse hne
    refine ⟨override a m, override_extends a m, ?_⟩
    rw [← he]
    exact eval_congr_vars r fun v hv => override_unset a (residual_unset (hres ▸ h.vars v hv))
  sem := fun a ha => by
    have h1 : r.eval a = r.eval (override a m0) :=
      eval_congr_vars r fun v hv => (override_unset a (residual_unset (h.vars v hv))).symm
    have h2 : cnfSat a (residual cnf m0) = cnfSat (override a m0) (residual cnf m0) :=
      cnfSat_congr _ fun v hv => (override_unset a (residual_unset hv)).symm
    rw [h1, h.sem _ (override_extends a m0), ← residual_sat (override_extends a m0), ← h2, ← hres,
      residual_sat ha]

theorem GoodM.tru_of {cnf : Cnf} {m : PModel} (h : ∀ a, Extends a m → cnfSat a cnf = true) :
    GoodM cnf m .tru :=
  ⟨fun a ha => (h a ha).symm, trivial, fun v hv => by simp [Ptr.vars] at hv,
   fun _ => ⟨override (fun _ => false) m, override_extends _ m, rfl⟩⟩

/-! ## Part 3c: unfolding `topdownH`; a second run on an observationally equal state hits the cache -/

section
variable (S : Solver) (NS : NodeStore) (varAt : Nat → Nat)

theorem topdownH_zero (level : Nat) (s : S.σ) (c : Cache S.κ) (t : NS.τ) :
    topdownH S NS varAt 0 level s c t = (.tru, s, c, t) := rfl

theorem topdownH_succ (rem level : Nat) (s : S.σ) (c : Cache S.κ) (t : NS.τ) :
    topdownH S NS varAt (rem + 1) level s c t =
      if S.isSat s then (.tru, s, c, t) else
      if S.isSet s (varAt level) then topdownH S NS varAt rem (level + 1) s c t else
      match Cache.get c (S.curHash s) with
      | some v => (v, s, c, t)
      | none => decideNode S NS (fun s c t => topdownH S NS varAt rem (level + 1) s c t)
          (varAt level) (S.curHash s) s c t := rfl

theorem Cache.get_cons_self {κ : Type} [DecidableEq κ] (k : κ) (r : Ptr) (c : Cache κ) :
    Cache.get ((k, r) :: c) k = some r := by
  simp [Cache.get]

theorem Cache.get_mem {κ : Type} [DecidableEq κ] {c : Cache κ} {k : κ} {r : Ptr}
    (h : Cache.get c k = some r) : (k, r) ∈ c := by
  unfold Cache.get at h
  split at h
  · rename_i e he
    cases h
    have h1 := List.find?_some he
    have h2 := List.mem_of_find?_eq_some he
    simp only [beq_iff_eq] at h1
    rw [← h1]; exact h2
  · cases h

/-- the observations `topdown_h` makes of a solver state before it decides anything -/
def ObsEq (s s' : S.σ) : Prop :=
  S.isSat s = S.isSat s' ∧ (∀ v, S.isSet s v = S.isSet s' v) ∧ S.curHash s = S.curHash s'

/-- after `topdown_h` has run on `s`, running it with the resulting cache on a state that looks
the same returns the same pointer without touching anything -/
theorem topdownH_hit_after : ∀ (rem level : Nat) (s : S.σ) (c : Cache S.κ) (t : NS.τ) (s' : S.σ) (t' : NS.τ),
    ObsEq S s s' →
    topdownH S NS varAt rem level s' (topdownH S NS varAt rem level s c t).2.2.1 t' =
      ((topdownH S NS varAt rem level s c t).1, s', (topdownH S NS varAt rem level s c t).2.2.1, t') := by
  intro rem
  induction rem with
  | zero => intro level s c t s' t' _; rfl
  | succ rem ih =>
    intro level s c t s' t' h
    obtain ⟨h1, h2, h3⟩ := h
    rw [topdownH_succ S NS varAt rem level s c t]
    by_cases hs : S.isSat s = true
    · rw [if_pos hs, topdownH_succ, if_pos (h1 ▸ hs)]
    · rw [if_neg hs]
      by_cases hv : S.isSet s (varAt level) = true
      · rw [if_pos hv, topdownH_succ, if_neg (h1 ▸ hs), if_pos (h2 _ ▸ hv)]
        exact ih (level + 1) s c t s' t' ⟨h1, h2, h3⟩
      · rw [if_neg hv, topdownH_succ S NS varAt rem level s', if_neg (h1 ▸ hs), if_neg (h2 _ ▸ hv), ← h3]
        cases hg : Cache.get c (S.curHash s) with
        | some r => simp only [hg]
        -- `decideNode` ends by inserting the key it was called with
        | none => simp only [decideNode, Cache.get_cons_self]

end

/-! ## Part 4: the semantic store -/

/-- the store state is keyed by the table key of the hash of the stored node -/
def SemInv {H : Type} (semHash : Ptr → H) (key : H → H) (st : List (H × Ptr)) : Prop :=
  ∀ e ∈ st, e.1 = key (semHash e.2)

/-- **H-coll**, the collision hypothesis of the semantic store, in the form the structural
theorems need: a node whose table key is that of the hash (resp. of the negated hash) of a
requested node may stand in for it (resp. for its complement): same function, no further
variables, free if the request is.  By pigeonhole this is false for a hash into a finite field
as soon as there are more functions than field elements; it holds e.g. for injective
`key ∘ semHash` whose range `key ∘ negH ∘ semHash` avoids.  (For the *function* alone the
weaker `CollisionFreeFn` suffices, see `getOrInsertSemantic_eval`.) -/
def CollisionFree {H : Type} (semHash : Ptr → H) (negH key : H → H) : Prop :=
  ∀ n m : Ptr, (key (semHash m) = key (semHash n) → Agrees n m) ∧
    (key (semHash m) = key (negH (semHash n)) → Agrees n m.neg)

/-- function-level collision freedom: equal keys ⇒ equal functions, complementary keys ⇒
complementary functions -/
def CollisionFreeFn {H : Type} (semHash : Ptr → H) (negH key : H → H) : Prop :=
  ∀ n m : Ptr, (key (semHash m) = key (semHash n) → ∀ a, m.eval a = n.eval a) ∧
    (key (semHash m) = key (negH (semHash n)) → ∀ a, m.eval a = !(n.eval a))

theorem find?_key {H : Type} [DecidableEq H] {st : List (H × Ptr)} {h : H} {e : H × Ptr}
    (he : st.find? (fun e => e.1 == h) = some e) : e ∈ st ∧ e.1 = h := by
  have h1 := List.find?_some he
  simp only [beq_iff_eq] at h1
  exact ⟨List.mem_of_find?_eq_some he, h1⟩

theorem getOrInsertSemantic_cases {H : Type} [DecidableEq H] (semHash : Ptr → H) (negH key : H → H)
    (st : List (H × Ptr)) (v : Nat) (lo hi : Ptr) {P : Ptr × List (H × Ptr) → Prop}
    (hit : ∀ e ∈ st, e.1 = key (semHash (.node false v lo hi)) → P (e.2, st))
    (hitNeg : ∀ e ∈ st, e.1 = key (negH (semHash (.node false v lo hi))) → P (e.2.neg, st))
    (miss : P (.node false v lo hi, st ++ [(key (semHash (.node false v lo hi)), .node false v lo hi)])) :
    P (getOrInsertSemantic semHash negH key st v lo hi) := by
  unfold getOrInsertSemantic
  simp only
  cases h1 : st.find? (fun e => e.1 == key (semHash (.node false v lo hi))) with
  | some e => exact hit e (find?_key h1).1 (find?_key h1).2
  | none =>
    simp only
    cases h2 : st.find? (fun e => e.1 == key (negH (semHash (.node false v lo hi)))) with
    | some e => exact hitNeg e (find?_key h2).1 (find?_key h2).2
    | none => exact miss

theorem SemInv.insert {H : Type} {semHash : Ptr → H} {key : H → H} {st : List (H × Ptr)}
    (hst : SemInv semHash key st) (n : Ptr) : SemInv semHash key (st ++ [(key (semHash n), n)]) := by
  intro e he
  rcases List.mem_append.1 he with h | h
  · exact hst e h
  · rw [List.mem_singleton.1 h]

theorem getOrInsertSemantic_agrees {H : Type} [DecidableEq H] {semHash : Ptr → H} {negH key : H → H}
    (hcf : CollisionFree semHash negH key) {st : List (H × Ptr)} (hst : SemInv semHash key st)
    (v : Nat) (lo hi : Ptr) :
    Agrees (.node false v lo hi) (getOrInsertSemantic semHash negH key st v lo hi).1 ∧
    SemInv semHash key (getOrInsertSemantic semHash negH key st v lo hi).2 :=
  getOrInsertSemantic_cases semHash negH key st v lo hi
    (P := fun r => Agrees (.node false v lo hi) r.1 ∧ SemInv semHash key r.2)
    (fun e hm hk => ⟨(hcf _ e.2).1 ((hst e hm).symm.trans hk), hst⟩)
    (fun e hm hk => ⟨(hcf _ e.2).2 ((hst e hm).symm.trans hk), hst⟩)
    ⟨Agrees.refl _, hst.insert _⟩

theorem semanticStore_sound {H : Type} [DecidableEq H] {semHash : Ptr → H} {negH key : H → H}
    (hcf : CollisionFree semHash negH key) :
    (semanticStore semHash negH key).Sound (SemInv semHash key) where
  inv_step := fun _ ht v lo hi => (getOrInsertSemantic_agrees hcf ht v lo hi).2
  eval_eq := fun _ ht v lo hi a => (getOrInsertSemantic_agrees hcf ht v lo hi).1.1 a
  vars_sub := fun _ ht v lo hi => (getOrInsertSemantic_agrees hcf ht v lo hi).1.2.1
  free := fun _ ht v lo hi => (getOrInsertSemantic_agrees hcf ht v lo hi).1.2.2

/-- with function-level collision freedom alone the returned pointer denotes the request -/
theorem getOrInsertSemantic_eval {H : Type} [DecidableEq H] {semHash : Ptr → H} {negH key : H → H}
    (hcf : CollisionFreeFn semHash negH key) {st : List (H × Ptr)} (hst : SemInv semHash key st)
    (v : Nat) (lo hi : Ptr) (a : Assign) :
    (getOrInsertSemantic semHash negH key st v lo hi).1.eval a = (Ptr.node false v lo hi).eval a ∧
    SemInv semHash key (getOrInsertSemantic semHash negH key st v lo hi).2 :=
  getOrInsertSemantic_cases semHash negH key st v lo hi
    (P := fun r => r.1.eval a = (Ptr.node false v lo hi).eval a ∧ SemInv semHash key r.2)
    (fun e hm hk => ⟨(hcf _ e.2).1 ((hst e hm).symm.trans hk) a, hst⟩)
    (fun e hm hk => ⟨by rw [eval_neg, (hcf _ e.2).2 ((hst e hm).symm.trans hk) a, Bool.not_not], hst⟩)
    ⟨rfl, hst.insert _⟩

end TopDown
