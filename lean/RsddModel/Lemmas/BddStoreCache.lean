import RsddModel.Lemmas.BddStoreIte
/-!
# Lemmas: two instances of `CacheSim`

The cache that never stores, on both sides (`noCacheSim`), and — for every lawful cache `CS` keyed
by references — the tree-level cache whose contents are, at every moment, the image of `CS`'s
contents under `unfold` (`scriptedSim`; the tree-level cache is `ScriptedCache`, which follows a
script of successive contents and is lawful for every script).
-/
namespace BddStore
open Bdd Scratch Spec

/-! ## the cache that never stores -/

/-- tree-level cache on which every lookup misses -/
def NoCacheT : CacheImpl where
  σ := Unit
  empty := ()
  get := fun _ _ => none
  insert := fun _ _ _ => ()
  lawful := by intro s k v k' v' h; cases h
  empty_get := by intro k; rfl

def noCacheSim : CacheSim NoCacheS NoCacheT where
  R := fun _ _ _ => True
  get_eq := by intros; rfl
  insert_back := by intros; exact ⟨(), trivial, rfl⟩
  mono_back := by intros; trivial

/-! ## the tree-level image of an arbitrary lawful reference-level cache -/

abbrev TKey := Ptr × Ptr × Ptr
/-- the contents of a tree-level cache -/
abbrev Contents := TKey → Option Ptr

/-- A cache that follows a script: each `insert` moves to the next scripted contents, keeping of
it only what the C16 contract allows (the entry just inserted, and entries present before).
It is lawful for every script. -/
def scriptedInsert (st : Contents × List Contents) (K : TKey) (V : Ptr) : Contents × List Contents :=
  match st.2 with
  | [] => (fun _ => none, [])
  | nxt :: rest =>
    (fun K' => if (K' = K ∧ nxt K' = some V) ∨ nxt K' = st.1 K' then nxt K' else none, rest)

def ScriptedCache : CacheImpl where
  σ := Contents × List Contents
  empty := (fun _ => none, [])
  get := fun st K => st.1 K
  insert := scriptedInsert
  lawful := by
    intro st k v k' v' h
    obtain ⟨cur, script⟩ := st
    cases script with
    | nil => simp [scriptedInsert] at h
    | cons nxt rest =>
      simp only [scriptedInsert] at h
      split at h
      · rename_i hc
        rcases hc with ⟨hk, hv⟩ | hc
        · rw [hv] at h; cases h; exact Or.inl ⟨hk, rfl⟩
        · right; simp only; rw [← hc]; exact h
      · cases h
  empty_get := fun _ => rfl

theorem scripted_get_eq (st : ScriptedCache.σ) (K : TKey) : CacheImpl.get ScriptedCache st K = st.1 K := rfl

/-- the contents of the reference-level cache `c`, seen through `unfold s`: a triple of trees is
looked up under the references of those trees in the table -/
def img (CS : CacheS) (s : Store) (c : CS.σ) : Contents := fun K =>
  match refOf s K.1, refOf s K.2.1, refOf s K.2.2 with
  | some f, some g, some h => (CS.get c (f, g, h)).map (unfold s)
  | _, _, _ => none

section image
variable {CS : CacheS} {s : Store} (hs : StoreOK s)
include hs

theorem img_some_iff (c : CS.σ) (K : TKey) (V : Ptr) :
    img CS s c K = some V ↔
      ∃ k v, V3 s k ∧ u3 s k = K ∧ CS.get c k = some v ∧ unfold s v = V := by
  constructor
  · intro h
    simp only [img] at h
    split at h
    · rename_i f g h' hf hg hh
      simp only [Option.map_eq_some_iff] at h
      obtain ⟨v, hv, rfl⟩ := h
      obtain ⟨vf, ef⟩ := refOf_some hs hf
      obtain ⟨vg, eg⟩ := refOf_some hs hg
      obtain ⟨vh, eh⟩ := refOf_some hs hh
      exact ⟨(f, g, h'), v, ⟨vf, vg, vh⟩, by simp only [u3, ef, eg, eh], hv, rfl⟩
    · cases h
  · rintro ⟨⟨f, g, h⟩, v, ⟨vf, vg, vh⟩, rfl, hv, rfl⟩
    simp only [img, u3, refOf_unfold hs vf, refOf_unfold hs vg, refOf_unfold hs vh, hv, Option.map_some]

theorem img_unfold (c : CS.σ) {k : Ref × Ref × Ref} (hk : V3 s k) :
    img CS s c (u3 s k) = (CS.get c k).map (unfold s) := by
  obtain ⟨f, g, h⟩ := k
  obtain ⟨vf, vg, vh⟩ := hk
  simp only [img, u3, refOf_unfold hs vf, refOf_unfold hs vg, refOf_unfold hs vh]

theorem img_extends {s' : Store} (hs' : StoreOK s') (he : Extends s' s)
    {c : CS.σ} (hc : CacheValid CS s c) : img CS s' c = img CS s c := by
  funext K
  apply Option.ext
  intro V
  rw [img_some_iff hs', img_some_iff hs]
  constructor
  · rintro ⟨k, v, _, rfl, hv, rfl⟩
    obtain ⟨vk, vv⟩ := hc k v hv
    exact ⟨k, v, vk, (u3_extends he vk).symm, hv, (unfold_extends he vv).symm⟩
  · rintro ⟨k, v, vk, rfl, hv, rfl⟩
    obtain ⟨_, vv⟩ := hc k v hv
    exact ⟨k, v, vk.extends he, u3_extends he vk, hv, unfold_extends he vv⟩

/-- the scripted cache, told the image of the next reference-level contents, moves exactly to it -/
theorem scripted_insert_back {c : CS.σ} {k : Ref × Ref × Ref} {v : Ref} (cT' : Contents × List Contents) (hR : cT'.1 = img CS s (CS.insert c k v)) :
    scriptedInsert (img CS s c, cT'.1 :: cT'.2) (u3 s k) (unfold s v) = cT' := by
  obtain ⟨nxt, rest⟩ := cT'
  simp only at hR
  simp only [scriptedInsert]
  refine Prod.ext ?_ rfl
  funext K'
  simp only
  split
  · rfl
  · rename_i hno
    cases hn : nxt K' with
    | none => rfl
    | some V' =>
      exfalso
      apply hno
      rw [hR] at hn
      obtain ⟨k', v', vk', ek', hget, ev'⟩ := (img_some_iff hs _ K' V').1 hn
      rcases CS.lawful _ _ _ _ _ hget with ⟨rfl, rfl⟩ | hold
      · left; rw [hR, hn, ← ev']; exact ⟨ek'.symm, rfl⟩
      · right
        rw [hR, hn]
        exact ((img_some_iff hs c K' V').2 ⟨k', v', vk', ek', hold, ev'⟩).symm

end image

/-- **every lawful reference-level cache has a lawful tree-level image**: the scripted cache whose
current contents are the image of the reference-level contents -/
def scriptedSim (CS : CacheS) : CacheSim CS ScriptedCache where
  R := fun s c cT => cT.1 = img CS s c
  get_eq := by
    intro s c cT k hs _ hR hk
    rw [scripted_get_eq, hR, img_unfold hs c hk]
  insert_back := by
    intro s c cT' k v hs _ hk hv hR
    exact ⟨((img CS s c, cT'.1 :: cT'.2) : Contents × List Contents), rfl, scripted_insert_back hs cT' hR⟩
  mono_back := by
    intro s s' c cT hs hs' he hc hR
    show cT.1 = _
    rw [hR, img_extends hs hs' he hc]


end BddStore
