import RsddModel.Model.VTree
/-!
# Lemmas: in-order indexing, BFS numbering, Euler tour and least common ancestors of vtrees
-/
namespace VT

/-! ## generic list facts -/

section ListFacts
variable {α β : Type} [BEq α] [LawfulBEq α] [BEq β] [LawfulBEq β]

theorem idxOf_map_of_injOn (f : α → β) (l : List α) (x : α)
    (h : ∀ a ∈ l, f a = f x → a = x) : (l.map f).idxOf (f x) = l.idxOf x := by
  induction l with
  | nil => rfl
  | cons a l ih =>
    have ih' := ih (fun b hb => h b (List.mem_cons_of_mem _ hb))
    simp only [List.map_cons, List.idxOf_cons, ih', cond_eq_ite, beq_iff_eq]
    by_cases hax : a = x
    · subst hax; simp
    · have : f a ≠ f x := fun e => hax (h a List.mem_cons_self e)
      simp [hax, this]

theorem idxOf_inj {l : List α} {x y : α} (hx : x ∈ l) (h : l.idxOf x = l.idxOf y) : x = y := by
  have h1 : l.idxOf x < l.length := List.idxOf_lt_length_of_mem hx
  have h2 : l.idxOf y < l.length := h ▸ h1
  have e1 := List.getElem_idxOf h1
  have e2 := List.getElem_idxOf h2
  rw [← e1, ← e2]; simp [h]

theorem idxOf_getElem_of_nodup {l : List α} (hn : l.Nodup) (i : Nat) (hi : i < l.length) :
    l.idxOf l[i] = i := by
  induction l generalizing i with
  | nil => simp at hi
  | cons a l ih =>
    rw [List.nodup_cons] at hn
    cases i with
    | zero => simp
    | succ i =>
      simp only [List.getElem_cons_succ, List.idxOf_cons, cond_eq_ite, beq_iff_eq]
      have hi' : i < l.length := by simpa using hi
      have : a ≠ l[i] := fun e => hn.1 (e ▸ List.getElem_mem hi')
      simp [this, ih hn.2 i hi']

/-- the segment of `l` from the first occurrence of `x` up to (excluding) the first occurrence
of `y` -/
def between (l : List α) (x y : α) : List α := (l.drop (l.idxOf x)).take (l.idxOf y - l.idxOf x)

theorem between_append_left {a b : List α} {x y : α} (hx : x ∈ a) (hy : y ∈ a) :
    between (a ++ b) x y = between a x y := by
  unfold between
  rw [List.idxOf_append, List.idxOf_append, if_pos hx, if_pos hy,
    List.drop_append_of_le_length (Nat.le_of_lt (List.idxOf_lt_length_of_mem hx)),
    List.take_append_of_le_length]
  rw [List.length_drop]
  exact Nat.sub_le_sub_right (Nat.le_of_lt (List.idxOf_lt_length_of_mem hy)) _

theorem between_append_right {a b : List α} {x y : α} (hx : x ∉ a) (hy : y ∉ a) :
    between (a ++ b) x y = between b x y := by
  unfold between
  rw [List.idxOf_append, List.idxOf_append, if_neg hx, if_neg hy, Nat.add_sub_add_right,
    Nat.add_comm, List.drop_length_add_append]

theorem between_append_split {a b : List α} {x y : α} (hx : x ∈ a) (hy : y ∉ a) :
    between (a ++ b) x y = a.drop (a.idxOf x) ++ b.take (b.idxOf y) := by
  have h1 := Nat.le_of_lt (List.idxOf_lt_length_of_mem hx)
  unfold between
  rw [List.idxOf_append, List.idxOf_append, if_pos hx, if_neg hy,
    List.drop_append_of_le_length h1, Nat.add_comm, Nat.sub_add_comm h1, ← List.length_drop,
    List.take_length_add_append]

theorem between_map (f : α → β) (hf : ∀ a b, f a = f b → a = b) (l : List α) (x y : α) :
    between (l.map f) (f x) (f y) = (between l x y).map f := by
  unfold between
  rw [idxOf_map_of_injOn f l x (fun a _ e => hf _ _ e),
      idxOf_map_of_injOn f l y (fun a _ e => hf _ _ e), ← List.map_drop, ← List.map_take]

theorem idxOf_lt_of_mem_not_mem {a b : List α} {x y : α} (hx : x ∈ a) (hy : y ∉ a) :
    (a ++ b).idxOf x < (a ++ b).idxOf y := by
  rw [List.idxOf_append, List.idxOf_append, if_pos hx, if_neg hy]
  have := List.idxOf_lt_length_of_mem hx
  omega

theorem foldl_min_eq (m x : Nat) (xs : List Nat) (hm : m ∈ x :: xs) (hle : ∀ z ∈ x :: xs, m ≤ z) :
    xs.foldl min x = m := by
  induction xs generalizing x with
  | nil => exact (List.mem_singleton.mp hm).symm
  | cons y ys ih =>
    have hx := hle x List.mem_cons_self
    have hy := hle y (List.mem_cons_of_mem _ List.mem_cons_self)
    refine ih (min x y) ?_ fun z hz => ?_
    · rcases List.mem_cons.mp hm with rfl | hm
      · rw [Nat.min_eq_left hy]; exact List.mem_cons_self
      · rcases List.mem_cons.mp hm with rfl | hm
        · rw [Nat.min_eq_right hx]; exact List.mem_cons_self
        · exact List.mem_cons_of_mem _ hm
    · rcases List.mem_cons.mp hz with rfl | hz
      · exact Nat.le_min.mpr ⟨hx, hy⟩
      · exact hle z (List.mem_cons_of_mem _ (List.mem_cons_of_mem _ hz))

end ListFacts

/-! ## root paths, validity, common prefixes -/

/-- the longest common prefix of two root paths: the root path of the deepest common ancestor -/
def commonPrefix : Path → Path → Path
  | a :: p, b :: q => if a = b then a :: commonPrefix p q else []
  | _, _ => []

theorem commonPrefix_comm (p q : Path) : commonPrefix p q = commonPrefix q p := by
  induction p generalizing q with
  | nil => cases q <;> rfl
  | cons a p ih =>
    cases q with
    | nil => rfl
    | cons b q =>
      simp only [commonPrefix]
      by_cases h : a = b
      · subst h; simp [ih q]
      · have : ¬ b = a := fun e => h e.symm
        simp [h, this]

@[simp] theorem commonPrefix_self (p : Path) : commonPrefix p p = p := by
  induction p with
  | nil => rfl
  | cons a p ih => simp [commonPrefix, ih]

theorem commonPrefix_prefix_left (p q : Path) : commonPrefix p q <+: p := by
  induction p generalizing q with
  | nil => cases q <;> simp [commonPrefix]
  | cons a p ih =>
    cases q with
    | nil => simp [commonPrefix]
    | cons b q =>
      simp only [commonPrefix]
      by_cases h : a = b
      · simp [h, List.cons_prefix_cons, ih q]
      · simp [h]

theorem commonPrefix_prefix_right (p q : Path) : commonPrefix p q <+: q := by
  rw [commonPrefix_comm]; exact commonPrefix_prefix_left q p

/-- `commonPrefix p q` is the DEEPEST common ancestor: every common prefix is a prefix of it -/
theorem prefix_commonPrefix {r p q : Path} (hp : r <+: p) (hq : r <+: q) : r <+: commonPrefix p q := by
  induction r generalizing p q with
  | nil => simp
  | cons c r ih =>
    cases p with
    | nil => simp at hp
    | cons a p =>
      cases q with
      | nil => simp at hq
      | cons b q =>
        rw [List.cons_prefix_cons] at hp hq
        obtain ⟨rfl, hp⟩ := hp
        obtain ⟨rfl, hq⟩ := hq
        rw [commonPrefix, if_pos rfl, List.cons_prefix_cons]
        exact ⟨rfl, ih hp hq⟩

namespace VTree

/-- `p` is the root path of a node of `t` -/
def Valid (t : VTree) (p : Path) : Prop := (t.subtreeAt p).isSome = true

@[simp] theorem valid_nil (t : VTree) : Valid t [] := by cases t <;> rfl
@[simp] theorem not_valid_leaf_cons (v : Nat) (b : Bool) (p : Path) : ¬ Valid (leaf v) (b :: p) := by
  simp [Valid, subtreeAt]
@[simp] theorem valid_node_false (l r : VTree) (p : Path) : Valid (node l r) (false :: p) ↔ Valid l p := by
  simp [Valid, subtreeAt]
@[simp] theorem valid_node_true (l r : VTree) (p : Path) : Valid (node l r) (true :: p) ↔ Valid r p := by
  simp [Valid, subtreeAt]

theorem valid_of_prefix {t : VTree} {p q : Path} (h : p <+: q) (hq : Valid t q) : Valid t p := by
  induction t generalizing p q with
  | leaf v =>
    cases q with
    | nil => simp at h; subst h; simp
    | cons b q => simp at hq
  | node l r ihl ihr =>
    cases p with
    | nil => simp
    | cons a p =>
      cases q with
      | nil => simp at h
      | cons b q =>
        rw [List.cons_prefix_cons] at h
        obtain ⟨rfl, h⟩ := h
        cases a
        · simp at hq ⊢; exact ihl h hq
        · simp at hq ⊢; exact ihr h hq

theorem mem_inorderPaths {t : VTree} {p : Path} : p ∈ inorderPaths t ↔ Valid t p := by
  induction t generalizing p with
  | leaf v => cases p <;> simp [inorderPaths]
  | node l r ihl ihr =>
    cases p with
    | nil => simp [inorderPaths]
    | cons b p =>
      cases b <;> simp [inorderPaths, ihl, ihr]

theorem length_inorderPaths (t : VTree) : (inorderPaths t).length = t.size := by
  induction t with
  | leaf v => rfl
  | node l r ihl ihr => simp [inorderPaths, size, ihl, ihr]; omega

theorem length_inorder (t : VTree) : (inorder t).length = t.size := by
  induction t with
  | leaf v => rfl
  | node l r ihl ihr => simp [inorder, size, ihl, ihr]; omega

theorem size_pos (t : VTree) : 0 < t.size := by cases t <;> simp [size] <;> omega

theorem nodup_inorderPaths (t : VTree) : (inorderPaths t).Nodup := by
  induction t with
  | leaf v => simp [inorderPaths]
  | node l r ihl ihr =>
    simp only [inorderPaths]
    rw [List.nodup_append]
    refine ⟨?_, ?_, ?_⟩
    · exact List.Pairwise.map _ (fun a b h e => h (by simpa using e)) ihl
    · rw [List.nodup_cons]
      refine ⟨by simp, ?_⟩
      exact List.Pairwise.map _ (fun a b h e => h (by simpa using e)) ihr
    · intro a ha b hb
      simp only [List.mem_map] at ha
      obtain ⟨a', _, rfl⟩ := ha
      simp only [List.mem_cons, List.mem_map] at hb
      rcases hb with rfl | ⟨b', _, rfl⟩ <;> simp

theorem inorder_eq_subtreeAt (t : VTree) :
    (inorder t).map some = (inorderPaths t).map (subtreeAt t) := by
  induction t with
  | leaf v => rfl
  | node l r ihl ihr =>
    simp only [inorder, inorderPaths, List.map_append, List.map_cons, List.map_map]
    rw [ihl, ihr]
    rfl

/-! ### the in-order relation on root paths -/

/-- `p` comes before `q` in the left-subtree / node / right-subtree order -/
def inorderLt : Path → Path → Bool
  | [], [] => false
  | [], b :: _ => b
  | a :: _, [] => !a
  | a :: p, b :: q => if a = b then inorderLt p q else (!a && b)

theorem inorderLt_asymm (p q : Path) : inorderLt p q = true → inorderLt q p = false := by
  induction p generalizing q with
  | nil => cases q with
    | nil => simp [inorderLt]
    | cons b q => cases b <;> simp [inorderLt]
  | cons a p ih =>
    cases q with
    | nil => cases a <;> simp [inorderLt]
    | cons b q =>
      cases a <;> cases b <;> simp [inorderLt] <;> exact ih q

theorem inorderLt_irrefl (p : Path) : inorderLt p p = false := by
  induction p with
  | nil => rfl
  | cons a p ih => simp [inorderLt, ih]

theorem pairwise_inorderPaths (t : VTree) :
    (inorderPaths t).Pairwise (fun p q => inorderLt p q = true) := by
  induction t with
  | leaf v => simp [inorderPaths]
  | node l r ihl ihr =>
    simp only [inorderPaths]
    rw [List.pairwise_append]
    refine ⟨?_, ?_, ?_⟩
    · exact List.Pairwise.map _ (fun a b h => by simpa [inorderLt] using h) ihl
    · rw [List.pairwise_cons]
      refine ⟨?_, ?_⟩
      · intro a ha
        simp only [List.mem_map] at ha
        obtain ⟨a', _, rfl⟩ := ha
        simp [inorderLt]
      · exact List.Pairwise.map _ (fun a b h => by simpa [inorderLt] using h) ihr
    · intro a ha b hb
      simp only [List.mem_map] at ha
      obtain ⟨a', _, rfl⟩ := ha
      simp only [List.mem_cons, List.mem_map] at hb
      rcases hb with rfl | ⟨b', _, rfl⟩ <;> simp [inorderLt]

/-! ### breadth-first numbering -/

/-- the absolute root paths of all nodes below the queued subtrees -/
def queuePaths (q : List (Path × VTree)) : List Path :=
  q.flatMap fun e => (inorderPaths e.2).map (e.1 ++ ·)

def queueSize (q : List (Path × VTree)) : Nat := (q.map fun e => e.2.size).sum

theorem queueSize_cons (e : Path × VTree) (q : List (Path × VTree)) :
    queueSize (e :: q) = e.2.size + queueSize q := by simp [queueSize]

theorem queueSize_append (q q' : List (Path × VTree)) :
    queueSize (q ++ q') = queueSize q + queueSize q' := by simp [queueSize]

/-- the queue entries a dequeued node contributes -/
def kids (p : Path) : VTree → List (Path × VTree)
  | leaf _ => []
  | node l r => [(p ++ [false], l), (p ++ [true], r)]

theorem bfsLoop_cons (fuel : Nat) (p : Path) (t : VTree) (q : List (Path × VTree)) :
    bfsLoop (fuel + 1) ((p, t) :: q) = p :: bfsLoop fuel (q ++ kids p t) := by
  cases t
  · rw [bfsLoop, kids, List.append_nil]
  · rfl

theorem queueSize_kids (p : Path) (t : VTree) : queueSize (kids p t) + 1 = t.size := by
  cases t
  · rfl
  · simp only [kids, queueSize_cons, size]; exact Nat.add_right_comm _ _ _

theorem queuePaths_kids (p : Path) (t : VTree) :
    ((inorderPaths t).map (p ++ ·)).Perm (p :: queuePaths (kids p t)) := by
  cases t
  · simp [inorderPaths, kids, queuePaths]
  · simp only [queuePaths, kids, List.flatMap_cons, List.flatMap_nil, List.append_nil, inorderPaths,
      List.map_append, List.map_cons, List.map_map, Function.comp_def, List.append_assoc,
      List.cons_append, List.nil_append]
    exact List.perm_middle

theorem kids_length {p : Path} {t : VTree} : ∀ c ∈ kids p t, c.1.length = p.length + 1 := by
  cases t
  · exact fun _ h => nomatch h
  · intro c hc
    rcases List.mem_cons.mp hc with rfl | hc
    · exact List.length_append
    · rw [List.mem_singleton.mp hc]; exact List.length_append

theorem bfsLoop_perm : ∀ (fuel : Nat) (q : List (Path × VTree)), queueSize q ≤ fuel →
    (bfsLoop fuel q).Perm (queuePaths q)
  | 0, [], _ => .refl _
  | 0, e :: q, hq => absurd (queueSize_cons e q ▸ hq)
      (Nat.not_le_of_gt (Nat.lt_of_lt_of_le (size_pos e.2) (Nat.le_add_right _ _)))
  | _ + 1, [], _ => .refl _
  | fuel + 1, (p, t) :: q', hq => by
    rw [queueSize_cons, ← queueSize_kids p t] at hq
    have ih := bfsLoop_perm fuel (q' ++ kids p t) (by rw [queueSize_append]; omega)
    rw [bfsLoop_cons]
    refine (ih.cons p).trans ?_
    simp only [queuePaths, List.flatMap_append, List.flatMap_cons]
    exact (List.perm_append_comm.cons p).trans ((queuePaths_kids p t).symm.append_right _)
theorem bfsPaths_perm (t : VTree) : (bfsPaths t).Perm (inorderPaths t) := by
  have := bfsLoop_perm t.size [([], t)] (by simp [queueSize])
  simpa [bfsPaths, queuePaths] using this

theorem mem_bfsPaths {t : VTree} {p : Path} : p ∈ bfsPaths t ↔ Valid t p :=
  (bfsPaths_perm t).mem_iff.trans mem_inorderPaths

theorem nodup_bfsPaths (t : VTree) : (bfsPaths t).Nodup :=
  (bfsPaths_perm t).symm.nodup (nodup_inorderPaths t)

theorem length_bfsPaths (t : VTree) : (bfsPaths t).length = t.size :=
  (bfsPaths_perm t).length_eq.trans (length_inorderPaths t)

theorem bfsLoop_length_ge (m : Nat) : ∀ (fuel : Nat) (q : List (Path × VTree)),
    (∀ e ∈ q, m ≤ e.1.length) → ∀ x ∈ bfsLoop fuel q, m ≤ x.length
  | 0, _, _, x, hx => nomatch hx
  | _ + 1, [], _, x, hx => nomatch hx
  | fuel + 1, (p, t) :: q', hq, x, hx => by
    have hp : m ≤ p.length := hq (p, t) List.mem_cons_self
    rw [bfsLoop_cons] at hx
    rcases List.mem_cons.mp hx with rfl | hx
    · exact hp
    · refine bfsLoop_length_ge m fuel _ (fun e he => ?_) x hx
      rcases List.mem_append.mp he with he | he
      · exact hq e (List.mem_cons_of_mem _ he)
      · exact kids_length e he ▸ Nat.le_succ_of_le hp

/-- queue invariant: sorted by depth, spanning at most two consecutive depths -/
def QInv (q : List (Path × VTree)) : Prop :=
  q.Pairwise (fun x y => x.1.length ≤ y.1.length) ∧ ∀ x ∈ q, ∀ y ∈ q, y.1.length ≤ x.1.length + 1

theorem qinv_step {p : Path} {t : VTree} {q : List (Path × VTree)} (h : QInv ((p, t) :: q))
    (cs : List (Path × VTree)) (hcs : ∀ c ∈ cs, c.1.length = p.length + 1) : QInv (q ++ cs) := by
  obtain ⟨h1, h2⟩ := h
  rw [List.pairwise_cons] at h1
  have hle : ∀ x ∈ q, x.1.length ≤ p.length + 1 := fun x hx =>
    h2 (p, t) List.mem_cons_self x (List.mem_cons_of_mem _ hx)
  have hge' : ∀ x ∈ q ++ cs, p.length ≤ x.1.length := fun x hx =>
    (List.mem_append.mp hx).elim (h1.1 x) fun hx => hcs x hx ▸ Nat.le_succ _
  have hle' : ∀ x ∈ q ++ cs, x.1.length ≤ p.length + 1 := fun x hx =>
    (List.mem_append.mp hx).elim (hle x) fun hx => Nat.le_of_eq (hcs x hx)
  refine ⟨List.pairwise_append.mpr ⟨h1.2, ?_, fun a ha b hb => hcs b hb ▸ hle a ha⟩,
    fun x hx y hy => Nat.le_trans (hle' y hy) (Nat.succ_le_succ (hge' x hx))⟩
  exact List.pairwise_of_forall_mem_list fun a ha b hb => Nat.le_of_eq ((hcs a ha).trans (hcs b hb).symm)
theorem bfsLoop_sorted : ∀ (fuel : Nat) (q : List (Path × VTree)), QInv q →
    (bfsLoop fuel q).Pairwise (fun x y => x.length ≤ y.length)
  | 0, _, _ => List.Pairwise.nil
  | _ + 1, [], _ => List.Pairwise.nil
  | fuel + 1, (p, t) :: q', hq => by
    have hq' := qinv_step hq (kids p t) kids_length
    rw [bfsLoop_cons, List.pairwise_cons]
    refine ⟨bfsLoop_length_ge p.length fuel _ fun e he => ?_, bfsLoop_sorted fuel _ hq'⟩
    rcases List.mem_append.mp he with he | he
    · exact (List.pairwise_cons.mp hq.1).1 e he
    · exact kids_length e he ▸ Nat.le_succ _
theorem bfsPaths_sorted (t : VTree) : (bfsPaths t).Pairwise (fun x y => x.length ≤ y.length) := by
  apply bfsLoop_sorted
  refine ⟨by simp, ?_⟩
  intro x hx y hy
  simp only [List.mem_singleton] at hx hy
  subst hx; subst hy; omega

theorem bfsLabel_lt_of_length_lt {t : VTree} {c x : Path} (hc : Valid t c) (hx : Valid t x)
    (h : c.length < x.length) : bfsLabel t c < bfsLabel t x := by
  unfold bfsLabel
  have hcm := mem_bfsPaths.mpr hc
  have hxm := mem_bfsPaths.mpr hx
  have hci := List.idxOf_lt_length_of_mem hcm
  have hxi := List.idxOf_lt_length_of_mem hxm
  rcases Nat.lt_trichotomy ((bfsPaths t).idxOf c) ((bfsPaths t).idxOf x) with hlt | heq | hgt
  · exact hlt
  · have := idxOf_inj hcm heq; subst this; omega
  · have hs := bfsPaths_sorted t
    rw [List.pairwise_iff_getElem] at hs
    have := hs _ _ hxi hci hgt
    rw [List.getElem_idxOf hxi, List.getElem_idxOf hci] at this
    omega

theorem bfsLabel_le_of_prefix {t : VTree} {c x : Path} (hx : Valid t x) (h : c <+: x) :
    bfsLabel t c ≤ bfsLabel t x := by
  have hc := valid_of_prefix h hx
  rcases Nat.lt_or_ge c.length x.length with hl | hl
  · exact Nat.le_of_lt (bfsLabel_lt_of_length_lt hc hx hl)
  · have : c = x := h.eq_of_length_le hl
    subst this; exact Nat.le_refl _

/-! ### the Euler tour -/

theorem mem_eulerPaths {t : VTree} {p : Path} : p ∈ eulerPaths t ↔ Valid t p := by
  induction t generalizing p with
  | leaf v => cases p <;> simp [eulerPaths]
  | node l r ihl ihr =>
    cases p with
    | nil => simp [eulerPaths]
    | cons b p =>
      cases b <;> simp [eulerPaths, ihl, ihr]

theorem cons_inj_path (b : Bool) : ∀ p q : Path, b :: p = b :: q → p = q := by
  intro p q h; simpa using h

theorem eulerPaths_node (l r : VTree) :
    eulerPaths (node l r) =
      [[]] ++ ((eulerPaths l).map (false :: ·) ++ ([[]] ++ ((eulerPaths r).map (true :: ·) ++ [[]]))) := rfl

theorem idxOf_euler_nil (t : VTree) : (eulerPaths t).idxOf [] = 0 := by
  cases t <;> simp [eulerPaths]

theorem idxOf_euler_false (l r : VTree) (x : Path) (hx : x ∈ eulerPaths l) :
    (eulerPaths (node l r)).idxOf (false :: x) = (eulerPaths l).idxOf x + 1 := by
  rw [eulerPaths_node, List.idxOf_append, if_neg (by simp), List.idxOf_append,
    if_pos (by simpa using hx), idxOf_map_of_injOn _ _ _ (fun a _ e => cons_inj_path _ _ _ e)]
  simp

theorem idxOf_euler_true (l r : VTree) (x : Path) (hx : x ∈ eulerPaths r) :
    (eulerPaths (node l r)).idxOf (true :: x) = (eulerPaths l).length + 2 + (eulerPaths r).idxOf x := by
  rw [eulerPaths_node, List.idxOf_append, if_neg (by simp), List.idxOf_append,
    if_neg (by simp), List.idxOf_append, if_neg (by simp), List.idxOf_append,
    if_pos (by simpa using hx), idxOf_map_of_injOn _ _ _ (fun a _ e => cons_inj_path _ _ _ e)]
  simp; omega

/-- on the Euler segment from the first occurrence of `x` up to (excluding) the first occurrence
of `y`, the deepest common ancestor occurs and every entry is one of its descendants.  The
half-open segment suffices: if `x` is first seen before `y` then `y` is not an ancestor of `x`,
so the common ancestor is `x` itself (position `first x`) or lies strictly between. -/
theorem euler_between (t : VTree) : ∀ (x y : Path), Valid t x → Valid t y →
    (eulerPaths t).idxOf x < (eulerPaths t).idxOf y →
    commonPrefix x y ∈ between (eulerPaths t) x y ∧
      ∀ z ∈ between (eulerPaths t) x y, commonPrefix x y <+: z := by
  induction t with
  | leaf v =>
    intro x y hx hy hlt
    cases x with
    | cons a x => simp at hx
    | nil =>
      cases y with
      | cons b y => simp at hy
      | nil => omega
  | node l r ihl ihr =>
    intro x y hx hy hlt
    cases x with
    | nil =>
      have hc : commonPrefix [] y = [] := by cases y <;> rfl
      rw [hc]
      refine ⟨?_, fun z _ => List.nil_prefix⟩
      rw [idxOf_euler_nil] at hlt
      unfold between
      rw [idxOf_euler_nil]
      obtain ⟨k, hk⟩ : ∃ k, (eulerPaths (node l r)).idxOf y = k + 1 := ⟨_, (Nat.succ_pred_eq_of_pos hlt).symm⟩
      rw [hk]
      simp [eulerPaths]
    | cons a x =>
      cases y with
      | nil => rw [idxOf_euler_nil] at hlt; omega
      | cons b y =>
        cases a <;> cases b
        · -- both in the left subtree
          simp only [valid_node_false] at hx hy
          have hxm := mem_eulerPaths.mpr hx
          have hym := mem_eulerPaths.mpr hy
          rw [idxOf_euler_false _ _ _ hxm, idxOf_euler_false _ _ _ hym] at hlt
          have ih := ihl x y hx hy (by omega)
          have hb : between (eulerPaths (node l r)) (false :: x) (false :: y)
              = (between (eulerPaths l) x y).map (false :: ·) := by
            rw [eulerPaths_node, between_append_right (by simp) (by simp),
              between_append_left (by simpa using hxm) (by simpa using hym),
              between_map _ (cons_inj_path false)]
          rw [hb]
          simp only [commonPrefix, if_true]
          refine ⟨List.mem_map.mpr ⟨_, ih.1, rfl⟩, ?_⟩
          intro z hz
          obtain ⟨z', hz', rfl⟩ := List.mem_map.mp hz
          rw [List.cons_prefix_cons]
          exact ⟨rfl, ih.2 z' hz'⟩
        · -- `x` left, `y` right: the node itself separates them
          simp only [valid_node_false] at hx
          simp only [valid_node_true] at hy
          have hxm := mem_eulerPaths.mpr hx
          have hym := mem_eulerPaths.mpr hy
          have hc : commonPrefix (false :: x) (true :: y) = [] := rfl
          rw [hc]
          refine ⟨?_, fun z _ => List.nil_prefix⟩
          rw [eulerPaths_node, between_append_right (by simp) (by simp),
            between_append_split (by simpa using hxm) (by simp)]
          apply List.mem_append_right
          rw [List.idxOf_append, if_neg (by simp)]
          simp
        · -- `x` right, `y` left: impossible
          simp only [valid_node_true] at hx
          simp only [valid_node_false] at hy
          have hxm := mem_eulerPaths.mpr hx
          have hym := mem_eulerPaths.mpr hy
          rw [idxOf_euler_true _ _ _ hxm, idxOf_euler_false _ _ _ hym] at hlt
          have := List.idxOf_lt_length_of_mem hym
          omega
        · -- both in the right subtree
          simp only [valid_node_true] at hx hy
          have hxm := mem_eulerPaths.mpr hx
          have hym := mem_eulerPaths.mpr hy
          rw [idxOf_euler_true _ _ _ hxm, idxOf_euler_true _ _ _ hym] at hlt
          have ih := ihr x y hx hy (by omega)
          have hb : between (eulerPaths (node l r)) (true :: x) (true :: y)
              = (between (eulerPaths r) x y).map (true :: ·) := by
            rw [eulerPaths_node, between_append_right (by simp) (by simp),
              between_append_right (by simp) (by simp),
              between_append_right (by simp) (by simp),
              between_append_left (by simpa using hxm) (by simpa using hym),
              between_map _ (cons_inj_path true)]
          rw [hb]
          simp only [commonPrefix, if_true]
          refine ⟨List.mem_map.mpr ⟨_, ih.1, rfl⟩, ?_⟩
          intro z hz
          obtain ⟨z', hz', rfl⟩ := List.mem_map.mp hz
          rw [List.cons_prefix_cons]
          exact ⟨rfl, ih.2 z' hz'⟩

end VTree

/-! ## least common ancestors -/

theorem getD_map_of_lt {α β : Type} (f : α → β) (l : List α) (i : Nat) (d : β) (h : i < l.length) :
    (l.map f).getD i d = f l[i] := by
  simp [List.getD_eq_getElem?_getD, h]

theorem getD_of_lt {α : Type} (l : List α) (i : Nat) (d : α) (h : i < l.length) :
    l.getD i d = l[i] := by
  simp [List.getD_eq_getElem?_getD, h]

theorem rangeMin_map_between (f : Path → Nat) (E : List Path) (x y c : Path)
    (hc : c ∈ between E x y) (hle : ∀ z ∈ between E x y, f c ≤ f z) :
    rangeMin (E.map f) (E.idxOf x) (E.idxOf y) = f c := by
  unfold rangeMin
  have hseg : ((E.map f).drop (E.idxOf x)).take (E.idxOf y - E.idxOf x) = (between E x y).map f := by
    unfold between; rw [List.map_take, List.map_drop]
  rw [hseg]
  generalize between E x y = seg at hc hle
  match seg, hc, hle with
  | [], hc, _ => simp at hc
  | a :: as, hc, hle =>
    simp only [List.map_cons]
    apply foldl_min_eq
    · rw [← List.map_cons]; exact List.mem_map.mpr ⟨c, hc, rfl⟩
    · intro z hz
      rw [← List.map_cons] at hz
      obtain ⟨z', hz', rfl⟩ := List.mem_map.mp hz
      exact hle z' hz'

/-- specification: the in-order index of the deepest common ancestor (longest common prefix of
the two root paths) -/
def lcaSpec (t : VTree) (i j : Nat) : Nat :=
  (VTree.inorderPaths t).idxOf
    (commonPrefix ((VTree.inorderPaths t).getD i []) ((VTree.inorderPaths t).getD j []))

namespace VTree

theorem bfsLabel_lt {t : VTree} {p : Path} (hp : Valid t p) : bfsLabel t p < t.size := by
  rw [← length_bfsPaths]; exact List.idxOf_lt_length_of_mem (mem_bfsPaths.mpr hp)

theorem bfsLabel_inj {t : VTree} {p q : Path} (hp : Valid t p) (h : bfsLabel t p = bfsLabel t q) :
    p = q := idxOf_inj (mem_bfsPaths.mpr hp) h

theorem eulerVec_idxOf (t : VTree) (p : Path) :
    (eulerVec t).idxOf (bfsLabel t p) = (eulerPaths t).idxOf p := by
  unfold eulerVec
  apply idxOf_map_of_injOn
  intro a ha e
  exact bfsLabel_inj (mem_eulerPaths.mp ha) e

theorem indexMap_getD {t : VTree} {p : Path} (hp : Valid t p) :
    (indexMap t).getD (bfsLabel t p) 0 = (eulerPaths t).idxOf p := by
  unfold indexMap
  rw [getD_map_of_lt _ _ _ _ (by simpa using bfsLabel_lt hp)]
  simp [eulerVec_idxOf t p]

theorem lcaBfs_lt_case {t : VTree} {x y : Path} (hx : Valid t x) (hy : Valid t y)
    (hlt : (eulerPaths t).idxOf x < (eulerPaths t).idxOf y) :
    rangeMin (eulerVec t) ((eulerPaths t).idxOf x) ((eulerPaths t).idxOf y)
      = bfsLabel t (commonPrefix x y) := by
  obtain ⟨h1, h2⟩ := euler_between t x y hx hy hlt
  unfold eulerVec
  apply rangeMin_map_between _ _ _ _ _ h1
  intro z hz
  have hzE : z ∈ eulerPaths t := by
    unfold between at hz
    exact List.mem_of_mem_drop (List.mem_of_mem_take hz)
  exact bfsLabel_le_of_prefix (mem_eulerPaths.mp hzE) (h2 z hz)

theorem lcaBfs_eq {t : VTree} {x y : Path} (hx : Valid t x) (hy : Valid t y) :
    (VTreeManager.new t).lcaBfs (bfsLabel t x) (bfsLabel t y) = bfsLabel t (commonPrefix x y) := by
  unfold VTreeManager.lcaBfs
  by_cases he : bfsLabel t x = bfsLabel t y
  · have := bfsLabel_inj hx he
    subst this
    simp
  · rw [if_neg he]
    show (if (indexMap t).getD (bfsLabel t x) 0 < (indexMap t).getD (bfsLabel t y) 0 then
        rangeMin (eulerVec t) ((indexMap t).getD (bfsLabel t x) 0) ((indexMap t).getD (bfsLabel t y) 0)
      else rangeMin (eulerVec t) ((indexMap t).getD (bfsLabel t y) 0) ((indexMap t).getD (bfsLabel t x) 0)) = _
    rw [indexMap_getD hx, indexMap_getD hy]
    have hne : (eulerPaths t).idxOf x ≠ (eulerPaths t).idxOf y := by
      intro e
      exact he (congrArg _ (idxOf_inj (mem_eulerPaths.mpr hx) e))
    by_cases hlt : (eulerPaths t).idxOf x < (eulerPaths t).idxOf y
    · rw [if_pos hlt]; exact lcaBfs_lt_case hx hy hlt
    · rw [if_neg hlt, commonPrefix_comm]
      exact lcaBfs_lt_case hy hx (by omega)

theorem bfsToDfs_getD {t : VTree} {p : Path} (hp : Valid t p) :
    (bfsToDfs t).getD (bfsLabel t p) 0 = dfsLabel t p := by
  unfold bfsToDfs
  have hlt : bfsLabel t p < (bfsPaths t).length := by rw [length_bfsPaths]; exact bfsLabel_lt hp
  rw [getD_map_of_lt _ _ _ _ hlt]
  congr 1
  exact List.getElem_idxOf hlt

theorem dfsToBfs_getD {t : VTree} {i : Nat} (hi : i < (inorderPaths t).length) :
    (dfsToBfs t).getD i 0 = bfsLabel t (inorderPaths t)[i] := by
  unfold dfsToBfs
  exact getD_map_of_lt _ _ _ _ hi

theorem valid_inorderPaths_getElem (t : VTree) (i : Nat) (hi : i < (inorderPaths t).length) :
    Valid t (inorderPaths t)[i] := mem_inorderPaths.mp (List.getElem_mem hi)

end VTree

/-- **`VTreeManager::lca` is correct**: on in-order indices it returns the in-order index of the
deepest common ancestor -/
theorem lca_correct (t : VTree) (i j : Nat) (hi : i < t.size) (hj : j < t.size) :
    (VTreeManager.new t).lca i j = lcaSpec t i j := by
  have hi' : i < (VTree.inorderPaths t).length := by rw [VTree.length_inorderPaths]; exact hi
  have hj' : j < (VTree.inorderPaths t).length := by rw [VTree.length_inorderPaths]; exact hj
  have vi := VTree.valid_inorderPaths_getElem t i hi'
  have vj := VTree.valid_inorderPaths_getElem t j hj'
  unfold VTreeManager.lca lcaSpec
  show (VTree.bfsToDfs t).getD ((VTreeManager.new t).lcaBfs ((VTree.dfsToBfs t).getD i 0)
      ((VTree.dfsToBfs t).getD j 0)) 0 = _
  rw [VTree.dfsToBfs_getD hi', VTree.dfsToBfs_getD hj', VTree.lcaBfs_eq vi vj,
    VTree.bfsToDfs_getD (VTree.valid_of_prefix (commonPrefix_prefix_left _ _) vi),
    getD_of_lt _ _ _ hi', getD_of_lt _ _ _ hj']
  rfl

/-! ## in-order index table, prime/sub relation, variable count -/

namespace VTree

def leafLabel? : VTree → Option Nat
  | leaf v => some v
  | node _ _ => none

theorem leaves_eq_filterMap (t : VTree) : t.leaves = t.inorder.filterMap leafLabel? := by
  induction t with
  | leaf v => rfl
  | node l r ihl ihr =>
    simp only [leaves, inorder, List.filterMap_append, ihl, ihr, List.filterMap_cons]
    rfl

theorem lookupLoop_length (L : List VTree) (i : Nat) (tbl : List Nat) :
    (lookupLoop L i tbl).length = tbl.length := by
  induction L generalizing i tbl with
  | nil => rfl
  | cons s L ih => cases s <;> simp [lookupLoop, ih]

theorem lookupLoop_getD_of_not_mem (L : List VTree) (i : Nat) (tbl : List Nat) (v : Nat)
    (h : v ∉ L.filterMap leafLabel?) : (lookupLoop L i tbl).getD v 0 = tbl.getD v 0 := by
  induction L generalizing i tbl with
  | nil => rfl
  | cons s L ih =>
    cases s with
    | leaf w =>
      simp only [List.filterMap_cons, leafLabel?, List.mem_cons, not_or] at h
      simp only [lookupLoop]
      rw [ih _ _ h.2]
      simp only [List.getD_eq_getElem?_getD, List.getElem?_set]
      have : ¬ w = v := fun e => h.1 e.symm
      simp [this]
    | node a b =>
      simp only [List.filterMap_cons, leafLabel?] at h
      simp only [lookupLoop]
      exact ih _ _ h

theorem lookupLoop_getD (L : List VTree) (i : Nat) (tbl : List Nat) (v k : Nat)
    (hn : (L.filterMap leafLabel?).Nodup) (hk : L[k]? = some (leaf v)) (hv : v < tbl.length) :
    (lookupLoop L i tbl).getD v 0 = i + k := by
  induction L generalizing i tbl k with
  | nil => simp at hk
  | cons s L ih =>
    cases k with
    | zero =>
      simp only [List.getElem?_cons_zero, Option.some.injEq] at hk
      subst hk
      simp only [List.filterMap_cons, leafLabel?, List.nodup_cons] at hn
      simp only [lookupLoop]
      rw [lookupLoop_getD_of_not_mem _ _ _ _ hn.1]
      simp [List.getD_eq_getElem?_getD, hv]
    | succ k =>
      simp only [List.getElem?_cons_succ] at hk
      cases s with
      | leaf w =>
        simp only [List.filterMap_cons, leafLabel?, List.nodup_cons] at hn
        simp only [lookupLoop]
        rw [ih (i + 1) _ k hn.2 hk (by simpa using hv)]
        omega
      | node a b =>
        simp only [List.filterMap_cons, leafLabel?] at hn
        simp only [lookupLoop]
        rw [ih (i + 1) _ k hn hk hv]
        omega

theorem maxLabel_mem (t : VTree) : t.maxLabel ∈ t.leaves := by
  induction t with
  | leaf v => simp [maxLabel, leaves]
  | node l r ihl ihr =>
    simp only [maxLabel, leaves, List.mem_append]
    rcases Nat.le_total l.maxLabel r.maxLabel with h | h
    · rw [Nat.max_eq_right h]; exact Or.inr ihr
    · rw [Nat.max_eq_left h]; exact Or.inl ihl

theorem le_maxLabel {t : VTree} {v : Nat} (h : v ∈ t.leaves) : v ≤ t.maxLabel := by
  induction t with
  | leaf w => exact Nat.le_of_eq (List.mem_singleton.mp h)
  | node l r ihl ihr =>
    rcases List.mem_append.mp h with h | h
    · exact Nat.le_trans (ihl h) (Nat.le_max_left _ _)
    · exact Nat.le_trans (ihr h) (Nat.le_max_right _ _)

theorem numVarsTree_eq (t : VTree) : t.numVarsTree = t.maxLabel + 1 := by
  induction t with
  | leaf v => rfl
  | node l r ihl ihr => rw [numVarsTree, maxLabel, ihl, ihr, Nat.succ_max_succ]

theorem lt_numVarsTree_of_mem_leaves {t : VTree} {v : Nat} (h : v ∈ t.leaves) : v < t.numVarsTree :=
  numVarsTree_eq t ▸ Nat.lt_succ_of_le (le_maxLabel h)

/-! ### the prime/sub relation in terms of the tree shape -/

theorem inorderLt_append (c p q : Path) : inorderLt (c ++ p) (c ++ q) = inorderLt p q := by
  induction c with
  | nil => rfl
  | cons a c ih => simp [inorderLt, ih]

/-- `p` before `q` in in-order iff, with `c` their deepest common ancestor, `p` lies in the left
subtree of `c` and `q` is `c` or lies in its right subtree, or `p` is `c` and `q` lies in its right
subtree -/
theorem inorderLt_iff (p q : Path) : inorderLt p q = true ↔
    ((∃ a, p = commonPrefix p q ++ false :: a) ∧
        (q = commonPrefix p q ∨ ∃ b, q = commonPrefix p q ++ true :: b)) ∨
      (p = commonPrefix p q ∧ ∃ b, q = commonPrefix p q ++ true :: b) := by
  induction p generalizing q with
  | nil =>
    cases q with
    | nil => simp [inorderLt, commonPrefix]
    | cons b q => cases b <;> simp [inorderLt, commonPrefix]
  | cons a p ih =>
    cases q with
    | nil => cases a <;> simp [inorderLt, commonPrefix]
    | cons b q =>
      by_cases hab : a = b
      · subst hab
        simp only [inorderLt, commonPrefix, if_true, List.cons_append, List.cons.injEq, true_and]
        exact ih q
      · cases a <;> cases b
        · exact absurd rfl hab
        · simp [inorderLt, commonPrefix]
        · simp [inorderLt, commonPrefix]
        · exact absurd rfl hab

end VTree

/-- the index table is the in-order numbering: entry `i` is the subtree at the `i`-th in-order path -/
theorem indexLookup_spec (t : VTree) (i : Nat) (hi : i < t.size) :
    (VTreeManager.new t).vtree i = t.subtreeAt ((VTree.inorderPaths t).getD i []) := by
  have h := VTree.inorder_eq_subtreeAt t
  have hi1 : i < t.inorder.length := by rw [VTree.length_inorder]; exact hi
  have hi2 : i < (VTree.inorderPaths t).length := by rw [VTree.length_inorderPaths]; exact hi
  have := congrArg (fun l => l[i]?) h
  simp only [List.getElem?_map] at this
  rw [getD_of_lt _ _ _ hi2]
  show t.inorder[i]? = _
  rw [List.getElem?_eq_getElem hi1] at this ⊢
  rw [List.getElem?_eq_getElem hi2] at this
  simpa using this

/-- a leaf's variable is mapped to the leaf's in-order index (leaf labels distinct, as
`VTreeManager::new` asserts) -/
theorem varIndex_spec (t : VTree) (hn : t.leaves.Nodup) (i v : Nat)
    (h : (VTreeManager.new t).vtree i = some (.leaf v)) :
    (VTreeManager.new t).getVarlabelIdx v = i := by
  have hmem : v ∈ t.leaves := by
    rw [VTree.leaves_eq_filterMap, List.mem_filterMap]
    exact ⟨.leaf v, List.mem_of_getElem? h, rfl⟩
  have := VTree.lookupLoop_getD t.inorder 0 (List.replicate t.numVarsTree 0) v i
    (by rw [← VTree.leaves_eq_filterMap]; exact hn) h
    (by simpa using VTree.lt_numVarsTree_of_mem_leaves hmem)
  simpa [VTreeManager.getVarlabelIdx, VTreeManager.new] using this

/-- `is_prime_index(i, j)` holds exactly when node `i` precedes node `j` in the in-order shape
relation (`VTree.inorderLt_iff` unfolds it in terms of the common ancestor) -/
theorem isPrimeIndex_spec (t : VTree) (i j : Nat) (hi : i < t.size) (hj : j < t.size) :
    (VTreeManager.new t).isPrimeIndex i j =
      VTree.inorderLt ((VTree.inorderPaths t).getD i []) ((VTree.inorderPaths t).getD j []) := by
  have hi' : i < (VTree.inorderPaths t).length := by rw [VTree.length_inorderPaths]; exact hi
  have hj' : j < (VTree.inorderPaths t).length := by rw [VTree.length_inorderPaths]; exact hj
  rw [getD_of_lt _ _ _ hi', getD_of_lt _ _ _ hj']
  have hs := VTree.pairwise_inorderPaths t
  rw [List.pairwise_iff_getElem] at hs
  unfold VTreeManager.isPrimeIndex
  rcases Nat.lt_trichotomy i j with h | h | h
  · simp [h, hs i j hi' hj' h]
  · subst h; simp [VTree.inorderLt_irrefl]
  · have := VTree.inorderLt_asymm _ _ (hs j i hj' hi' h)
    simp [this]; omega

/-- `num_vars()` is one more than the largest leaf label -/
theorem numVars_eq (t : VTree) :
    (VTreeManager.new t).numVars = t.maxLabel + 1 ∧ t.maxLabel ∈ t.leaves ∧
      ∀ v ∈ t.leaves, v ≤ t.maxLabel :=
  ⟨rfl, VTree.maxLabel_mem t, fun _ h => VTree.le_maxLabel h⟩

/-- when the labels are exactly `0..n-1`, each once, `num_vars()` is `n`, the number of leaves -/
theorem numVars_of_perm (t : VTree) (n : Nat) (h : t.leaves.Perm (List.range n)) :
    (VTreeManager.new t).numVars = n ∧ t.leaves.length = n := by
  have hlen : t.leaves.length = n := by simpa using h.length_eq
  refine ⟨?_, hlen⟩
  have h1 : t.maxLabel < n := by
    have := h.mem_iff.mp (VTree.maxLabel_mem t); simpa using this
  have hpos : 0 < n := Nat.zero_lt_of_lt h1
  have h2 : n - 1 ≤ t.maxLabel :=
    VTree.le_maxLabel (h.mem_iff.mpr (by simp; omega))
  show t.maxLabel + 1 = n
  omega

/-! ## the vtree shapes the library builds have the given variable list as leaves -/

namespace VTree

theorem rightLinear_leaves : ∀ (o : List Nat) (t : VTree), rightLinear o = some t → t.leaves = o
  | [], t, h => by simp [rightLinear] at h
  | [x], t, h => by simp [rightLinear] at h; subst h; rfl
  | x :: y :: rest, t, h => by
    simp only [rightLinear, Option.map_eq_some_iff] at h
    obtain ⟨r, hr, rfl⟩ := h
    simp [leaves, rightLinear_leaves (y :: rest) r hr]

theorem rightLinear_isSome : ∀ (o : List Nat), o ≠ [] → (rightLinear o).isSome
  | [], h => by simp at h
  | [x], _ => rfl
  | x :: y :: rest, _ => by
    have := rightLinear_isSome (y :: rest) (by simp)
    simp only [rightLinear, Option.isSome_map]
    exact this

theorem leaves_foldl_leftLinear (xs : List Nat) (t : VTree) :
    (xs.foldl (fun t y => node t (leaf y)) t).leaves = t.leaves ++ xs := by
  induction xs generalizing t with
  | nil => simp
  | cons x xs ih => simp [ih, leaves]

theorem leftLinear_leaves (o : List Nat) (t : VTree) (h : leftLinear o = some t) : t.leaves = o := by
  cases o with
  | nil => simp [leftLinear] at h
  | cons x xs =>
    simp only [leftLinear, Option.some.injEq] at h
    subst h
    simp [leaves_foldl_leftLinear, leaves]

theorem evenSplit_leaves (k : Nat) : ∀ (o : List Nat) (t : VTree), evenSplit o k = some t → t.leaves = o := by
  induction k with
  | zero => intro o t h; exact rightLinear_leaves o t h
  | succ k ih =>
    intro o t h
    simp only [evenSplit] at h
    split at h
    · rename_i l r hl hr
      simp only [Option.some.injEq] at h
      subst h
      simp [leaves, ih _ _ hl, ih _ _ hr]
    · simp at h

end VTree

end VT
