import RsddModel.Model.Orders
import RsddModel.Lemmas.InsertSort
import RsddModel.Lemmas.VTree
/-!
# Lemmas: variable orders and order heuristics (C14)

Every order the library constructs (`VarOrder::new` of a permutation, `linear_order`, `new_last`,
`min_fill_order`, `force_order`) is a well-formed order: both vectors are permutations of
`0..n-1` and mutually inverse.
-/
namespace Orders
open Spec List

/-! ## generic list facts -/

theorem eq_map_range_getD (l : List Nat) (d : Nat) :
    l = (List.range l.length).map (fun x => l.getD x d) := by
  apply List.ext_getElem
  · simp
  · intro i h1 h2
    simp [List.getD_eq_getElem?_getD, h1]

/-! ## `newLoop` -/

/-- `VarOrder::new` fills its inverse table with the loop that fills `vtree_lookup`, run on a list of
leaves -/
theorem newLoop_eq_lookupLoop : ∀ (xs : List Nat) (i : Nat) (v : List Nat),
    newLoop xs i v = VT.VTree.lookupLoop (xs.map .leaf) i v
  | [], _, _ => rfl
  | x :: xs, i, v => by
    rw [newLoop, List.map_cons, VT.VTree.lookupLoop, newLoop_eq_lookupLoop xs]

theorem filterMap_leaf (xs : List Nat) :
    (xs.map VT.VTree.leaf).filterMap VT.VTree.leafLabel? = xs := by
  induction xs with
  | nil => rfl
  | cons x xs ih => simp only [List.map_cons, List.filterMap_cons, VT.VTree.leafLabel?, ih]

theorem newLoop_length (xs : List Nat) (i : Nat) (v : List Nat) :
    (newLoop xs i v).length = v.length := by
  rw [newLoop_eq_lookupLoop]; exact VT.VTree.lookupLoop_length _ i v

theorem newLoop_getD_getElem (xs : List Nat) (i : Nat) (v : List Nat)
    (hnd : xs.Nodup) (hlt : ∀ x ∈ xs, x < v.length) (k : Nat) (hk : k < xs.length) :
    (newLoop xs i v).getD (xs[k]) 0 = i + k := by
  rw [newLoop_eq_lookupLoop]
  exact VT.VTree.lookupLoop_getD _ i v xs[k] k (by rwa [filterMap_leaf])
    (by rw [List.getElem?_map, List.getElem?_eq_getElem hk]; rfl) (hlt _ (List.getElem_mem hk))

theorem perm_range_facts {p : List Nat} {n : Nat} (hp : p.Perm (List.range n)) :
    p.Nodup ∧ p.length = n ∧ ∀ x ∈ p, x < n :=
  ⟨hp.nodup_iff.2 List.nodup_range, by simpa using hp.length_eq,
    fun x hx => List.mem_range.1 (hp.mem_iff.1 hx)⟩

theorem newLoop_perm {p v : List Nat} {n : Nat} (hp : p.Perm (List.range n)) (hv : v.length = n) :
    (newLoop p 0 v).Perm (List.range n) := by
  obtain ⟨hnd, hplen, hlt⟩ := perm_range_facts hp
  rw [← hv] at hlt
  have hwlen : (newLoop p 0 v).length = n := by rw [newLoop_length, hv]
  -- `p.map w = range n`
  have h1 : p.map (fun x => (newLoop p 0 v).getD x 0) = List.range n := by
    apply List.ext_getElem
    · simp [hplen]
    · intro k hk1 hk2
      have hk : k < p.length := by simpa using hk1
      simp only [List.getElem_map, List.getElem_range]
      rw [newLoop_getD_getElem p 0 v hnd hlt k hk]; omega
  have h2 := eq_map_range_getD (newLoop p 0 v) 0
  rw [hwlen] at h2
  rw [h2]
  exact (hp.map _).symm.trans (.of_eq h1)

theorem newLoop_inv_left {p v : List Nat} {n : Nat} (hp : p.Perm (List.range n))
    (hv : v.length = n) (i : Nat) (hi : i < n) :
    (newLoop p 0 v).getD (p.getD i 0) 0 = i := by
  obtain ⟨hnd, hplen, hlt⟩ := perm_range_facts hp
  rw [← hv] at hlt
  have hk : i < p.length := hplen ▸ hi
  rw [VT.getD_of_lt _ _ _ hk, newLoop_getD_getElem p 0 v hnd hlt i hk]; omega

theorem newLoop_inv_right {p v : List Nat} {n : Nat} (hp : p.Perm (List.range n))
    (hv : v.length = n) (x : Nat) (hx : x < n) :
    p.getD ((newLoop p 0 v).getD x 0) 0 = x := by
  have hplen := (perm_range_facts hp).2.1
  have hmem : x ∈ p := hp.mem_iff.2 (List.mem_range.2 hx)
  obtain ⟨k, hk, hkx⟩ := List.getElem_of_mem hmem
  have := newLoop_inv_left hp hv k (by omega)
  rw [VT.getD_of_lt _ _ _ hk, hkx] at this
  rw [this, VT.getD_of_lt _ _ _ hk, hkx]

/-! ## `VarOrder` -/

/-- well-formedness of an order over `n` variables: both vectors are permutations of `0..n-1`
and they are mutually inverse -/
structure VarOrder.WF (o : VarOrder) (n : Nat) : Prop where
  perm_pos : o.posToVar.Perm (List.range n)
  perm_var : o.varToPos.Perm (List.range n)
  get_varAtLevel : ∀ i, i < n → o.get (o.varAtLevel i) = i
  varAtLevel_get : ∀ v, v < n → o.varAtLevel (o.get v) = v

theorem new_wf {order : List Nat} {n : Nat} (h : order.Perm (List.range n)) :
    (VarOrder.new order).WF n := by
  have hlen : order.length = n := by simpa using h.length_eq
  have hv : (List.replicate order.length 0).length = n := by simp [hlen]
  exact
    { perm_pos := h
      perm_var := newLoop_perm h hv
      get_varAtLevel := fun i hi => newLoop_inv_left h hv i hi
      varAtLevel_get := fun v hvn => newLoop_inv_right h hv v hvn }

theorem linear_wf (n : Nat) : (VarOrder.linear n).WF n := new_wf (List.Perm.refl _)

theorem WF.length_pos {o : VarOrder} {n : Nat} (h : o.WF n) : o.posToVar.length = n :=
  (perm_range_facts h.perm_pos).2.1

theorem WF.length_var {o : VarOrder} {n : Nat} (h : o.WF n) : o.varToPos.length = n :=
  (perm_range_facts h.perm_var).2.1

theorem getD_lt_of_perm {p : List Nat} {n : Nat} (hp : p.Perm (List.range n)) {i : Nat}
    (hi : i < n) : p.getD i 0 < n := by
  obtain ⟨_, hl, hlt⟩ := perm_range_facts hp
  rw [VT.getD_of_lt _ _ _ (hl ▸ hi)]
  exact hlt _ (List.getElem_mem _)

theorem WF.varAtLevel_lt {o : VarOrder} {n : Nat} (h : o.WF n) {i : Nat} (hi : i < n) :
    o.varAtLevel i < n := getD_lt_of_perm h.perm_pos hi

theorem WF.get_lt {o : VarOrder} {n : Nat} (h : o.WF n) {v : Nat} (hv : v < n) :
    o.get v < n := getD_lt_of_perm h.perm_var hv

theorem getD_append_left' {l : List Nat} {i : Nat} (h : i < l.length) (t : List Nat) (d : Nat) :
    (l ++ t).getD i d = l.getD i d := by
  simp [List.getD_eq_getElem?_getD, List.getElem?_append_left h]

theorem getD_append_singleton_length (l : List Nat) (a d : Nat) :
    (l ++ [a]).getD l.length d = a := by
  simp [List.getD_eq_getElem?_getD]

theorem getD_snoc_inv {p w : List Nat} {n : Nat} (hp : p.length = n) (hw : w.length = n)
    (hlt : ∀ i, i < n → p.getD i 0 < n) (hinv : ∀ i, i < n → w.getD (p.getD i 0) 0 = i)
    (i : Nat) (hi : i < n + 1) : (w ++ [n]).getD ((p ++ [n]).getD i 0) 0 = i := by
  subst hp
  rcases Nat.lt_or_eq_of_le (Nat.le_of_lt_succ hi) with hin | rfl
  · rw [getD_append_left' hin, getD_append_left' (hw ▸ hlt i hin)]
    exact hinv i hin
  · rw [getD_append_singleton_length, ← hw, getD_append_singleton_length]

theorem newLast_wf {o : VarOrder} {n : Nat} (h : o.WF n) :
    o.newLast.1.WF (n + 1) ∧ o.newLast.2 = n := by
  have hlv := WF.length_var h
  have hlp := WF.length_pos h
  subst hlp
  refine ⟨⟨?_, ?_, ?_, ?_⟩, rfl⟩
  · show (o.posToVar ++ [o.posToVar.length]).Perm _
    rw [List.range_succ]; exact h.perm_pos.append_right _
  · show (o.varToPos ++ [o.posToVar.length]).Perm _
    rw [List.range_succ]; exact h.perm_var.append_right _
  · exact getD_snoc_inv rfl hlv (fun _ hi => WF.varAtLevel_lt h hi) h.get_varAtLevel
  · exact getD_snoc_inv hlv rfl (fun _ hv => WF.get_lt h hv) h.varAtLevel_get
theorem newLastN_wf {o : VarOrder} {n : Nat} (h : o.WF n) (k : Nat) :
    (o.newLastN k).WF (n + k) := by
  induction k with
  | zero => exact h
  | succ k ih => exact (newLast_wf ih).1

/-! ## the graph and the elimination loop -/

theorem set_append_getD_perm (init : List Nat) (y v : Nat) (hv : v < init.length) :
    (init.set v y ++ [init.getD v 0]).Perm (init ++ [y]) := by
  induction init generalizing v with
  | nil => simp at hv
  | cons a t ih =>
    cases v with
    | zero =>
      simp only [List.set_cons_zero, List.getD_cons_zero, List.cons_append]
      exact ((List.Perm.cons y List.perm_append_comm).trans (List.Perm.swap a y t)).trans
        (List.Perm.cons a (List.perm_append_comm (l₁ := [y]) (l₂ := t)))
    | succ v =>
      simp only [List.set_cons_succ, List.getD_cons_succ, List.cons_append]
      exact List.Perm.cons a (ih v (by simpa using hv))

/-- swap-remove: what is left plus the removed weight is a permutation of the node vector -/
theorem swapRemove_perm (l : List Nat) (v : Nat) (hv : v < l.length) :
    ((l.set v (l.getD (l.length - 1) 0)).take (l.length - 1) ++ [l.getD v 0]).Perm l := by
  have hne : l ≠ [] := by intro h; simp [h] at hv
  have hl := (List.dropLast_concat_getLast hne).symm
  generalize hin : l.dropLast = init at hl
  generalize hy : l.getLast hne = y at hl
  subst hl
  simp only [List.length_append, List.length_singleton, Nat.add_sub_cancel]
  rw [getD_append_singleton_length]
  by_cases hvi : v < init.length
  · have h1 : (init ++ [y]).set v y = init.set v y ++ [y] := by
      rw [List.set_append_left _ _ hvi]
    rw [h1, getD_append_left' hvi]
    have h2 : (init.set v y ++ [y]).take init.length = init.set v y := by
      have : init.length = (init.set v y).length := by simp
      rw [this, List.take_left']
      rfl
    rw [h2]
    exact set_append_getD_perm init y v hvi
  · have hv' : v = init.length := by simp at hv; omega
    subst hv'
    rw [getD_append_singleton_length]
    have h1 : (init ++ [y]).set init.length y = init ++ [y] := by
      rw [List.set_append_right _ _ (Nat.le_refl _)]; simp
    rw [h1, List.take_left']
    rfl

theorem removeNode_nodes_perm (g : UnGraph) (v : Nat) (hv : v < g.nodes.length) :
    ((g.removeNode v).nodes ++ [g.nodes.getD v 0]).Perm g.nodes := by
  unfold UnGraph.removeNode
  rw [if_pos hv]
  exact swapRemove_perm g.nodes v hv

theorem removeNode_nodes_length (g : UnGraph) (v : Nat) (hv : v < g.nodes.length) :
    (g.removeNode v).nodes.length = g.nodes.length - 1 := by
  unfold UnGraph.removeNode
  rw [if_pos hv]
  show ((g.nodes.set v _).take (g.nodes.length - 1)).length = _
  rw [List.length_take, List.length_set]
  exact Nat.min_eq_left (Nat.sub_le _ _)

/-- the elimination loop returns a permutation of the node weights, for ANY choice function and
ANY edge rewriting that leaves the node vector alone -/
theorem elimLoop_perm (pick : UnGraph → Nat) (pre : UnGraph → Nat → UnGraph)
    (hpre : ∀ g v, (pre g v).nodes = g.nodes)
    (hpick : ∀ g, g.nodes ≠ [] → pick g < g.nodes.length) :
    ∀ (fuel : Nat) (g : UnGraph) (ord : List Nat), g.nodes.length ≤ fuel →
      (elimLoop pick pre fuel g ord).Perm (ord ++ g.nodes) := by
  intro fuel
  induction fuel with
  | zero =>
    intro g ord hg
    have : g.nodes = [] := List.eq_nil_of_length_eq_zero (by omega)
    simp [elimLoop, this]
  | succ fuel ih =>
    intro g ord hg
    unfold elimLoop
    by_cases h0 : g.nodes.length = 0
    · rw [if_pos h0]
      have : g.nodes = [] := List.eq_nil_of_length_eq_zero h0
      simp [this]
    · rw [if_neg h0]
      have hne : g.nodes ≠ [] := by intro h; simp [h] at h0
      have hp := hpick g hne
      have hp' : pick g < (pre g (pick g)).nodes.length := by rw [hpre]; exact hp
      have hlen := removeNode_nodes_length (pre g (pick g)) (pick g) hp'
      have hperm := removeNode_nodes_perm (pre g (pick g)) (pick g) hp'
      rw [hpre] at hlen hperm
      show (elimLoop pick pre fuel ((pre g (pick g)).removeNode (pick g))
        (ord ++ [g.nodes.getD (pick g) 0])).Perm _
      refine (ih _ _ (by omega)).trans ?_
      rw [List.append_assoc]
      exact List.Perm.append_left ord (List.perm_append_comm.trans hperm)

/-! ### `nodes` is untouched by the edge rewriting -/

theorem igInner_nodes (a : Nat) (c : List Lit) (g : UnGraph) : (igInner a c g).nodes = g.nodes := by
  induction c generalizing g with
  | nil => rfl
  | cons l rest ih =>
    simp only [igInner]
    rw [ih]
    split <;> rfl

theorem igClause_nodes (c : List Lit) (g : UnGraph) : (igClause c g).nodes = g.nodes := by
  induction c generalizing g with
  | nil => rfl
  | cons l rest ih =>
    simp only [igClause]
    rw [ih, igInner_nodes]

theorem foldl_igClause_nodes (cs : Cnf) (g : UnGraph) :
    (cs.foldl (fun g c => igClause c g) g).nodes = g.nodes := by
  induction cs generalizing g with
  | nil => rfl
  | cons c cs ih =>
    simp only [List.foldl_cons]
    rw [ih, igClause_nodes]

theorem interactionGraph_nodes (cs : Cnf) (n : Nat) : (interactionGraph cs n).nodes = List.range n := by
  unfold interactionGraph
  rw [foldl_igClause_nodes]

theorem fillInner_nodes (a : Nat) (l : List Nat) (g : UnGraph) : (fillInner a l g).nodes = g.nodes := by
  induction l generalizing g with
  | nil => rfl
  | cons b rest ih =>
    simp only [fillInner]
    rw [ih]
    split <;> rfl

theorem fillAll_nodes (l : List Nat) (g : UnGraph) : (fillAll l g).nodes = g.nodes := by
  induction l generalizing g with
  | nil => rfl
  | cons a rest ih =>
    simp only [fillAll]
    rw [ih, fillInner_nodes]

/-! ### the first minimum is a valid index -/

theorem firstMinIdxAux_bound (xs : List Nat) (i best bestVal : Nat) :
    firstMinIdxAux xs i best bestVal = best ∨
      (i ≤ firstMinIdxAux xs i best bestVal ∧ firstMinIdxAux xs i best bestVal < i + xs.length) := by
  induction xs generalizing i best bestVal with
  | nil => left; rfl
  | cons x xs ih =>
    rw [firstMinIdxAux, List.length_cons, ← Nat.add_assoc, Nat.add_right_comm]
    by_cases hx : x < bestVal
    · rw [if_pos hx]
      refine Or.inr ((ih (i + 1) i x).elim (fun h => ?_) fun h => ⟨Nat.le_of_succ_le h.1, h.2⟩)
      rw [h]; exact ⟨Nat.le_refl i, Nat.lt_add_right _ (Nat.lt_succ_self i)⟩
    · rw [if_neg hx]
      exact (ih (i + 1) best bestVal).imp_right fun h => ⟨Nat.le_of_succ_le h.1, h.2⟩
theorem firstMinIdx_lt (l : List Nat) (h : l ≠ []) : firstMinIdx l < l.length := by
  cases l with
  | nil => exact absurd rfl h
  | cons x xs =>
    simp only [firstMinIdx, List.length_cons]
    rcases firstMinIdxAux_bound xs 1 0 x with h | h <;> omega

theorem minFillPick_lt (g : UnGraph) (h : g.nodes ≠ []) : minFillPick g < g.nodes.length := by
  unfold minFillPick
  have hpos : 0 < g.nodes.length := List.length_pos_iff.2 h
  have hne : (List.range g.nodes.length).map (numFill g) ≠ [] := by
    rw [Ne, List.map_eq_nil_iff, List.range_eq_nil]; exact Nat.ne_of_gt hpos
  have := firstMinIdx_lt _ hne
  simpa using this

theorem minFillSeq_perm (cs : Spec.Cnf) (n : Nat) : (minFillSeq cs n).Perm (List.range n) := by
  unfold minFillSeq
  have h := elimLoop_perm minFillPick (fun g v => fillAll (g.neighbors v) g)
    (fun g v => fillAll_nodes _ g) minFillPick_lt
    (interactionGraph cs n).nodes.length (interactionGraph cs n) [] (Nat.le_refl _)
  have hn := interactionGraph_nodes cs n
  simp only [hn, List.length_range, List.nil_append] at h ⊢
  exact h

theorem minFillOrder_wf (cs : Spec.Cnf) (n : Nat) : (minFillOrder cs n).WF n :=
  new_wf (minFillSeq_perm cs n)

/-! ## FORCE -/

theorem sortedLabels_perm {K : Type} (le : K → K → Bool) (keys : List K) :
    (sortedLabels le keys).Perm (List.range keys.length) := by
  unfold sortedLabels
  have h := (stableSort_perm (fun (a b : K × Nat) => le a.1 b.1)
    (keys.zip (List.range keys.length))).map (·.2)
  have h2 : (keys.zip (List.range keys.length)).map (·.2) = List.range keys.length :=
    List.map_snd_zip (by simp)
  exact h.trans (.of_eq h2)

theorem forceUpdate_inner_length {K : Type} (ops : ForceOps K) (g : K) (c : Clause)
    (upd : List (K × Nat)) :
    (c.foldl (fun upd l =>
      let (tot, cnt) := upd.getD l.var (ops.zero, 0)
      upd.set l.var (ops.add tot g, cnt + 1)) upd).length = upd.length := by
  induction c generalizing upd with
  | nil => rfl
  | cons l c ih =>
    simp only [List.foldl_cons]
    rw [ih]
    simp

theorem forceUpdate_length {K : Type} (ops : ForceOps K) (cs : Cnf) (cog : List K) (n : Nat) :
    (forceUpdate ops cs cog n).length = n := by
  unfold forceUpdate
  suffices h : ∀ (zs : List (Clause × K)) (upd : List (K × Nat)),
      (zs.foldl (fun upd (x : Clause × K) =>
        match x with
        | (c, g) => c.foldl (fun upd l =>
          let (tot, cnt) := upd.getD l.var (ops.zero, 0)
          upd.set l.var (ops.add tot g, cnt + 1)) upd) upd).length = upd.length by
    rw [h]; simp
  intro zs
  induction zs with
  | nil => intro upd; rfl
  | cons z zs ih =>
    intro upd
    obtain ⟨c, g⟩ := z
    simp only [List.foldl_cons]
    rw [ih, forceUpdate_inner_length]

theorem avgCog_length {K : Type} (ops : ForceOps K) (cs : Cnf) (l : List Nat) (n : Nat) :
    (avgCog ops cs l n).length = n := by
  unfold avgCog
  simp [forceUpdate_length]

theorem forceStep_perm {K : Type} (ops : ForceOps K) (cs : Spec.Cnf) (n : Nat) (l : List Nat)
    (hl : l.length = n) : (forceStep ops cs n l).Perm (List.range n) := by
  unfold forceStep positionsFrom
  have h := sortedLabels_perm ops.le (avgCog ops cs l n)
  rw [avgCog_length] at h
  exact newLoop_perm h hl

theorem forceLoop_perm {K : Type} (ops : ForceOps K) (cs : Spec.Cnf) (n : Nat) :
    ∀ (fuel : Nat) (l : List Nat) (span : K) (r : List Nat), l.length = n →
      forceLoop ops cs n fuel l span = some r → r.Perm (List.range n) := by
  intro fuel
  induction fuel with
  | zero => intro l span r _ h; simp [forceLoop] at h
  | succ fuel ih =>
    intro l span r hl h
    have hstep := forceStep_perm ops cs n l hl
    simp only [forceLoop] at h
    split at h
    · cases h; exact hstep
    · exact ih _ _ _ (by simpa using hstep.length_eq) h

theorem forceSeq_perm {K : Type} (ops : ForceOps K) (cs : Spec.Cnf) (n fuel : Nat) (l : List Nat)
    (h : forceSeq ops cs n fuel = some l) : l.Perm (List.range n) :=
  forceLoop_perm ops cs n fuel (List.range n) _ l (by simp) h

theorem forceOrder_wf {K : Type} (ops : ForceOps K) (cs : Spec.Cnf) (n fuel : Nat) (o : VarOrder)
    (h : forceOrder ops cs n fuel = some o) : o.WF n := by
  obtain ⟨l, hs, rfl⟩ := Option.map_eq_some_iff.mp h
  exact new_wf (forceSeq_perm ops cs n fuel l hs)

/-! ## non-vacuity -/

example : (VarOrder.new [2, 0, 1]).varToPos = [1, 2, 0] := by decide +kernel
example : (VarOrder.new [2, 0, 1]).WF 3 := new_wf (by decide)
example : (VarOrder.linear 3).newLast = (⟨[0, 1, 2, 3], [0, 1, 2, 3]⟩, 3) := by decide +kernel
example : ((VarOrder.new [2, 0, 1]).newLastN 2).posToVar = [2, 0, 1, 3, 4] := by decide +kernel

/-- the CNF `(x0 ∨ x1) ∧ (x1 ∨ x2) ∧ (x2 ∨ x3) ∧ (x0 ∨ x3)` (a 4-cycle): every node has fill 1,
the first one is eliminated, then the swap-remove renumbering is visible in the sequence -/
def exCnf : Spec.Cnf :=
  [[⟨0, true⟩, ⟨1, true⟩], [⟨1, false⟩, ⟨2, true⟩], [⟨2, true⟩, ⟨3, false⟩], [⟨0, true⟩, ⟨3, true⟩]]

/-- newest edge first; the Rust's inner loop starts at `j = i`, so every variable gets a self loop -/
example : (interactionGraph exCnf 4).edges =
    [(0, 3), (3, 3), (2, 3), (2, 2), (1, 2), (1, 1), (0, 1), (0, 0)] := by decide +kernel
theorem minFillSeq_exCnf : minFillSeq exCnf 4 = [0, 3, 2, 1] := by decide +kernel

example : minFillSeq exCnf 4 = [0, 3, 2, 1] := minFillSeq_exCnf
example : (minFillOrder exCnf 4).varToPos = [0, 3, 2, 1] := by
  rw [minFillOrder, minFillSeq_exCnf]; rfl
/-- a star with centre `0`: two leaves (fill 0) go first, then the centre ties with the last leaf -/
example : minFillSeq [[⟨0, true⟩, ⟨1, true⟩], [⟨0, true⟩, ⟨2, true⟩], [⟨0, true⟩, ⟨3, true⟩]] 4
    = [1, 3, 0, 2] := by decide +kernel
example : (minFillSeq exCnf 4).Perm (List.range 4) := minFillSeq_perm _ _

example : stableSort (fun a b : Nat => decide (a ≤ b)) [3, 1, 2, 1] = [1, 1, 2, 3] := by decide +kernel
/-- stability: equal keys keep their input order -/
example : sortedLabels (fun a b : Nat => decide (a ≤ b)) [5, 1, 5, 0, 1] = [3, 1, 4, 0, 2] := by decide +kernel

/-- `ForceOps` over `Nat` (truncating arithmetic) is kernel-evaluable: FORCE terminates with a
result, so `forceSeq_perm` and `forceOrder_wf` are not vacuous -/
def natOps : ForceOps Nat :=
  { ofNat := id, zero := 0, one := 1, add := (· + ·), sub := (· - ·), div := (· / ·)
    lt := fun a b => decide (a < b), le := fun a b => decide (a ≤ b) }

theorem forceSeq_natOps :
    forceSeq natOps [[⟨0, true⟩, ⟨3, true⟩], [⟨1, true⟩, ⟨3, false⟩], [⟨2, true⟩]] 4 6
      = some [0, 2, 3, 1] := by decide +kernel

example : forceSeq natOps [[⟨0, true⟩, ⟨3, true⟩], [⟨1, true⟩, ⟨3, false⟩], [⟨2, true⟩]] 4 6
    = some [0, 2, 3, 1] := forceSeq_natOps
example : (forceOrder natOps [[⟨0, true⟩, ⟨3, true⟩], [⟨1, true⟩, ⟨3, false⟩], [⟨2, true⟩]] 4 6).isSome
    = true := by rw [forceOrder, forceSeq_natOps]; rfl

/-
`Float` is opaque to the kernel; the executable instance evaluates as follows.
#eval forceSeq floatOps exCnf 4 6                       -- some [0, 1, 2, 3]
#eval (forceOrderFloat exCnf 4).map VarOrder.pair       -- some ([0, 1, 2, 3], [0, 1, 2, 3])
#eval (forceOrderFloat [[⟨0, true⟩, ⟨3, true⟩], [⟨1, true⟩, ⟨3, false⟩], [⟨2, true⟩]] 4).map VarOrder.pair
                                                        -- some ([0, 3, 1, 2], [0, 2, 3, 1])
#eval forceOrderFloat [] 3          -- none: the Rust loop diverges on a CNF without clauses
-/

end Orders

#print axioms Orders.new_wf
#print axioms Orders.linear_wf
#print axioms Orders.newLast_wf
#print axioms Orders.newLastN_wf
#print axioms Orders.elimLoop_perm
#print axioms Orders.minFillSeq_perm
#print axioms Orders.minFillOrder_wf
#print axioms Orders.stableSort_perm
#print axioms Orders.sortedLabels_perm
#print axioms Orders.forceStep_perm
#print axioms Orders.forceSeq_perm
#print axioms Orders.forceOrder_wf
