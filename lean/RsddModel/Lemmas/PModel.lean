import RsddModel.Spec.Cnf
/-!
# Partial models against total assignments (shared by the propagator, the top-down compiler and its naive solver)

The order on partial models is written out (`∀ x b, m x = some b → m' x = some b`): `UnitProp.PExt` and
`TopDown.PExt` both unfold to it.
-/
namespace Spec

@[simp] theorem pset_same (m : PModel) (x : Nat) (b : Bool) : (m.set x b) x = some b := by
  simp [PModel.set]

theorem pset_other (m : PModel) {x y : Nat} (b : Bool) (h : y ≠ x) : (m.set x b) y = m y := by
  simp [PModel.set, h]

theorem pset_none {m : PModel} {x y : Nat} {b : Bool} (h : (m.set x b) y = none) : m y = none := by
  by_cases e : y = x
  · rw [e, pset_same] at h; cases h
  · rwa [pset_other _ _ e] at h

theorem pext_set {m : PModel} {x : Nat} (b : Bool) (h : m x = none) :
    ∀ y v, m y = some v → (m.set x b) y = some v := by
  intro y v hy
  by_cases e : y = x
  · subst e; rw [h] at hy; cases hy
  · rw [pset_other _ _ e]; exact hy

theorem litTrue_iff {m : PModel} {l : Lit} : litTrue m l = true ↔ m l.var = some l.pol := by
  simp [litTrue]

theorem litFalse_iff {m : PModel} {l : Lit} : litFalse m l = true ↔ m l.var = some (!l.pol) := by
  simp [litFalse]

theorem litUnset_iff {m : PModel} {l : Lit} : litUnset m l = true ↔ m l.var = none := by
  simp [litUnset]

theorem lit_cases (m : PModel) (l : Lit) :
    litTrue m l = true ∨ litFalse m l = true ∨ litUnset m l = true := by
  rw [litTrue_iff, litFalse_iff, litUnset_iff]
  cases h : m l.var with
  | none => simp
  | some b => cases b <;> cases l.pol <;> simp

theorem litTrue_mono {m m' : PModel} (h : ∀ x b, m x = some b → m' x = some b) {l : Lit}
    (hl : litTrue m l = true) : litTrue m' l = true := by
  rw [litTrue_iff] at *; exact h _ _ hl

theorem litFalse_mono {m m' : PModel} (h : ∀ x b, m x = some b → m' x = some b) {l : Lit}
    (hl : litFalse m l = true) : litFalse m' l = true := by
  rw [litFalse_iff] at *; exact h _ _ hl

theorem anyTrue_mono {m m' : PModel} (h : ∀ x b, m x = some b → m' x = some b) {c : Clause}
    (hc : c.any (litTrue m) = true) : c.any (litTrue m') = true := by
  rw [List.any_eq_true] at *
  obtain ⟨l, hl, ht⟩ := hc
  exact ⟨l, hl, litTrue_mono h ht⟩

theorem Extends.set {a : Assign} {m : PModel} (h : Extends a m) {x : Nat} {b : Bool} (hx : a x = b) :
    Extends a (m.set x b) := by
  intro y v hy
  by_cases e : y = x
  · subst e; simp at hy; rw [← hy]; exact hx
  · rw [pset_other _ _ e] at hy; exact h y v hy

theorem sat_unset_lit {a : Assign} {m : PModel} {c : Clause} (he : Extends a m)
    (hc : clauseSat a c = true) (hs : c.any (litTrue m) = false) :
    ∃ lit, lit ∈ c.filter (litUnset m) ∧ litSat a lit = true := by
  unfold clauseSat at hc
  rw [List.any_eq_true] at hc
  obtain ⟨lit, hl, hsat⟩ := hc
  refine ⟨lit, List.mem_filter.mpr ⟨hl, ?_⟩, hsat⟩
  rcases lit_cases m lit with h | h | h
  · have : c.any (litTrue m) = true := List.any_eq_true.mpr ⟨lit, hl, h⟩
    rw [hs] at this; cases this
  · have h1 := he _ _ (litFalse_iff.mp h)
    simp [litSat, h1] at hsat
  · exact h

theorem cnfSat_mem {a : Assign} {cnf : Cnf} {c : Clause} (h : cnfSat a cnf = true) (hc : c ∈ cnf) :
    clauseSat a c = true := by
  unfold cnfSat at h; rw [List.all_eq_true] at h; exact h c hc

/-- a clause of a satisfied CNF without true literal under `m ≤ a`, whose only unassigned literal is `u`, forces `u` -/
theorem unit_sound {cnf : Cnf} {c : Clause} {u : Lit} {m : PModel} {a : Assign}
    (hc : c ∈ cnf) (hs : c.any (litTrue m) = false) (hu : ∀ l ∈ c, m l.var = none → l = u)
    (he : Extends a m) (ha : cnfSat a cnf = true) : litSat a u = true := by
  obtain ⟨lit, hl, hsat⟩ := sat_unset_lit he (cnfSat_mem ha hc) hs
  obtain ⟨hl, hn⟩ := List.mem_filter.mp hl
  exact hu lit hl (litUnset_iff.mp hn) ▸ hsat

/-- propagating the last unassigned literal of a clause without true literal keeps the model below `a` -/
theorem Extends.unit {cnf : Cnf} {c : Clause} {u : Lit} {m : PModel} {a : Assign} (he : Extends a m)
    (ha : cnfSat a cnf = true) (hc : c ∈ cnf) (hs : c.any (litTrue m) = false)
    (hf : c.filter (litUnset m) = [u]) : Extends a (m.set u.var u.pol) :=
  he.set (by
    simpa [litSat] using unit_sound hc hs
      (fun l hl hn => List.mem_singleton.mp (hf ▸ List.mem_filter.mpr ⟨hl, litUnset_iff.mpr hn⟩)) he ha)

/-! ## `cnfNumVars` is above every label; strict `countP` -/

theorem foldl_max_inner : ∀ (c : Clause) (m0 : Nat),
    m0 ≤ c.foldl (fun m l => max m (l.var + 1)) m0
    ∧ ∀ l, l ∈ c → l.var + 1 ≤ c.foldl (fun m l => max m (l.var + 1)) m0
  | [], m0 => ⟨Nat.le_refl _, fun _ h => nomatch h⟩
  | a :: t, m0 => by
    obtain ⟨h1, h2⟩ := foldl_max_inner t (max m0 (a.var + 1))
    refine ⟨Nat.le_trans (Nat.le_max_left _ _) h1, fun l hl => ?_⟩
    rcases List.mem_cons.mp hl with rfl | hl
    · exact Nat.le_trans (Nat.le_max_right _ _) h1
    · exact h2 l hl

theorem foldl_max_outer : ∀ (cs : Cnf) (m0 : Nat),
    m0 ≤ cs.foldl (fun m c => c.foldl (fun m l => max m (l.var + 1)) m) m0
    ∧ ∀ c, c ∈ cs → ∀ l, l ∈ c →
        l.var + 1 ≤ cs.foldl (fun m c => c.foldl (fun m l => max m (l.var + 1)) m) m0
  | [], m0 => ⟨Nat.le_refl _, fun _ h => nomatch h⟩
  | a :: t, m0 => by
    obtain ⟨h1, h2⟩ := foldl_max_outer t (a.foldl (fun m l => max m (l.var + 1)) m0)
    obtain ⟨g1, g2⟩ := foldl_max_inner a m0
    refine ⟨Nat.le_trans g1 h1, fun c hc l hl => ?_⟩
    rcases List.mem_cons.mp hc with rfl | hc
    · exact Nat.le_trans (g2 l hl) h1
    · exact h2 c hc l hl

theorem var_lt_numVars {cnf : Cnf} {c : Clause} {l : Lit} (hc : c ∈ cnf) (hl : l ∈ c) :
    l.var < cnfNumVars cnf := by
  exact (foldl_max_outer cnf 0).2 c hc l hl

theorem countP_lt_of {α : Type} {p q : α → Bool} {l : List α} (himp : ∀ x ∈ l, q x = true → p x = true)
    (hx : ∃ x ∈ l, p x = true ∧ q x = false) : l.countP q < l.countP p := by
  obtain ⟨x, hx, hpx, hqx⟩ := hx
  obtain ⟨l1, l2, rfl⟩ := List.append_of_mem hx
  have h1 := List.countP_mono_left (l := l1) fun z hz => himp z (List.mem_append_left _ hz)
  have h2 := List.countP_mono_left (l := l2) fun z hz =>
    himp z (List.mem_append_right _ (List.mem_cons_of_mem _ hz))
  simp only [List.countP_append, List.countP_cons, hpx, hqx, if_true, Bool.false_eq_true, if_false]
  omega

/-! ## `any`/`all`, `clauseSat`, `cnfSat` depend on the members and on the values there -/

theorem any_congr_left {β : Type} {p q : β → Bool} {c : List β} (h : ∀ x ∈ c, p x = q x) :
    c.any p = c.any q := by
  rw [Bool.eq_iff_iff, List.any_eq_true, List.any_eq_true]
  exact ⟨fun ⟨x, hx, hs⟩ => ⟨x, hx, h x hx ▸ hs⟩, fun ⟨x, hx, hs⟩ => ⟨x, hx, (h x hx).symm ▸ hs⟩⟩

theorem all_congr_left {β : Type} {p q : β → Bool} {c : List β} (h : ∀ x ∈ c, p x = q x) :
    c.all p = c.all q := by
  rw [Bool.eq_iff_iff, List.all_eq_true, List.all_eq_true]
  exact ⟨fun H x hx => h x hx ▸ H x hx, fun H x hx => (h x hx).symm ▸ H x hx⟩

theorem any_congr_mem {β : Type} {p : β → Bool} {c c' : List β} (h : ∀ x, x ∈ c ↔ x ∈ c') :
    c.any p = c'.any p := by
  rw [Bool.eq_iff_iff, List.any_eq_true, List.any_eq_true]
  exact ⟨fun ⟨x, hx, hs⟩ => ⟨x, (h x).mp hx, hs⟩, fun ⟨x, hx, hs⟩ => ⟨x, (h x).mpr hx, hs⟩⟩

theorem litSat_of_litTrue {a : Assign} {m : PModel} (h : Extends a m) {l : Lit}
    (hl : litTrue m l = true) : litSat a l = true := by
  rw [litSat, h _ _ (litTrue_iff.mp hl)]
  exact beq_self_eq_true _

theorem cnfSat_congr_vars (a b : Assign) (cs : Cnf)
    (h : ∀ c ∈ cs, ∀ l ∈ c, a l.var = b l.var) : cnfSat a cs = cnfSat b cs :=
  all_congr_left fun c hc => any_congr_left fun l hl => by rw [litSat, litSat, h c hc l hl]

/-- rewriting every clause without changing its set of literals keeps the models -/
theorem cnfSat_map_of_mem_iff {F : Clause → Clause} (h : ∀ c y, y ∈ F c ↔ y ∈ c) (a : Assign)
    (cs : Cnf) : cnfSat a (cs.map F) = cnfSat a cs := by
  rw [cnfSat, cnfSat, List.all_map]
  exact List.all_congr rfl fun c => any_congr_mem (h c)

/-- the residual formula is a function of the clauses' status: satisfied or not and, if not,
which literals are false -/
theorem residual_congr {cs : Cnf} {m m' : PModel}
    (h : ∀ c, c ∈ cs → c.any (litTrue m) = c.any (litTrue m') ∧
      (c.any (litTrue m) = false → ∀ l, l ∈ c → litFalse m l = litFalse m' l)) :
    residual cs m = residual cs m' := by
  unfold residual
  have h1 : cs.filter (fun c => !c.any (litTrue m)) = cs.filter (fun c => !c.any (litTrue m')) :=
    List.filter_congr (fun c hc => by rw [(h c hc).1])
  rw [h1]
  apply List.map_congr_left
  intro c hc
  obtain ⟨hc1, hc2⟩ := List.mem_filter.mp hc
  have hs : c.any (litTrue m) = false := by rw [(h c hc1).1]; simpa using hc2
  exact List.filter_congr (fun l hl => by rw [(h c hc1).2 hs l hl])

end Spec
