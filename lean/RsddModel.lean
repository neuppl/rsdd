-- root of the library (generated by tools/gen_root.py)
import RsddModel.Spec.Basic
import RsddModel.Spec.Cnf
import RsddModel.Spec.Optim
import RsddModel.Spec.Text
import RsddModel.Spec.UnitProp
import RsddModel.Spec.Wmc
import RsddModel.Model.Bdd
import RsddModel.Model.BddBuilder
import RsddModel.Model.BddCaches
import RsddModel.Model.BddCompile
import RsddModel.Model.BddStore
import RsddModel.Model.BddWmc
import RsddModel.Model.CacheList
import RsddModel.Model.Cli
import RsddModel.Model.CnfUtil
import RsddModel.Model.Constants
import RsddModel.Model.Ffi
import RsddModel.Model.GenBddCore
import RsddModel.Model.GenCli
import RsddModel.Model.GenCnfOrd
import RsddModel.Model.GenCnfUp
import RsddModel.Model.GenCompile
import RsddModel.Model.GenDnnf
import RsddModel.Model.GenFF
import RsddModel.Model.GenFfi
import RsddModel.Model.GenIte
import RsddModel.Model.GenOptim
import RsddModel.Model.GenOrders
import RsddModel.Model.GenScratch
import RsddModel.Model.GenSddCore
import RsddModel.Model.GenSddQ
import RsddModel.Model.GenSem
import RsddModel.Model.GenTables
import RsddModel.Model.GenVTree
import RsddModel.Model.Lru
import RsddModel.Model.LruCache
import RsddModel.Model.LruLemmas
import RsddModel.Model.Optim
import RsddModel.Model.Orders
import RsddModel.Model.OrdersExtra
import RsddModel.Model.RobinHood
import RsddModel.Model.Scratch
import RsddModel.Model.ScratchSdd
import RsddModel.Model.Sdd
import RsddModel.Model.SddCompile
import RsddModel.Model.SddSemantic
import RsddModel.Model.SddWmc
import RsddModel.Model.SemiringOps
import RsddModel.Model.Semirings
import RsddModel.Model.Serialize
import RsddModel.Model.TopDown
import RsddModel.Model.UnitProp
import RsddModel.Model.UpSolver
import RsddModel.Model.VTree
import RsddModel.Lemmas.BddCanon
import RsddModel.Lemmas.BddCompile
import RsddModel.Lemmas.BddCond
import RsddModel.Lemmas.BddLvlCongr
import RsddModel.Lemmas.BddSem
import RsddModel.Lemmas.BddStore
import RsddModel.Lemmas.BddStoreCache
import RsddModel.Lemmas.BddStoreCond
import RsddModel.Lemmas.BddStoreIte
import RsddModel.Lemmas.BddStoreStep
import RsddModel.Lemmas.BddTotal
import RsddModel.Lemmas.BddWF
import RsddModel.Lemmas.CnfBook
import RsddModel.Lemmas.CnfHasher
import RsddModel.Lemmas.CnfNorm
import RsddModel.Lemmas.CnfUtil
import RsddModel.Lemmas.CompileLvlCongr
import RsddModel.Lemmas.DTree
import RsddModel.Lemmas.InsertSort
import RsddModel.Lemmas.Lru
import RsddModel.Lemmas.Optim
import RsddModel.Lemmas.OptionLe
import RsddModel.Lemmas.Orders
import RsddModel.Lemmas.PModel
import RsddModel.Lemmas.Primes
import RsddModel.Lemmas.RobinHood
import RsddModel.Lemmas.Scratch
import RsddModel.Lemmas.ScratchSdd
import RsddModel.Lemmas.SddBasic
import RsddModel.Lemmas.SddCanon
import RsddModel.Lemmas.SddCompile
import RsddModel.Lemmas.SddDep
import RsddModel.Lemmas.SddHash
import RsddModel.Lemmas.SddLoopSem
import RsddModel.Lemmas.SddLoops
import RsddModel.Lemmas.SddOrder
import RsddModel.Lemmas.SddRules
import RsddModel.Lemmas.SddSem
import RsddModel.Lemmas.SddSemantic
import RsddModel.Lemmas.SddTotal
import RsddModel.Lemmas.SddWF
import RsddModel.Lemmas.SddWFRun
import RsddModel.Lemmas.SddWFd
import RsddModel.Lemmas.SddWmc
import RsddModel.Lemmas.SemiringLaws
import RsddModel.Lemmas.Semirings
import RsddModel.Lemmas.Serialize
import RsddModel.Lemmas.Smooth
import RsddModel.Lemmas.TieCliAux
import RsddModel.Lemmas.TieCnfOrdAux
import RsddModel.Lemmas.TieCnfUpAux
import RsddModel.Lemmas.TieCompileAux
import RsddModel.Lemmas.TieDnnfAux
import RsddModel.Lemmas.TieScratchAux
import RsddModel.Lemmas.TieSddCoreAux
import RsddModel.Lemmas.TieSddCoreCompress
import RsddModel.Lemmas.TieSddQAux
import RsddModel.Lemmas.TieTablesAux
import RsddModel.Lemmas.TieVTreeAux
import RsddModel.Lemmas.TopDown
import RsddModel.Lemmas.TopDownNaive
import RsddModel.Lemmas.TopDownSolver
import RsddModel.Lemmas.UnitProp
import RsddModel.Lemmas.UnitPropHash
import RsddModel.Lemmas.UnitPropPrimes
import RsddModel.Lemmas.UnitPropSolver
import RsddModel.Lemmas.UnitPropTotal
import RsddModel.Lemmas.UnitPropWatch
import RsddModel.Lemmas.UpSolverSpec
import RsddModel.Lemmas.VTree
import RsddModel.Lemmas.Wmc
import RsddModel.Props.C01
import RsddModel.Props.C01Order
import RsddModel.Props.C01Total
import RsddModel.Props.C02
import RsddModel.Props.C02Store
import RsddModel.Props.C02Table
import RsddModel.Props.C03
import RsddModel.Props.C03Total
import RsddModel.Props.C04
import RsddModel.Props.C05Bdd
import RsddModel.Props.C05Sdd
import RsddModel.Props.C06
import RsddModel.Props.C06Real
import RsddModel.Props.C07Bdd
import RsddModel.Props.C07Sdd
import RsddModel.Props.C08
import RsddModel.Props.C09
import RsddModel.Props.C10
import RsddModel.Props.C10Sdd
import RsddModel.Props.C11
import RsddModel.Props.C11Bdd
import RsddModel.Props.C12
import RsddModel.Props.C13
import RsddModel.Props.C14
import RsddModel.Props.C15
import RsddModel.Props.C16
import RsddModel.Props.C17
import RsddModel.Props.C18
import RsddModel.Props.C19
import RsddModel.Props.C19Order
import RsddModel.Props.Tie
import RsddModel.Props.TieBddCore
import RsddModel.Props.TieBddCoreSource
import RsddModel.Props.TieCli
import RsddModel.Props.TieCliSource
import RsddModel.Props.TieCnfOrd
import RsddModel.Props.TieCnfOrdSource
import RsddModel.Props.TieCnfUp
import RsddModel.Props.TieCompile
import RsddModel.Props.TieCompileSource
import RsddModel.Props.TieDnnf
import RsddModel.Props.TieDnnfSource
import RsddModel.Props.TieFF
import RsddModel.Props.TieFfi
import RsddModel.Props.TieIte
import RsddModel.Props.TieOptim
import RsddModel.Props.TieOptimSource
import RsddModel.Props.TieOrders
import RsddModel.Props.TieScratch
import RsddModel.Props.TieScratchSource
import RsddModel.Props.TieSddCore
import RsddModel.Props.TieSddCoreSource
import RsddModel.Props.TieSddQ
import RsddModel.Props.TieSddQSource
import RsddModel.Props.TieSem
import RsddModel.Props.TieTables
import RsddModel.Props.TieTablesSource
import RsddModel.Props.TieVTree
import RsddModel.Props.TieVTreeSource
import RsddModel.Driver.BddStream
import RsddModel.Driver.CliStream
import RsddModel.Driver.CnfParse
import RsddModel.Driver.CnfStream
import RsddModel.Driver.CompStream
import RsddModel.Driver.FfiStream
import RsddModel.Driver.HashStream
import RsddModel.Driver.OptStream
import RsddModel.Driver.OrdStream
import RsddModel.Driver.Parse
import RsddModel.Driver.QueryStream
import RsddModel.Driver.RingStream
import RsddModel.Driver.SddStream
import RsddModel.Driver.SerLines
import RsddModel.Driver.SerStream
import RsddModel.Driver.TblStream
import RsddModel.Driver.TdStream
import RsddModel.Driver.UpStream
import RsddModel.Driver.WmcStream
import RsddModel.Audit
